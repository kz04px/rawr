import Rawr.Spec.Chess
/-!
# Coordinate specification of slider attacks: walking a ray

No bit tricks, shares no code with `Rawr/Model`. Squares are `file + 8 * rank` as in `Spec/Chess.lean`.
-/
namespace Rawr.Spec

/-- From the (file, rank) point `(f, r)` take at most `n` steps of `(df, dr)`: the squares reached while
on the board, up to and including the first occupied one. -/
def walkFrom (df dr : Int) (occ : Nat → Bool) : Nat → Int → Int → List Nat
  | 0, _, _ => []
  | n + 1, f, r =>
    if onBoard (f + df) (r + dr) then
      let t := sq (f + df) (r + dr)
      if occ t then [t] else t :: walkFrom df dr occ n (f + df) (r + dr)
    else []

/-- The squares reached from `s` stepping `(df, dr)` while on the board, up to and including the first
occupied one (7 steps always leave an 8 × 8 board: `Proofs/RayFill.lean: walk_fuel` proves that any
larger step bound gives the same list). -/
def walk (df dr : Int) (s : Nat) (occ : Nat → Bool) : List Nat :=
  walkFrom df dr occ 7 (file s) (rank s)

/-- the four bishop directions / the four rook directions, as (file step, rank step). -/
def diag : List (Int × Int) := [(1, 1), (-1, 1), (1, -1), (-1, -1)]
def orth : List (Int × Int) := [(1, 0), (-1, 0), (0, 1), (0, -1)]

/-- all squares walked from `s` in the given directions. -/
def walkList (dirs : List (Int × Int)) (s : Nat) (occ : Nat → Bool) : List Nat :=
  dirs.flatMap fun d => walk d.1 d.2 s occ

/-- membership predicate of the attack set of a slider on `s`. -/
def walkSet4 (dirs : List (Int × Int)) (s : Nat) (occ : Nat → Bool) (t : Nat) : Bool :=
  dirs.any fun d => (walk d.1 d.2 s occ).contains t

/-- a list of squares as a 64-bit set. -/
def setBB (l : List Nat) : BitVec 64 := l.foldr (fun t a => (1#64 <<< t) ||| a) 0#64

/-- the attack set of a slider on `s` as a 64-bit set, the occupancy being given as a 64-bit set. -/
def walkBB (dirs : List (Int × Int)) (s : Nat) (occ : BitVec 64) : BitVec 64 :=
  setBB (walkList dirs s occ.getLsbD)

/-- coordinate geometry of the leapers: `t` is a knight's / king's / pawn-capture move away from `s`. -/
def knightStep (s t : Nat) : Bool :=
  let df := file t - file s
  let dr := rank t - rank s
  (df.natAbs == 1 && dr.natAbs == 2) || (df.natAbs == 2 && dr.natAbs == 1)
def kingStep (s t : Nat) : Bool :=
  max (file t - file s).natAbs (rank t - rank s).natAbs == 1
/-- `up = true`: towards higher ranks. -/
def pawnStep (up : Bool) (s t : Nat) : Bool :=
  (file t - file s).natAbs == 1 && rank t - rank s == (if up then 1 else -1)

/-- the set of the squares `t` of the board with `p t`, as a 64-bit set. -/
def geomBB (p : Nat → Bool) : BitVec 64 := setBB (squares.filter p)

end Rawr.Spec
