import Rawr.Props.C01_pawns
import Rawr.Props.C01_pieces
import Rawr.Props.C01_king
import Rawr.Props.C01_shape
import Rawr.Proofs.MakeMoveRefine
/-!
# C01, assembly: every generated move decodes to a legal move, every legal move is the decoding of a
generated move, `encodeMove` inverts `decodeMove` on generated moves
-/
namespace Rawr.Att
open Spec

theorem king_src {p : Position} (hV : ValidPos p = true) {s d : Nat} (h : gm 5 s d 6 ∈ moveGenerator p) :
    s = (prelude p).ksq := by
  have F := kingFacts hV
  rcases (mem_gen_king p s d).mp h with ⟨hk, _⟩ | ⟨_, _, hk, _⟩
  · rw [F.list, List.mem_singleton] at hk; rw [prelude_ksq]; exact hk
  · exact hk

theorem gen_decode_legal {p : Position} (hV : ValidPos p = true) (hE : Spec.EpConsistent (abs p) = true)
    (g : GMv) (hg : g ∈ moveGenerator p) : decodeMove p g.mv ∈ Spec.legalMoves (abs p) := by
  have G := gen_shape p hV g hg
  obtain ⟨pc, ⟨s, d, pr⟩⟩ := g
  have hpc := ZH.pieceOn_lt G.tag
  dsimp only at hpc G
  cases hown : p.c0.isSet d
  · rw [MM.decodeMove_normal (p := p) (m := ⟨s, d, pr⟩) hown]
    dsimp only
    have h6 : pc ≠ 0 → pr = 6 := fun h => promo6_of_not_pawn G h
    by_cases h0 : pc = 0
    · subst h0
      exact ((C01_pawns p hV hE s d pr).mp hg).2.2.2
    obtain rfl := h6 h0
    by_cases h5 : pc = 5
    · subst h5
      have hs := king_src hV hg
      subst hs
      exact (C01_king_steps p hV d).mp ⟨hg, by rw [hown]; decide⟩
    · exact ((pieces_abs hV (by pomega) s d).mp hg).1
  · obtain ⟨h5, _⟩ := G.dst_own hown
    dsimp only at h5
    subst h5
    have hpr : pr = 6 := promo6_of_not_pawn G (by simp)
    subst hpr
    have hs := king_src hV hg
    subst hs
    obtain ⟨ks, _, hdec, hleg⟩ := (C01_castling_moves p hV d).mp ⟨hg, hown⟩
    rw [hdec]; exact hleg

theorem pseudo_src_own {P : APos} {a : Nat} (ha : a < 64) {m : Move} (h : m ∈ pseudoFrom P a) :
    ∃ kd, P.board a = some ⟨P.whiteToMove, kd⟩ := by
  obtain ⟨t, pr, pc, _, nl⟩ := SV.pseudo_legal ha h
  exact ⟨pc.kind, by rw [nl.hpc, ← nl.hw]⟩

theorem exists_prN {t : Nat} {pr : Option Kind} (h : PromoR t pr ∨ pr = none) :
    ∃ prN, PrOk prN ∧ promoOf prN = pr := by
  have key : pr = none ∨ ∃ k ∈ promoKinds, pr = some k := by
    rcases h with h | h
    · unfold PromoR at h
      split at h
      · exact Or.inr h
      · exact Or.inl h
    · exact Or.inl h
  rcases key with rfl | ⟨k, hk, rfl⟩
  · exact ⟨6, Or.inl rfl, rfl⟩
  · -- the field `encodeMove` writes for `k`
    have tbl : ∀ k ∈ promoKinds, PrOk (kindIdx k) ∧ promoOf (kindIdx k) = some k := by unfold PrOk; decide
    exact ⟨kindIdx k, tbl k hk⟩

theorem decode_of_gen {p : Position} (hV : ValidPos p = true) {pc f t prN : Nat}
    (hg : gm pc f t prN ∈ moveGenerator p) (hpc : pc ≠ 5) :
    decodeMove p ⟨f, t, prN⟩ = .normal (absSq p.black f) (absSq p.black t) (promoOf prN) := by
  apply MM.decodeMove_normal (p := p) (m := ⟨f, t, prN⟩)
  cases hown : p.c0.isSet t
  · exact hown
  · exact absurd ((gen_shape p hV _ hg).dst_own hown).1 hpc

theorem piece_move_generated {p : Position} (hV : ValidPos p = true) {pc : Nat}
    (hpc : pc = 1 ∨ pc = 2 ∨ pc = 3 ∨ pc = 4) {f b : Nat} {pr : Option Kind} (hf : f < 64)
    (hB : relBoard p f = some ⟨true, kindOf pc⟩)
    (hm : Move.normal (absSq p.black f) b pr ∈ Spec.legalMoves (abs p)) :
    ∃ g ∈ moveGenerator p, decodeMove p g.mv = .normal (absSq p.black f) b pr := by
  obtain rfl := C01_pieces_abs p pc f b pr hB hpc hm
  obtain ⟨t, rfl⟩ : ∃ t, b = absSq p.black t := ⟨_, (absSq_absSq _ _).symm⟩
  have hg := (pieces_abs hV hpc f t).mpr ⟨hm, (rel_us_iff (valid_consistent hV) hf (by omega)).mp hB⟩
  exact ⟨_, hg, decode_of_gen hV hg (by omega)⟩

theorem legal_is_generated {p : Position} (hV : ValidPos p = true) (hE : Spec.EpConsistent (abs p) = true)
    (m : Move) (hm : m ∈ Spec.legalMoves (abs p)) : ∃ g ∈ moveGenerator p, decodeMove p g.mv = m := by
  cases m with
  | castle ks =>
    have hl := (mem_legal_castle _ _).mp hm
    obtain ⟨hown, hdec⟩ := decode_castleRook hV ks hl
    exact ⟨gm 5 (prelude p).ksq (castleRookSq p ks) 6,
      ((C01_castling p hV (castleRookSq p ks)).mpr ⟨ks, rfl, hl⟩).1, hdec⟩
  | normal a b pr =>
    obtain ⟨f, rfl⟩ : ∃ f, a = absSq p.black f := ⟨_, (absSq_absSq _ _).symm⟩
    obtain ⟨⟨ha, hps⟩, _⟩ := (mem_legal_normal _ _ _ _).mp hm
    obtain ⟨kd, hBa⟩ := pseudo_src_own ha hps
    have hf : f < 64 := (absSq_lt_iff _ _).mp ha
    have hB : relBoard p f = some ⟨true, kd⟩ := (abs_at_us p f kd).mp hBa
    cases kd with
    | pawn =>
      obtain ⟨t, rfl⟩ : ∃ t, b = absSq p.black t := ⟨_, (absSq_absSq _ _).symm⟩
      have hps' := ((mem_legal_normal _ _ _ _).mp ((legal_frame hV (.normal f t pr)).mp hm)).1.2
      rw [pseudo_pawn_rel p hf hB] at hps'
      obtain ⟨ht, hpp⟩ := hps'
      have hpr : PromoR t pr ∨ pr = none := by
        rcases hpp with ⟨_, _, h⟩ | ⟨_, _, _, _, h⟩ | ⟨_, ⟨q, _, _, h⟩ | ⟨_, _, h⟩⟩
        · exact Or.inl h
        · exact Or.inr h
        · exact Or.inl h
        · exact Or.inr h
      obtain ⟨prN, hok, rfl⟩ := exists_prN hpr
      have hg := (C01_pawns p hV hE f t prN).mpr ⟨hB, ht, hok, hm⟩
      exact ⟨gm 0 f t prN, hg, decode_of_gen hV hg (by decide)⟩
    | knight => exact piece_move_generated hV (pc := 1) (by decide) hf hB hm
    | bishop => exact piece_move_generated hV (pc := 2) (by decide) hf hB hm
    | rook => exact piece_move_generated hV (pc := 3) (by decide) hf hB hm
    | queen => exact piece_move_generated hV (pc := 4) (by decide) hf hB hm
    | king =>
      have hk : f = (prelude p).ksq := by rw [prelude_ksq]; exact (relKing_unique hV f hf).mp hB
      subst hk
      obtain ⟨rfl, hg, hno⟩ := (C01_king_steps_abs p hV b pr).mp hm
      refine ⟨_, hg, ?_⟩
      rw [MM.decodeMove_normal (p := p) (m := (gm 5 (prelude p).ksq (absSq p.black b) 6).mv) (Bool.eq_false_iff.mpr hno)]
      show Move.normal _ (absSq p.black (absSq p.black b)) (promoOf 6) = _
      rw [absSq_absSq]; rfl

theorem encode_decode {p : Position} (hV : ValidPos p = true) (g : GMv) (hg : g ∈ moveGenerator p) :
    encodeMove p (decodeMove p g.mv) = g.mv := by
  have G := gen_shape p hV g hg
  obtain ⟨pc, ⟨s, d, pr⟩⟩ := g
  dsimp only at G ⊢
  cases hown : p.c0.isSet d
  · rw [MM.decodeMove_normal (p := p) (m := ⟨s, d, pr⟩) hown]
    unfold encodeMove
    dsimp only
    rw [absSq_absSq, absSq_absSq]
    congr 1
    rcases G.promo_mem with h | h | h | h | h <;> dsimp only at h <;> subst h <;> rfl
  · rw [MM.decodeMove_castle (p := p) (m := ⟨s, d, pr⟩) hown]
    obtain ⟨h5, hc⟩ := G.dst_own hown
    dsimp only at h5
    subst h5
    have hpr : pr = 6 := promo6_of_not_pawn G (by simp)
    subst hpr
    unfold encodeMove
    dsimp only
    rcases hc with ⟨_, h1, h2, _, _, h3, _⟩ | ⟨_, h1, h2, _, _, h3, _⟩
    · dsimp only at h1 h2 h3
      have : decide (d > s) = true := by simpa using h3
      rw [this, if_pos rfl, ← h1, ← h2]
    · dsimp only at h1 h2 h3
      have : decide (d > s) = false := by simp; omega
      rw [this]
      simp only [Bool.false_eq_true, if_false]
      rw [← h1, ← h2]

end Rawr.Att
