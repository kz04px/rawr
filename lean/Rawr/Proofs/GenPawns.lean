import Rawr.Proofs.GenEpBits
import Rawr.Proofs.GenPawnSpec
import Rawr.Proofs.GenPieces
/-!
# C01, the pawn classes: the five pawn blocks of the generator against `Spec.legalMoves (relPos p)`

Where a pawn-tagged move of the generator comes from (`mem_gen_pawn`, a reading of `Gen`); en passant on the rules' side
(`ep_legal_iff`, `epConsistent_rel`); the four target sets with the pin test read as `PinOk` (`pushSet_mem` … `capNWSet_mem`,
`pinOk_push`, `capSet_mem`); the class theorems `pawns_core'`, `pawns_core`, `gen_ep_iff`.
-/

namespace Rawr.Att
open Spec

theorem mem_gen_pawn (p : Position) (f t pr : Nat) :
    gm 0 f t pr ∈ moveGenerator p ↔
      ((t ∈ toList (pushSet p) ∧ f = t - 8 ∧ PromoOk t pr) ∨
       (t ∈ toList (dblSet p) ∧ f = t - 16 ∧ pr = 6) ∨
       (t ∈ toList (capNESet p) ∧ f = t - 9 ∧ PromoOk t pr) ∨
       (t ∈ toList (capNWSet p) ∧ f = t - 7 ∧ PromoOk t pr) ∨
       (p.ep = some t ∧ pr = 6 ∧ ((f = t - 9 ∧ epCondNE p t = true) ∨ (f = t - 7 ∧ epCondNW p t = true)))) := by
  simp only [Rawr.mem_toList]
  rw [mem_gen]
  constructor
  · intro h
    cases h with
    | push ht hp => exact .inl ⟨ht, rfl, hp⟩
    | dbl ht => exact .inr (.inl ⟨ht, rfl, rfl⟩)
    | capNE ht hp => exact .inr (.inr (.inl ⟨ht, rfl, hp⟩))
    | capNW ht hp => exact .inr (.inr (.inr (.inl ⟨ht, rfl, hp⟩)))
    | epNE he hc => exact .inr (.inr (.inr (.inr ⟨he, rfl, .inl ⟨rfl, hc⟩⟩)))
    | epNW he hc => exact .inr (.inr (.inr (.inr ⟨he, rfl, .inr ⟨rfl, hc⟩⟩)))
    | piece hb e _ _ =>
      have := sliderBlocks_pc hb
      omega
  · rintro (⟨ht, rfl, hp⟩ | ⟨ht, rfl, rfl⟩ | ⟨ht, rfl, hp⟩ | ⟨ht, rfl, hp⟩ | ⟨he, rfl, ⟨rfl, hc⟩ | ⟨rfl, hc⟩⟩)
    · exact .push ht hp
    · exact .dbl ht
    · exact .capNE ht hp
    · exact .capNW ht hp
    · exact .epNE he hc
    · exact .epNW he hc

/-- retro-consistency (domain E), on the relative board. -/
theorem epConsistent_rel {p : Position} (hV : ValidPos p = true) (hE : Spec.EpConsistent (relPos p) = true)
    {e : Nat} (hep : p.ep = some e) :
    relBoard p (e + 8) = none ∧
      attackedBy (prePush (relBoard p) e) false (lsb (p.p5 &&& p.c0)) = false := by
  obtain ⟨e64, e5, hBe, hBP, _, _⟩ := ep_facts hV hep
  have F := kingFacts hV
  have ho : sq (file e) 6 = e + 8 := by unfold sq file; omega
  have hp : sq (file e) 4 = e - 8 := by unfold sq file; omega
  unfold Spec.EpConsistent at hE
  rw [relPos_ep, hep] at hE
  simp only [relPos_turn, if_true, ho, hp, Bool.and_eq_true, Bool.not_eq_true', Bool.not_true,
    Option.isNone_iff_eq_none] at hE
  refine ⟨hE.1, ?_⟩
  refine (inCheck_unique (prePush (relBoard p) e) true _ F.k64 ?_).symm.trans hE.2
  unfold prePush
  apply king_unique_setSq (king_unique_setSq (relKing_unique hV) _ (by simp)) _ (by simp)
  · intro h
    rw [h, F.rel] at hBP
    cases hBP
  · intro h
    have := F.rel
    rw [← h] at this
    exact absurd (hE.1.symm.trans this) nofun

/-- the board after the en-passant capture is `epBoard`, and the rules' check test is the attack test. -/
theorem ep_legal_iff {p : Position} (hV : ValidPos p = true) {e : Nat} (hep : p.ep = some e) {F : Nat}
    {cap : Int × Int} (hgeo : CapGeo cap F e) (hF : relBoard p F = some ⟨true, .pawn⟩) :
    Move.normal F e none ∈ Spec.legalMoves (relPos p) ↔
      attackedBy (epBoard (relBoard p) F e) false (lsb (p.p5 &&& p.c0)) = false := by
  have C := epCtx_of hV hep hgeo hF
  have G := C.coords
  have KF := kingFacts hV
  have hpseudo : Move.normal F e none ∈ pseudoFrom (relPos p) F := by
    rw [pseudo_pawn_rel p G.F64 hF]
    refine ⟨C.e64, Or.inr (Or.inr ⟨?_, Or.inr ⟨C.Be, hep, rfl⟩⟩)⟩
    rcases hgeo with ⟨_, h1, h2⟩ | ⟨_, h1, h2⟩
    · right; exact ⟨h1.symm, by omega⟩
    · left; exact ⟨h1.symm, by omega⟩
  have hfile : (file F != file e && (relBoard p e).isNone) = true := by
    rw [C.Be]
    have := G.fe
    have := G.cap1
    simp only [Option.isNone_none, Bool.and_true, bne_iff_ne, ne_eq]
    omega
  have hsq : sq (file e) (rank F) = e - 8 := by
    have h1 := G.re
    have h2 := G.r5
    have h3 := C.e64
    unfold sq file rank at *
    omega
  have hboard : afterPawn (relBoard p) F e none = epBoard (relBoard p) F e := by
    unfold afterPawn epBoard
    rw [if_pos hfile, hsq]
    rfl
  have hk : ∀ s, s < 64 → (epBoard (relBoard p) F e s = some ⟨true, .king⟩ ↔ s = lsb (p.p5 &&& p.c0)) := by
    unfold epBoard
    apply king_unique_setSq (king_unique_setSq (king_unique_setSq (relKing_unique hV) _ (by simp)) _ (by simp))
      _ (by simp)
    · intro h; have := C.BF; rw [h, KF.rel] at this; cases this
    · intro h; have := C.BP; rw [h, KF.rel] at this; cases this
    · intro h; have := C.Be; rw [h, KF.rel] at this; cases this
  rw [mem_legal_normal, apply_pawn_board p hF, hboard, relPos_turn, inCheck_unique _ true _ KF.k64 hk, Bool.not_true]
  exact ⟨fun h => h.2, fun h => ⟨⟨G.F64, hpseudo⟩, h⟩⟩

/-- pseudo-legal pawn moves other than en passant, on the relative board. -/
def PawnPseudoN (B : Board) (f t : Nat) (pr : Option Kind) : Prop :=
  (t = f + 8 ∧ B t = none ∧ PromoR t pr) ∨
  (f / 8 = 1 ∧ t = f + 16 ∧ B (f + 8) = none ∧ B t = none ∧ pr = none) ∨
  (((t = f + 7 ∧ f % 8 ≠ 0) ∨ (t = f + 9 ∧ f % 8 ≠ 7)) ∧ ∃ q, B t = some q ∧ q.white = false ∧ PromoR t pr)

/-- the en-passant clause of `PawnPseudo`. -/
def PawnPseudoE (B : Board) (ep : Option Nat) (f t : Nat) (pr : Option Kind) : Prop :=
  ((t = f + 7 ∧ f % 8 ≠ 0) ∨ (t = f + 9 ∧ f % 8 ≠ 7)) ∧ B t = none ∧ ep = some t ∧ pr = none

theorem pawnPseudo_split (B : Board) (ep : Option Nat) (f t : Nat) (pr : Option Kind) :
    PawnPseudo B ep f t pr ↔ (PawnPseudoN B f t pr ∨ PawnPseudoE B ep f t pr) := by
  unfold PawnPseudo PawnPseudoN PawnPseudoE
  constructor
  · rintro (h | h | ⟨hg, h | h⟩)
    · exact Or.inl (Or.inl h)
    · exact Or.inl (Or.inr (Or.inl h))
    · exact Or.inl (Or.inr (Or.inr ⟨hg, h⟩))
    · exact Or.inr ⟨hg, h⟩
  · rintro ((h | h | ⟨hg, h⟩) | ⟨hg, h⟩)
    · exact Or.inl h
    · exact Or.inr (Or.inl h)
    · exact Or.inr (Or.inr ⟨hg, Or.inl h⟩)
    · exact Or.inr (Or.inr ⟨hg, Or.inr h⟩)

theorem promoR_ne_king {t : Nat} {pr : Option Kind} (h : PromoR t pr) : pr ≠ some .king := by
  unfold PromoR at h
  split at h
  · obtain ⟨k, hk, rfl⟩ := h
    intro e; injection e with e; subst e
    simp [promoKinds] at hk
  · rw [h]; exact fun e => by cases e

theorem pawnPseudoN_target {B : Board} {f t : Nat} {pr : Option Kind} (hN : PawnPseudoN B f t pr) :
    (file f != file t && (B t).isNone) = false ∧ pr ≠ some .king ∧
      (B t = none ∨ ∃ q, B t = some q ∧ q.white = false) := by
  rcases hN with ⟨h, hB, hp⟩ | ⟨_, h, _, hB, hp⟩ | ⟨h, q, hq, hw, hp⟩
  · have : file f = file t := by unfold file; omega
    exact ⟨by simp [this], promoR_ne_king hp, Or.inl hB⟩
  · have : file f = file t := by unfold file; omega
    exact ⟨by simp [this], (by rw [hp]; exact fun e => by cases e), Or.inl hB⟩
  · exact ⟨by rw [hq]; simp, promoR_ne_king hp, Or.inr ⟨q, hq, hw⟩⟩

/-- legality by the rules of a pawn move other than en passant, through the safety lemma. -/
theorem legal_pawn_iff {p : Position} (hV : ValidPos p = true) {f t : Nat} (hf : f < 64) (ht : t < 64)
    (hB : relBoard p f = some ⟨true, .pawn⟩) (pr : Option Kind) (hN : PawnPseudoN (relBoard p) f t pr) :
    Move.normal f t pr ∈ Spec.legalMoves (relPos p) ↔
      ((prelude p).allowed.getLsbD t = true ∧ PinOk p f t) := by
  have hC := valid_consistent hV
  obtain ⟨hcond, hpr, htgt⟩ := pawnPseudoN_target hN
  have hto : p.c0.getLsbD t = false := by
    rcases htgt with h | ⟨q, hq, hw⟩
    · exact own_of_none hC ht h
    · exact own_not_enemy hC ht hq hw
  refine legal_plain_iff hV hf ht hB nofun (pc := pawnResult pr) rfl (pawnResult_ne_king hpr) hto
    ((pseudo_pawn_rel p hf hB t pr).mpr ⟨ht, (pawnPseudo_split _ _ _ _ _).mpr (Or.inl hN)⟩) ?_
  rw [apply_pawn_board p hB]
  unfold afterPawn
  rw [hcond]
  rfl

theorem at_north_iff {f t m : Nat} : At f dN m t ↔ t = f + 8 * m := by
  unfold At dN file rank
  simp only [Int.zero_mul, Int.add_zero, Int.one_mul]
  omega

/-- a pawn push (one or two squares over empty squares) respects the pins iff the pawn is neither pinned
along its rank nor along a diagonal. -/
theorem pinOk_push {p : Position} (hV : ValidPos p = true) {f t m : Nat}
    (hus : p.c0.getLsbD f = true) (hm1 : 1 ≤ m) (htm : t = f + 8 * m)
    (hclr : ∀ i, 1 ≤ i → i ≤ m → relBoard p (f + 8 * i) = none) :
    PinOk p f t ↔ ((prelude p).hpinned.getLsbD f = false ∧ (prelude p).bpinned.getLsbD f = false) := by
  have KF := kingFacts hV
  have hAt : At f dN m t := at_north_iff.mpr htm
  have hN : dN ∈ orth := by simp [orth_eq]
  constructor
  · intro hok
    constructor
    · cases hh : (prelude p).hpinned.getLsbD f
      · rfl
      · exfalso
        obtain ⟨d0, hd0, h1, _, s0, h2, hch⟩ := (prelude_hpinned hV f).mp hh
        have hd0' : d0 ∈ orth := by
          simp only [List.mem_cons, List.not_mem_nil, or_false] at hd0
          rcases hd0 with rfl | rfl <;> simp [orth_eq]
        rw [← sliders_orth p hd0'] at hch
        have := pinOk_move_dir (mem_dirs8_orth hd0') h1 h2 hch hok (goodDir_dirs8 dN (by decide)) hm1 hAt
        simp only [List.mem_cons, List.not_mem_nil, or_false] at hd0
        rcases hd0 with rfl | rfl <;> rcases this with h | h <;> exact absurd h (by decide)
    · cases hb : (prelude p).bpinned.getLsbD f
      · rfl
      · exact absurd hok (bpinned_not_pinOk_orth hV hb hN hm1 hAt)
  · rintro ⟨hh, hb⟩
    cases hpin : (prelude p).pinned.getLsbD f
    · exact pinOk_of_not_pinned hV hus hpin t
    · rcases (prelude_pinned hV f).mp hpin with ⟨d0, hd0, hr⟩ | ⟨d0, hd0, h1, hus', s0, h2, hch⟩
      · have := (prelude_bpinned hV f).mpr ⟨d0, hd0, hr⟩
        rw [hb] at this; cases this
      · -- pinned on its file: the push slides along the pin line
        have hch' := hch
        rw [← sliders_orth p hd0] at hch'
        rw [pinOk_iff_line (mem_dirs8_orth hd0) t h1 h2 hch']
        obtain ⟨j, hj⟩ := (rayHit_iff_hit _ (goodDir_orth d0 hd0) _ _).mp h1
        have hm : Hit (relBoard p) f dN m t := ⟨hm1, hAt, fun i hi1 hi2 => by
          rw [at_pt (at_north_iff.mpr rfl)]; exact hclr i hi1 (Nat.le_of_lt hi2)⟩
        refine line_slide (goodDir_orth d0 hd0) hj hm ?_ (by rw [KF.rel]; nofun) fun e => ?_
        · simp only [orth_eq, List.mem_cons, List.not_mem_nil, or_false] at hd0
          rcases hd0 with rfl | rfl | rfl | rfl
          · have := (prelude_hpinned hV f).mpr ⟨dE, by simp, h1, hus', s0, h2, hch⟩
            rw [hh] at this; cases this
          · have := (prelude_hpinned hV f).mpr ⟨dW, by simp, h1, hus', s0, h2, hch⟩
            rw [hh] at this; cases this
          · exact Or.inl rfl
          · exact Or.inr rfl
        · have := hclr m hm1 (Nat.le_refl m)
          rw [← htm, e, KF.rel] at this; cases this

/-- the promotion fields the generator uses. -/
def PrOk (pr : Nat) : Prop := pr = 6 ∨ pr = 1 ∨ pr = 2 ∨ pr = 3 ∨ pr = 4

/-- the promotion piece denoted by a promotion field (as in `decodeMove`). -/
def promoOf (pr : Nat) : Option Kind := if pr == 6 then none else some (kindOf pr)

theorem promo_bridge {t pr : Nat} (h : PrOk pr) : PromoR t (promoOf pr) ↔ PromoOk t pr := by
  unfold PromoR PromoOk promoOf rankOf
  rcases h with rfl | rfl | rfl | rfl | rfl <;> by_cases h7 : t / 8 = 7 <;>
    simp [h7, promoKinds, kindOf]

theorem promoOk_prOk {t pr : Nat} (h : PromoOk t pr) : PrOk pr := by
  unfold PromoOk at h
  unfold PrOk
  split at h <;> omega

/-- the pawns that may push: not pinned on their rank or on a diagonal. -/
theorem pushSrc_mem {p : Position} (hC : Consistent p = true) {f : Nat} (hf : f < 64) :
    (p.p0 &&& p.c0 &&& ~~~((prelude p).hpinned ||| (prelude p).bpinned)).getLsbD f = true ↔
      (relBoard p f = some ⟨true, .pawn⟩ ∧ (prelude p).hpinned.getLsbD f = false ∧
        (prelude p).bpinned.getLsbD f = false) := by
  rw [BitVec.getLsbD_and, Bool.and_eq_true, own_pawn_iff hC hf]
  simp only [BitVec.getLsbD_or, BitVec.getLsbD_not, hf, decide_true, Bool.true_and, Bool.not_eq_true',
    Bool.or_eq_false_iff]

theorem at_cap {f t : Nat} {e : Int × Int} (h : (e = dNE ∧ t = f + 9 ∧ f % 8 ≠ 7) ∨ (e = dNW ∧ t = f + 7 ∧ f % 8 ≠ 0)) :
    At f e 1 t := by
  unfold At
  rcases h with ⟨rfl, rfl, h⟩ | ⟨rfl, rfl, h⟩
  · simp only [dNE]; unfold file rank; omega
  · simp only [dNW]; unfold file rank; omega

section sets
variable {p : Position} (hV : ValidPos p = true) {t : Nat} (ht : t < 64)
include hV ht

theorem pushSet_mem :
    (pushSet p).getLsbD t = true ↔
      (8 ≤ t ∧ relBoard p (t - 8) = some ⟨true, .pawn⟩ ∧ relBoard p t = none ∧
        (prelude p).allowed.getLsbD t = true ∧ PinOk p (t - 8) t) := by
  have hC := valid_consistent hV
  have h8 : t - 8 < 64 := by omega
  have pin : 8 ≤ t → relBoard p (t - 8) = some ⟨true, .pawn⟩ → relBoard p t = none → _ := fun h hB hBt =>
    pinOk_push hV (t := t) (own_of_rel hC h8 hB) (Nat.le_refl 1) (by omega) fun i hi1 hi2 => by
      rw [show t - 8 + 8 * i = t by omega]; exact hBt
  unfold pushSet
  simp only [BitVec.getLsbD_and, Bool.and_eq_true]
  rw [north_iff _ ht, empty_mem p ht, occ_none hC ht, pushSrc_mem hC h8]
  constructor
  · rintro ⟨⟨⟨h, hB, hpin⟩, hBt⟩, hal⟩
    exact ⟨h, hB, hBt, hal, (pin h hB hBt).mpr hpin⟩
  · rintro ⟨h, hB, hBt, hal, hok⟩
    exact ⟨⟨⟨h, hB, (pin h hB hBt).mp hok⟩, hBt⟩, hal⟩

theorem dblSet_mem :
    (dblSet p).getLsbD t = true ↔
      (t / 8 = 3 ∧ relBoard p (t - 16) = some ⟨true, .pawn⟩ ∧ relBoard p (t - 8) = none ∧ relBoard p t = none ∧
        (prelude p).allowed.getLsbD t = true ∧ PinOk p (t - 16) t) := by
  have hC := valid_consistent hV
  have h16 : t - 16 < 64 := by omega
  have h8 : t - 8 < 64 := by omega
  have pin : t / 8 = 3 → relBoard p (t - 16) = some ⟨true, .pawn⟩ → relBoard p (t - 8) = none →
      relBoard p t = none → _ := fun h hB hB8 hBt =>
    pinOk_push hV (t := t) (own_of_rel hC h16 hB) (m := 2) (by omega) (by omega) fun i hi1 hi2 => by
      rcases (show i = 1 ∨ i = 2 by omega) with rfl | rfl
      · rw [show t - 16 + 8 * 1 = t - 8 by omega]; exact hB8
      · rw [show t - 16 + 8 * 2 = t by omega]; exact hBt
  have hr : (0xFF000000#64 : BB).getLsbD t = true ↔ t / 8 = 3 := by
    rw [rank4_iff ⟨t, ht⟩, decide_eq_true_iff]
  unfold dblSet
  simp only [BitVec.getLsbD_and, Bool.and_eq_true]
  rw [northNorth_iff _ ht, north_iff _ ht, empty_mem p ht, occ_none hC ht, hr, pushSrc_mem hC h16,
    empty_mem p h8, occ_none hC h8]
  constructor
  · rintro ⟨⟨⟨⟨⟨_, hB, hpin⟩, hBt⟩, _, hB8⟩, h3⟩, hal⟩
    exact ⟨h3, hB, hB8, hBt, hal, (pin h3 hB hB8 hBt).mpr hpin⟩
  · rintro ⟨h3, hB, hB8, hBt, hal, hok⟩
    exact ⟨⟨⟨⟨⟨by omega, hB, (pin h3 hB hB8 hBt).mp hok⟩, hBt⟩, by omega, hB8⟩, h3⟩, hal⟩

/-- the common part of the two capture blocks: `t - o` is the source, `Y` the back-shifted `bxrays`. -/
theorem capSet_mem {o : Nat} {e : Int × Int} (he : e ∈ diag) (hAt : o ≤ t → At (t - o) e 1 t) (Y : BB)
    (hY : o ≤ t → (Y.getLsbD (t - o) = true ↔ (prelude p).bxrays.getLsbD t = true)) (ho : o ≤ t) :
    (((p.p0 &&& p.c0 &&& ~~~(prelude p).rpinned &&& (~~~(prelude p).bpinned ||| Y)).getLsbD (t - o) = true ∧
        p.c1.getLsbD t = true) ∧ (prelude p).allowed.getLsbD t = true) ↔
      (relBoard p (t - o) = some ⟨true, .pawn⟩ ∧ (∃ q, relBoard p t = some q ∧ q.white = false) ∧
        (prelude p).allowed.getLsbD t = true ∧ PinOk p (t - o) t) := by
  have hC := valid_consistent hV
  have hf : t - o < 64 := by omega
  have pin : relBoard p (t - o) = some ⟨true, .pawn⟩ → (∃ q, relBoard p t = some q ∧ q.white = false) → _ :=
    fun hB ⟨q, hq, hw⟩ => pinOk_cap hV ht (own_of_rel hC hf hB) he (hAt ho) fun e => by
      rw [e, (kingFacts hV).rel] at hq; injection hq with hq; rw [← hq] at hw; cases hw
  rw [capSrc_mem hC Y hf, enemy_iff hC ht, hY ho]
  constructor
  · rintro ⟨⟨⟨hB, hpin⟩, hen⟩, hal⟩
    exact ⟨hB, hen, hal, (pin hB hen).mpr hpin⟩
  · rintro ⟨hB, hen, hal, hok⟩
    exact ⟨⟨⟨hB, (pin hB hen).mp hok⟩, hen⟩, hal⟩

theorem capNESet_mem :
    (capNESet p).getLsbD t = true ↔
      (9 ≤ t ∧ t % 8 ≠ 0 ∧ relBoard p (t - 9) = some ⟨true, .pawn⟩ ∧
        (∃ q, relBoard p t = some q ∧ q.white = false) ∧ (prelude p).allowed.getLsbD t = true ∧
        PinOk p (t - 9) t) := by
  unfold capNESet
  simp only [BitVec.getLsbD_and, Bool.and_eq_true]
  rw [east_north_iff _ ht]
  have key : 9 ≤ t → t % 8 ≠ 0 → _ := fun h9 hf =>
    capSet_mem hV ht (o := 9) (e := dNE) (by simp [diag_eq])
      (fun _ => at_cap (Or.inl ⟨rfl, by omega, by omega⟩)) (southWest (prelude p).bxrays)
      (fun _ => by rw [southWest_iff _ (by omega), show t - 9 + 9 = t by omega]; exact and_iff_right (by omega)) h9
  constructor
  · rintro ⟨⟨⟨h9, hf, hsrc⟩, hen⟩, hal⟩
    exact ⟨h9, hf, (key h9 hf).mp ⟨⟨hsrc, hen⟩, hal⟩⟩
  · rintro ⟨h9, hf, h⟩
    obtain ⟨⟨hsrc, hen⟩, hal⟩ := (key h9 hf).mpr h
    exact ⟨⟨⟨h9, hf, hsrc⟩, hen⟩, hal⟩

theorem capNWSet_mem :
    (capNWSet p).getLsbD t = true ↔
      (7 ≤ t ∧ t % 8 ≠ 7 ∧ relBoard p (t - 7) = some ⟨true, .pawn⟩ ∧
        (∃ q, relBoard p t = some q ∧ q.white = false) ∧ (prelude p).allowed.getLsbD t = true ∧
        PinOk p (t - 7) t) := by
  unfold capNWSet
  simp only [BitVec.getLsbD_and, Bool.and_eq_true]
  rw [northWest_iff _ ht]
  have key : 7 ≤ t → t % 8 ≠ 7 → _ := fun h7 hf =>
    capSet_mem hV ht (o := 7) (e := dNW) (by simp [diag_eq])
      (fun _ => at_cap (Or.inr ⟨rfl, by omega, by omega⟩)) (southEast (prelude p).bxrays)
      (fun _ => by rw [southEast_iff _ (by omega), show t - 7 + 7 = t by omega]; exact and_iff_right (by omega)) h7
  constructor
  · rintro ⟨⟨⟨h7, hf, hsrc⟩, hen⟩, hal⟩
    exact ⟨h7, hf, (key h7 hf).mp ⟨⟨hsrc, hen⟩, hal⟩⟩
  · rintro ⟨h7, hf, h⟩
    obtain ⟨⟨hsrc, hen⟩, hal⟩ := (key h7 hf).mpr h
    exact ⟨⟨⟨h7, hf, hsrc⟩, hen⟩, hal⟩

end sets

/-- **en passant, class lemma**: a generated pawn move onto the en-passant square is a legal en-passant
capture of the rules, and conversely. -/
theorem gen_ep_iff {p : Position} (hV : ValidPos p = true) (hE : Spec.EpConsistent (relPos p) = true)
    {e : Nat} (hep : p.ep = some e) (f pr : Nat) :
    gm 0 f e pr ∈ moveGenerator p ↔
      (pr = 6 ∧ relBoard p f = some ⟨true, .pawn⟩ ∧
        Move.normal f e none ∈ Spec.legalMoves (relPos p)) := by
  obtain ⟨e64, e5, hBe, hBP, _, _⟩ := ep_facts hV hep
  obtain ⟨hBn, hEb⟩ := epConsistent_rel hV hE hep
  rw [mem_gen_pawn, epCondNE_iff hV hep hBn hEb, epCondNW_iff hV hep hBn hEb]
  constructor
  · rintro (⟨h1, h2, _⟩ | ⟨h1, _, _⟩ | ⟨h1, _, _⟩ | ⟨h1, _, _⟩ | ⟨_, hpr, h⟩)
    · -- a single push onto `e` would start from the enemy pawn's square
      have := ((pushSet_mem hV e64).mp ((mem_toList_lt _ _).mp h1).2).2.1
      rw [hBP] at this; cases this
    · have := ((dblSet_mem hV e64).mp ((mem_toList_lt _ _).mp h1).2).1
      omega
    · obtain ⟨q, hq, _⟩ := ((capNESet_mem hV e64).mp ((mem_toList_lt _ _).mp h1).2).2.2.2.1
      rw [hBe] at hq; cases hq
    · obtain ⟨q, hq, _⟩ := ((capNWSet_mem hV e64).mp ((mem_toList_lt _ _).mp h1).2).2.2.2.1
      rw [hBe] at hq; cases hq
    · rcases h with ⟨rfl, h9, hf, hBF, hL⟩ | ⟨rfl, hf, hBF, hL⟩
      · exact ⟨hpr, hBF, (ep_legal_iff hV hep (Or.inl ⟨rfl, by omega, hf⟩) hBF).mpr hL⟩
      · exact ⟨hpr, hBF, (ep_legal_iff hV hep (Or.inr ⟨rfl, by omega, hf⟩) hBF).mpr hL⟩
  · rintro ⟨hpr, hBF, hleg⟩
    right; right; right; right
    refine ⟨hep, hpr, ?_⟩
    have f64 : f < 64 := lt_of_relBoard hBF
    -- the geometry of the capture, from pseudo-legality
    have hps := ((mem_legal_normal _ _ _ _).mp hleg).1.2
    rw [pseudo_pawn_rel p f64 hBF] at hps
    rcases hps.2 with ⟨h1, _, _⟩ | ⟨h1, h2, _⟩ | ⟨hg, _⟩
    · exfalso
      have : f = e - 8 := by omega
      rw [this, hBP] at hBF; cases hBF
    · omega
    · rcases hg with ⟨h1, h2⟩ | ⟨h1, h2⟩
      · right
        have hfe : f = e - 7 := by omega
        have hgeo : CapGeo dNW f e := Or.inr ⟨rfl, by omega, by omega⟩
        subst hfe
        exact ⟨rfl, by omega, hBF, (ep_legal_iff hV hep hgeo hBF).mp hleg⟩
      · left
        have hfe : f = e - 9 := by omega
        have hgeo : CapGeo dNE f e := Or.inl ⟨rfl, by omega, by omega⟩
        subst hfe
        exact ⟨rfl, by omega, by omega, hBF, (ep_legal_iff hV hep hgeo hBF).mp hleg⟩

theorem promoOf_none {pr : Nat} (h : PrOk pr) (h' : promoOf pr = none) : pr = 6 := by
  unfold promoOf at h'
  rcases h with rfl | rfl | rfl | rfl | rfl <;> first | rfl | (simp at h')

/-- **pawns, class lemma**: a pawn-tagged move is generated iff it is a legal move of a pawn of the side to
move (pushes, double pushes, captures, promotions with each of the four pieces, en passant). -/
theorem pawns_core' {p : Position} (hV : ValidPos p = true) (f t prN : Nat)
    (hEp : p.ep = some t → (gm 0 f t prN ∈ moveGenerator p ↔
      (prN = 6 ∧ relBoard p f = some ⟨true, .pawn⟩ ∧
        Move.normal f t none ∈ Spec.legalMoves (relPos p)))) :
    gm 0 f t prN ∈ moveGenerator p ↔
      (relBoard p f = some ⟨true, .pawn⟩ ∧ t < 64 ∧ PrOk prN ∧
        Move.normal f t (promoOf prN) ∈ Spec.legalMoves (relPos p)) := by
  constructor
  · intro hg
    -- each block gives its clause of `PawnPseudoN`, the `allowed` bit and `PinOk`: legal by `legal_pawn_iff`
    rcases (mem_gen_pawn p f t prN).mp hg with ⟨h1, hf, hp⟩ | ⟨h1, hf, hp⟩ | ⟨h1, hf, hp⟩ | ⟨h1, hf, hp⟩ |
      ⟨hep, hpr, h⟩
    · obtain ⟨ht, hm⟩ := (mem_toList_lt _ _).mp h1
      obtain ⟨h8, hB, hBt, hal, hok⟩ := (pushSet_mem hV ht).mp hm
      subst hf
      have hpr := promoOk_prOk hp
      refine ⟨hB, ht, hpr, (legal_pawn_iff hV (by omega) ht hB _ ?_).mpr ⟨hal, hok⟩⟩
      exact Or.inl ⟨by omega, hBt, (promo_bridge hpr).mpr hp⟩
    · obtain ⟨ht, hm⟩ := (mem_toList_lt _ _).mp h1
      obtain ⟨h3, hB, hB8, hBt, hal, hok⟩ := (dblSet_mem hV ht).mp hm
      subst hf hp
      refine ⟨hB, ht, Or.inl rfl, (legal_pawn_iff hV (by omega) ht hB _ ?_).mpr ⟨hal, hok⟩⟩
      exact Or.inr (Or.inl ⟨by omega, by omega, by rw [show t - 16 + 8 = t - 8 by omega]; exact hB8, hBt, rfl⟩)
    · obtain ⟨ht, hm⟩ := (mem_toList_lt _ _).mp h1
      obtain ⟨h9, hf0, hB, ⟨q, hq, hw⟩, hal, hok⟩ := (capNESet_mem hV ht).mp hm
      subst hf
      have hpr := promoOk_prOk hp
      refine ⟨hB, ht, hpr, (legal_pawn_iff hV (by omega) ht hB _ ?_).mpr ⟨hal, hok⟩⟩
      exact Or.inr (Or.inr ⟨Or.inr ⟨by omega, by omega⟩, q, hq, hw, (promo_bridge hpr).mpr hp⟩)
    · obtain ⟨ht, hm⟩ := (mem_toList_lt _ _).mp h1
      obtain ⟨h7, hf7, hB, ⟨q, hq, hw⟩, hal, hok⟩ := (capNWSet_mem hV ht).mp hm
      subst hf
      have hpr := promoOk_prOk hp
      refine ⟨hB, ht, hpr, (legal_pawn_iff hV (by omega) ht hB _ ?_).mpr ⟨hal, hok⟩⟩
      exact Or.inr (Or.inr ⟨Or.inl ⟨by omega, by omega⟩, q, hq, hw, (promo_bridge hpr).mpr hp⟩)
    · obtain ⟨hpr', hB, hleg⟩ := (hEp hep).mp hg
      subst hpr'
      exact ⟨hB, (ep_facts hV hep).1, Or.inl rfl, hleg⟩
  · rintro ⟨hB, ht, hpr, hleg⟩
    have hf : f < 64 := lt_of_relBoard hB
    have hps := ((mem_legal_normal _ _ _ _).mp hleg).1.2
    rw [pseudo_pawn_rel p hf hB] at hps
    rcases (pawnPseudo_split _ _ _ _ _).mp hps.2 with hN | ⟨_, _, hep, hnone⟩
    · obtain ⟨hal, hok⟩ := (legal_pawn_iff hV hf ht hB _ hN).mp hleg
      rw [mem_gen_pawn]
      rcases hN with ⟨h1, hBt, hpromo⟩ | ⟨h1, h2, hB8, hBt, hnone⟩ | ⟨⟨h1, h2⟩ | ⟨h1, h2⟩, q, hq, hw, hpromo⟩
      · have e : t - 8 = f := by omega
        exact Or.inl ⟨(mem_toList_lt _ _).mpr ⟨ht, (pushSet_mem hV ht).mpr ⟨by omega, e ▸ hB, hBt, hal, e ▸ hok⟩⟩,
          e.symm, (promo_bridge hpr).mp hpromo⟩
      · have e : t - 16 = f := by omega
        have e8 : t - 8 = f + 8 := by omega
        exact Or.inr (Or.inl ⟨(mem_toList_lt _ _).mpr ⟨ht, (dblSet_mem hV ht).mpr
          ⟨by omega, e ▸ hB, e8 ▸ hB8, hBt, hal, e ▸ hok⟩⟩, e.symm, promoOf_none hpr hnone⟩)
      · have e : t - 7 = f := by omega
        exact Or.inr (Or.inr (Or.inr (Or.inl ⟨(mem_toList_lt _ _).mpr ⟨ht, (capNWSet_mem hV ht).mpr
          ⟨by omega, by omega, e ▸ hB, ⟨q, hq, hw⟩, hal, e ▸ hok⟩⟩, e.symm, (promo_bridge hpr).mp hpromo⟩)))
      · have e : t - 9 = f := by omega
        exact Or.inr (Or.inr (Or.inl ⟨(mem_toList_lt _ _).mpr ⟨ht, (capNESet_mem hV ht).mpr
          ⟨by omega, by omega, e ▸ hB, ⟨q, hq, hw⟩, hal, e ▸ hok⟩⟩, e.symm, (promo_bridge hpr).mp hpromo⟩))
    · obtain rfl := promoOf_none hpr hnone
      exact (hEp hep).mpr ⟨rfl, hB, hleg⟩

theorem pawns_core {p : Position} (hV : ValidPos p = true) (hE : Spec.EpConsistent (relPos p) = true)
    (f t prN : Nat) :
    gm 0 f t prN ∈ moveGenerator p ↔
      (relBoard p f = some ⟨true, .pawn⟩ ∧ t < 64 ∧ PrOk prN ∧
        Move.normal f t (promoOf prN) ∈ Spec.legalMoves (relPos p)) :=
  pawns_core' hV f t prN (fun hep => gen_ep_iff hV hE hep f prN)

/-- pawn moves to a square other than the en-passant square: no retro-consistency needed. -/
theorem pawns_core_noep {p : Position} (hV : ValidPos p = true) (f t prN : Nat) (hne : p.ep ≠ some t) :
    gm 0 f t prN ∈ moveGenerator p ↔
      (relBoard p f = some ⟨true, .pawn⟩ ∧ t < 64 ∧ PrOk prN ∧
        Move.normal f t (promoOf prN) ∈ Spec.legalMoves (relPos p)) :=
  pawns_core' hV f t prN (fun hep => absurd hep hne)

end Rawr.Att
