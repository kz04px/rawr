import Rawr.Generated.RustSearch
import Rawr.Proofs.RustImpAgree
import Rawr.Proofs.SelSort
/-!
# Agreement for the move-ordering sorts of qsearch.rs and negamax.rs

The regenerated `R.qs_sort` / `R.nm_sort` work on a `[0; 218]` score buffer (a 218-element list) and a `Vec<Mv>`;
the model (`sortQs` / `sortNm`) scores the moves with `List.map` and runs `selSort` on two arrays of the SAME length.

MODEL ABSTRACTION: `captureScore` reads `vals[(p.pieceOn m.src).getD 0]`, the Rust code `piece.unwrap()`
PANICS when a capturing move has no piece on its origin square.  The two agree exactly on the lists satisfying
`SrcOk` (every capture has a piece on its origin — true for every generated move list).
-/
namespace Rawr

def SrcOk (p : Position) (moves : List Mv) : Prop :=
  ∀ m ∈ moves, p.pieceOn m.dst ≠ none → p.pieceOn m.src ≠ none

theorem vals_nm : ∀ c : Fin 6, ([100, 300, 325, 500, 900, 0] : List Int)[c.val]? = some (Gen.orderValsNegamax[c.val]!) := by decide

/-! the regenerated sorts keep the scores in a 218-element buffer `scores`, the model in an array `sc` of the length
of the move list: the buffer starts with the array -/
theorem buf_get {scores : List Int} {sc : Array Int} (h : scores.take sc.size = sc.toList) {k : Nat} (hk : k < sc.size) :
    scores[k]? = some sc[k]! := by
  have : (scores.take sc.size)[k]? = sc.toList[k]? := by rw [h]
  rw [List.getElem?_take_of_lt hk] at this
  rw [this]
  simp [hk]

theorem buf_len {scores : List Int} {sc : Array Int} (h : scores.take sc.size = sc.toList) : sc.size ≤ scores.length := by
  have := congrArg List.length h
  simp only [List.length_take, Array.length_toList] at this
  omega

theorem buf_swap {scores : List Int} {sc : Array Int} (h : scores.take sc.size = sc.toList) (i b : Nat) (x y : Int) :
    ((scores.set i x).set b y).take ((sc.set! i x).set! b y).size = ((sc.set! i x).set! b y).toList := by
  simp [List.take_set, h, Array.set!_eq_setIfInBounds]

theorem loop3_eq (scores : List Int) (sc : Array Int) (h : scores.take sc.size = sc.toList) :
    ∀ (m j best f : Nat), j + m = sc.size → m ≤ f → best < sc.size →
      R.qs_sort_loop3 scores (List.range' j m) best = some (selInner sc best j f) := by
  intro m
  induction m with
  | zero =>
    intro j best f hj _ _
    cases f with
    | zero => simp [R.qs_sort_loop3, selInner]
    | succ f =>
      have : ¬ j < sc.size := by omega
      simp [R.qs_sort_loop3, selInner, this]
  | succ m ih =>
    intro j best f hj hf hb
    cases f with
    | zero => omega
    | succ f =>
      have hjs : j < sc.size := by omega
      rw [List.range'_succ]
      unfold R.qs_sort_loop3 selInner
      simp only [buf_get h hjs, buf_get h hb, hjs, if_true]
      apply ih (j + 1) _ f (by omega) (by omega)
      split <;> assumption

theorem loop2_eq : ∀ (m i f : Nat) (moves : List Mv) (scores : List Int) (sc : Array Int),
    moves.length = sc.size → scores.take sc.size = sc.toList → i + m + 1 = sc.size → m ≤ f →
    ∃ scores', R.qs_sort_loop2 (List.range' i m) moves scores =
      some ((selOuter sc.size i f sc moves.toArray).toList, scores') := by
  intro m
  induction m with
  | zero =>
    intro i f moves scores sc hm hr hi _
    refine ⟨scores, ?_⟩
    cases f with
    | zero => simp [R.qs_sort_loop2, selOuter]
    | succ f =>
      have : ¬ i + 1 < sc.size := by omega
      simp [R.qs_sort_loop2, selOuter, this]
  | succ m ih =>
    intro i f moves scores sc hm hr hi hf
    cases f with
    | zero => omega
    | succ f =>
      have hin : i + 1 < sc.size := by omega
      have hi' : i < sc.size := by omega
      rw [List.range'_succ]
      unfold R.qs_sort_loop2 selOuter
      simp only [hin, if_true]
      rw [hm, loop3_eq scores sc hr (sc.size - (i + 1)) (i + 1) i sc.size (by omega) (by omega) hi']
      have hb : selInner sc i (i + 1) sc.size < sc.size := selInner_lt sc sc.size i (i + 1) hi'
      generalize selInner sc i (i + 1) sc.size = b at hb ⊢
      have gm : ∀ k, k < sc.size → moves[k]? = some moves[k]! := by
        intro k hk
        rw [List.getElem?_eq_getElem (by omega), getElem!_pos moves k (by omega)]
      have hsl := buf_len hr
      simp only [gm b hb, gm i hi', buf_get hr hb, buf_get hr hi', R.Lst.set, hm, hi', hb, List.length_set, if_true,
        show i < scores.length from by omega, show b < scores.length from by omega]
      obtain ⟨s', hs'⟩ := ih (i + 1) f ((moves.set i moves[b]!).set b moves[i]!) ((scores.set i sc[b]!).set b sc[i]!)
        ((sc.set! i sc[b]!).set! b sc[i]!) (by simp [hm]) (buf_swap hr i b _ _) (by simp; omega) (by omega)
      refine ⟨s', ?_⟩
      rw [hs']
      congr 3
      all_goals simp [Array.set!_eq_setIfInBounds, getElem!_pos, hm, hi', hb]

theorem select_eq (moves : List Mv) (scores : List Int) (sc : Array Int) (hn : 1 ≤ moves.length)
    (hs : sc.size = moves.length) (hr : scores.take moves.length = sc.toList) :
    ∃ scores', R.qs_sort_loop2 (List.range (moves.length - 1)) moves scores = some ((selSort sc moves.toArray).toList, scores') := by
  rw [List.range_eq_range']
  have := loop2_eq (moves.length - 1) 0 moves.length moves scores sc hs.symm (hs ▸ hr) (by omega) (by omega)
  simpa [selSort, hs] using this

/-! the negamax copies of the two loops are the same functions -/
theorem nm_loop3_eq : @R.nm_sort_loop3 = @R.qs_sort_loop3 := by
  funext scores l
  induction l with
  | nil => funext b; rfl
  | cons j l ih =>
    funext b
    unfold R.nm_sort_loop3 R.qs_sort_loop3
    rw [ih]

theorem nm_loop2_eq : @R.nm_sort_loop2 = @R.qs_sort_loop2 := by
  funext l
  induction l with
  | nil => funext m s; rfl
  | cons j l ih =>
    funext m s
    unfold R.nm_sort_loop2 R.qs_sort_loop2
    rw [ih, nm_loop3_eq]

/-- what a scoring loop computes: entries `k .. n-1` of the buffer are the scores of the moves, the rest is kept. -/
def Scored (cs : Mv → Int) (moves : List Mv) (k : Nat) (scores scores' : List Int) : Prop :=
  scores'.length = scores.length ∧ (∀ j, k ≤ j → j < moves.length → scores'[j]? = some (cs moves[j]!)) ∧
    (∀ j, j < k → scores'[j]? = scores[j]?)

theorem scored_step {cs : Mv → Int} {moves : List Mv} {k : Nat} {scores s' : List Int} (hk : k < scores.length)
    (h : Scored cs moves (k + 1) (scores.set k (cs moves[k]!)) s') : Scored cs moves k scores s' := by
  obtain ⟨h1, h2, h3⟩ := h
  refine ⟨by simpa using h1, ?_, ?_⟩
  · intro j hj hjn
    by_cases e : j = k
    · subst e
      rw [h3 j (by omega)]
      simp [hk]
    · exact h2 j (by omega) hjn
  · intro j hj
    rw [h3 j (by omega), List.getElem?_set_ne (by omega)]

theorem scored_take {cs : Mv → Int} {moves : List Mv} {scores s' : List Int} (h : Scored cs moves 0 scores s')
    (hn : moves.length ≤ scores.length) : s'.take moves.length = ((moves.map cs).toArray).toList := by
  obtain ⟨h1, h2, _⟩ := h
  apply List.ext_getElem?
  intro j
  by_cases hj : j < moves.length
  · rw [List.getElem?_take_of_lt hj, h2 j (by omega) hj]
    simp [hj]
  · rw [List.getElem?_eq_none (by simp; omega), List.getElem?_eq_none (by simp; omega)]

theorem lst_set_some {α : Type} {l l' : List α} {i : Nat} {v : α} (h : R.Lst.set l i v = some l') : l'.length = l.length ∧ i < l.length := by
  unfold R.Lst.set at h
  split at h
  · injection h with h; subst h; exact ⟨by simp, by assumption⟩
  · cases h

/-! ## negamax.rs `sort` -/
/-- the model's ordering score in negamax (`1_000_000` for the hash move). -/
def nmScore (p : Position) (ttmove : Option Mv) (m : Mv) : Int :=
  if ttmove == some m then Gen.ttMoveOrderScore else captureScore Gen.orderValsNegamax p m

theorem isSome_and_eq (t : Option Mv) (m : Mv) : (Option.isSome t && (t == some m)) = (t == some m) := by
  cases t <;> simp

theorem nm_loop1_eq (p : Position) (moves : List Mv) (tt : Option Mv) (hsrc : SrcOk p moves) (vals : List Int)
    (hvals : ∀ c : Fin 6, vals[c.val]? = some (Gen.orderValsNegamax[c.val]!)) :
    ∀ (m k : Nat) (scores : List Int), k + m = moves.length → moves.length ≤ scores.length →
      ∃ s', R.nm_sort_loop1 p moves tt vals (List.range' k m) scores = some s' ∧
        Scored (nmScore p tt) moves k scores s' := by
  intro m
  induction m with
  | zero =>
    intro k scores hk _
    exact ⟨scores, rfl, rfl, fun j h1 h2 => by omega, fun _ _ => rfl⟩
  | succ m ih =>
    intro k scores hk hl
    have hkn : k < moves.length := by omega
    rw [List.range'_succ]
    unfold R.nm_sort_loop1
    simp only [List.getElem?_eq_getElem hkn, agree_get_piece_on, isSome_and_eq]
    have hks : k < scores.length := by omega
    obtain ⟨s', h1, h2⟩ := ih (k + 1) (scores.set k (nmScore p tt moves[k])) (by omega) (by simpa using hl)
    refine ⟨s', ?_, scored_step (by omega) (by rw [getElem!_pos moves k hkn]; exact h2)⟩
    -- the score of the move as the code computes it, before it is stored
    generalize hv : (if (tt == some moves[k]) = true then some 1000000 else _ : Option Int) = v
    have : v = some (nmScore p tt moves[k]) := by
      rw [← hv]
      unfold nmScore captureScore
      rw [apply_ite some]
      refine ite_congr rfl (fun _ => rfl) fun _ => ?_
      cases hd : p.pieceOn moves[k].dst with
      | none => rfl
      | some c =>
        -- a capturing move has a piece on its origin (`SrcOk`): the `unwrap` of the code does not panic
        obtain ⟨u, hs⟩ := Option.ne_none_iff_exists'.1 (hsrc _ (List.getElem_mem hkn) (by simp [hd]))
        simp only [hs, Option.getD_some, hvals ⟨c, pieceOn_lt6 hd⟩, hvals ⟨u, pieceOn_lt6 hs⟩]
    subst this
    simp only [R.Lst.set, hks, if_true]
    exact h1

theorem nm_loop1_bound (p : Position) (moves : List Mv) (tt : Option Mv) (vals : List Int) :
    ∀ (l : List Nat) (scores s' : List Int), R.nm_sort_loop1 p moves tt vals l scores = some s' → ∀ i ∈ l, i < scores.length := by
  intro l
  induction l with
  | nil => intro _ _ _ i hi; cases hi
  | cons a l ih =>
    intro scores s' h i hi
    unfold R.nm_sort_loop1 at h
    split at h
    · cases h
    · simp only at h
      split at h
      · cases h
      · split at h
        · cases h
        · rename_i sc1 hsc
          have hlen := lst_set_some hsc
          rcases List.mem_cons.mp hi with rfl | hi
          · exact hlen.2
          · have := ih sc1 s' h i hi
            omega

theorem agree_nm_sort (p : Position) (moves : List Mv) (tt : Option Mv) (hsrc : SrcOk p moves) :
    R.nm_sort p moves tt = sortNm p moves tt := by
  unfold R.nm_sort sortNm
  by_cases h2 : moves.length < 2
  · simp [h2]
  · simp only [if_false, h2]
    by_cases hbig : moves.length > Gen.orderBufNegamax
    · simp only [hbig, if_true]
      cases hc : R.nm_sort_loop1 p moves tt [100, 300, 325, 500, 900, 0] (List.range moves.length) (List.replicate 218 0) with
      | none => rfl
      | some s' =>
        have := nm_loop1_bound p moves tt _ _ _ _ hc 218 (List.mem_range.mpr hbig)
        rw [List.length_replicate] at this
        omega
    · simp only [hbig, if_false]
      have hle : moves.length ≤ (List.replicate 218 (0 : Int)).length := by
        rw [List.length_replicate]; unfold Gen.orderBufNegamax at hbig; omega
      rw [List.range_eq_range']
      obtain ⟨s', h1, hsc⟩ := nm_loop1_eq p moves tt hsrc _ vals_nm moves.length 0 (List.replicate 218 0) (by omega) hle
      rw [h1]
      simp only
      obtain ⟨s'', h3⟩ := select_eq moves s' ((moves.map (nmScore p tt)).toArray) (by omega)
        (by simp) (scored_take hsc hle)
      rw [nm_loop2_eq, h3]
      rfl

/-! ## qsearch.rs `sort`: the negamax sort without a hash move -/
theorem nm_loop1_none (p : Position) (moves : List Mv) (vals : List Int) :
    ∀ (l : List Nat) (scores : List Int),
      R.nm_sort_loop1 p moves none vals l scores = R.qs_sort_loop1 p moves vals l scores := by
  intro l
  induction l with
  | nil => intro _; rfl
  | cons i l ih =>
    intro scores
    unfold R.nm_sort_loop1 R.qs_sort_loop1
    cases moves[i]? with
    | none => rfl
    | some m =>
      simp only [Option.isSome_none, Bool.false_and, Bool.false_eq_true, if_false, ih]
      -- `qs_sort` stores inside the `match`, `nm_sort` after it
      cases R.get_piece_on p m.dst with
      | none =>
        simp only
        cases R.Lst.set scores i 0 <;> rfl
      | some c =>
        simp only
        cases vals[c]? with
        | none => rfl
        | some vc =>
          simp only
          cases R.get_piece_on p m.src with
          | none => rfl
          | some u =>
            simp only
            cases vals[u]? with
            | none => rfl
            | some vu =>
              simp only
              cases R.Lst.set scores i (10 * vc - vu) <;> rfl

theorem sortNm_none (p : Position) (moves : List Mv) : sortNm p moves none = sortQs p moves := rfl

theorem agree_qs_sort (p : Position) (moves : List Mv) (hsrc : SrcOk p moves) : R.qs_sort p moves = sortQs p moves := by
  rw [← sortNm_none, ← agree_nm_sort p moves none hsrc]
  unfold R.qs_sort R.nm_sort
  simp only [nm_loop1_none, nm_loop2_eq]

/-! non-vacuity: the regenerated sort computes (two quiet moves of the start position: both score 0 and keep their
order) -/
example : R.qs_sort Gen.startpos [⟨12, 28, 6⟩, ⟨1, 18, 6⟩] = some [⟨12, 28, 6⟩, ⟨1, 18, 6⟩] := by decide +kernel

end Rawr

#print axioms Rawr.agree_qs_sort
#print axioms Rawr.agree_nm_sort
