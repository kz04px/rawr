import Rawr.Proofs.RelPos
import Rawr.Proofs.GenBlocks
import Rawr.Proofs.ValidReadings
import Rawr.Proofs.PseudoFrom
/-!
# C01: what the moves of the pieces other than pawns share, and the king steps

Where a king-tagged move comes from in `moveGenerator` (`mem_gen_king`; the castling right of the mover and
its rook file are `VB.hasRight p false`, `VB.rightFile p false`, the targets `kTo`, `rTo`), the legality of a piece's move by the rules of `relPos p` up to the test for check
(`mem_legal_normal`, `legal_rel_iff`), the absolute board read in the mover's frame (`abs_at`, `abs_at_us`,
`abs_at_them`), the mover's king on the domain (`kingFacts`, `kingFacts_of`, `relKing_unique`); then the king steps
(`king_steps_core`). At the end what the files on the prelude and on castling share: `themRQ_iff`, `kings_apart`.
-/
namespace Rawr.Att
open Spec

theorem apply_board_piece (P : APos) (a b : Nat) (pc : Piece) (hB : P.board a = some pc)
    (hk : pc.kind ≠ .pawn) :
    (apply P (.normal a b none)).board = setSq (setSq P.board a none) b (some pc) := by
  have : (pc.kind == Kind.pawn) = false := by simpa using hk
  rw [SV.apply_normal hB]
  simp only [this, Bool.false_and, Bool.false_eq_true, if_false]

theorem mem_legal_normal (P : APos) (a b : Nat) (pr : Option Kind) :
    Move.normal a b pr ∈ Spec.legalMoves P ↔
      (a < 64 ∧ Move.normal a b pr ∈ pseudoFrom P a) ∧
        Spec.inCheck (apply P (.normal a b pr)).board P.whiteToMove = false := by
  unfold Spec.legalMoves
  simp only [List.mem_append, List.mem_filter, List.mem_flatMap, List.mem_map, squares, List.mem_range,
    Bool.not_eq_true', reduceCtorEq, and_false, exists_false, or_false]
  constructor
  · rintro ⟨⟨s, hs, hm⟩, hc⟩
    have : a = s := pseudoFrom_src P hs _ hm
    subst this
    exact ⟨⟨hs, hm⟩, hc⟩
  · rintro ⟨⟨hs, hm⟩, hc⟩
    exact ⟨⟨a, hs, hm⟩, hc⟩

theorem mem_legal_castle (P : APos) (ks : Bool) :
    Spec.Move.castle ks ∈ Spec.legalMoves P ↔ Spec.castleLegal P ks = true := by
  unfold Spec.legalMoves
  rw [List.mem_append]
  constructor
  · rintro (h | h)
    · exfalso
      rw [List.mem_filter, List.mem_flatMap] at h
      obtain ⟨⟨s, hs, hm⟩, _⟩ := h
      exact pseudoFrom_src P (List.mem_range.mp hs) _ hm
    · rw [List.mem_map] at h
      obtain ⟨ks', hm, e⟩ := h
      injection e with e
      subst e
      exact (List.mem_filter.mp hm).2
  · intro h
    right
    rw [List.mem_map]
    exact ⟨ks, List.mem_filter.mpr ⟨by cases ks <;> simp, h⟩, rfl⟩

/-- where king and rook land, as files of the back rank. -/
def kTo (ks : Bool) : Nat := if ks then 6 else 2
def rTo (ks : Bool) : Nat := if ks then 5 else 3

theorem mem_gen_king (p : Position) (k to : Nat) :
    gm 5 k to 6 ∈ moveGenerator p ↔
      (k ∈ toList (p.p5 &&& p.c0) ∧ to ∈ kingTargetsSafe p k) ∨
      ∃ ks, castleOk p (prelude p) (VB.hasRight p false ks) (fromCoords (VB.rightFile p false ks) 0) (kTo ks) (rTo ks) = true ∧
        k = (prelude p).ksq ∧ to = fromCoords (VB.rightFile p false ks) 0 := by
  rw [mem_gen]
  constructor
  · intro h
    cases h with
    | king hs ht => exact .inl ⟨(Rawr.mem_toList _ _).mpr hs, ht⟩
    | castleK hc e => exact .inr ⟨true, hc, e, rfl⟩
    | castleQ hc e => exact .inr ⟨false, hc, e, rfl⟩
    | piece hb e _ _ =>
      have := sliderBlocks_pc hb
      omega
  · rintro (⟨hs, ht⟩ | ⟨ks, hc, e, rfl⟩)
    · exact .king ((Rawr.mem_toList _ _).mp hs) ht
    · cases ks
      · exact .castleQ hc e
      · exact .castleK hc e

theorem pieceAttacks_congr (B B' : Board) (s t : Nat) (hs : s < 64) (ht : t < 64)
    (h : ∀ x, x < 64 → Between s t x → B x = B' x) (pc : Piece) :
    pieceAttacks B s pc t = pieceAttacks B' s pc t := by
  rw [pieceAttacks_split, pieceAttacks_split, diagAtt_congr B B' s t hs ht h,
    orthAtt_congr B B' s t hs ht h]

theorem pieceAttacks_self (B : Board) (t : Nat) (pc : Piece) : pieceAttacks B t pc t = false := by
  rw [pieceAttacks_split]
  obtain ⟨w, kd⟩ := pc
  cases kd <;> simp [pawnStep, knightStep, kingStep, diagAtt, orthAtt]

theorem attackedBy_setSq_target (B : Board) (w : Bool) (t : Nat) (ht : t < 64) (v : Option Piece) :
    attackedBy (setSq B t v) w t = attackedBy B w t := by
  unfold attackedBy squares
  apply any_range_congr
  intro s hs
  by_cases hst : s = t
  · subst hst
    cases setSq B s v s <;> cases B s <;> simp [pieceAttacks_self]
  · have e : setSq B t v s = B s := by simp [setSq, hst]
    rw [e]
    cases B s with
    | none => rfl
    | some pc =>
      simp only [pieceAttacks_congr (setSq B t v) B s t hs ht
        (fun x _ hx => by simp [setSq, (between_ne hx).2]) pc]

theorem any_range_single {n b : Nat} (hb : b < n) (f : Nat → Bool) :
    (List.range n).any (fun s => decide (s = b) && f s) = f b := by
  rw [Bool.eq_iff_iff, List.any_eq_true]
  constructor
  · rintro ⟨s, _, h⟩
    simp only [Bool.and_eq_true, decide_eq_true_eq] at h
    rw [← h.1]; exact h.2
  · intro h; exact ⟨b, List.mem_range.mpr hb, by simp [h]⟩

theorem inCheck_unique (B : Board) (w : Bool) (b : Nat) (hb : b < 64)
    (h : ∀ s, s < 64 → (B s = some ⟨w, .king⟩ ↔ s = b)) :
    Spec.inCheck B w = attackedBy B (!w) b := by
  unfold Spec.inCheck kingSquares squares
  rw [List.any_filter]
  have : ∀ s, s < 64 → ((B s == some ⟨w, .king⟩) && attackedBy B (!w) s)
      = (decide (s = b) && attackedBy B (!w) s) := by
    intro s hs
    congr 1
    rw [Bool.eq_iff_iff, beq_iff_eq, decide_eq_true_iff]
    exact h s hs
  rw [any_range_congr this, any_range_single hb]

theorem inCheck_after_king_step (B : Board) (w : Bool) (a b : Nat) (hb : b < 64)
    (huniq : ∀ s, s < 64 → B s = some ⟨w, .king⟩ → s = a) :
    Spec.inCheck (setSq (setSq B a none) b (some ⟨w, .king⟩)) w
      = attackedBy (setSq B a none) (!w) b := by
  rw [inCheck_unique _ w b hb, attackedBy_setSq_target _ _ b hb]
  intro s hs
  unfold setSq
  by_cases e : s = b
  · simp [e]
  · by_cases e' : s = a
    · simp [e']
    · simp only [e, e', if_false, iff_false]
      intro h; exact e' (huniq s hs h)

theorem frameB_at (black : Bool) (B : Board) (s : Nat) :
    frameB black B (absSq black s) = (B s).map (framePiece black) := by
  unfold frameB absSq framePiece
  cases black
  · simp
  · simp only [if_true]; exact mirrorB_x56 B s

theorem abs_at (p : Position) (s : Nat) :
    (abs p).board (absSq p.black s) = (relBoard p s).map (framePiece p.black) := by
  rw [absBoard_frame, frameB_at]

theorem abs_at' (p : Position) (a : Nat) :
    (abs p).board a = (relBoard p (absSq p.black a)).map (framePiece p.black) := by
  rw [← abs_at, absSq_absSq]

theorem framePiece_us (black : Bool) (kd : Kind) : framePiece black ⟨true, kd⟩ = ⟨!black, kd⟩ := by
  cases black <;> rfl
theorem framePiece_them (black : Bool) (kd : Kind) : framePiece black ⟨false, kd⟩ = ⟨black, kd⟩ := by
  cases black <;> rfl

theorem framePiece_inj (black : Bool) (a b : Piece) (h : framePiece black a = framePiece black b) :
    a = b := by
  obtain ⟨w, k⟩ := a; obtain ⟨w', k'⟩ := b
  cases black <;> cases w <;> cases w' <;> simp [framePiece, flipPiece] at h ⊢ <;> exact h

theorem abs_at_some (p : Position) (s : Nat) (pc : Piece) :
    (abs p).board (absSq p.black s) = some (framePiece p.black pc) ↔ relBoard p s = some pc := by
  rw [abs_at]
  cases relBoard p s with
  | none => simp
  | some q =>
    simp only [Option.map_some, Option.some.injEq]
    exact ⟨fun h => framePiece_inj _ _ _ h, fun h => by rw [h]⟩

theorem abs_at_us (p : Position) (s : Nat) (kd : Kind) :
    (abs p).board (absSq p.black s) = some ⟨!p.black, kd⟩ ↔ relBoard p s = some ⟨true, kd⟩ := by
  rw [← framePiece_us, abs_at_some]

theorem abs_at_them (p : Position) (s : Nat) (kd : Kind) :
    (abs p).board (absSq p.black s) = some ⟨p.black, kd⟩ ↔ relBoard p s = some ⟨false, kd⟩ := by
  rw [← framePiece_them, abs_at_some]

theorem notOwn_rel {p : Position} (hC : Consistent p = true) (t : Nat) (ht : t < 64) :
    (match relBoard p t with
      | some q => q.white != true
      | none => true) = !p.c0.getLsbD t := by
  rw [(rel_colour hC ht).1]
  rcases relBoard p t with _ | ⟨w, k⟩
  · rfl
  · cases w <;> rfl

theorem pseudo_piece_rel {p : Position} (hC : Consistent p = true) {f : Nat} (t : Nat)
    {kd : Kind} (hkd : kd ≠ .pawn) (hB : relBoard p f = some ⟨true, kd⟩) :
    Move.normal f t none ∈ pseudoFrom (relPos p) f ↔
      t < 64 ∧ pieceAttacks (relBoard p) f ⟨true, kd⟩ t = true ∧ p.c0.getLsbD t = false := by
  rw [mem_pseudoFrom_piece (relPos p) f _ hB rfl hkd]
  constructor
  · rintro ⟨t', ht, ha, hno, he⟩
    obtain rfl : t = t' := by injection he
    exact ⟨ht, ha, by simpa using (notOwn_rel hC t ht).symm.trans hno⟩
  · rintro ⟨ht, ha, hto⟩
    exact ⟨t, ht, ha, (notOwn_rel hC t ht).trans (by rw [hto]; rfl), rfl⟩

theorem legal_rel_iff {p : Position} (hC : Consistent p = true) {f : Nat} (hf : f < 64) (t : Nat)
    {kd : Kind} (hkd : kd ≠ .pawn) (hB : relBoard p f = some ⟨true, kd⟩) :
    Move.normal f t none ∈ Spec.legalMoves (relPos p) ↔
      t < 64 ∧ pieceAttacks (relBoard p) f ⟨true, kd⟩ t = true ∧ p.c0.getLsbD t = false ∧
        Spec.inCheck (setSq (setSq (relBoard p) f none) t (some ⟨true, kd⟩)) true = false := by
  rw [mem_legal_normal, pseudo_piece_rel hC t hkd hB, apply_board_piece _ _ _ _ hB hkd]
  exact ⟨fun ⟨⟨_, h1, h2, h3⟩, h4⟩ => ⟨h1, h2, h3, h4⟩, fun ⟨h1, h2, h3, h4⟩ => ⟨⟨hf, h1, h2, h3⟩, h4⟩⟩

theorem unique_of_length_one {α : Type} {l : List α} (h : l.length = 1) {x y : α}
    (hx : x ∈ l) (hy : y ∈ l) : x = y := by
  match l, h with
  | [a], _ =>
    rw [List.mem_singleton] at hx hy; rw [hx, hy]

structure KingFacts (p : Position) (k : Nat) : Prop where
  k64 : k < 64
  list : toList (p.p5 &&& p.c0) = [k]
  c0 : p.c0.getLsbD k = true
  p5 : p.p5.getLsbD k = true
  rel : relBoard p k = some ⟨true, .king⟩

theorem kingFacts_of {p : Position} (F : VFacts p) : KingFacts p (lsb (p.p5 &&& p.c0)) := by
  have hC := F.cons
  have hk : count (p.p5 &&& p.c0) = 1 := BitVec.and_comm p.c0 p.p5 ▸ F.king1
  obtain ⟨hl, h64⟩ := toList_of_count_one _ hk
  have hm := (mem_toList_lt (p.p5 &&& p.c0) (lsb (p.p5 &&& p.c0))).mp (by rw [hl]; exact List.mem_singleton_self _)
  have hb := hm.2
  rw [BitVec.getLsbD_and, Bool.and_eq_true] at hb
  have hrel : relBoard p (lsb (p.p5 &&& p.c0)) = some ⟨true, .king⟩ := by
    have := (rep_us hC).king _ h64
    rw [BitVec.getLsbD_and, hb.1, hb.2] at this
    simpa using this
  exact ⟨h64, hl, hb.2, hb.1, hrel⟩

theorem kingFacts {p : Position} (hV : ValidPos p = true) : KingFacts p (lsb (p.p5 &&& p.c0)) :=
  kingFacts_of (vfacts_of_valid hV)

theorem kingTargetsSafe_sub {p : Position} {k to : Nat} (h : to ∈ kingTargetsSafe p k) :
    to < 64 ∧ (adjacent (bit k)).getLsbD to = true ∧ p.c0.getLsbD to = false := by
  unfold kingTargetsSafe at h
  rw [List.mem_filter, mem_toList_lt, BitVec.getLsbD_and, Bool.and_eq_true] at h
  obtain ⟨⟨hlt, hadj, hn⟩, _⟩ := h
  rw [BitVec.getLsbD_not, Bool.and_eq_true, Bool.not_eq_true'] at hn
  exact ⟨hlt, hadj, hn.2⟩

theorem mem_kingTargetsSafe (p : Position) (k : Nat) (hk : k < 64) (to : Nat) :
    to ∈ kingTargetsSafe p k ↔
      to < 64 ∧ kingStep k to = true ∧ p.c0.getLsbD to = false ∧
      isSafe to (p.occ ^^^ bit k) (p.c1 &&& p.p0) (p.c1 &&& p.p1) (p.c1 &&& p.p2) (p.c1 &&& p.p3)
        (p.c1 &&& p.p4) (p.c1 &&& p.p5) = true := by
  unfold kingTargetsSafe
  rw [List.mem_filter, mem_toList_lt, BitVec.getLsbD_and, BitVec.getLsbD_not, (C10_leapers_bit k hk).2.1,
    getLsbD_geomBB]
  constructor
  · rintro ⟨⟨h1, h2⟩, h3⟩
    simp only [h1, decide_true, Bool.true_and, Bool.and_eq_true, Bool.not_eq_true'] at h2
    exact ⟨h1, h2.1, h2.2, h3⟩
  · rintro ⟨h1, h2, h3, h4⟩
    exact ⟨⟨h1, by rw [h3, h2]; simp [h1]⟩, h4⟩

theorem castleOk_right {p : Position} {q : Prelude} {r : Bool} {a b c : Nat}
    (h : castleOk p q r a b c = true) : r = true := by
  unfold castleOk at h
  simp only [Bool.and_eq_true] at h
  exact h.1.1.1.1

theorem rook_of_right {p : Position} (hV : ValidPos p = true) (ks : Bool) (hr : VB.hasRight p false ks = true) :
    p.c0.getLsbD (fromCoords (VB.rightFile p false ks) 0) = true ∧
      p.p3.getLsbD (fromCoords (VB.rightFile p false ks) 0) = true := by
  have h : (p.c0 &&& p.p3).getLsbD (fromCoords (VB.rightFile p false ks) 0) = true := by
    exact ((VB.of_validPos hV).2.1.rights false ks hr).2.1
  rwa [BitVec.getLsbD_and, Bool.and_eq_true] at h

theorem gen_king_step_iff {p : Position} (hV : ValidPos p = true) (to : Nat) :
    (gm 5 (lsb (p.p5 &&& p.c0)) to 6 ∈ moveGenerator p ∧ ¬ p.c0.isSet to = true) ↔
      to ∈ kingTargetsSafe p (lsb (p.p5 &&& p.c0)) := by
  have F := kingFacts hV
  rw [mem_gen_king]
  constructor
  · rintro ⟨h | ⟨ks, hc, _, rfl⟩, hn⟩
    · exact h.2
    · exact absurd (rook_of_right hV ks (castleOk_right hc)).1 hn
  · intro h
    refine ⟨Or.inl ⟨by rw [F.list]; exact List.mem_singleton_self _, h⟩, ?_⟩
    have := ((mem_kingTargetsSafe p _ F.k64 to).mp h).2.2.1
    unfold BB.isSet
    rw [this]; decide

theorem promo_none_of_piece {p : Position} {f b : Nat} {pr : Option Kind} {kd : Kind} (hkd : kd ≠ .pawn)
    (hB : relBoard p f = some ⟨true, kd⟩)
    (hleg : Move.normal (absSq p.black f) b pr ∈ Spec.legalMoves (abs p)) : pr = none := by
  have h' := ((mem_legal_normal _ _ _ _).mp hleg).1.2
  rw [mem_pseudoFrom_piece _ _ _ ((abs_at_us p f kd).mpr hB) rfl hkd] at h'
  obtain ⟨t, _, _, _, e⟩ := h'
  injection e

theorem relKing_unique {p : Position} (hV : ValidPos p = true) (s : Nat) (hs : s < 64) :
    relBoard p s = some ⟨true, .king⟩ ↔ s = lsb (p.p5 &&& p.c0) := by
  have hm := mem_toList_lt (p.p5 &&& p.c0) s
  rw [(kingFacts hV).list, List.mem_singleton, and_iff_right hs] at hm
  rw [hm, BitVec.and_comm, (rep_us (valid_consistent hV)).king s hs, decide_eq_true_iff]

theorem king_unique_setSq {B : Board} {k : Nat} (h : ∀ s, s < 64 → (B s = some ⟨true, .king⟩ ↔ s = k))
    {x : Nat} (hx : x ≠ k) {v : Option Piece} (hv : v ≠ some ⟨true, .king⟩) :
    ∀ s, s < 64 → (setSq B x v s = some ⟨true, .king⟩ ↔ s = k) := by
  intro s hs
  unfold setSq
  by_cases e : s = x
  · rw [if_pos e]
    constructor
    · intro h'; exact absurd h' hv
    · intro h'; rw [e] at h'; exact absurd h' hx
  · rw [if_neg e]; exact h s hs

theorem king_steps_core {p : Position} (hV : ValidPos p = true) (to : Nat) :
    (gm 5 (lsb (p.p5 &&& p.c0)) to 6 ∈ moveGenerator p ∧ ¬ p.c0.isSet to = true) ↔
      Move.normal (lsb (p.p5 &&& p.c0)) to none ∈ Spec.legalMoves (relPos p) := by
  have F := kingFacts hV
  have hC := valid_consistent hV
  rw [gen_king_step_iff hV, mem_kingTargetsSafe p _ F.k64, legal_rel_iff hC F.k64 to (kd := .king) nofun F.rel]
  refine and_congr_right fun ht => and_congr_right fun _ => and_congr_right fun _ => ?_
  rw [inCheck_after_king_step _ _ _ _ ht fun s hs h => (relKing_unique hV s hs).mp h, Bool.not_true,
    isSafe_lift hC _ F.k64 F.c0 to ht]
  cases attackedBy (setSq (relBoard p) (lsb (p.p5 &&& p.c0)) none) false to <;> decide

/-- the enemy rooks and queens, as a set of the relative board. -/
def themRQ (p : Position) : BB := p.c1 &&& (p.p3 ||| p.p4)

theorem themRQ_iff {p : Position} (hC : Consistent p = true) (s : Nat) (hs : s < 64) :
    (themRQ p).getLsbD s = true ↔
      (relBoard p s = some ⟨false, .rook⟩ ∨ relBoard p s = some ⟨false, .queen⟩) := by
  unfold themRQ
  rw [BitVec.and_or_distrib_left, BitVec.getLsbD_or, (rep_them hC).rook s hs, (rep_them hC).queen s hs,
    Bool.or_eq_true, decide_eq_true_iff, decide_eq_true_iff]

/-- the two kings are not adjacent (the side not to move is not in check). -/
theorem kings_apart {p : Position} (hV : ValidPos p = true) :
    anyS (p.c1 &&& p.p5) (fun s => kingStep s (lsb (p.p5 &&& p.c0))) = false := by
  have F := kingFacts hV
  have hC := valid_consistent hV
  cases hany : anyS (p.c1 &&& p.p5) (fun s => kingStep s (lsb (p.p5 &&& p.c0)))
  · rfl
  · exfalso
    obtain ⟨s, hs, hb, hstep⟩ := (anyS_iff _ _).mp hany
    -- the mover's king attacks the enemy king on `s`: the side not to move would be in check
    have hatt : attackedBy (relBoard p) true s = true :=
      (attackedBy_iff _ _ _).mpr ⟨_, F.k64, _, F.rel, rfl, by rw [pieceAttacks_split, kingStep_symm]; exact hstep⟩
    have hin : Spec.inCheck (relBoard p) false = true := by
      unfold Spec.inCheck
      rw [List.any_eq_true]
      refine ⟨s, ?_, hatt⟩
      have := kingSquares_rel hC true
      simp only [Bool.not_true, Position.side, if_true] at this
      rw [this, mem_toList_lt]; exact ⟨hs, hb⟩
    have := ((SV.valid_iff _).mp (valid_relPos hV)).notInCheck
    rw [relPos_turn, relPos_board, Bool.not_true, hin] at this
    cases this

end Rawr.Att
