import Rawr.Proofs.HashMeta
import Rawr.Proofs.MakeMoveEff
/-! The two classes of shaped move and what each needs of position and move: `NCFacts` for a non-castling move with
its three flags (capture on `dst`, en-passant capture, promotion), `CFacts` for castling (king takes own rook; which
side, `CSide`, is in Proofs/MakeMoveEff.lean); the XOR-deltas by which `makemove` changes the boards in each class; and
the one case analysis of `MoveShape` into the two (`shape_cases`). -/
namespace Rawr.ZH
open Rawr Rawr.Position

/-- the facts about `p` and `m` used for a non-castling move. `cap`: capture on `dst`; `epc`: en-passant
capture; `pr`: promotion. The flags are parameters, so that a proof splits on them by `cases`; `shape_cases` supplies
their values, and `c` as `(p.pieceOn m.dst).getD 0`, which is read only under `cap`. -/
structure NCFacts (p : Position) (m : Mv) (i c : Nat) (cap epc pr : Bool) : Prop where
  hC : Consistent p
  hs : m.src < 64
  hd : m.dst < 64
  hpo : p.pieceOn m.src = some i
  h0s : p.c0.getLsbD m.src = true
  h0d : p.c0.getLsbD m.dst = false
  hcap : p.c1.getLsbD m.dst = cap
  hc : cap = true → p.pieceOn m.dst = some c
  hnc : cap = false → p.pieceOn m.dst = none
  hepc : epc = true → 8 ≤ m.dst ∧ p.c1.getLsbD (m.dst - 8) = true ∧ p.pieceOn (m.dst - 8) = some 0
  hpr : pr = true → i = 0
  hep : epc = true → p.ep = some m.dst
  hp6 : pr = true → m.promo < 6
  epcE : epc = (i == 0 && fileOf m.src != fileOf m.dst && (p.pieceOn m.dst).isNone)

/-- the change of the opponent's colour board in a non-castling move: the man captured on `dst`, the pawn captured
en passant. -/
def ncD1 (m : Mv) (cap epc : Bool) : BB := cnd cap (bit m.dst) ^^^ cnd epc (bit (m.dst - 8))

/-- the change of the board of kind `k`, square by square: the mover leaves `src`; the pawn captured en passant leaves
`dst - 8`; on `dst` the mover arrives, what stood there goes, and a promoting pawn is replaced by the promotion piece. -/
def ncDP (m : Mv) (i c : Nat) (cap epc pr : Bool) (k : Nat) : BB :=
  cnd (decide (k = i)) (bit m.src) ^^^ cnd (epc && decide (k = 0)) (bit (m.dst - 8)) ^^^
    cnd (decide (k = i) ^^ (cap && decide (k = c)) ^^ (pr && decide (k = 0)) ^^ (pr && decide (k = m.promo)))
      (bit m.dst)

theorem xor_cancel (o x : BB) : o ^^^ (o ^^^ x) = x := by
  rw [← BitVec.xor_assoc, BitVec.xor_self, BitVec.zero_xor]

/-- … which is what the stages of `makemove` add up to: relocation, capture, en-passant removal, promotion. -/
theorem ncDP_stages (m : Mv) (i c : Nat) (cap epc pr : Bool) (k : Nat) (hne : m.src ≠ m.dst) :
    ncDP m i c cap epc pr k =
      cnd (k = i) (bit m.src ||| bit m.dst) ^^^ cnd (cap = true ∧ k = c) (bit m.dst) ^^^
        cnd (epc = true ∧ k = 0) (bit (m.dst - 8)) ^^^ cnd (pr = true ∧ k = 0) (bit m.dst) ^^^
        cnd (pr = true ∧ k = m.promo) (bit m.dst) := by
  simp only [ncDP, bit_or_bit hne, cnd_xor, ← cnd_bxor, Bool.and_eq_true, decide_eq_true_eq]
  ac_rfl

section
variable {p : Position} {m : Mv} {i c : Nat} {cap epc pr : Bool}

theorem NCFacts.hne (f : NCFacts p m i c cap epc pr) : m.src ≠ m.dst := by
  intro e
  have h1 := f.h0s
  have h2 := f.h0d
  rw [e] at h1
  simp [h1] at h2

theorem NCFacts.c1s (f : NCFacts p m i c cap epc pr) : p.c1.getLsbD m.src = false :=
  c1_of_c0 f.hC f.h0s

theorem NCFacts.src_ne_ep (f : NCFacts p m i c cap epc pr) (hE : epc = true) : m.src ≠ m.dst - 8 := by
  intro e
  have := (f.hepc hE).2.1
  rw [← e, f.c1s] at this
  cases this

/-- in a non-castling move the mover's castling squares are not the target. -/
theorem nc_noK (kh : KeyHyps p = true) (f : NCFacts p m i c cap epc pr) :
    (p.usK && m.dst == fromCoords p.cf0 0) = false ∧ (p.usQ && m.dst == fromCoords p.cf1 0) = false := by
  obtain ⟨_, _, bK, bQ, _, _⟩ := keyHyps_unfold kh
  have key : ∀ (r : Bool) (x : Nat), (r = true → p.c0.getLsbD x = true ∧ p.p3.getLsbD x = true) →
      (r && m.dst == x) = false := by
    intro r x hb
    cases hr : r
    · rfl
    · cases hd : (m.dst == x)
      · rfl
      · have := (hb hr).1
        rw [← eq_of_beq hd, f.h0d] at this
        cases this
  exact ⟨key _ _ bK, key _ _ bQ⟩

theorem nc_h3 (kh : KeyHyps p = true) (f : NCFacts p m i c cap epc pr) :
    (p.usK = true → (m.dst == fromCoords p.cf0 0) = true → (i == 5) = true) ∧
    (p.usQ = true → (m.dst == fromCoords p.cf1 0) = true → (i == 5) = true) := by
  obtain ⟨nK, nQ⟩ := nc_noK kh f
  constructor
  · intro hu hd
    rw [hu, hd] at nK
    cases nK
  · intro hu hd
    rw [hu, hd] at nQ
    cases nQ

end

/-- key of a mover's (`kU`) / opponent's (`kT`) piece of kind `k` on mover-relative square `s`. -/
def kU (K : ZKeys) (t : Bool) (k s : Nat) : BB := K.piece (zIndex t k (maybeFlip s t))
def kT (K : ZKeys) (t : Bool) (k s : Nat) : BB := K.piece (zIndex (!t) k (maybeFlip s t))

def ncKeyDelta (K : ZKeys) (t : Bool) (m : Mv) (i c : Nat) (cap epc pr : Bool) : BB :=
  kU K t i m.src ^^^ kU K t i m.dst ^^^ cnd (pr = true) (kU K t 0 m.dst) ^^^ cnd (pr = true) (kU K t m.promo m.dst) ^^^
    cnd (cap = true) (kT K t c m.dst) ^^^ cnd (epc = true) (kT K t 0 (m.dst - 8))

/-- facts for a castling move: king on `src`, own rook on `dst`; `kTo`/`rTo` (g1/f1 or c1/d1) are each
the king's square, the rook's square, or empty. -/
structure CFacts (p : Position) (m : Mv) (kTo rTo : Nat) : Prop where
  hC : Consistent p
  hs : m.src < 64
  hd : m.dst < 64
  hk : kTo < 64
  hr : rTo < 64
  hkr : kTo ≠ rTo
  hpo : p.pieceOn m.src = some 5
  hrook : p.pieceOn m.dst = some 3
  h0s : p.c0.getLsbD m.src = true
  h0d : p.c0.getLsbD m.dst = true
  eK : kTo = m.src ∨ kTo = m.dst ∨ (p.c0.getLsbD kTo = false ∧ p.c1.getLsbD kTo = false)
  eR : rTo = m.src ∨ rTo = m.dst ∨ (p.c0.getLsbD rTo = false ∧ p.c1.getLsbD rTo = false)

/-- the change of the mover's colour board in castling: king and rook leave `src` and `dst` and land on `kTo` and `rTo`
(each of which may be one of the two squares left). -/
def cD0 (m : Mv) (kTo rTo : Nat) : BB := bit m.src ^^^ bit m.dst ^^^ bit kTo ^^^ bit rTo

/-- … and of the board of kind `k`. -/
def cDP (m : Mv) (kTo rTo : Nat) (k : Nat) : BB :=
  cnd (k = 5) (bit m.src) ^^^ cnd (k = 3) (bit m.dst) ^^^ cnd (k = 5) (bit kTo) ^^^ cnd (k = 3) (bit rTo)

section
variable {p : Position} {m : Mv} {kTo rTo : Nat}

theorem CFacts.hne (f : CFacts p m kTo rTo) : m.src ≠ m.dst := by
  intro e
  have h1 := f.hpo
  rw [e, f.hrook] at h1
  cases h1

theorem empty_piece {p : Position} (hC : Consistent p) {x : Nat} (h0 : p.c0.getLsbD x = false)
    (h1 : p.c1.getLsbD x = false) : p.pieceOn x = none := by
  have := occ_bit hC x
  rw [h0, h1] at this
  cases h : p.pieceOn x with
  | none => rfl
  | some k => rw [h] at this; cases this

/-- the king's and the rook's target squares, where they are not `src` or `dst`, are empty. -/
theorem CFacts.target_empty (f : CFacts p m kTo rTo) {x : Nat} (h1 : x ≠ m.src) (h2 : x ≠ m.dst)
    (hx : x = kTo ∨ x = rTo) :
    p.c0.getLsbD x = false ∧ p.c1.getLsbD x = false ∧ p.pieceOn x = none := by
  have : x = m.src ∨ x = m.dst ∨ (p.c0.getLsbD x = false ∧ p.c1.getLsbD x = false) := by
    rcases hx with rfl | rfl
    · exact f.eK
    · exact f.eR
  rcases this with e | e | ⟨e0, e1⟩
  · exact absurd e h1
  · exact absurd e h2
  · exact ⟨e0, e1, empty_piece f.hC e0 e1⟩

end

def cKeyDelta (K : ZKeys) (t : Bool) (m : Mv) (kTo rTo : Nat) : BB :=
  kU K t 5 m.src ^^^ kU K t 5 kTo ^^^ kU K t 3 m.dst ^^^ kU K t 3 rTo

theorem emptyOr_cases {p : Position} {x : Nat} {m : Mv} (h : emptyOr p x m = true) :
    x = m.src ∨ x = m.dst ∨ (p.c0.getLsbD x = false ∧ p.c1.getLsbD x = false) := by
  simp only [emptyOr, Bool.or_eq_true, beq_iff_eq, Bool.not_eq_true', BB.isSet, BitVec.getLsbD_or,
    Bool.or_eq_false_iff] at h
  rcases h with (h | h) | h
  · exact Or.inl h
  · exact Or.inr (Or.inl h)
  · exact Or.inr (Or.inr h)

/-- a shaped move is a castling (king takes own rook) or a non-castling move with its three flags. -/
theorem shape_cases {p : Position} {m : Mv} {i : Nat} {C : Prop} (kh : KeyHyps p = true)
    (hm : MoveShape p m = true) (hpo : p.pieceOn m.src = some i)
    (castle : ∀ kTo rTo, i = 5 → m.promo = 6 → CFacts p m kTo rTo → CSide p m kTo rTo → C)
    (normal : NCFacts p m i ((p.pieceOn m.dst).getD 0) (p.c1.getLsbD m.dst)
        (i == 0 && fileOf m.src != fileOf m.dst && (p.pieceOn m.dst).isNone) (m.promo != 6) → C) : C := by
  obtain ⟨hC, _, bK, bQ, _, _⟩ := keyHyps_unfold kh
  unfold MoveShape at hm
  rw [hpo] at hm
  simp only [Bool.and_eq_true, decide_eq_true_eq, BB.isSet] at hm
  obtain ⟨⟨⟨hs, hd⟩, h0s⟩, hrest⟩ := hm
  by_cases h0d : p.c0.getLsbD m.dst = true
  · rw [if_pos h0d] at hrest
    simp only [Bool.and_eq_true, beq_iff_eq] at hrest
    obtain ⟨⟨hi5, hpr⟩, hside⟩ := hrest
    subst hi5
    by_cases hK : p.usK = true ∧ m.dst = fromCoords p.cf0 0
    · rw [if_pos hK] at hside
      simp only [Bool.and_eq_true, decide_eq_true_eq] at hside
      obtain ⟨⟨hlt, e6⟩, e5⟩ := hside
      obtain ⟨hu, hdst⟩ := hK
      have hrook : p.pieceOn m.dst = some 3 := hdst ▸ pieceOn_of_bit hC (k := 3) (bK hu).2
      exact castle 6 5 rfl hpr ⟨hC, hs, hd, by omega, by omega, by omega, hpo, hrook, h0s, h0d,
        emptyOr_cases e6, emptyOr_cases e5⟩ (.inl ⟨rfl, rfl, hu, hdst.symm, hlt⟩)
    · rw [if_neg hK] at hside
      have hnK : (p.usK && m.dst == fromCoords p.cf0 0) = false := by
        cases hh : (p.usK && m.dst == fromCoords p.cf0 0)
        · rfl
        · exact absurd (by simpa using hh) hK
      simp only [Bool.and_eq_true, decide_eq_true_eq, beq_iff_eq] at hside
      obtain ⟨⟨⟨⟨hu, hdst⟩, hlt⟩, e2⟩, e3⟩ := hside
      have hrook : p.pieceOn m.dst = some 3 := hdst ▸ pieceOn_of_bit hC (k := 3) (bQ hu).2
      exact castle 2 3 rfl hpr ⟨hC, hs, hd, by omega, by omega, by omega, hpo, hrook, h0s, h0d,
        emptyOr_cases e2, emptyOr_cases e3⟩ (.inr ⟨rfl, rfl, hnK, hu, hdst.symm, hlt⟩)
  · have h0d' : p.c0.getLsbD m.dst = false := by simpa using h0d
    rw [if_neg h0d] at hrest
    simp only [Bool.and_eq_true, Bool.or_eq_true, Bool.not_eq_true', beq_iff_eq, decide_eq_true_eq] at hrest
    obtain ⟨hep, hpromo⟩ := hrest
    refine normal ⟨hC, hs, hd, hpo, h0s, h0d', rfl, ?_, empty_piece hC h0d', ?_, ?_, ?_, ?_, rfl⟩
    · intro hc
      have := occ_bit hC m.dst
      rw [h0d', hc] at this
      cases hp : p.pieceOn m.dst with
      | none => rw [hp] at this; cases this
      | some c => rfl
    · intro he
      rcases hep with hep | hep
      · rw [he] at hep; cases hep
      · obtain ⟨⟨⟨_, h8⟩, hpawn⟩, _⟩ := hep
        simp only [BitVec.getLsbD_and, Bool.and_eq_true] at hpawn
        exact ⟨h8, hpawn.1, pieceOn_of_bit hC (k := 0) hpawn.2⟩
    · intro hp
      rcases hpromo with hp6 | hp6
      · rw [hp6] at hp; cases hp
      · exact hp6.1
    · intro he
      rcases hep with hep | hep
      · rw [he] at hep; cases hep
      · exact hep.1.1.1
    · intro hp
      rcases hpromo with hp6 | hp6
      · rw [hp6] at hp; cases hp
      · exact hp6.2

end Rawr.ZH
