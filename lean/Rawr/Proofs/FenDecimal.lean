import Rawr.Model.Fen
import Rawr.Spec.Fen

/-! Decimal print / parse round trips for the FEN counters, on the non-negative numbers (a printed `-` is not treated):
`Spec.intChars i` is `Nat.toDigits 10 i.toNat`, the model's fuelled printer `intToChars` agrees with it (fuel 12 suffices
below `10^12`), and the model's parser `parseI32` reads both back. -/
namespace Rawr

theorem digitChar_eq_spec (d : Nat) (h : d < 10) : Nat.digitChar d = Spec.digitChar d := by
  match d, h with
  | 0, _ | 1, _ | 2, _ | 3, _ | 4, _ | 5, _ | 6, _ | 7, _ | 8, _ | 9, _ => decide
  | _ + 10, h => omega

theorem isDigit_iff (c : Char) : c.isDigit = true ↔ '0' ≤ c ∧ c ≤ '9' := by
  simp only [Char.isDigit, Bool.and_eq_true, decide_eq_true_eq, Char.le_def]

theorem natChars_eq (n : Nat) : Spec.natChars n = Nat.toDigits 10 n := by
  simp only [Spec.natChars, Nat.toString_eq_repr, Nat.toList_repr]

theorem intChars_nonneg (i : Int) (h0 : 0 ≤ i) : Spec.intChars i = Nat.toDigits 10 i.toNat := by
  simp only [Spec.intChars, Int.toString_eq_repr, Int.repr_eq_if, h0, if_true, Nat.toList_repr]

theorem intChars_natCast (n : Nat) : Spec.intChars (n : Int) = Spec.natChars n := by
  rw [intChars_nonneg _ (Int.natCast_nonneg n), natChars_eq, Int.toNat_natCast]

theorem toDigits_digits (n : Nat) : ∀ c ∈ Nat.toDigits 10 n, '0' ≤ c ∧ c ≤ '9' := by
  intro c hc
  exact (isDigit_iff c).1 (Nat.isDigit_of_mem_toDigits (by decide) (by decide) hc)

theorem intChars_digits (i : Int) (h0 : 0 ≤ i) : ∀ c ∈ Spec.intChars i, '0' ≤ c ∧ c ≤ '9' := by
  rw [intChars_nonneg i h0]
  exact toDigits_digits _

theorem intChars_no_space (i : Int) (h0 : 0 ≤ i) : ' ' ∉ Spec.intChars i := by
  intro h
  exact absurd (intChars_digits i h0 ' ' h).1 (by decide)

theorem intChars_ne_nil (i : Int) : Spec.intChars i ≠ [] := by
  simp only [Spec.intChars, Int.toString_eq_repr, Int.repr_eq_if]
  split
  · simp only [Nat.toList_repr]; exact Nat.toDigits_ne_nil
  · simp only [String.toList_append, ne_eq, List.append_eq_nil_iff, not_and]
    intro h; exact absurd h (by decide)

example : (0 : Int) ≤ 1234 ∧ Spec.intChars 1234 = ['1', '2', '3', '4'] := by decide

theorem natDigits_eq (fuel n : Nat) (acc : List Char) (h : n < 10 ^ (fuel + 1)) :
    natDigits (fuel + 1) n acc = Nat.toDigits 10 n ++ acc := by
  induction fuel generalizing n acc with
  | zero =>
    have hn : n < 10 := by simpa using h
    have hd : n / 10 = 0 := by omega
    have hm : n % 10 = n := by omega
    simp only [natDigits, hd, hm, beq_self_eq_true, if_true]
    rw [Nat.toDigits_of_lt_base hn, digitChar_eq_spec n hn]
    rfl
  | succ f ih =>
    rw [natDigits]
    by_cases hd : n / 10 = 0
    · have hn : n < 10 := by omega
      have hm : n % 10 = n := by omega
      simp only [hd, hm, beq_self_eq_true, if_true]
      rw [Nat.toDigits_of_lt_base hn, digitChar_eq_spec n hn]
      rfl
    · have hn : 10 ≤ n := by omega
      have hlt : n / 10 < 10 ^ (f + 1) := by
        rw [Nat.pow_succ] at h; omega
      have hb : (n / 10 == 0) = false := by simpa using hd
      simp only [hb, Bool.false_eq_true, if_false]
      rw [ih _ _ hlt, Nat.toDigits_of_base_le (by decide) hn,
        digitChar_eq_spec (n % 10) (Nat.mod_lt _ (by decide)), List.append_assoc]
      rfl

theorem intToChars_nonneg (i : Int) (h0 : 0 ≤ i) (h1 : i < 1000000000000) :
    intToChars i = Nat.toDigits 10 i.toNat := by
  have hneg : ¬ i < 0 := by omega
  simp only [intToChars, hneg, if_false]
  rw [natDigits_eq 11 i.toNat [] (by omega), List.append_nil]

theorem intToChars_eq_intChars (i : Int) (h0 : 0 ≤ i) (h1 : i < 2147483648) :
    intToChars i = Spec.intChars i := by
  rw [intToChars_nonneg i h0 (by omega), intChars_nonneg i h0]

example : (0 : Int) ≤ 2147483647 ∧ (2147483647 : Int) < 2147483648 ∧
    intToChars 2147483647 = ['2', '1', '4', '7', '4', '8', '3', '6', '4', '7'] := by decide

/-- one-digit numbers (run lengths 1..8 of the board field). -/
theorem intToChars_small (n : Nat) (h : n < 10) : intToChars (n : Int) = [Spec.digitChar n] := by
  rw [intToChars_nonneg _ (Int.natCast_nonneg n) (by omega), Int.toNat_natCast,
    Nat.toDigits_of_lt_base h, digitChar_eq_spec n h]

example : intToChars ((8 : Nat) : Int) = ['8'] := by decide

theorem parse_foldl_eq (l : List Char) (a : Nat) :
    l.foldl (fun a c => a * 10 + (c.toNat - '0'.toNat)) a = Nat.ofDigitChars 10 l a := by
  induction l generalizing a with
  | nil => rfl
  | cons c r ih => rw [List.foldl_cons, ih, Nat.ofDigitChars_cons, Nat.mul_comm]

theorem parseI32_digits (s : List Char) (hne : s ≠ []) (hd : ∀ c ∈ s, '0' ≤ c ∧ c ≤ '9') :
    parseI32 s =
      if Nat.ofDigitChars 10 s 0 ≤ 2147483647 then some (Nat.ofDigitChars 10 s 0 : Int) else none := by
  have hall : (s.all fun c => '0' ≤ c && c ≤ '9') = true := by
    rw [List.all_eq_true]
    intro c hc
    have := hd c hc
    simp only [Bool.and_eq_true, decide_eq_true_eq]
    exact this
  have hemp : s.isEmpty = false := by
    cases s with
    | nil => exact absurd rfl hne
    | cons _ _ => rfl
  unfold parseI32
  split
  rename_i neg ds heq
  have hnd : neg = false ∧ ds = s := by
    split at heq
    · exact absurd (hd '-' (List.mem_cons_self ..)).1 (by decide)
    · exact absurd (hd '+' (List.mem_cons_self ..)).1 (by decide)
    · simp only [Prod.mk.injEq] at heq
      exact ⟨heq.1.symm, heq.2.symm⟩
  rw [hnd.1, hnd.2]
  simp only [hemp, hall, Bool.false_eq_true, if_false, Bool.not_true, parse_foldl_eq]
  by_cases hle : Nat.ofDigitChars 10 s 0 ≤ 2147483647
  · have h1 : (-2147483648 : Int) ≤ (Nat.ofDigitChars 10 s 0 : Int) := by omega
    have h2 : (Nat.ofDigitChars 10 s 0 : Int) ≤ 2147483647 := by omega
    simp only [hle, h1, h2, decide_true, Bool.and_self, if_true]
  · have h2 : ¬ (Nat.ofDigitChars 10 s 0 : Int) ≤ 2147483647 := by omega
    simp only [hle, h2, decide_false, Bool.and_false, Bool.false_eq_true, if_false]

theorem parseI32_toDigits (n : Nat) (h : n < 2147483648) :
    parseI32 (Nat.toDigits 10 n) = some (n : Int) := by
  rw [parseI32_digits _ Nat.toDigits_ne_nil (toDigits_digits n), Nat.ofDigitChars_ten_toDigits,
    if_pos (by omega)]

theorem parseI32_intChars (i : Int) (h0 : 0 ≤ i) (h1 : i < 2147483648) :
    parseI32 (Spec.intChars i) = some i := by
  rw [intChars_nonneg i h0, parseI32_toDigits _ (by omega), Int.toNat_of_nonneg h0]

example : parseI32 (Spec.intChars 2147483647) = some 2147483647 := by decide

theorem parseI32_intToChars (i : Int) (h0 : 0 ≤ i) (h1 : i < 2147483648) :
    parseI32 (intToChars i) = some i := by
  rw [intToChars_eq_intChars i h0 h1, parseI32_intChars i h0 h1]

example : parseI32 (intToChars 50) = some 50 := by decide

theorem parseI32_range (s : List Char) (v : Int) :
    parseI32 s = some v → -2147483648 ≤ v ∧ v ≤ 2147483647 := by
  unfold parseI32
  intro h
  split at h
  split at h
  · exact absurd h (by simp)
  split at h
  · exact absurd h (by simp)
  simp only [Option.ite_none_right_eq_some, Option.some.injEq, Bool.and_eq_true,
    decide_eq_true_eq] at h
  obtain ⟨hr, rfl⟩ := h
  exact hr

example : parseI32 "-2147483648".toList = some (-2147483648) := by decide
example : parseI32 "2147483648".toList = none := by decide

end Rawr

#print axioms Rawr.parseI32_intChars
#print axioms Rawr.intToChars_eq_intChars
#print axioms Rawr.parseI32_intToChars
#print axioms Rawr.intChars_digits
#print axioms Rawr.intChars_no_space
#print axioms Rawr.intChars_ne_nil
#print axioms Rawr.intToChars_small
#print axioms Rawr.parseI32_range
