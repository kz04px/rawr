import Rawr.Proofs.MakeMoveStages
/-! The effect of every `makemove` stage: on the eight boards as XOR-deltas on `(c0, c1, piece k)` (`BoardEff`),
on all the other fields as one equation between the positions with their boards blanked (`others`). -/
namespace Rawr.ZH
open Rawr Rawr.Position

structure BoardEff (s s' : Position) (d0 d1 : BB) (dP : Nat → BB) : Prop where
  c0 : s'.c0 = s.c0 ^^^ d0
  c1 : s'.c1 = s.c1 ^^^ d1
  P : ∀ k, s'.piece k = s.piece k ^^^ dP k

theorem BoardEff.refl (s : Position) : BoardEff s s 0#64 0#64 (fun _ => 0#64) :=
  ⟨by simp, by simp, by simp⟩

theorem BoardEff.trans {a b c : Position} {d0 d1 e0 e1 : BB} {dP eP : Nat → BB}
    (h1 : BoardEff a b d0 d1 dP) (h2 : BoardEff b c e0 e1 eP) :
    BoardEff a c (d0 ^^^ e0) (d1 ^^^ e1) (fun k => dP k ^^^ eP k) :=
  ⟨by rw [h2.c0, h1.c0, BitVec.xor_assoc], by rw [h2.c1, h1.c1, BitVec.xor_assoc],
   by intro k; rw [h2.P, h1.P, BitVec.xor_assoc]⟩

theorem setPiece_eff (s : Position) (i : Nat) (d : BB) (hi : i < 6) :
    BoardEff s (s.setPiece i (s.piece i ^^^ d)) 0#64 0#64 (fun k => cnd (k = i) d) := by
  obtain ⟨h0, h1⟩ := setPiece_colours s i (s.piece i ^^^ d)
  exact ⟨by simp [h0], by simp [h1], fun k => setPiece_piece_xor s i k d hi⟩

theorem relocate_eff (p : Position) (m : Mv) (i : Nat) (h : BB) (hi : i < 6) :
    BoardEff { p with hash := h } (stRelocate p m i h) (bit m.src ||| bit m.dst) 0#64
      (fun k => cnd (k = i) (bit m.src ||| bit m.dst)) := by
  unfold stRelocate
  have e := setPiece_eff { p with hash := h, c0 := p.c0 ^^^ (bit m.src ||| bit m.dst), halfmoves := p.halfmoves + 1 }
    i (bit m.src ||| bit m.dst) hi
  exact ⟨by simp [e.c0], by simp [e.c1], fun k => by rw [e.P]; rfl⟩

theorem capStep_eff (s : Position) (m : Mv) (c : Nat) (hc : c < 6) :
    BoardEff s (capStep s m c) 0#64 (bit m.dst) (fun k => cnd (k = c) (bit m.dst)) := by
  unfold capStep
  have e := setPiece_eff { s with c1 := s.c1 ^^^ bit m.dst, halfmoves := 0 } c (bit m.dst) hc
  exact ⟨by simp [e.c0], by simp [e.c1], fun k => by rw [e.P]; rfl⟩

theorem clock_eff (s : Position) (i : Nat) : BoardEff s (stClock s i) 0#64 0#64 (fun _ => 0#64) := by
  unfold stClock
  split
  · exact ⟨by simp, by simp, fun k => by simp; rfl⟩
  · exact BoardEff.refl s

theorem p0_upd_piece (s : Position) (c1' d : BB) (k : Nat) :
    ({ s with c1 := c1', p0 := s.p0 ^^^ d } : Position).piece k = s.piece k ^^^ cnd (k = 0) d := by
  unfold Position.piece cnd
  split <;> simp_all

theorem epStep_eff (s : Position) (e : Nat) :
    BoardEff s (epStep s e) 0#64 (south (bit e)) (fun k => cnd (k = 0) (south (bit e))) := by
  unfold epStep
  exact ⟨by simp, rfl, fun k => p0_upd_piece s _ _ k⟩

theorem promo_eff (s : Position) (m : Mv) (hp : m.promo < 6) (h6 : m.promo ≠ 6) :
    BoardEff s (stPromo s m) 0#64 0#64
      (fun k => cnd (k = 0) (bit m.dst) ^^^ cnd (k = m.promo) (bit m.dst)) := by
  unfold stPromo
  have h : (m.promo != 6) = true := by simp [h6]
  simp only [h, if_true]
  have e := setPiece_eff { s with p0 := s.p0 ^^^ bit m.dst } m.promo (bit m.dst) hp
  refine ⟨by simp [e.c0], by simp [e.c1], fun k => ?_⟩
  rw [e.P]
  have := p0_upd_piece s s.c1 (bit m.dst) k
  rw [this, BitVec.xor_assoc]

theorem promo_none (s : Position) (m : Mv) (h6 : m.promo = 6) : stPromo s m = s := by
  unfold stPromo
  simp [h6]

theorem castle_none (s : Position) (m : Mv) (a b : Nat) (h : (s.p5 &&& s.p3).isOcc = false) :
    stCastle s m a b = s := by
  unfold stCastle
  simp [h]

/-- which castling a move of castling shape is: the king's and the rook's targets, the right used, the rook's square,
the direction. -/
def CSide (p : Position) (m : Mv) (kTo rTo : Nat) : Prop :=
  (kTo = 6 ∧ rTo = 5 ∧ p.usK = true ∧ fromCoords p.cf0 0 = m.dst ∧ m.src < m.dst) ∨
  (kTo = 2 ∧ rTo = 3 ∧ (p.usK && m.dst == fromCoords p.cf0 0) = false ∧ p.usQ = true ∧
    fromCoords p.cf1 0 = m.dst ∧ m.dst < m.src)

/-- the castling stage, either side: the king goes to `kTo`, the rook from `dst` to `rTo`. -/
theorem CSide.eff {p : Position} {m : Mv} {kTo rTo : Nat} (sd : CSide p m kTo rTo) (s5 : Position)
    (hocc : (s5.p5 &&& s5.p3).isOcc = true) :
    BoardEff s5 (stCastle s5 m (fromCoords p.cf0 0) (fromCoords p.cf1 0))
      ((bit m.src ||| bit m.dst) ^^^ bit m.src ^^^ bit kTo ^^^ bit m.dst ^^^ bit rTo) 0#64
      (fun k => cnd (k = 5) ((bit m.src ||| bit m.dst) ^^^ bit m.src ^^^ bit kTo) ^^^
        cnd (k = 3) (bit m.dst ^^^ bit rTo)) := by
  unfold stCastle
  rcases sd with ⟨rfl, rfl, _, hdst, hlt⟩ | ⟨rfl, rfl, _, _, hdst, hlt⟩
  · have hd : m.dst > m.src := hlt
    rw [hdst]
    simp only [hocc, hd, decide_true, Bool.and_self, if_true]
    refine ⟨by simp [BitVec.xor_assoc], by simp, fun k => ?_⟩
    unfold Position.piece cnd
    split <;> simp_all [BitVec.xor_assoc]
  · have hn : ¬ (m.dst > m.src) := by omega
    rw [hdst]
    simp only [hocc, hlt, hn, decide_true, decide_false, Bool.and_self, Bool.and_false, Bool.false_eq_true, if_true,
      if_false]
    refine ⟨by simp [BitVec.xor_assoc], by simp, fun k => ?_⟩
    unfold Position.piece cnd
    split <;> simp_all [BitVec.xor_assoc]

theorem double_eff (s : Position) (m : Mv) (i : Nat) : BoardEff s (stDouble s m i) 0#64 0#64 (fun _ => 0#64) := by
  unfold stDouble
  split
  · exact ⟨by simp, by simp, fun k => by simp; rfl⟩
  · exact ⟨by simp, by simp, fun k => by simp; rfl⟩

theorem BoardEff.cast {s s' : Position} {d0 d1 e0 e1 : BB} {dP eP : Nat → BB}
    (h : BoardEff s s' d0 d1 dP) (h0 : d0 = e0) (h1 : d1 = e1) (hP : ∀ k, dP k = eP k) :
    BoardEff s s' e0 e1 eP :=
  ⟨h0 ▸ h.c0, h1 ▸ h.c1, fun k => hP k ▸ h.P k⟩

/-- the promotion stage with the promotion flag as a parameter (nothing happens if it is unset). -/
theorem promo_eff_pr (s : Position) (m : Mv) {pr : Bool} (hprE : pr = (m.promo != 6))
    (hp6 : pr = true → m.promo < 6) :
    BoardEff s (stPromo s m) 0#64 0#64
      (fun k => cnd (pr = true ∧ k = 0) (bit m.dst) ^^^ cnd (pr = true ∧ k = m.promo) (bit m.dst)) := by
  cases hp : pr
  · rw [promo_none s m (by simpa [hp] using hprE.symm)]
    exact (BoardEff.refl _).cast rfl rfl (fun k => by simp [cnd])
  · exact (promo_eff s m (hp6 hp) (by simpa [hp] using hprE.symm)).cast rfl rfl (fun k => by simp [cnd])

theorem sum6_cnd (i : Nat) (hi : i < 6) (f : Nat → BB) :
    cnd (0 = i) (f 0) ^^^ cnd (1 = i) (f 1) ^^^ cnd (2 = i) (f 2) ^^^ cnd (3 = i) (f 3) ^^^
      cnd (4 = i) (f 4) ^^^ cnd (5 = i) (f 5) = f i := by
  rcases kind_cases hi with rfl | rfl | rfl | rfl | rfl | rfl <;> simp [cnd]

/-- the position with its eight boards blanked: every other field, as one value. -/
def others (s : Position) : Position :=
  { s with c0 := 0#64, c1 := 0#64, p0 := 0#64, p1 := 0#64, p2 := 0#64, p3 := 0#64, p4 := 0#64, p5 := 0#64 }

theorem others_setPiece (s : Position) (i : Nat) (b : BB) : others (s.setPiece i b) = others s := by
  unfold Position.setPiece
  split <;> rfl

theorem others_relocate (p : Position) (m : Mv) (i : Nat) (h : BB) :
    others (stRelocate p m i h) = { others p with hash := h, halfmoves := p.halfmoves + 1 } := by
  unfold stRelocate
  exact others_setPiece _ _ _

theorem others_capStep (s : Position) (m : Mv) (c : Nat) :
    others (capStep s m c) = { others s with halfmoves := 0 } := by
  unfold capStep
  exact others_setPiece _ _ _

theorem others_clock (s : Position) (i : Nat) :
    others (stClock s i) = { others s with halfmoves := if (i == 0) = true then 0 else (others s).halfmoves } := by
  unfold stClock
  split <;> rfl

theorem others_double (s : Position) (m : Mv) (i : Nat) :
    others (stDouble s m i) =
      { others s with ep := if (i == 0 && m.dst - m.src == 16) = true then some (m.dst - 8) else none } := by
  unfold stDouble
  split <;> rfl

theorem others_castle (s : Position) (m : Mv) (a b : Nat) : others (stCastle s m a b) = others s := by
  unfold stCastle
  simp only []
  split
  · rfl
  · split <;> rfl

theorem others_promo (s : Position) (m : Mv) : others (stPromo s m) = others s := by
  unfold stPromo
  split
  · exact others_setPiece _ _ _
  · rfl

theorem others_rights (s : Position) (m : Mv) (a b c d e f : Nat) :
    others (stRights s m a b c d e f) = { others s with
      usK := (others s).usK && (m.src != a && m.src != c && m.dst != c),
      usQ := (others s).usQ && (m.src != a && m.src != d && m.dst != d),
      themK := (others s).themK && (m.src != b && m.src != e && m.dst != e),
      themQ := (others s).themQ && (m.src != b && m.src != f && m.dst != f) } := rfl

theorem others_full (s : Position) :
    others (stFull s) = { others s with
      fullmoves := if (others s).black = true then (others s).fullmoves + 1 else (others s).fullmoves } := by
  unfold stFull
  split <;> simp [others, *]

end Rawr.ZH
