import Rawr.Proofs.AbsCell
import Rawr.Proofs.MakeMoveStages
/-! What board consistency says of one square: the kind board that has the bit is the one `pieceOn` finds (`piece_bit`), a
square is occupied exactly when it holds a piece (`occ_bit`), the colours are disjoint (`disj_bit`); and `south` of a
single bit (`south_bit`). -/
namespace Rawr.ZH
open Rawr Rawr.Position

theorem cell_facts : ∀ u v q0 q1 q2 q3 q4 q5 : Bool, cellOk u v q0 q1 q2 q3 q4 q5 = true →
    (q0 = (chain q0 q1 q2 q3 q4 q5 == some 0)) ∧ (q1 = (chain q0 q1 q2 q3 q4 q5 == some 1)) ∧
    (q2 = (chain q0 q1 q2 q3 q4 q5 == some 2)) ∧ (q3 = (chain q0 q1 q2 q3 q4 q5 == some 3)) ∧
    (q4 = (chain q0 q1 q2 q3 q4 q5 == some 4)) ∧ (q5 = (chain q0 q1 q2 q3 q4 q5 == some 5)) ∧
    ((u || v) = (chain q0 q1 q2 q3 q4 q5).isSome) ∧ ((u && v) = false) := by
  decide

theorem chain_lt (q0 q1 q2 q3 q4 q5 : Bool) (k : Nat) (h : chain q0 q1 q2 q3 q4 q5 = some k) : k < 6 := by
  have all : ∀ q0 q1 q2 q3 q4 q5 : Bool, (chain q0 q1 q2 q3 q4 q5).all (· < 6) = true := by decide
  have := all q0 q1 q2 q3 q4 q5
  rw [h] at this
  exact of_decide_eq_true this

theorem pieceOn_eq_chain (p : Position) (x : Nat) :
    p.pieceOn x = chain (p.p0.getLsbD x) (p.p1.getLsbD x) (p.p2.getLsbD x) (p.p3.getLsbD x)
      (p.p4.getLsbD x) (p.p5.getLsbD x) := rfl

theorem pieceOn_lt {p : Position} {x k : Nat} (h : p.pieceOn x = some k) : k < 6 :=
  chain_lt _ _ _ _ _ _ k (pieceOn_eq_chain p x ▸ h)

theorem piece_bit {p : Position} (h : Consistent p) (x k : Nat) :
    (p.piece k).getLsbD x = (p.pieceOn x == some k) := by
  have hc := cell_facts _ _ _ _ _ _ _ _ (cellOk_of_consistent h x)
  rw [← pieceOn_eq_chain] at hc
  obtain ⟨h0, h1, h2, h3, h4, h5, _, _⟩ := hc
  by_cases hk : k < 6
  · rcases kind_cases hk with rfl | rfl | rfl | rfl | rfl | rfl
    · exact h0
    · exact h1
    · exact h2
    · exact h3
    · exact h4
    · exact h5
  · have h6 : p.piece k = 0#64 := by
      unfold Position.piece
      split <;> first | omega | rfl
    have h7 : p.pieceOn x ≠ some k := fun e => hk (pieceOn_lt e)
    simp [h6, h7]

theorem occ_bit {p : Position} (h : Consistent p) (x : Nat) :
    (p.c0.getLsbD x || p.c1.getLsbD x) = (p.pieceOn x).isSome := by
  have hc := cell_facts _ _ _ _ _ _ _ _ (cellOk_of_consistent h x)
  rw [← pieceOn_eq_chain] at hc
  exact hc.2.2.2.2.2.2.1

theorem disj_bit {p : Position} (h : Consistent p) (x : Nat) :
    (p.c0.getLsbD x && p.c1.getLsbD x) = false := by
  have hc := cell_facts _ _ _ _ _ _ _ _ (cellOk_of_consistent h x)
  exact hc.2.2.2.2.2.2.2

theorem c1_of_c0 {p : Position} (h : Consistent p) {x : Nat} (h0 : p.c0.getLsbD x = true) :
    p.c1.getLsbD x = false := by
  have := disj_bit h x
  rwa [h0, Bool.true_and] at this

theorem c0_of_c1 {p : Position} (h : Consistent p) {x : Nat} (h1 : p.c1.getLsbD x = true) :
    p.c0.getLsbD x = false := by
  have := disj_bit h x
  rwa [h1, Bool.and_true] at this

theorem pieceOn_of_bit {p : Position} (h : Consistent p) {x k : Nat} (hb : (p.piece k).getLsbD x = true) :
    p.pieceOn x = some k := by
  rw [piece_bit h] at hb
  exact eq_of_beq hb

theorem south_bit {e : Nat} (h8 : 8 ≤ e) (h64 : e < 64) : south (bit e) = bit (e - 8) := by
  apply BitVec.eq_of_getLsbD_eq
  intro i hi
  unfold south
  rw [BitVec.getLsbD_ushiftRight, getLsbD_bit, getLsbD_bit]
  by_cases h : i = e - 8
  · subst h
    have : 8 + (e - 8) = e := by omega
    simp [this, h64, hi]
  · have : ¬ (8 + i = e) := by omega
    simp [h, this]

end Rawr.ZH
