import Rawr.Proofs.RootLemmasRange
/-! Helper lemmas for C03 / C14: two ways to discharge the hypothesis `SearchDom G`.

* `EvalBoundedOn G`: an invariant `G` of positions, closed under legal moves, legal captures and the null
  move, on which `|eval| ≤ EB`. (With `G := fun q => Consistent q = true` the evaluation clause is
  `C17_bounds_all_V1`; the closure clauses are the board-consistency part of C02.)
  `EvalBounded` is the special case `G := fun _ => True`.
* `sDomB fuel p = true`: a kernel-evaluable check of the finitely many positions a search of `fuel` plies
  from `p` can visit (used for the non-vacuity examples). -/
namespace Rawr

structure EvalBoundedOn (G : Position → Prop) : Prop where
  move : ∀ q m q', G q → m ∈ legalMoves q → q.makemove m true = some q' → G q'
  capt : ∀ q m q', G q → m ∈ legalCaptures q → q.makemove m false = some q' → G q'
  null : ∀ q, G q → G q.makenull
  eval : ∀ q, G q → VIn (eval q)

def EvalBounded : Prop := ∀ q : Position, -EB ≤ eval q ∧ eval q ≤ EB

theorem EvalBounded.on (h : EvalBounded) : EvalBoundedOn (fun _ => True) :=
  ⟨fun _ _ _ _ _ _ => trivial, fun _ _ _ _ _ _ => trivial, fun _ _ => trivial, fun q _ => h q⟩

theorem EvalBoundedOn.qdom {G : Position → Prop} (h : EvalBoundedOn G) : QDom (fun _ => G) :=
  ⟨fun _ q hq => h.eval q hq, fun _ q m q' hq hm hmk => h.capt q m q' hq hm hmk⟩

theorem EvalBoundedOn.dom {G : Position → Prop} (h : EvalBoundedOn G) : SearchDom (fun _ => G) :=
  ⟨fun _ q m q' hq hm hmk => h.move q m q' hq hm hmk, fun _ q hq => h.null q hq,
   fun _ q hq => ⟨h.eval q hq, fun st a b ply v st' hr =>
     qsearch_range (fun _ => G) h.qdom qFuel q st a b ply v st' hq hr⟩⟩

def inEB (v : Int) : Bool := decide (-EB ≤ v) && decide (v ≤ EB)

def qDomB : Nat → Position → Bool
  | 0, _ => true
  | n + 1, q => inEB (eval q) && (legalCaptures q).all fun m =>
      match q.makemove m false with
      | none => true
      | some q' => qDomB n q'

/-- every position a search of `n` plies from `q` can visit (legal moves, null moves, then quiescence)
evaluates within `±EB`. (A node with one ply of fuel left only consults its own evaluation and quiescence:
its children run out of fuel.) -/
def sDomB : Nat → Position → Bool
  | 0, _ => true
  | n + 1, q => qDomB qFuel q && (n == 0 || (sDomB n q.makenull && (legalMoves q).all fun m =>
      match q.makemove m true with
      | none => true
      | some q' => sDomB n q'))

theorem qDomB_dom : QDom (fun n q => qDomB n q = true) := by
  constructor
  · intro n q h
    simp only [qDomB, Bool.and_eq_true, inEB, decide_eq_true_eq] at h
    exact h.1
  · intro n q m q' h hm hmk
    simp only [qDomB, Bool.and_eq_true, List.all_eq_true] at h
    have := h.2 m hm
    rw [hmk] at this
    exact this

theorem sDomB_dom : SearchDom (fun n q => sDomB n q = true) := by
  constructor
  · intro n q m q' h hm hmk
    cases n with
    | zero => rfl
    | succ n =>
      rw [sDomB] at h
      simp only [Bool.and_eq_true, Bool.or_eq_true, List.all_eq_true] at h
      rcases h.2 with h0 | h1
      · simp at h0
      · have := h1.2 m hm
        rw [hmk] at this
        exact this
  · intro n q h
    cases n with
    | zero => rfl
    | succ n =>
      rw [sDomB] at h
      simp only [Bool.and_eq_true, Bool.or_eq_true] at h
      rcases h.2 with h0 | h1
      · simp at h0
      · exact h1.1
  · intro n q h
    rw [sDomB] at h
    simp only [Bool.and_eq_true] at h
    have hq : qDomB qFuel q = true := h.1
    refine ⟨?_, fun st a b ply v st' hr =>
      qsearch_range (fun n q => qDomB n q = true) qDomB_dom qFuel q st a b ply v st' hq hr⟩
    have : qFuel = 63 + 1 := rfl
    rw [this] at hq
    exact qDomB_dom.eval _ _ hq

end Rawr
