import Rawr.Proofs.RustTextAgree_GetFen
import Rawr.Proofs.ValidReadings
/-!
# `get_fen` regenerated from the Rust source agrees with the model on every valid position

Kept apart from `RustTextAgree_Rules.lean` (which needs the agreement of make-move and the move generator for `uci::moves`) so
that the FEN-printing obligations of C06 do not depend on those.
-/
namespace Rawr

theorem fenPrintable_of_valid {p : Position} (hV : ValidPos p = true) : FenPrintable p := by
  have F := vfacts_of_valid hV
  obtain ⟨_, _, _, _, h0, h1, h2, h3, _⟩ := validPos_parts hV
  exact ⟨fun e he => (F.ep e he).1, fun _ => h0, fun _ => h1, fun _ => h2, fun _ => h3⟩

theorem agree_get_fen_rules (ar : Arith) (p : Position) (hV : ValidPos p = true) : R.get_fen ar p = getFen p :=
  agree_get_fen ar p (fenPrintable_of_valid hV)

end Rawr

#print axioms Rawr.agree_get_fen_rules
