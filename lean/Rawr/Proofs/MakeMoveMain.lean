import Rawr.Proofs.MakeMoveRefine
import Rawr.Proofs.HashMove
/-! C02 assembled: from `ValidPos p` and the move shape to totality of `makemove`, the refinement of
`Spec.apply`, board consistency of the result, and independence of the `UPDATE_HASH` flag; from `AbsEq` to equality; and, on
the engine side of C02 (4),(5), `ValidPos` preserved by a shaped, specification-legal move and by a null move out of check.
The move hypothesis is `MoveShape2` (`MoveShape` plus the pawn geometry `PawnGeom`); `StepOut` is what one `makemove`
guarantees; `specPass` is the specification's null move. -/
namespace Rawr.MM
open Rawr Rawr.Position Rawr.Spec Rawr.ZH Rawr.SV

/-- the pawn geometry `MoveShape` does not state: a pawn advances one rank, or two ranks straight. -/
def PawnGeom (p : Position) (m : Mv) : Bool :=
  !(p.pieceOn m.src == some 0) || rankOf m.dst == rankOf m.src + 1 || m.dst == m.src + 16

/-- `MoveShape` plus the pawn geometry: what (1) of C02 needs of a move. -/
def MoveShape2 (p : Position) (m : Mv) : Bool := MoveShape p m && PawnGeom p m

/-- what one `makemove` guarantees (given the key `h` that ends up stored). -/
structure StepOut (p : Position) (m : Mv) (h : BB) (q : Position) : Prop where
  refines : PawnGeom p m = true → AbsEq (abs q) (Spec.apply (abs p) (decodeMove p m))
  consistent : Consistent q = true
  hash : q.hash = h
  cf : q.cf0 = p.cf2 ∧ q.cf1 = p.cf3 ∧ q.cf2 = p.cf0 ∧ q.cf3 = p.cf1 ∧ q.frc = p.frc

theorem stepOut_of {p : Position} {m : Mv} {i : Nat} {h : BB} {d0 d1 : BB} {dP : Nat → BB} {hm : Int}
    {S : Position} (R : Res p m i h d0 d1 dP hm S) (hC : Consistent S = true)
    (hr : PawnGeom p m = true → AbsEq (abs (stFull S).flip) (Spec.apply (abs p) (decodeMove p m))) :
    StepOut p m h (stFull S).flip := by
  have o := others_full S
  obtain ⟨e0, e1, e2, e3, e4⟩ := R.cf
  exact ⟨hr, consistent_flip (consistent_full hC), (congrArg Position.hash o :).trans R.hash,
    (congrArg Position.cf2 o :).trans e2, (congrArg Position.cf3 o :).trans e3, (congrArg Position.cf0 o :).trans e0,
    (congrArg Position.cf1 o :).trans e1, (congrArg Position.frc o :).trans e4⟩

/-- the core: for every stored key `h`, the part of `makemove` after the look-ups succeeds and refines
the specification. -/
theorem main_from {p : Position} {m : Mv} (hV : ValidPos p = true) (hm : MoveShape p m = true)
    {i : Nat} (hpo : p.pieceOn m.src = some i) (h : BB) :
    ∃ q, mmFrom p m i h = some q ∧ StepOut p m h q := by
  obtain ⟨hC, _, _, _, c0, c1, c2, c3, _⟩ := validPos_parts hV
  refine shape_cases (keyHyps_of_valid hV) hm hpo (fun kTo rTo hi hpr f sd => ?_) (fun f => ?_)
  · subst hi
    obtain ⟨S, hq, R⟩ := c_result f hpr sd h
    refine ⟨_, hq, stepOut_of R (c_shows f R).consistent (fun _ => ?_)⟩
    have hfd : ∀ {cf}, cf < 8 → fromCoords cf 0 = m.dst → cf = m.dst ∧ m.dst < 8 := by
      intro cf hcf e; rw [← e]; unfold fromCoords; omega
    rw [decodeMove_castle f.h0d]
    rcases sd with ⟨rfl, rfl, hu, hdst, hlt⟩ | ⟨rfl, rfl, _, hu, hdst, hlt⟩
    · rw [decide_eq_true hlt]
      exact c_refines hV f true rfl rfl (by simp [optR, VB.hasRight, VB.rightFile, hu, (hfd c0 hdst).1]) (hfd c0 hdst).2 R
    · rw [decide_eq_false (by omega)]
      exact c_refines hV f false rfl rfl (by simp [optR, VB.hasRight, VB.rightFile, hu, (hfd c1 hdst).1]) (hfd c1 hdst).2 R
  · obtain ⟨S, hq, R⟩ := nc_result f rfl h
    refine ⟨_, hq, stepOut_of R (nc_shows f R).consistent (fun hG => ?_)⟩
    rw [decodeMove_normal f.h0d]
    refine nc_refines hV f rfl (fun h0 => ?_) R
    unfold PawnGeom at hG
    rw [hpo, h0] at hG
    simpa using hG

theorem makemove_out {p : Position} {m : Mv} (hV : ValidPos p = true) (hm : MoveShape p m = true) (u : Bool) :
    ∃ h q, (if u = true then p.predictHash m else some p.hash) = some h ∧ p.makemove m u = some q ∧
      StepOut p m h q := by
  obtain ⟨h, q, hh, hq, _⟩ := makemove_total genKeys (keyHyps_of_valid hV) hm u
  obtain ⟨i, hpo, h', hh', hq'⟩ := makemove_eq_some.mp hq
  cases hh.symm.trans hh'
  obtain ⟨q', hq'', so⟩ := main_from hV hm hpo h
  cases hq''.symm.trans hq'
  exact ⟨h, q, hh, hq, so⟩

/-- the flag and the stored key only decide which key the result stores: from a run with key update, the run
without it from any stored key `h0`. -/
theorem makemove_false_of_true {p : Position} {m : Mv} {q : Position} (h : p.makemove m true = some q) (h0 : BB) :
    (wh p h0).makemove m false = some (wh q h0) := by
  obtain ⟨i, hpo, hp, _, hq⟩ := makemove_eq_some.mp h
  refine makemove_eq_some.mpr ⟨i, hpo, h0, rfl, ?_⟩
  show mmFrom p m i h0 = _
  rw [mmFrom_wh p m i h0 hp, hq]
  rfl

theorem makemove_flag {p : Position} {m : Mv} {q1 q2 : Position}
    (h1 : p.makemove m true = some q1) (h2 : p.makemove m false = some q2) : wh q1 q2.hash = q2 := by
  have e := (makemove_false_of_true h1 p.hash).symm.trans h2
  cases e
  rfl

theorem makemove_false_hash {p : Position} {m : Mv} {q : Position} (h : p.makemove m false = some q) :
    q.hash = p.hash := by
  obtain ⟨i, _, h0, hh, hq⟩ := makemove_eq_some.mp h
  cases hh
  exact mmFrom_hash hq

/-! ## From `AbsEq` to equality

Outside the 64 squares both boards are empty, so statements about `Spec.apply (abs p) mv` transfer verbatim to `abs q`. -/

def OffEmpty (B : Board) : Prop := ∀ s, 64 ≤ s → B s = none

theorem offEmpty_abs (p : Position) : OffEmpty (abs p).board := absBoard_ge p

theorem offEmpty_set_none {B : Board} (h : OffEmpty B) (t : Nat) : OffEmpty (setSq B t none) := by
  intro s hs
  unfold setSq
  split
  · rfl
  · exact h s hs

theorem offEmpty_set {B : Board} (h : OffEmpty B) {t : Nat} (ht : t < 64) (v : Option Piece) :
    OffEmpty (setSq B t v) := by
  intro s hs
  unfold setSq
  have : ¬ s = t := by omega
  rw [if_neg this]
  exact h s hs

theorem sq_home_lt (f : Nat) (hf : f < 8) (w : Bool) : sq (f : Int) (homeRank w) < 64 := by
  cases w <;> simp only [sq, homeRank, Bool.false_eq_true, if_false, if_true] <;> omega

/-- `Spec.apply` leaves the position alone (nothing to move, no right, no king), or is the update of
`apply_normal` / `apply_castle`. -/
theorem apply_cases (a : APos) (mv : Move) :
    apply a mv = a ∨ (∃ s t pr pc, mv = .normal s t pr ∧ a.board s = some pc) ∨
    (∃ ks rf k l, mv = .castle ks ∧ right a a.whiteToMove ks = some rf ∧
      kingSquares a.board a.whiteToMove = k :: l) := by
  cases mv with
  | normal s t pr =>
    cases hb : a.board s with
    | none => exact .inl (apply_normal_none hb)
    | some pc => exact Or.inr (Or.inl ⟨s, t, pr, pc, rfl, hb⟩)
  | castle ks =>
    cases hr : right a a.whiteToMove ks with
    | none => exact .inl (apply_castle_none (.inl hr))
    | some rf =>
      cases hk : kingSquares a.board a.whiteToMove with
      | nil => exact .inl (apply_castle_none (.inr hk))
      | cons k l => exact Or.inr (Or.inr ⟨ks, rf, k, l, rfl, hr, rfl⟩)

theorem offEmpty_apply {a : APos} (h : OffEmpty a.board) (mv : Move)
    (ht : ∀ s t pr, mv = .normal s t pr → t < 64) : OffEmpty (apply a mv).board := by
  rcases apply_cases a mv with e | ⟨s, t, pr, pc, rfl, hb⟩ | ⟨ks, rf, k, l, rfl, hr, hk⟩
  · rw [e]; exact h
  · rw [apply_normal hb]
    apply offEmpty_set _ (ht s t pr rfl)
    split
    · exact offEmpty_set_none (offEmpty_set_none h _) _
    · exact offEmpty_set_none h _
  · rw [apply_castle hr hk]
    apply offEmpty_set
    · apply offEmpty_set
      · exact offEmpty_set_none (offEmpty_set_none h _) _
      · cases ks
        · exact sq_home_lt 2 (by omega) _
        · exact sq_home_lt 6 (by omega) _
    · cases ks
      · exact sq_home_lt 3 (by omega) _
      · exact sq_home_lt 5 (by omega) _

theorem eq_of_absEq {a b : APos} (h : AbsEq a b) (ha : OffEmpty a.board) (hb : OffEmpty b.board) : a = b := by
  apply APos.ext' _ h.turn h.wK h.wQ h.bK h.bQ h.ep h.half h.full
  funext s
  by_cases hs : s < 64
  · exact h.board s hs
  · rw [ha s (by omega), hb s (by omega)]

theorem decode_target_lt {p : Position} {m : Mv} (hd : m.dst < 64) (s t : Nat) (pr : Option Kind)
    (h : decodeMove p m = .normal s t pr) : t < 64 := by
  unfold decodeMove at h
  split at h
  · cases h
  · cases h
    exact absSq_lt _ hd

theorem shape_dst_lt {p : Position} {m : Mv} (hm : MoveShape p m = true) : m.src < 64 ∧ m.dst < 64 := by
  unfold MoveShape at hm
  simp only [Bool.and_eq_true, decide_eq_true_eq] at hm
  exact ⟨hm.1.1.1, hm.1.1.2⟩

/-- (1) as an equation. -/
theorem abs_eq_apply {p : Position} {m : Mv} {q : Position} {u : Bool} (hV : ValidPos p = true)
    (hs : MoveShape2 p m = true) (h : p.makemove m u = some q) :
    abs q = Spec.apply (abs p) (decodeMove p m) := by
  have hs' := hs
  simp only [MoveShape2, Bool.and_eq_true] at hs'
  obtain ⟨_, q', _, hq, so⟩ := makemove_out hV hs'.1 u
  rw [hq] at h
  cases h
  exact eq_of_absEq (so.refines hs'.2) (offEmpty_abs _)
    (offEmpty_apply (offEmpty_abs _) _ (decode_target_lt (shape_dst_lt hs'.1).2))

/-- the specification's null move: pass the turn, forget the en-passant target (and, as the engine does,
zero the half-move clock). -/
def specPass (a : APos) : APos := { a with whiteToMove := !a.whiteToMove, ep := none, half := 0 }

theorem counters_apply (a : APos) (mv : Move) (h0 : 0 ≤ a.half) :
    (apply a mv).half ≤ a.half + 1 ∧ (apply a mv).full ≤ a.full + 1 := by
  rcases apply_cases a mv with e | ⟨s, t, pr, pc, rfl, hb⟩ | ⟨ks, rf, k, l, rfl, hr, hk⟩
  · rw [e]; omega
  · rw [apply_normal hb]
    simp only []
    constructor
    · split <;> omega
    · split <;> omega
  · rw [apply_castle hr hk]
    simp only []
    constructor
    · omega
    · split <;> omega

/-- (4): a shaped move that is legal by the rules leads to a valid position (with key update). -/
theorem validPos_step {p : Position} {m : Mv} {q : Position} (hV : ValidPos p = true)
    (hs : MoveShape2 p m = true) (hL : decodeMove p m ∈ Spec.legalMoves (abs p))
    (hq : p.makemove m true = some q)
    (hh : p.halfmoves + 1 < 2147483648) (hf : p.fullmoves + 1 < 2147483648) :
    ValidPos q = true ∧ q.halfmoves ≤ p.halfmoves + 1 ∧ q.fullmoves ≤ p.fullmoves + 1 := by
  obtain ⟨hC, hS, _, _, c0, c1, c2, c3, hh0⟩ := validPos_parts hV
  have kh := keyHyps_of_valid hV
  have hs' := hs
  simp only [MoveShape2, Bool.and_eq_true] at hs'
  obtain ⟨_, q', _, hq', so⟩ := makemove_out hV hs'.1 true
  rw [hq'] at hq
  cases hq
  have he := abs_eq_apply hV hs hq'
  have hval : Valid (abs q) = true := by rw [he]; exact valid_apply hS hL
  have h0 : 0 ≤ (abs p).half := ((valid_iff _).mp hS).half
  obtain ⟨b1, b2⟩ := counters_apply (abs p) (decodeMove p m) h0
  rw [← he] at b1 b2
  have b1 : q.halfmoves ≤ p.halfmoves + 1 := b1
  have b2 : q.fullmoves ≤ p.fullmoves + 1 := b2
  have hhash := (move_preserves kh hs'.1 hh0 hq').2
  obtain ⟨e0, e1, e2, e3, _⟩ := so.cf
  refine ⟨?_, b1, b2⟩
  exact (validPos_iff q).mpr
    ⟨so.consistent, hval, by omega, by omega, by omega, by omega, by omega, by omega, hhash⟩

/-- the null move, whatever key it stores. -/
theorem abs_flip_null (p : Position) (h0 : BB) (hC : Consistent p = true) :
    abs { ({ p with hash := h0 }).flip with halfmoves := 0, ep := none } = specPass (abs p) := by
  have h := abs_flip { p with hash := h0 } hC
  exact APos.ext' (congrArg APos.board h :) (congrArg APos.whiteToMove h :) (congrArg APos.wK h :)
    (congrArg APos.wQ h :) (congrArg APos.bK h :) (congrArg APos.bQ h :) rfl rfl (congrArg APos.full h :)

theorem abs_makenull {p : Position} (hV : ValidPos p = true) : abs p.makenull = specPass (abs p) :=
  abs_flip_null p _ (validPos_parts hV).consistent

theorem valid_pass {a : APos} (hv : Valid a = true) (hc : inCheck a.board a.whiteToMove = false) :
    Valid (specPass a) = true := by
  rw [valid_iff] at hv ⊢
  refine ⟨hv.kw, hv.kb, hv.pawns, ?_, ?_, ?_, ?_, hv.full⟩
  · show inCheck a.board (!(!a.whiteToMove)) = false
    rw [Bool.not_not]; exact hc
  · intro w ks f hr
    have : right (specPass a) w ks = right a w ks := by cases w <;> cases ks <;> rfl
    rw [this] at hr
    exact hv.rights w ks f hr
  · intro e he; cases he
  · show (0 : Int) ≤ 0
    omega

theorem validPos_null {p : Position} (hV : ValidPos p = true)
    (hc : inCheck (abs p).board (abs p).whiteToMove = false) :
    ValidPos p.makenull = true ∧ p.makenull.halfmoves = 0 ∧ p.makenull.fullmoves = p.fullmoves := by
  obtain ⟨hC, hS, _, hf, c0, c1, c2, c3, hh0⟩ := validPos_parts hV
  have hval : Valid (abs p.makenull) = true := by rw [abs_makenull hV]; exact valid_pass hS hc
  have hcons : Consistent p.makenull = true := consistent_flip (p := { p with hash := p.makenull.hash }) hC
  have hhash := null_preserves p hh0
  refine ⟨?_, rfl, rfl⟩
  exact (validPos_iff _).mpr ⟨hcons, hval, by show (0 : Int) < _; omega, hf, c2, c3, c0, c1, hhash⟩

theorem pawnGeom_of_legal {p : Position} {m : Mv} (hV : ValidPos p = true) (hm : MoveShape p m = true)
    (hL : decodeMove p m ∈ Spec.legalMoves (abs p)) : PawnGeom p m = true := by
  obtain ⟨i, hpo⟩ := shape_piece hm
  unfold PawnGeom
  rw [hpo]
  by_cases hi : i = 0
  · subst hi
    -- a pawn does not castle; its move is a `NormalLegal` one of the pawn on the image of `src`
    refine shape_cases (keyHyps_of_valid hV) hm hpo (fun _ _ h5 => absurd h5 (by decide)) (fun f => ?_)
    rw [decodeMove_normal f.h0d] at hL
    rcases legal_cases hL with ⟨s, t, pr, pc, e, nl, _⟩ | ⟨ks, e, _⟩
    · cases e
      cases (abs_board_own f.hs f.h0s hpo).symm.trans nl.hpc
      have hr := nl.pawnRank rfl
      rw [rank_absSq _ f.hs, rank_absSq _ f.hd, file_absSq, file_absSq] at hr
      simp only [Bool.or_eq_true, Bool.not_eq_true', beq_iff_eq, rankOf]
      simp only [pdir, file, rank] at hr
      cases hbk : p.black <;> simp only [hbk, Bool.not_false, Bool.not_true, if_true, Bool.false_eq_true, if_false] at hr
      · rcases hr with h | ⟨h1, h2, _⟩
        · left; right; omega
        · right; omega
      · rcases hr with h | ⟨h1, h2, _⟩
        · left; right; omega
        · right; omega
    · cases e
  · have : (some i == some 0) = false := by
      rw [Option.some_beq_some]
      exact beq_eq_false_iff_ne.mpr hi
    simp [this]

theorem shape2_of_legal {p : Position} {m : Mv} (hV : ValidPos p = true) (hm : MoveShape p m = true)
    (hL : decodeMove p m ∈ Spec.legalMoves (abs p)) : MoveShape2 p m = true := by
  simp only [MoveShape2, Bool.and_eq_true]
  exact ⟨hm, pawnGeom_of_legal hV hm hL⟩

end Rawr.MM
