import Rawr.Proofs.MagicCheck
/-! C10 table check, squares 48 to 63: every row evaluated by the kernel. The statements do not mention
any table content, so a changed table or magic makes these proofs fail. -/
namespace Rawr.MagicTable
theorem bishops_3 : (List.range' 48 16).all checkB = true := by decide +kernel
theorem rooks_3 : (List.range' 48 16).all checkR = true := by decide +kernel
end Rawr.MagicTable
