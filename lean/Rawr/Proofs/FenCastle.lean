import Rawr.Proofs.FenSound
import Rawr.Proofs.FenGet
/-! # C06/C07: the castling loop of `set_fen` reads back `Spec.castleField`

`fenCastling_castleField`: for a `Spec.Valid` position and boards spelled out by its coordinate board,
`fenCastling (Spec.castleField a st) [] P` sets exactly the four rights of `a` with their rook files, in the
styles `.xfen`, `.shredder` and (when every right is to the outermost rook of its wing) `.kqkq`.
`castleField_no_space`: the field contains no space. -/
namespace Rawr
open Spec
namespace FenCa

theorem bits (b : Board) (w : Bool) (kd : Kind) (i : Nat) :
    (geomBB (isCol b w) &&& geomBB (isKind b kd)).getLsbD i =
      (decide (i < 64) && (b i == some ⟨w, kd⟩)) := by
  rw [BitVec.getLsbD_and, getLsbD_geomBB, getLsbD_geomBB, FenRel.beq_some_piece]
  show (decide (i < 64) && FenRel.colP (b i) w && (decide (i < 64) && FenRel.kindP (b i) kd)) = _
  cases decide (i < 64) <;> rfl

end FenCa

/-- the four boards the castling loop looks at are the ones spelled out by `b` (White in `c0`). -/
def HasBoards (P : Position) (b : Spec.Board) : Prop :=
  P.c0 = geomBB (isCol b true) ∧ P.c1 = geomBB (isCol b false) ∧
  P.p3 = geomBB (isKind b .rook) ∧ P.p5 = geomBB (isKind b .king)

namespace FenCa

def off (w : Bool) : Nat := if w then 0 else 56

theorem right_facts {a : APos} (hV : Spec.Valid a = true) (w ks : Bool) {f : Nat}
    (hr : right a w ks = some f) :
    f < 8 ∧ a.board (f + off w) = some ⟨w, .rook⟩ ∧
    ∃ k, k < 8 ∧ a.board (k + off w) = some ⟨w, .king⟩ ∧
      (∀ i, i < 64 → a.board i = some ⟨w, .king⟩ → i = k + off w) ∧
      (if ks then k < f else f < k) := by
  obtain ⟨h1, h2, k0, hk, h3, h4⟩ := ((SV.valid_iff a).mp hV).rights w ks f hr
  obtain ⟨_, hking, huniq⟩ := SV.unique_of_kingSquares hk
  have hsq : sq f (homeRank w) = f + off w := by
    unfold sq homeRank off
    cases w <;> simp only [Bool.false_eq_true, if_false, if_true] <;> omega
  rw [hsq] at h2
  have hrk : k0 = k0 % 8 + off w := by
    unfold rank homeRank at h3
    unfold off
    cases w <;> simp only [Bool.false_eq_true, if_false, if_true] at h3 ⊢ <;> omega
  refine ⟨h1, h2, k0 % 8, Nat.mod_lt _ (by decide), ?_, ?_, ?_⟩
  · rw [← hrk]
    exact hking
  · rw [← hrk]
    exact huniq
  · unfold file at h4
    cases ks <;> simp only [Bool.false_eq_true, if_false, if_true] at h4 ⊢ <;> omega

theorem outer_spec {b : Board} {w ks : Bool} {f : Nat} (h : outermost b w ks f = true) :
    ∀ g, g < 8 → (if ks then f < g else g < f) → b (g + off w) ≠ some ⟨w, .rook⟩ := by
  unfold outermost at h
  simp only [List.all_eq_true, List.mem_range] at h
  intro g hg hc
  have h1 := h g hg
  have hoff : 8 * (homeRank w).toNat = off w := by cases w <;> simp [homeRank, off]
  rw [hoff] at h1
  cases ks
  · simp only [Bool.false_eq_true, if_false] at hc h1
    simpa [hc] using h1
  · simp only [if_true] at hc h1
    have : g > f := hc
    simpa [this] using h1

theorem king_lsb {P : Position} {b : Board} (hP : HasBoards P b) (w : Bool) {kk : Nat} (hk64 : kk < 64)
    (hk : b kk = some ⟨w, .king⟩) (hu : ∀ i, i < 64 → b i = some ⟨w, .king⟩ → i = kk) :
    lsb ((if w then P.c0 else P.c1) &&& P.p5) = kk := by
  obtain ⟨h0, h1, h3, h5⟩ := hP
  have e : ((if w then P.c0 else P.c1) &&& P.p5) = geomBB (isCol b w) &&& geomBB (isKind b .king) := by
    cases w <;> simp [h0, h1, h5]
  rw [e]
  apply lsb_of_min
  · rw [bits, hk]; simp [hk64]
  · intro i hi
    rw [bits] at hi
    simp only [Bool.and_eq_true, decide_eq_true_eq, beq_iff_eq] at hi
    exact Nat.le_of_eq (hu i hi.1 hi.2).symm

theorem rook_bits {P : Position} {b : Board} (hP : HasBoards P b) (w : Bool) (i : Nat) :
    ((if w then P.c0 else P.c1) &&& P.p3).getLsbD i = (decide (i < 64) && (b i == some ⟨w, .rook⟩)) := by
  obtain ⟨h0, h1, h3, h5⟩ := hP
  have e : ((if w then P.c0 else P.c1) &&& P.p3) = geomBB (isCol b w) &&& geomBB (isKind b .rook) := by
    cases w <;> simp [h0, h1, h3]
  rw [e, bits]

/-- the rook search of `set_fen` on a rank (squares `o .. o + 7`, mask `m`) finds the rook on file `f` when the
king stands on file `k` on the other side of it and no rook `R` stands beyond it. -/
theorem outer_rook {R m : BB} {o k f : Nat} (ks : Bool) (ho : o % 8 = 0 ∧ o ≤ 56) (hk : k < 8) (hf : f < 8)
    (hm : ∀ i, i < 64 → m.getLsbD i = (decide (o ≤ i) && decide (i < o + 8)))
    (hside : if ks then k < f else f < k) (hset : R.getLsbD (f + o) = true)
    (hout : ∀ g, g < 8 → (if ks then f < g else g < f) → R.getLsbD (g + o) = false) :
    (R &&& (m &&& (if ks then rayEastBB else rayWestBB) (k + o))).isOcc = true ∧
    fileOf ((if ks then hsb else lsb) (R &&& (m &&& (if ks then rayEastBB else rayWestBB) (k + o)))) = f := by
  have key : ∀ i, (R &&& (m &&& (if ks then rayEastBB else rayWestBB) (k + o))).getLsbD i = true ↔
      i < 64 ∧ R.getLsbD i = true ∧ o ≤ i ∧ i < o + 8 ∧ (if ks then k + o < i else i < k + o) := by
    intro i
    by_cases hi : i < 64
    · have t := FenS.ray_bits ⟨k + o, by omega⟩ ⟨i, hi⟩
      simp only [rankOf, fileOf] at t
      -- on the rank `o .. o + 7`, comparing files is comparing squares
      have ar : o ≤ i → i < o + 8 → i / 8 = (k + o) / 8 ∧ (i % 8 < (k + o) % 8 ↔ i < k + o) ∧
          ((k + o) % 8 < i % 8 ↔ k + o < i) := by omega
      simp only [BitVec.getLsbD_and, hm i hi, Bool.and_eq_true, decide_eq_true_eq]
      cases ks
      · rw [if_neg (by decide), if_neg (by decide), t.2]
        exact ⟨fun ⟨h1, ⟨h2, h3⟩, _, h4⟩ => ⟨hi, h1, h2, h3, (ar h2 h3).2.1.mp h4⟩,
          fun ⟨_, h1, h2, h3, h4⟩ => ⟨h1, ⟨h2, h3⟩, (ar h2 h3).1, (ar h2 h3).2.1.mpr h4⟩⟩
      · rw [if_pos rfl, if_pos rfl, t.1]
        exact ⟨fun ⟨h1, ⟨h2, h3⟩, _, h4⟩ => ⟨hi, h1, h2, h3, (ar h2 h3).2.2.mp h4⟩,
          fun ⟨_, h1, h2, h3, h4⟩ => ⟨h1, ⟨h2, h3⟩, (ar h2 h3).1, (ar h2 h3).2.2.mpr h4⟩⟩
    · exact ⟨fun h => absurd (BitVec.lt_of_getLsbD h) hi, fun h => absurd h.1 hi⟩
  have hfs := (key (f + o)).mpr ⟨by omega, hset, by omega, by omega, by cases ks <;> simp at hside ⊢ <;> omega⟩
  refine ⟨by simpa [BB.isOcc] using ne_zero_of_getLsbD hfs, ?_⟩
  have hfile : fileOf (f + o) = f := by unfold fileOf; omega
  have hbeyond : ∀ i, (R &&& (m &&& (if ks then rayEastBB else rayWestBB) (k + o))).getLsbD i = true →
      ¬ (if ks then f + o < i else i < f + o) := by
    intro i hi hn
    obtain ⟨_, h1, h2, h3, _⟩ := (key i).mp hi
    have hio : i - o + o = i := by omega
    have := hout (i - o) (by omega) (by cases ks <;> simp at hn ⊢ <;> omega)
    rw [hio, h1] at this
    cases this
  cases ks
  · rw [if_neg (by decide), lsb_of_min hfs fun i hi => Nat.le_of_not_lt (hbeyond i hi), hfile]
  · rw [if_pos rfl, hsb_of_max hfs fun i hi => Nat.le_of_not_lt (hbeyond i hi), hfile]

theorem mask_bits : ∀ (w : Bool) (i : Fin 64),
    (if !w then 0xFF00000000000000#64 else 0xFF#64).getLsbD i = (decide (off w ≤ i) && decide (i < off w + 8)) := by
  decide

/-- `K`, `Q`, `k`, `q` are read as the right `(w, ks)` of `a` when its rook is the outermost one. -/
theorem rookLetter_right {a : APos} (hV : Spec.Valid a = true) {P : Position} (hP : HasBoards P a.board)
    (w ks : Bool) {f : Nat} (hr : right a w ks = some f) (ho : outermost a.board w ks f = true) :
    FenS.rookLetter P (!w) ks = some (some (!w, f, ks)) := by
  obtain ⟨hf, hrook, k, hk8, hking, huniq, hside⟩ := right_facts hV w ks hr
  have hout := outer_spec ho
  have hk := king_lsb hP w (kk := k + off w) (by unfold off; split <;> omega) hking huniq
  have hrb := rook_bits hP w
  have hcol : (if !w then P.c1 else P.c0) = if w then P.c0 else P.c1 := by cases w <;> rfl
  have hoff : off w % 8 = 0 ∧ off w ≤ 56 := by cases w <;> decide
  obtain ⟨hocc, hfile⟩ := outer_rook (R := (if w then P.c0 else P.c1) &&& P.p3) (o := off w) ks hoff hk8 hf
    (fun i hi => mask_bits w ⟨i, hi⟩) hside (by rw [hrb, hrook]; simp; unfold off; split <;> omega)
    (fun g hg hc => by
      rw [hrb]
      cases hb : (a.board (g + off w) == some ⟨w, .rook⟩)
      · simp
      · exact absurd (beq_iff_eq.mp hb) (hout g hg hc))
  unfold FenS.rookLetter
  simp only [hcol, hk, hocc, hfile, if_true]

open FenGet (fileL letterOf one castleField_eq)

theorem upper_tbl : ∀ f, f < 8 →
    ((fileL f).toUpper == 'K') = false ∧ ((fileL f).toUpper == 'Q') = false ∧
    ((fileL f).toUpper == 'k') = false ∧ ((fileL f).toUpper == 'q') = false ∧
    ('A' ≤ (fileL f).toUpper && (fileL f).toUpper ≤ 'H') = true ∧
    asU8 (fileL f).toUpper - asU8 'A' = f ∧ (fileL f).toUpper ≠ ' ' := by decide

theorem lower_tbl : ∀ f, f < 8 →
    (fileL f == 'K') = false ∧ (fileL f == 'Q') = false ∧
    (fileL f == 'k') = false ∧ (fileL f == 'q') = false ∧
    ('A' ≤ fileL f && fileL f ≤ 'H') = false ∧ ('a' ≤ fileL f && fileL f ≤ 'h') = true ∧
    asU8 (fileL f) - asU8 'a' = f ∧ fileL f ≠ ' ' := by decide

/-- the file letter of a right (upper case for White) is read as that right. -/
theorem letter_file {a : APos} (hV : Spec.Valid a = true) {P : Position} (hP : HasBoards P a.board)
    (w ks : Bool) {f : Nat} (hr : right a w ks = some f) :
    castleLetter P (if w then (fileL f).toUpper else fileL f) = some (some (!w, f, ks)) := by
  obtain ⟨hf, _, k, hk8, hking, huniq, hside⟩ := right_facts hV w ks hr
  have hk := king_lsb hP w (kk := k + off w) (by unfold off; split <;> omega) hking huniq
  have hfile : fileOf (k + off w) = k := by unfold fileOf off; split <;> omega
  have hks : decide (f > k) = ks := by cases ks <;> simp at hside ⊢ <;> omega
  rw [FenS.castleLetter_eq]
  cases w
  · obtain ⟨h1, h2, h3, h4, h5, h6, h7, _⟩ := lower_tbl f hf
    simp only [Bool.false_eq_true, if_false] at hk ⊢
    simp only [h1, h2, h3, h4, h5, h6, FenS.fileLetter, if_true, if_false, Bool.false_eq_true, h7, hk, hfile, hks,
      Bool.not_false]
  · obtain ⟨h1, h2, h3, h4, h5, h6, _⟩ := upper_tbl f hf
    simp only [if_true] at hk ⊢
    simp only [h1, h2, h3, h4, h5, FenS.fileLetter, if_true, if_false, Bool.false_eq_true, h6, hk, hfile, hks,
      Bool.not_true]

theorem upK : ('k' : Char).toUpper = 'K' := by decide
theorem upQ : ('q' : Char).toUpper = 'Q' := by decide

theorem letter_ok {a : APos} (hV : Spec.Valid a = true) (st : CastleStyle)
    (hst : st = .kqkq → ∀ w ks f, right a w ks = some f → outermost a.board w ks f = true)
    {P : Position} (hP : HasBoards P a.board) (w ks : Bool) {f : Nat} (hr : right a w ks = some f) :
    castleLetter P (letterOf a.board st w ks f) = some (some (!w, f, ks)) := by
  have hKQ : outermost a.board w ks f = true →
      castleLetter P (if w then (if ks then 'k' else 'q').toUpper else (if ks then 'k' else 'q')) =
        some (some (!w, f, ks)) := by
    intro ho
    have := rookLetter_right hV hP w ks hr ho
    cases w <;> cases ks <;>
      simp only [Bool.false_eq_true, if_false, if_true, upK, upQ, Bool.not_true, Bool.not_false] at this ⊢ <;>
      exact this
  have hF := letter_file hV hP w ks hr
  unfold letterOf
  cases st with
  | xfen =>
    dsimp only
    cases ho : outermost a.board w ks f
    · simpa only [Bool.false_eq_true, if_false] using hF
    · simpa only [if_true] using hKQ ho
  | shredder => exact hF
  | kqkq => exact hKQ (hst rfl w ks f hr)

theorem letter_ne {a : APos} (hV : Spec.Valid a = true) (st : CastleStyle)
    (hst : st = .kqkq → ∀ w ks f, right a w ks = some f → outermost a.board w ks f = true)
    {P : Position} (hP : HasBoards P a.board) {w ks w' ks' : Bool} {f f' : Nat}
    (hr : right a w ks = some f) (hr' : right a w' ks' = some f') (hne : (w, ks) ≠ (w', ks')) :
    letterOf a.board st w ks f ≠ letterOf a.board st w' ks' f' := by
  intro e
  have h1 := letter_ok hV st hst hP w ks hr
  have h2 := letter_ok hV st hst hP w' ks' hr'
  rw [e, h2] at h1
  simp only [Option.some.injEq, Prod.mk.injEq] at h1
  apply hne
  obtain ⟨hw, _, hk⟩ := h1
  cases w <;> cases w' <;> simp_all

theorem letter_ne_space (a : APos) (st : CastleStyle) (w ks : Bool) {f : Nat} (hf : f < 8) :
    letterOf a.board st w ks f ≠ ' ' := by
  -- the letter is `k` / `q` or the file letter, in upper case for White
  have kq : ∀ w ks : Bool, (if w then (if ks then 'k' else 'q').toUpper else (if ks then 'k' else 'q')) ≠ ' ' := by
    decide
  have fl : (if w then (fileL f).toUpper else fileL f) ≠ ' ' := by
    cases w
    · exact (lower_tbl f hf).2.2.2.2.2.2.2
    · exact (upper_tbl f hf).2.2.2.2.2.2
  unfold letterOf
  cases st with
  | xfen =>
    dsimp only
    cases outermost a.board w ks f
    · exact fl
    · exact kq w ks
  | shredder => exact fl
  | kqkq => exact kq w ks

/-- the update of the castling loop for the right `(w, ks)`. -/
def upd (P : Position) (w ks : Bool) (o : Option Nat) : Position :=
  match o with
  | none => P
  | some f => FenS.setRight P (!w) ks f

theorem hasBoards_upd {P : Position} {b : Board} (h : HasBoards P b) (w ks : Bool) (o : Option Nat) :
    HasBoards (upd P w ks o) b := by
  unfold upd
  cases o with
  | none => exact h
  | some f => cases w <;> cases ks <;> exact h

theorem mem_one {a : APos} {st : CastleStyle} {o : Option Nat} {w ks : Bool} {c : Char}
    (h : c ∈ one a.board st o w ks) : ∃ f, o = some f ∧ c = letterOf a.board st w ks f := by
  unfold one at h
  cases o with
  | none => cases h
  | some f => exact ⟨f, rfl, by simpa using h⟩

/-- the four rights in the order of the castling field. -/
def rights : List (Bool × Bool) := [(true, true), (true, false), (false, true), (false, false)]

/-- the letters of the rights `rs` that the position has. -/
def field (a : APos) (st : CastleStyle) (rs : List (Bool × Bool)) : List Char :=
  rs.flatMap fun r => one a.board st (right a r.1 r.2) r.1 r.2

theorem castleField_eq_field (a : APos) (st : CastleStyle) :
    castleField a st = if (field a st rights).isEmpty then ['-'] else field a st rights := by
  rw [castleField_eq]
  simp only [field, rights, right, List.flatMap_cons, List.flatMap_nil, List.append_nil, List.append_assoc]

/-- the loop consumes the letters of a duplicate-free list of rights one by one: each is read back as its right
(`letter_ok`) and differs from the letters of the other rights (`letter_ne`), which are all that `seen` holds. -/
theorem peel {a : APos} (hV : Spec.Valid a = true) (st : CastleStyle)
    (hst : st = .kqkq → ∀ w ks f, right a w ks = some f → outermost a.board w ks f = true) :
    ∀ (rs : List (Bool × Bool)) (P : Position) (seen : List Char), rs.Nodup → HasBoards P a.board →
      (∀ c ∈ seen, ∃ r f, r ∉ rs ∧ right a r.1 r.2 = some f ∧ c = letterOf a.board st r.1 r.2 f) →
      fenCastling (field a st rs) seen P = some (rs.foldl (fun P r => upd P r.1 r.2 (right a r.1 r.2)) P)
  | [], P, seen, _, _, _ => by rw [field, List.flatMap_nil, fenCastling, List.foldl_nil]
  | (w, ks) :: rs, P, seen, hnd, hP, hseen => by
    obtain ⟨hnew, hnd'⟩ := List.nodup_cons.mp hnd
    have hold : ∀ c ∈ seen, ∃ r f, r ∉ rs ∧ right a r.1 r.2 = some f ∧ c = letterOf a.board st r.1 r.2 f :=
      fun c hc => by
        obtain ⟨r, f, hr, h⟩ := hseen c hc
        exact ⟨r, f, fun hm => hr (List.mem_cons_of_mem _ hm), h⟩
    rw [field, List.flatMap_cons, List.foldl_cons]
    cases hr : right a w ks with
    | none => exact peel hV st hst rs P seen hnd' hP hold
    | some f =>
      have hs : letterOf a.board st w ks f ∉ seen := fun hm => by
        obtain ⟨r, f', hne, hr', e⟩ := hseen _ hm
        exact letter_ne hV st hst hP hr' hr (fun h => hne (h ▸ List.mem_cons_self)) e.symm
      show fenCastling (letterOf a.board st w ks f :: field a st rs) seen P = _
      rw [FenS.fenCastling_letter hs (letter_ok hV st hst hP w ks hr)]
      refine peel hV st hst rs _ _ hnd' (hasBoards_upd hP w ks (some f)) fun c hc => ?_
      rcases List.mem_append.mp hc with hc | hc
      · exact hold c hc
      · exact ⟨(w, ks), f, hnew, hr, List.mem_singleton.mp hc⟩

theorem upd_all (P : Position)
    (hno : P.usK = false ∧ P.usQ = false ∧ P.themK = false ∧ P.themQ = false) (o1 o2 o3 o4 : Option Nat) :
    upd (upd (upd (upd P true true o1) true false o2) false true o3) false false o4 =
      { P with usK := o1.isSome, usQ := o2.isSome, themK := o3.isSome, themQ := o4.isSome,
               cf0 := o1.getD P.cf0, cf1 := o2.getD P.cf1, cf2 := o3.getD P.cf2, cf3 := o4.getD P.cf3 } := by
  obtain ⟨h1, h2, h3, h4⟩ := hno
  cases P
  subst h1 h2 h3 h4
  cases o1 <;> cases o2 <;> cases o3 <;> cases o4 <;> rfl

theorem cl_dash (P : Position) : castleLetter P '-' = some none := rfl

end FenCa

open FenCa in
/-- the castling loop reads back the castling field printed by the specification, in every style
(`.kqkq` only when every right is to the outermost rook — otherwise `K/Q/k/q` names another rook). -/
theorem fenCastling_castleField (a : Spec.APos) (hV : Spec.Valid a = true) (st : Spec.CastleStyle)
    (hst : st = .kqkq → ∀ w ks f, Spec.right a w ks = some f → Spec.outermost a.board w ks f = true)
    (P : Position) (hP : HasBoards P a.board)
    (hno : P.usK = false ∧ P.usQ = false ∧ P.themK = false ∧ P.themQ = false) :
    fenCastling (Spec.castleField a st) [] P =
      some { P with usK := a.wK.isSome, usQ := a.wQ.isSome, themK := a.bK.isSome, themQ := a.bQ.isSome,
                    cf0 := a.wK.getD P.cf0, cf1 := a.wQ.getD P.cf1, cf2 := a.bK.getD P.cf2,
                    cf3 := a.bQ.getD P.cf3 } := by
  have h := peel hV st hst rights P [] (by decide) hP nofun
  rw [← upd_all P hno a.wK a.wQ a.bK a.bQ, castleField_eq_field]
  split
  · -- no right: `-` is printed, and the loop over the empty field shows that nothing is written
    rename_i hs
    rw [List.isEmpty_iff.mp hs, fenCastling] at h
    rw [fenCastling]
    simp only [List.contains_nil, Bool.false_eq_true, if_false, cl_dash]
    exact h
  · exact h

open FenCa FenGet in
theorem castleField_no_space (a : Spec.APos) (hV : Spec.Valid a = true) (st : Spec.CastleStyle) :
    ' ' ∉ Spec.castleField a st := by
  rw [castleField_eq_field]
  split
  · decide
  · intro hm
    obtain ⟨r, _, h⟩ := List.mem_flatMap.mp hm
    obtain ⟨f, hr, e⟩ := mem_one h
    exact letter_ne_space a st r.1 r.2 (right_facts hV r.1 r.2 hr).1 e.symm

end Rawr

namespace Rawr
namespace FenCa

/-- White: Ke1, Ra1, Rg1, Rh1 (the right `wK` is to the *inner* rook g1); Black: Ke8, Ra8, Rh8. -/
def exBoard : Spec.Board := fun s =>
  match s with
  | 0 => some ⟨true, .rook⟩ | 4 => some ⟨true, .king⟩ | 6 => some ⟨true, .rook⟩ | 7 => some ⟨true, .rook⟩
  | 56 => some ⟨false, .rook⟩ | 60 => some ⟨false, .king⟩ | 63 => some ⟨false, .rook⟩
  | _ => none

def exA : Spec.APos :=
  { board := exBoard, whiteToMove := true, wK := some 6, wQ := some 0, bK := some 7, bQ := none,
    ep := none, half := 0, full := 1 }

/-- the same with the right `wK` to the outermost rook h1 (so that `.kqkq` is faithful). -/
def exA' : Spec.APos := { exA with wK := some 7 }

end FenCa

open FenCa in
/-- non-vacuity: the hypotheses hold for a Chess960-style position with an inner-rook right, in the
X-FEN and Shredder styles; the field is `GQk` resp. `GAh`. -/
example : Spec.Valid exA = true ∧ HasBoards (placeAbs exA.board Position.dflt) exA.board ∧
    ((placeAbs exA.board Position.dflt).usK = false ∧ (placeAbs exA.board Position.dflt).usQ = false ∧
     (placeAbs exA.board Position.dflt).themK = false ∧ (placeAbs exA.board Position.dflt).themQ = false) ∧
    Spec.castleField exA .xfen = ['G', 'Q', 'k'] ∧ Spec.castleField exA .shredder = ['G', 'A', 'h'] :=
  ⟨by decide +kernel, ⟨rfl, rfl, rfl, rfl⟩, by decide, by decide +kernel, by decide +kernel⟩

open FenCa in
/-- non-vacuity of the `.kqkq` side condition. -/
example : Spec.Valid exA' = true ∧
    (∀ w ks f, Spec.right exA' w ks = some f → Spec.outermost exA'.board w ks f = true) ∧
    Spec.castleField exA' .kqkq = ['K', 'Q', 'k'] := by
  refine ⟨by decide +kernel, ?_, by decide +kernel⟩
  intro w ks f h
  cases w <;> cases ks <;> simp [Spec.right, exA', exA] at h <;> subst h <;> decide +kernel

open FenCa in
/-- the side condition on `.kqkq` is needed: with the inner-rook right of `exA` the letter `K` is read
back as the outermost rook h1 (file 7), not g1 (file 6). -/
example : castleLetter (placeAbs exA.board Position.dflt) 'K' = some (some (false, 7, true)) ∧
    Spec.castleField exA .kqkq = ['K', 'Q', 'k'] ∧ exA.wK = some 6 :=
  ⟨by decide +kernel, by decide +kernel, rfl⟩

end Rawr

#print axioms Rawr.fenCastling_castleField
#print axioms Rawr.castleField_no_space
