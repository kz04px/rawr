import Rawr.Model.Style
/-!
# Well-formedness of annotated games (the chess facts C20 relies on)

`Rawr.Model.Style` analyses *annotated games*: lists of plies carrying what python-chess answers.
Not every list of annotations comes from a chess game.  `WFGame side g` collects the (decidable) facts
about games played from the standard starting position that the theorems of `Rawr/Props/C20.lean` use:

1. fewer than 1024 half-moves (the property's own bound; `game_length`/`no_queens` have 1024 slots);
2. a pawn of `side` never moves to its own first or second rank (relative rank index ≥ 2);
3. the material on the final board is at most 206 = 2·(9·9 + 2·5 + 4·3) (`final_material` has 207 slots);
4. among the first 40 half-moves, `side` moves a pawn to relative rank index `r+1` at most as often
   as to index `r`, for `r = 3,…,6` (a pawn that arrives on the 5th…8th rank arrived on the rank
   before at an earlier move, and two pawns never share an arrival).

These four facts are PROVED from the rules of chess (`Rawr.Spec`) in `Rawr/Proofs/StyleChess.lean`
(`wfGame_of_legal`); in addition the `styledriver` executable evaluates `wfGame` on every game the
harness generates.  Core Lean only.
-/
namespace Rawr.Style

def isEarlyPush (side : Color) (r : Nat) (i : Nat) (p : Ply) : Bool :=
  decide (i < 40) && p.turn == side && p.piece == PAWN && Stats.relRank p.turn p.to == r

/-- number of early pawn moves of `side` to relative rank index `r`, plies numbered from `i`. -/
def earlyPushesFrom (side : Color) (r : Nat) : Nat → List Ply → Nat
  | _, [] => 0
  | i, p :: ps => b2n (isEarlyPush side r i p) + earlyPushesFrom side r (i + 1) ps

def earlyPushes (side : Color) (g : Game) (r : Nat) : Nat := earlyPushesFrom side r 0 g.plies

/-- fact 2 for one ply. -/
def pawnRankOk (side : Color) (p : Ply) : Bool :=
  !(p.turn == side && p.piece == PAWN) || decide (2 ≤ Stats.relRank p.turn p.to)

/-- the four facts, executable. -/
def wfGame (side : Color) (g : Game) : Bool :=
  decide (g.plies.length < 1024) &&
  g.plies.all (pawnRankOk side) &&
  decide (g.finalWhite.material + g.finalBlack.material ≤ 206) &&
  [3, 4, 5, 6].all fun r => decide (earlyPushes side g (r + 1) ≤ earlyPushes side g r)

structure WFGame (side : Color) (g : Game) : Prop where
  short : g.plies.length < 1024
  pawnRank : ∀ p ∈ g.plies, pawnRankOk side p = true
  material : g.finalWhite.material + g.finalBlack.material ≤ 206
  chain : ∀ r, 3 ≤ r → r ≤ 6 → earlyPushes side g (r + 1) ≤ earlyPushes side g r

theorem wfGame_iff (side : Color) (g : Game) : wfGame side g = true ↔ WFGame side g := by
  constructor
  · intro h
    simp only [wfGame, Bool.and_eq_true, decide_eq_true_eq, List.all_eq_true] at h
    obtain ⟨⟨⟨h1, h2⟩, h3⟩, h4⟩ := h
    refine ⟨h1, h2, h3, ?_⟩
    intro r hr3 hr6
    have : r = 3 ∨ r = 4 ∨ r = 5 ∨ r = 6 := by omega
    rcases this with rfl | rfl | rfl | rfl <;> exact h4 _ (by simp)
  · intro ⟨h1, h2, h3, h4⟩
    simp only [wfGame, Bool.and_eq_true, decide_eq_true_eq, List.all_eq_true]
    refine ⟨⟨⟨h1, h2⟩, h3⟩, ?_⟩
    intro r hr
    simp only [List.mem_cons, List.not_mem_nil, or_false] at hr
    exact h4 r (by omega) (by omega)

instance (side : Color) (g : Game) : Decidable (WFGame side g) :=
  decidable_of_iff _ (wfGame_iff side g)

end Rawr.Style
