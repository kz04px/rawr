import Rawr.Proofs.SearchHist
/-! What `negamax` never undoes, and what the driver therefore does whatever the root calls do.

* `Fr s s'` (frame): the iteration number `stats.depth` is untouched, the poll counter only grows, and a best
  move, once written, is never erased (it may be overwritten by another one).
* `rootIter_depths`: the depths reported are consecutive (`intRange`, with its two readings as a `List.range`).
* `rootIter_chain`: from iteration 2 on, a fact that every root call establishes holds of the whole run
  (instances: `root_ok` for C03 / C14, `DM.root_mate` for C12, `DM.AllChildrenDrawn.iterations` for C11).
* `rootIter_depth_count`: under a depth limit `D` exactly `depthTarget D` iterations are reported
  (instances: `rootIter_depth_count_of`, C11). -/
namespace Rawr

def Fr (s s' : SState) : Prop :=
  s'.depth = s.depth ∧ s.polls ≤ s'.polls ∧ (s.best.isSome = true → s'.best.isSome = true)

theorem Fr.refl (s : SState) : Fr s s := ⟨rfl, Nat.le_refl _, id⟩

theorem Fr.trans {a b c : SState} (h1 : Fr a b) (h2 : Fr b c) : Fr a c :=
  ⟨h2.1.trans h1.1, Nat.le_trans h1.2.1 h2.2.1, fun h => h2.2.2 (h1.2.2 h)⟩

theorem Fr.pop {a s : SState} (h : Fr a s) : Fr a { s with hist := s.hist.tail } := h

theorem Fr.stateRel : StateRel Fr :=
  ⟨Fr.refl, Fr.trans, fun _ _ _ => ⟨rfl, Nat.le_refl _, id⟩, fun _ => ⟨rfl, Nat.le_succ _, id⟩,
   fun _ h => h, fun _ _ _ _ _ _ => ⟨rfl, Nat.le_refl _, fun _ => rfl⟩⟩

theorem negamax_fr (lim : Limit) (fuel : Nat) : RecRel Fr (negamax lim fuel) :=
  negamax_rel Fr.stateRel lim fuel

theorem negamax_depth_eq {lim : Limit} {fuel : Nat} {p : Position} {st : SState} {d a b pl dp : Int} {c : Bool}
    {v : Int} {s1 : SState}
    (h : negamax lim fuel p { st with depth := d } a b pl dp c = some (v, s1)) : s1.depth = d :=
  (negamax_fr lim fuel _ _ _ _ _ _ _ _ _ h).1

def intRange (a : Int) : Nat → List Int
  | 0 => []
  | n + 1 => a :: intRange (a + 1) n

theorem length_intRange (a : Int) (n : Nat) : (intRange a n).length = n := by
  induction n generalizing a with
  | zero => rfl
  | succ n ih => simp [intRange, ih]

theorem intRange_eq_map (a : Int) (n : Nat) : intRange a n = (List.range n).map fun i : Nat => (i : Int) + a := by
  induction n generalizing a with
  | zero => rfl
  | succ n ih =>
    rw [intRange, ih, List.range_succ_eq_map, List.map_cons, List.map_map, Int.natCast_zero, Int.zero_add]
    congr 1
    refine List.map_congr_left fun i _ => ?_
    simp only [Function.comp, Nat.succ_eq_add_one, Int.natCast_add, Int.natCast_one]
    omega

theorem intRange_eq_range' (a n : Nat) : intRange (a : Int) n = (List.range' a n).map Int.ofNat := by
  rw [intRange_eq_map, List.range'_eq_map_range, List.map_map]
  refine List.map_congr_left fun i _ => ?_
  show (i : Int) + a = ((a + i : Nat) : Int)
  omega

theorem rootIter_depths (lim : Limit) (fuel : Nat) (p : Position) :
    ∀ (k : Nat) (depth : Int) (st : SState) (bestMove : Option Mv) (infos : List InfoRec) (res : RootResult),
      rootIter lim fuel p k depth st bestMove infos = some res →
      ∃ n, res.infos.map (·.depth) = (infos.reverse.map (·.depth)) ++ intRange depth n := by
  intro k
  induction k with
  | zero =>
    intro depth st bestMove infos res h
    simp only [rootIter, Option.some.injEq] at h
    exact ⟨0, by rw [← h]; simp [intRange]⟩
  | succ k ih =>
    intro depth st bestMove infos res h
    rcases rootIter_step h with ⟨_, hres⟩ | ⟨_, score, s1, hnm, hrest⟩
    · exact ⟨0, by rw [hres]; simp [intRange]⟩
    · rcases hrest with ⟨_, hres⟩ | ⟨m, _, ⟨_, hres⟩ | ⟨_, hrec⟩⟩
      · exact ⟨0, by rw [hres]; simp [intRange]⟩
      · exact ⟨0, by rw [hres]; simp [intRange]⟩
      · obtain ⟨n, hn⟩ := ih _ _ _ _ _ hrec
        refine ⟨n + 1, ?_⟩
        rw [hn]
        have hd : (mkInfo s1 score m).depth = depth := negamax_depth_eq hnm
        simp only [List.reverse_cons, List.map_append, List.map_cons, List.map_nil, hd, intRange,
          List.append_assoc, List.cons_append, List.nil_append]

/-- number of iterations a depth limit `D` lets through: `D`, at least 1, at most `MAX_DEPTH - 1`. -/
def depthTarget (D : Int) : Int := max 1 (min D (Gen.MAX_DEPTH - 1))

theorem depthTarget_spec (D : Int) : 1 ≤ depthTarget D ∧ depthTarget D < Gen.MAX_DEPTH ∧
    (depthTarget D + 1 < Gen.MAX_DEPTH → D ≤ depthTarget D) ∧ (1 < depthTarget D → depthTarget D ≤ D) := by
  have hMD : Gen.MAX_DEPTH = 128 := rfl
  unfold depthTarget
  omega

theorem depthTarget_of_lt {D : Int} (hD1 : 1 ≤ D) (hD2 : D < Gen.MAX_DEPTH) : depthTarget D = D := by
  have : Gen.MAX_DEPTH = 128 := rfl
  unfold depthTarget; omega

theorem depthTarget_of_ge {D : Int} (hD : Gen.MAX_DEPTH ≤ D) : depthTarget D = 127 := by
  have : Gen.MAX_DEPTH = 128 := rfl
  unfold depthTarget; omega

theorem depthTarget_of_le_one {D : Int} (hD : D ≤ 1) : depthTarget D = 1 := by
  have : Gen.MAX_DEPTH = 128 := rfl
  unfold depthTarget; omega

theorem endPoll_depth_fst (D : Int) {depth : Int} {s : SState} (h : s.depth = depth) :
    (endPoll (.depth D) depth s).1 = decide (1 < depth ∧ D < depth) := by
  by_cases hd : 1 < depth
  · rw [endPoll_fst_of_gt _ _ _ hd, shouldStop_depth, h]
    exact decide_eq_decide.2 ⟨fun h => ⟨hd, h⟩, fun h => h.2⟩
  · rw [endPoll_fst_of_le _ _ _ (by omega)]
    exact (decide_eq_false fun h => hd h.1).symm

theorem rootIter_depth_count {D : Int} {fuel : Nat} {p : Position} {J : SState → Prop} {d0 : Int}
    (hcall : ∀ depth st score s1, d0 ≤ depth → depth ≤ depthTarget D → J st →
      negamax (.depth D) fuel p { st with depth := depth } (-Gen.INF) Gen.INF 0 depth false = some (score, s1) →
      s1.best ≠ none ∧ J (endPoll (.depth D) depth s1).2) :
    ∀ (k : Nat) (depth : Int) (st : SState) (bestMove : Option Mv) (infos : List InfoRec) (res : RootResult),
      J st → d0 ≤ depth → depth ≤ depthTarget D + 1 → (k : Int) + depth ≥ Gen.MAX_DEPTH + 1 →
      rootIter (.depth D) fuel p k depth st bestMove infos = some res →
      res.infos.length = infos.length + (depthTarget D + 1 - depth).toNat := by
  obtain ⟨t1, t2, t3, t4⟩ := depthTarget_spec D
  generalize depthTarget D = T at *
  intro k
  induction k with
  | zero =>
    intro depth st bestMove infos res _ _ h2 h3 h
    omega
  | succ k ih =>
    intro depth st bestMove infos res hJ h0 h2 h3 h
    rcases rootIter_step h with ⟨hcap, rfl⟩ | ⟨hlt, score, s1, hnm, hrest⟩
    · simp only [List.length_reverse]
      omega
    · have hpoll := endPoll_depth_fst D (negamax_depth_eq hnm)
      by_cases hlast : depth = T + 1
      · -- the iteration after the last one allowed: not reported
        rcases hrest with ⟨_, rfl⟩ | ⟨m, _, ⟨_, rfl⟩ | ⟨hp, _⟩⟩
        · simp only [List.length_reverse]
          omega
        · simp only [List.length_reverse]
          omega
        · rw [hpoll, decide_eq_false_iff_not] at hp
          omega
      · -- an allowed iteration: completes and is reported
        obtain ⟨hb, hJ1⟩ := hcall depth st score s1 h0 (by omega) hJ hnm
        rcases hrest with ⟨hnone, _⟩ | ⟨m, _, ⟨hp, _⟩ | ⟨_, hrec⟩⟩
        · exact absurd hnone hb
        · rw [hpoll, decide_eq_true_eq] at hp
          omega
        · rw [ih _ _ _ _ _ hJ1 (by omega) (by omega) (by omega) hrec]
          simp only [List.length_cons]
          omega

/-- `J st bm`: what holds of the state and the best move before an iteration; `T`: of the state a root call hands back;
`P`: of the record of an iteration that is reported. `stats.best_move` is never erased (`negamax_fr`), so from
iteration 2 on the exit "no best move" does not occur. -/
theorem rootIter_chain {lim : Limit} {fuel : Nat} {p : Position} {J : SState → Mv → Prop} {T : SState → Prop}
    {P : InfoRec → Prop} (hbest : ∀ st bm, J st bm → st.best.isSome = true) (hT : ∀ st bm, J st bm → T st)
    (hcall : ∀ depth st bm score s1 m, 1 < depth → J st bm →
      negamax lim fuel p { st with depth := depth } (-Gen.INF) Gen.INF 0 depth false = some (score, s1) →
      s1.best = some m →
      T s1 ∧ ((endPoll lim depth s1).1 = false → J (endPoll lim depth s1).2 m ∧ P (mkInfo s1 score m))) :
    ∀ (k : Nat) (depth : Int) (st : SState) (bm : Mv) (infos : List InfoRec) (res : RootResult),
      1 < depth → J st bm → rootIter lim fuel p k depth st (some bm) infos = some res →
      (∃ s m, J s m ∧ res.best = some m) ∧ (∃ s, T s ∧ res.hist = s.hist ∧ res.tt = s.tt) ∧
        ∃ new, res.infos = infos.reverse ++ new ∧ ∀ r ∈ new, P r := by
  intro k
  induction k with
  | zero =>
    intro depth st bm infos res _ hJ h
    simp only [rootIter, Option.some.injEq] at h
    subst h
    exact ⟨⟨st, bm, hJ, rfl⟩, ⟨st, hT _ _ hJ, rfl, rfl⟩, [], by rw [List.append_nil], by simp⟩
  | succ k ih =>
    intro depth st bm infos res hd hJ h
    rcases rootIter_step h with ⟨_, rfl⟩ | ⟨_, score, s1, hnm, hrest⟩
    · exact ⟨⟨st, bm, hJ, rfl⟩, ⟨st, hT _ _ hJ, rfl, rfl⟩, [], by rw [List.append_nil], by simp⟩
    · rcases hrest with ⟨hnone, _⟩ | ⟨m, hm, hrest⟩
      · have := (negamax_fr lim fuel _ _ _ _ _ _ _ _ _ hnm).2.2 (hbest st bm hJ)
        rw [hnone] at this
        cases this
      · obtain ⟨hT1, hnext⟩ := hcall depth st bm score s1 m hd hJ hnm hm
        rcases hrest with ⟨_, rfl⟩ | ⟨hpoll, hrec⟩
        · exact ⟨⟨st, bm, hJ, rfl⟩, ⟨s1, hT1, rfl, rfl⟩, [], by rw [List.append_nil], by simp⟩
        · obtain ⟨hJ1, hP⟩ := hnext hpoll
          obtain ⟨hb, ht, new, hinfos, hnew⟩ := ih _ _ _ _ _ (by omega) hJ1 hrec
          refine ⟨hb, ht, mkInfo s1 score m :: new, ?_, ?_⟩
          · rw [hinfos, List.reverse_cons, List.append_assoc]
            rfl
          · intro r hr
            rcases List.mem_cons.1 hr with rfl | hr
            · exact hP
            · exact hnew r hr

end Rawr
