import Rawr.Spec.Chess
import Rawr.Proofs.Coords
/-! Below `C02_spec_valid_preserved` (a legal move of a valid position leads to a valid one), specification alone:
`Spec.apply` read off (`apply_normal`, `apply_castle`, and the branches in which it leaves the position alone), and
exactly one king of a colour as a fact about squares (`UniqueKing`, `kingSquares_len_one`). -/
namespace Rawr.SV
open Rawr.Spec

theorem eq_of_coords {s t : Nat} (hf : file s = file t) (hr : rank s = rank t) : s = t :=
  Att.eq_of_file_rank hf hr

theorem nodup_length_one {α : Type} {l : List α} (hl : l.Nodup) :
    l.length = 1 ↔ ∃ k, k ∈ l ∧ ∀ j ∈ l, j = k := by
  constructor
  · intro h
    obtain ⟨a, rfl⟩ := List.length_eq_one_iff.mp h
    exact ⟨a, List.mem_singleton_self a, fun j hj => List.mem_singleton.mp hj⟩
  · rintro ⟨k, _, hu⟩
    match l, hl, hu with
    | [a], _, _ => rfl
    | a :: b :: t, hl, hu =>
      have hab : a = b := (hu a List.mem_cons_self).trans (hu b (List.mem_cons_of_mem _ List.mem_cons_self)).symm
      exact absurd (hab ▸ List.mem_cons_self) (List.nodup_cons.mp hl).1

theorem filter_range_len_one (P : Nat → Bool) (n : Nat) :
    ((List.range n).filter P).length = 1 ↔ ∃ k, k < n ∧ P k = true ∧ ∀ j, j < n → P j = true → j = k := by
  rw [nodup_length_one (List.Pairwise.filter _ List.nodup_range)]
  simp only [List.mem_filter, List.mem_range]
  exact ⟨fun ⟨k, ⟨h1, h2⟩, h3⟩ => ⟨k, h1, h2, fun j hj hp => h3 j ⟨hj, hp⟩⟩,
    fun ⟨k, h1, h2, h3⟩ => ⟨k, ⟨h1, h2⟩, fun j hj => h3 j hj.1 hj.2⟩⟩

theorem length_one_mem {l : List Nat} {x : Nat} (h1 : l.length = 1) (hx : x ∈ l) : l = [x] := by
  cases l with
  | nil => cases hx
  | cons a t =>
    cases t with
    | nil => simp at hx; rw [hx]
    | cons _ _ => simp at h1

def UniqueKing (B : Board) (c : Bool) (k : Nat) : Prop :=
  k < 64 ∧ B k = some ⟨c, .king⟩ ∧ ∀ j, j < 64 → B j = some ⟨c, .king⟩ → j = k

theorem countKing_eq (B : Board) (c : Bool) :
    countPieces B (fun pc => pc == ⟨c, .king⟩) = (kingSquares B c).length := by
  unfold countPieces kingSquares
  congr 1
  apply List.filter_congr
  intro s _
  cases B s <;> simp

theorem kingSquares_len_one (B : Board) (c : Bool) :
    (kingSquares B c).length = 1 ↔ ∃ k, UniqueKing B c k := by
  unfold kingSquares squares
  rw [filter_range_len_one]
  constructor
  · rintro ⟨k, hk, hp, hu⟩
    exact ⟨k, hk, by simpa using hp, fun j hj hpj => hu j hj (by simpa using hpj)⟩
  · rintro ⟨k, hk, hp, hu⟩
    exact ⟨k, hk, by simpa using hp, fun j hj hpj => hu j hj (by simpa using hpj)⟩

theorem kingSquares_of_unique {B : Board} {c : Bool} {k : Nat} (h : UniqueKing B c k) : kingSquares B c = [k] := by
  apply length_one_mem ((kingSquares_len_one B c).mpr ⟨k, h⟩)
  unfold kingSquares squares
  rw [List.mem_filter, List.mem_range]
  exact ⟨h.1, by simpa using h.2.1⟩

theorem unique_of_kingSquares {B : Board} {c : Bool} {k : Nat} (h : kingSquares B c = [k]) : UniqueKing B c k := by
  have h1 : (kingSquares B c).length = 1 := by rw [h]; rfl
  obtain ⟨k', hk'⟩ := (kingSquares_len_one B c).mp h1
  have := kingSquares_of_unique hk'
  rw [h] at this
  cases this
  exact hk'

theorem uniqueKing_congr {B B' : Board} {c : Bool} {k : Nat} (h : UniqueKing B c k)
    (hsame : ∀ j, j < 64 → (B' j = some ⟨c, .king⟩ ↔ B j = some ⟨c, .king⟩)) : UniqueKing B' c k :=
  ⟨h.1, (hsame k h.1).mpr h.2.1, fun j hj hb => h.2.2 j hj ((hsame j hj).mp hb)⟩

/-- what remains of one castling right after a non-castling move (the local `lostBy` of `Spec.apply`). -/
def lostCore (r : Option Nat) (mover : Bool) (hr : Int) (src dst : Nat) (kingMoved : Bool) : Option Nat :=
  match r with
  | none => none
  | some f => if ((mover && kingMoved) || src == sq f hr || dst == sq f hr) = true then none else some f

/-- the en-passant test of `Spec.apply`. -/
def isEpB (a : APos) (s t : Nat) (pc : Piece) : Bool :=
  pc.kind == .pawn && file s != file t && !(a.board t).isSome

theorem isEpB_iff {a : APos} {s t : Nat} {pc : Piece} :
    isEpB a s t pc = true ↔ pc.kind = .pawn ∧ file s ≠ file t ∧ a.board t = none := by
  simp only [isEpB, Bool.and_eq_true, beq_iff_eq, bne_iff_ne, ne_eq, Bool.not_eq_true', Option.isSome_eq_false_iff,
    Option.isNone_iff_eq_none, and_assoc]

theorem apply_normal {a : APos} {s t : Nat} {promo : Option Kind} {pc : Piece} (h : a.board s = some pc) :
    apply a (.normal s t promo) =
      { board := setSq (if (pc.kind == .pawn && file s != file t && !(a.board t).isSome) = true
            then setSq (setSq a.board s none) (sq (file t) (rank s)) none else setSq a.board s none) t
            (some (match promo with | some k => ⟨pc.white, k⟩ | none => pc)),
        whiteToMove := !a.whiteToMove,
        wK := lostCore a.wK (true == a.whiteToMove) (homeRank true) s t (pc.kind == .king),
        wQ := lostCore a.wQ (true == a.whiteToMove) (homeRank true) s t (pc.kind == .king),
        bK := lostCore a.bK (false == a.whiteToMove) (homeRank false) s t (pc.kind == .king),
        bQ := lostCore a.bQ (false == a.whiteToMove) (homeRank false) s t (pc.kind == .king),
        ep := if (pc.kind == .pawn && (rank t - rank s).natAbs == 2) = true
          then some (sq (file s) ((rank s + rank t) / 2)) else none,
        half := if (pc.kind == .pawn || (a.board t).isSome) = true then 0 else a.half + 1,
        full := if a.whiteToMove = true then a.full else a.full + 1 } := by
  -- `apply` also resets the clock on an en-passant capture, which is a pawn move
  have absorb : ∀ x y z : Bool, (x || y || (x && z && !y)) = (x || y) := by decide
  simp only [apply, h, absorb]
  rfl

theorem apply_castle {a : APos} {ks : Bool} {rf k : Nat} {l : List Nat}
    (hr : right a a.whiteToMove ks = some rf) (hk : kingSquares a.board a.whiteToMove = k :: l) :
    apply a (.castle ks) =
      { board := setSq (setSq (setSq (setSq a.board k none) (sq rf (homeRank a.whiteToMove)) none)
            (sq (if ks = true then 6 else 2) (homeRank a.whiteToMove)) (some ⟨a.whiteToMove, .king⟩))
            (sq (if ks = true then 5 else 3) (homeRank a.whiteToMove)) (some ⟨a.whiteToMove, .rook⟩),
        whiteToMove := !a.whiteToMove,
        wK := if a.whiteToMove = true then none else a.wK, wQ := if a.whiteToMove = true then none else a.wQ,
        bK := if a.whiteToMove = true then a.bK else none, bQ := if a.whiteToMove = true then a.bQ else none,
        ep := none, half := a.half + 1,
        full := if a.whiteToMove = true then a.full else a.full + 1 } := by
  simp only [apply, hr, hk]

theorem apply_normal_none {a : APos} {s t : Nat} {promo : Option Kind} (h : a.board s = none) :
    apply a (.normal s t promo) = a := by
  simp only [apply, h]

theorem apply_castle_none {a : APos} {ks : Bool}
    (h : right a a.whiteToMove ks = none ∨ kingSquares a.board a.whiteToMove = []) : apply a (.castle ks) = a := by
  rcases h with h | h
  · simp only [apply, h]
  · cases hr : right a a.whiteToMove ks <;> simp only [apply, hr, h]

end Rawr.SV
