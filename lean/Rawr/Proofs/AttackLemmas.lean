import Rawr.Proofs.SpecMirror
import Rawr.Props.C10
import Rawr.Model.Attacks
import Rawr.Proofs.ValidBits
/-!
# The attack queries of attacks.rs against `Spec.attackedBy`

A board `B` and a colour `w` are *represented* by six bitboards (the pieces of colour `w`, by kind) and
an occupancy bitboard. Under that hypothesis every test of `attacks.rs` is the corresponding disjunct
of `Spec.attackedBy B w`. `relBoard p` (the board in the mover's frame) is represented by the boards of a
`Consistent` position (`rep_side`); `frameB` / `absCol` carry the result to `abs p` (`attackedBy_abs`).
One square of `relBoard p` against the colour and occupancy bits: `rel_colour`, `occ_none` and what follows from them.
-/
namespace Rawr.Att
open Spec

def Holds (B : Board) (pc : Piece) (X : BB) : Prop := ∀ s, s < 64 → X.getLsbD s = decide (B s = some pc)

structure Rep (B : Board) (w : Bool) (P N Bi R Q K : BB) : Prop where
  pawn : Holds B ⟨w, .pawn⟩ P
  knight : Holds B ⟨w, .knight⟩ N
  bishop : Holds B ⟨w, .bishop⟩ Bi
  rook : Holds B ⟨w, .rook⟩ R
  queen : Holds B ⟨w, .queen⟩ Q
  king : Holds B ⟨w, .king⟩ K

def OccRep (B : Board) (occ : BB) : Prop := ∀ x, x < 64 → occ.getLsbD x = (B x).isSome

def anyS (X : BB) (f : Nat → Bool) : Bool := (List.range 64).any fun s => X.getLsbD s && f s

theorem any_or {α : Type} (l : List α) (p q : α → Bool) :
    l.any (fun x => p x || q x) = (l.any p || l.any q) := by
  induction l with
  | nil => rfl
  | cons x xs ih =>
    simp only [List.any_cons, ih]
    cases p x <;> cases q x <;> cases xs.any p <;> cases xs.any q <;> rfl

theorem anyS_or (X Y : BB) (f : Nat → Bool) : anyS (X ||| Y) f = (anyS X f || anyS Y f) := by
  unfold anyS
  rw [← any_or]
  congr 1; funext s
  rw [BitVec.getLsbD_or]; cases X.getLsbD s <;> cases Y.getLsbD s <;> cases f s <;> rfl

theorem anyS_congr {X : BB} {f g : Nat → Bool} (h : ∀ s, s < 64 → X.getLsbD s = true → f s = g s) :
    anyS X f = anyS X g := by
  unfold anyS
  apply any_range_congr
  intro s hs
  cases hX : X.getLsbD s
  · rfl
  · rw [h s hs hX]

theorem anyS_iff (X : BB) (f : Nat → Bool) :
    anyS X f = true ↔ ∃ s, s < 64 ∧ X.getLsbD s = true ∧ f s = true := by
  simp only [anyS, List.any_eq_true, List.mem_range, Bool.and_eq_true]

/-- one square's contribution to `Spec.attackedBy`. -/
theorem attack_cell {B : Board} {w : Bool} {P N Bi R Q K : BB} (h : Rep B w P N Bi R Q K)
    (s : Nat) (hs : s < 64) (t : Nat) :
    (match B s with
      | some pc => pc.white == w && pieceAttacks B s pc t
      | none => false) =
    ((P.getLsbD s && pawnStep w s t) || (N.getLsbD s && knightStep s t) ||
     ((Bi ||| Q).getLsbD s && diagAtt B s t) || ((R ||| Q).getLsbD s && orthAtt B s t) ||
     (K.getLsbD s && kingStep s t)) := by
  rw [BitVec.getLsbD_or, BitVec.getLsbD_or, h.pawn s hs, h.knight s hs, h.bishop s hs, h.rook s hs,
    h.queen s hs, h.king s hs]
  cases hB : B s with
  | none => simp
  | some pc =>
    obtain ⟨w', kd⟩ := pc
    by_cases hw : w' = w
    · subst hw
      simp only [pieceAttacks_split]
      cases kd <;> simp
    · have : (w' == w) = false := by simpa using hw
      cases kd <;> simp [hw, this]

theorem attackedBy_decomp {B : Board} {w : Bool} {P N Bi R Q K : BB} (h : Rep B w P N Bi R Q K)
    (t : Nat) :
    attackedBy B w t =
      (anyS P (fun s => pawnStep w s t) || anyS N (fun s => knightStep s t) ||
       anyS (Bi ||| Q) (fun s => diagAtt B s t) || anyS (R ||| Q) (fun s => orthAtt B s t) ||
       anyS K (fun s => kingStep s t)) := by
  unfold attackedBy anyS squares
  simp only [← any_or]
  apply any_range_congr
  intro s hs
  exact attack_cell h s hs t

theorem isOcc_and (A X : BB) : (A &&& X).isOcc = anyS X A.getLsbD := by
  rw [Bool.eq_iff_iff, isOcc_iff, anyS_iff]
  simp only [BitVec.getLsbD_and, Bool.and_eq_true]
  constructor
  · rintro ⟨s, h1, h2, h3⟩; exact ⟨s, h1, h3, h2⟩
  · rintro ⟨s, h1, h2, h3⟩; exact ⟨s, h1, h3, h2⟩

theorem knightStep_symm (s t : Nat) : knightStep s t = knightStep t s := by
  have e1 : (file t - file s).natAbs = (file s - file t).natAbs := by omega
  have e2 : (rank t - rank s).natAbs = (rank s - rank t).natAbs := by omega
  simp only [knightStep, e1, e2]
theorem kingStep_symm (s t : Nat) : kingStep s t = kingStep t s := by
  have e1 : (file t - file s).natAbs = (file s - file t).natAbs := by omega
  have e2 : (rank t - rank s).natAbs = (rank s - rank t).natAbs := by omega
  simp only [kingStep, e1, e2]
theorem pawnStep_symm (w : Bool) (s t : Nat) : pawnStep w s t = pawnStep (!w) t s := by
  have e1 : (file t - file s).natAbs = (file s - file t).natAbs := by omega
  have e2 : (rank t - rank s == (if w then 1 else -1)) = (rank s - rank t == (if !w then 1 else -1)) := by
    rw [Bool.eq_iff_iff]; cases w <;> simp <;> omega
  simp only [pawnStep, e1, e2]

theorem pawn_test (w : Bool) (P : BB) (t : Nat) (ht : t < 64) :
    (pawnsAtt w P).isSet t = anyS P (fun s => pawnStep w s t) := by
  unfold BB.isSet anyS
  rw [C10_pawnsAtt]; simp [ht]

theorem knight_test (N : BB) (t : Nat) (ht : t < 64) :
    (knights (bit t) &&& N).isOcc = anyS N (fun s => knightStep s t) := by
  rw [isOcc_and]
  apply anyS_congr
  intro s hs _
  rw [(C10_leapers_bit t ht).1, getLsbD_geomBB, knightStep_symm]; simp [hs]

theorem knight_set_test (N : BB) (t : Nat) (ht : t < 64) :
    (knights N).isSet t = anyS N (fun s => knightStep s t) := by
  unfold BB.isSet anyS
  rw [C10_knights]; simp [ht]

theorem king_test (K : BB) (t : Nat) (ht : t < 64) :
    (adjacent (bit t) &&& K).isOcc = anyS K (fun s => kingStep s t) := by
  rw [isOcc_and]
  apply anyS_congr
  intro s hs _
  rw [(C10_leapers_bit t ht).2.1, getLsbD_geomBB, kingStep_symm]; simp [hs]

theorem king_set_test (K : BB) (t : Nat) (ht : t < 64) :
    (adjacent K).isSet t = anyS K (fun s => kingStep s t) := by
  unfold BB.isSet anyS
  rw [C10_adjacent]; simp [ht]

theorem bishop_test {B : Board} {occ : BB} (ho : OccRep B occ) (X : BB) (t : Nat) (ht : t < 64) :
    (bishopMoves t occ &&& X).isOcc = anyS X (fun s => diagAtt B s t) := by
  rw [isOcc_and]
  apply anyS_congr
  intro s hs _
  rw [C10_bishop_mem t ht, walkSet4_diag B _ ho t s ht hs, diagAtt_symm]; simp [hs]

theorem rook_test {B : Board} {occ : BB} (ho : OccRep B occ) (X : BB) (t : Nat) (ht : t < 64) :
    (rookMoves t occ &&& X).isOcc = anyS X (fun s => orthAtt B s t) := by
  rw [isOcc_and]
  apply anyS_congr
  intro s hs _
  rw [C10_rook_mem t ht, walkSet4_orth B _ ho t s ht hs, orthAtt_symm]; simp [hs]

/-- `attacks::is_safe` for a represented board. -/
theorem isSafe_rep {B : Board} {occ P N Bi R Q K : BB} (h : Rep B false P N Bi R Q K)
    (ho : OccRep B occ) (t : Nat) (ht : t < 64) :
    isSafe t occ P N Bi R Q K = !attackedBy B false t := by
  unfold isSafe
  dsimp only
  rw [attackedBy_decomp h, pawn_test false P t ht, knight_test N t ht, bishop_test ho _ t ht,
    rook_test ho _ t ht, king_test K t ht]
  cases anyS P _ <;> cases anyS N _ <;> cases anyS (Bi ||| Q) _ <;> cases anyS (R ||| Q) _ <;>
    cases anyS K _ <;> rfl

/-- the board in the mover's frame: the mover's pieces are "white" and play up the board. -/
def relBoard (p : Position) : Board := absBoard { p with black := false }

theorem relBoard_ge (p : Position) (s : Nat) (hs : 64 ≤ s) : relBoard p s = none :=
  absBoard_ge { p with black := false } s hs

theorem getLsbD_side (p : Position) (them : Bool) (s : Nat) :
    (p.side them).getLsbD s = if them then p.c1.getLsbD s else p.c0.getLsbD s := by
  cases them <;> rfl

/-- the relative board is the absolute board of the same bitboards with White to move, so one square of it is read
by `FenRel.absBoard_beq`. -/
theorem holds_side {p : Position} (h : Consistent p = true) (them : Bool) (k : Kind) :
    Holds (relBoard p) ⟨!them, k⟩ (p.side them &&& p.piece (kindIdx k)) := by
  intro s hs
  have hq : Consistent { p with black := false } = true := h
  have := FenRel.absBoard_beq hq hs (!them) k
  rw [Bool.eq_iff_iff, beq_iff_eq] at this
  rw [Bool.eq_iff_iff, decide_eq_true_iff]
  refine Iff.trans ?_ this.symm
  cases them <;> exact Iff.rfl

/-- the pieces of either side are the pieces of one colour of the relative board: the mover's are the
"white" ones. -/
theorem rep_side {p : Position} (h : Consistent p = true) (them : Bool) :
    Rep (relBoard p) (!them) (p.side them &&& p.p0) (p.side them &&& p.p1) (p.side them &&& p.p2)
      (p.side them &&& p.p3) (p.side them &&& p.p4) (p.side them &&& p.p5) :=
  ⟨holds_side h them .pawn, holds_side h them .knight, holds_side h them .bishop, holds_side h them .rook,
    holds_side h them .queen, holds_side h them .king⟩

theorem rep_us {p : Position} (h : Consistent p = true) :
    Rep (relBoard p) true (p.c0 &&& p.p0) (p.c0 &&& p.p1) (p.c0 &&& p.p2) (p.c0 &&& p.p3)
      (p.c0 &&& p.p4) (p.c0 &&& p.p5) :=
  rep_side h false

theorem rep_them {p : Position} (h : Consistent p = true) :
    Rep (relBoard p) false (p.c1 &&& p.p0) (p.c1 &&& p.p1) (p.c1 &&& p.p2) (p.c1 &&& p.p3)
      (p.c1 &&& p.p4) (p.c1 &&& p.p5) :=
  rep_side h true

theorem occ_none {p : Position} (h : Consistent p = true) {s : Nat} (hs : s < 64) :
    p.occ.getLsbD s = false ↔ relBoard p s = none :=
  (absBoard_none_iff (p := { p with black := false }) h hs).symm

theorem occRep_rel {p : Position} (h : Consistent p = true) : OccRep (relBoard p) p.occ := by
  intro s hs
  cases hb : relBoard p s
  · exact (occ_none h hs).mpr hb
  · cases ho : p.occ.getLsbD s
    · rw [(occ_none h hs).mp ho] at hb
      cases hb
    · rfl

theorem occ_occupied {p : Position} (hC : Consistent p = true) {t : Nat} (ht : t < 64)
    (h : p.occ.getLsbD t = true) : relBoard p t ≠ none := fun e => by
  rw [(occ_none hC ht).mpr e] at h
  cases h

theorem rel_colour {p : Position} (h : Consistent p = true) {s : Nat} (hs : s < 64) :
    p.c0.getLsbD s = FenRel.colP (relBoard p s) true ∧ p.c1.getLsbD s = FenRel.colP (relBoard p s) false := by
  have hq : Consistent { p with black := false } = true := h
  exact ⟨(shows_abs hq).c0 s hs, (shows_abs hq).c1 s hs⟩

theorem own_of_rel {p : Position} (hC : Consistent p = true) {f : Nat} (hf : f < 64) {kd : Kind}
    (hB : relBoard p f = some ⟨true, kd⟩) : p.c0.getLsbD f = true := by
  rw [(rel_colour hC hf).1, hB]
  rfl

theorem own_not_enemy {p : Position} (hC : Consistent p = true) {t : Nat} (ht : t < 64) {q : Piece}
    (hB : relBoard p t = some q) (hw : q.white = false) : p.c0.getLsbD t = false := by
  rw [(rel_colour hC ht).1, hB, FenRel.colP, hw]
  rfl

theorem own_of_none {p : Position} (hC : Consistent p = true) {t : Nat} (ht : t < 64)
    (hB : relBoard p t = none) : p.c0.getLsbD t = false := by
  rw [(rel_colour hC ht).1, hB]
  rfl

theorem own_occupied {p : Position} (hC : Consistent p = true) {t : Nat} (ht : t < 64)
    (h : p.c0.getLsbD t = true) : relBoard p t ≠ none := fun e => by
  rw [own_of_none hC ht e] at h
  cases h

theorem own_piece {p : Position} (hC : Consistent p = true) {f : Nat} (hf : f < 64)
    (h : p.c0.getLsbD f = true) : ∃ qf : Piece, relBoard p f = some qf ∧ qf.white = true := by
  rw [(rel_colour hC hf).1] at h
  cases hB : relBoard p f with
  | none =>
    rw [hB] at h
    cases h
  | some q =>
    rw [hB] at h
    exact ⟨q, rfl, by simpa [FenRel.colP] using h⟩

theorem enemy_iff {p : Position} (hC : Consistent p = true) {t : Nat} (ht : t < 64) :
    p.c1.getLsbD t = true ↔ ∃ q, relBoard p t = some q ∧ q.white = false := by
  rw [(rel_colour hC ht).2]
  rcases relBoard p t with _ | q
  · exact ⟨nofun, nofun⟩
  · simp [FenRel.colP]

/-- `attackedBy` of the relative board, as the five tests on bitboards, for either side. -/
theorem attackedBy_rel {p : Position} (h : Consistent p = true) (them : Bool) (t : Nat) :
    attackedBy (relBoard p) (!them) t =
      (anyS (p.side them &&& p.p0) (fun s => pawnStep (!them) s t) ||
       anyS (p.side them &&& p.p1) (fun s => knightStep s t) ||
       anyS (p.side them &&& p.p2 ||| p.side them &&& p.p4) (fun s => diagAtt (relBoard p) s t) ||
       anyS (p.side them &&& p.p3 ||| p.side them &&& p.p4) (fun s => orthAtt (relBoard p) s t) ||
       anyS (p.side them &&& p.p5) (fun s => kingStep s t)) :=
  attackedBy_decomp (rep_side h them) t

theorem isSqAttacked_rel {p : Position} (h : Consistent p = true) (sq : Nat) (hsq : sq < 64)
    (them : Bool) (hk : count (p.p5 &&& p.side them) ≤ 1) :
    p.isSqAttacked sq them = attackedBy (relBoard p) (!them) sq := by
  have ho := occRep_rel h
  rw [attackedBy_rel h]
  unfold Position.isSqAttacked
  dsimp only
  rw [bit_lsb_of_count_le_one _ hk, king_set_test _ sq hsq, BitVec.and_comm p.p5,
    ← bishop_test ho _ sq hsq, ← rook_test ho _ sq hsq, ← knight_test _ sq hsq,
    ← BitVec.and_or_distrib_left, ← BitVec.and_or_distrib_left,
    BitVec.and_assoc, BitVec.and_comm p.p1, BitVec.and_comm p.p0]
  cases them
  all_goals
    simp only [Bool.not_false, Bool.not_true, Bool.true_and, Bool.false_and, Bool.false_eq_true,
      if_false]
    rw [pawn_test _ _ sq hsq]
    cases anyS _ _ <;> cases (_ : BB).isOcc <;> cases (_ : BB).isOcc <;> cases (_ : BB).isOcc <;>
      cases anyS _ _ <;> rfl

theorem anyS_or_fun (X : BB) (f g : Nat → Bool) :
    anyS X (fun s => f s || g s) = (anyS X f || anyS X g) := by
  unfold anyS
  rw [← any_or]
  congr 1; funext s
  dsimp only
  cases X.getLsbD s <;> cases f s <;> cases g s <;> rfl

theorem anyS_swap (X Y : BB) (f : Nat → Nat → Bool) :
    anyS X (fun s => anyS Y (fun u => f s u)) = anyS Y (fun u => anyS X (fun s => f s u)) := by
  rw [Bool.eq_iff_iff, anyS_iff, anyS_iff]
  simp only [anyS_iff]
  constructor
  · rintro ⟨s, h1, h2, u, h3, h4, h5⟩; exact ⟨u, h3, h4, s, h1, h2, h5⟩
  · rintro ⟨s, h1, h2, u, h3, h4, h5⟩; exact ⟨u, h3, h4, s, h1, h2, h5⟩

theorem toList_any (X : BB) (f : Nat → Bool) : (toList X).any f = anyS X f := by
  unfold toList anyS
  rw [List.any_filter]

/-- `(F(P) &&& bb).isOcc` for a set-valued leaper map given pointwise. -/
theorem set_test {A bb : BB} {g : Nat → Bool} (hA : ∀ t, t < 64 → A.getLsbD t = g t) :
    (A &&& bb).isOcc = anyS bb g := by
  rw [isOcc_and]
  exact anyS_congr fun s hs _ => hA s hs

theorem isBbAttacked_rel {p : Position} (h : Consistent p = true) (bb : BB) (them : Bool) :
    p.isBbAttacked bb them = (toList bb).any (fun s => attackedBy (relBoard p) (!them) s) := by
  have ho := occRep_rel h
  rw [toList_any]
  simp only [attackedBy_rel h, anyS_or_fun]
  unfold Position.isBbAttacked
  dsimp only
  rw [toList_any, anyS_or_fun]
  have eB : anyS bb (fun sq => (bishopMoves sq p.occ &&& (p.side them &&& (p.p2 ||| p.p4))).isOcc)
      = anyS bb (fun t => anyS (p.side them &&& p.p2 ||| p.side them &&& p.p4)
          (fun s => diagAtt (relBoard p) s t)) :=
    anyS_congr fun t ht _ => by rw [BitVec.and_or_distrib_left, bishop_test ho _ t ht]
  have eR : anyS bb (fun sq => (rookMoves sq p.occ &&& (p.side them &&& (p.p3 ||| p.p4))).isOcc)
      = anyS bb (fun t => anyS (p.side them &&& p.p3 ||| p.side them &&& p.p4)
          (fun s => orthAtt (relBoard p) s t)) :=
    anyS_congr fun t ht _ => by rw [BitVec.and_or_distrib_left, rook_test ho _ t ht]
  have eN : (knights bb &&& p.p1 &&& p.side them).isOcc
      = anyS bb (fun t => anyS (p.side them &&& p.p1) (fun s => knightStep s t)) := by
    rw [BitVec.and_assoc, BitVec.and_comm p.p1, isOcc_and, anyS_swap]
    apply anyS_congr
    intro s hs _
    rw [C10_knights]
    simp only [hs, decide_true, Bool.true_and, knightStep_symm s]
    rfl
  have eK : (adjacent bb &&& p.p5 &&& p.side them).isOcc
      = anyS bb (fun t => anyS (p.side them &&& p.p5) (fun s => kingStep s t)) := by
    rw [BitVec.and_assoc, BitVec.and_comm p.p5, isOcc_and, anyS_swap]
    apply anyS_congr
    intro s hs _
    rw [C10_adjacent]
    simp only [hs, decide_true, Bool.true_and, kingStep_symm s]
    rfl
  rw [eB, eR, eN, eK]
  cases them
  all_goals
    simp only [Bool.not_false, Bool.not_true, Bool.true_and, Bool.false_and, Bool.false_eq_true, if_false,
      if_true, Position.side]
    rw [set_test fun t ht => pawn_test _ _ t ht, BitVec.and_comm p.p0]
    cases anyS bb _ <;> cases anyS bb _ <;> cases anyS bb _ <;> cases anyS bb _ <;>
      cases anyS bb _ <;> rfl

theorem foldl_or_bit (c : Nat → Bool) (l : List Nat) (a : BB) (s : Nat) :
    (l.foldl (fun acc sq => if c sq then acc ||| bit sq else acc) a).getLsbD s
      = (a.getLsbD s || (decide (s < 64) && l.contains s && c s)) := by
  induction l generalizing a with
  | nil => simp
  | cons x xs ih =>
    rw [List.foldl_cons, ih, List.contains_cons]
    by_cases hc : c x = true
    · simp only [hc, if_true, BitVec.getLsbD_or, getLsbD_bit]
      by_cases e : s = x
      · subst e
        cases a.getLsbD s <;> cases decide (s < 64) <;> simp [hc]
      · have : (s == x) = false := by simpa using e
        simp [e, this]
    · have hc' : c x = false := by simpa using hc
      simp only [hc', Bool.false_eq_true, if_false]
      by_cases e : s = x
      · subst e; simp [hc']
      · have : (s == x) = false := by simpa using e
        simp [this]

theorem getAttacked_rel {p : Position} (h : Consistent p = true) (mask : BB) (them : Bool)
    (s : Nat) (hs : s < 64) :
    (p.getAttacked mask them).getLsbD s
      = (mask.getLsbD s && attackedBy (relBoard p) (!them) s) := by
  have ho := occRep_rel h
  unfold Position.getAttacked
  dsimp only
  have eBQ : p.side them &&& (p.p2 ||| p.p4) = p.side them &&& p.p2 ||| p.side them &&& p.p4 :=
    BitVec.and_or_distrib_left
  have eRQ : p.side them &&& (p.p3 ||| p.p4) = p.side them &&& p.p3 ||| p.side them &&& p.p4 :=
    BitVec.and_or_distrib_left
  rw [foldl_or_bit, attackedBy_rel h, eBQ, eRQ, bishop_test ho _ s hs, rook_test ho _ s hs]
  have hc : (toList (mask &&& ~~~((if (!them) = true then mask &&& pawnsAtt true (p.p0 &&& p.c0)
        else mask &&& pawnsAtt false (p.p0 &&& p.c1)) ||| mask &&& knights (p.p1 &&& p.side them) |||
        mask &&& adjacent (p.p5 &&& p.side them)))).contains s
      = (mask.getLsbD s && !((if (!them) = true then mask &&& pawnsAtt true (p.p0 &&& p.c0)
        else mask &&& pawnsAtt false (p.p0 &&& p.c1)) ||| mask &&& knights (p.p1 &&& p.side them) |||
        mask &&& adjacent (p.p5 &&& p.side them)).getLsbD s) := by
    rw [Bool.eq_iff_iff, List.contains_iff_mem, mem_toList_lt]
    simp [hs]
  rw [hc]
  simp only [BitVec.getLsbD_or, BitVec.getLsbD_and]
  have eN := knight_set_test (p.p1 &&& p.side them) s hs
  have eK := king_set_test (p.p5 &&& p.side them) s hs
  unfold BB.isSet at eN eK
  rw [eN, eK, BitVec.and_comm p.p1, BitVec.and_comm p.p5, BitVec.and_comm p.p0 p.c0,
    BitVec.and_comm p.p0 p.c1]
  have eP := fun w P => pawn_test w P s hs
  unfold BB.isSet at eP
  cases them
  all_goals
    simp only [Bool.not_false, Bool.not_true, if_true, Bool.false_eq_true, if_false, BitVec.getLsbD_and, eP,
      hs, decide_true, Bool.true_and, Position.side]
    cases mask.getLsbD s <;> cases anyS _ _ <;> cases anyS _ _ <;> cases anyS _ _ <;> cases anyS _ _ <;>
      cases anyS _ _ <;> rfl

theorem kingSquares_rel {p : Position} (h : Consistent p = true) (them : Bool) :
    kingSquares (relBoard p) (!them) = toList (p.side them &&& p.p5) := by
  unfold kingSquares squares toList
  apply List.filter_congr
  intro s hs
  rw [(rep_side h them).king s (List.mem_range.mp hs), Bool.eq_iff_iff, beq_iff_eq, decide_eq_true_iff]

/-- `in_check` / `in_check_them`: is the one king of side `them` attacked by the other side. -/
theorem inCheckSide_rel {p : Position} (h : Consistent p = true) (them : Bool)
    (hk : count (p.p5 &&& p.side them) = 1) (hk' : count (p.p5 &&& p.side (!them)) ≤ 1) :
    p.isSqAttacked (lsb (p.p5 &&& p.side them)) (!them) = Spec.inCheck (relBoard p) (!them) := by
  obtain ⟨hl, hlt⟩ := toList_of_count_one _ hk
  unfold Spec.inCheck
  rw [isSqAttacked_rel h _ hlt (!them) hk', kingSquares_rel h them, BitVec.and_comm _ p.p5, hl]
  simp

theorem inCheck_rel {p : Position} (h : Consistent p = true)
    (hk0 : count (p.p5 &&& p.c0) = 1) (hk1 : count (p.p5 &&& p.c1) ≤ 1) :
    p.inCheck = Spec.inCheck (relBoard p) true :=
  inCheckSide_rel h false hk0 hk1

theorem inCheckThem_rel {p : Position} (h : Consistent p = true)
    (hk0 : count (p.p5 &&& p.c0) ≤ 1) (hk1 : count (p.p5 &&& p.c1) = 1) :
    p.inCheckThem = Spec.inCheck (relBoard p) false :=
  inCheckSide_rel h true hk1 hk0

theorem holds_setSq_none {B : Board} {pc : Piece} {X : BB} (h : Holds B pc X) (k : Nat)
    (hk : B k ≠ some pc) : Holds (setSq B k none) pc X := by
  intro s hs
  unfold setSq
  by_cases e : s = k
  · subst e; rw [h s hs]; simp [hk]
  · simp only [e, if_false]; exact h s hs

theorem rep_setSq_none {B : Board} {w : Bool} {P N Bi R Q K : BB} (h : Rep B w P N Bi R Q K)
    (k : Nat) (hk : ∀ kd, B k ≠ some ⟨w, kd⟩) : Rep (setSq B k none) w P N Bi R Q K :=
  ⟨holds_setSq_none h.pawn k (hk _), holds_setSq_none h.knight k (hk _),
   holds_setSq_none h.bishop k (hk _), holds_setSq_none h.rook k (hk _),
   holds_setSq_none h.queen k (hk _), holds_setSq_none h.king k (hk _)⟩

theorem occRep_setSq {B : Board} {occ : BB} (ho : OccRep B occ) (k : Nat) (v : Option Piece)
    (hk : occ.getLsbD k = !v.isSome) : OccRep (setSq B k v) (occ ^^^ bit k) := by
  intro s hs
  unfold setSq
  rw [BitVec.getLsbD_xor, getLsbD_bit]
  by_cases e : s = k
  · subst e; rw [hk]; cases v <;> simp [hs]
  · simp [e, ho s hs]

theorem isSafe_lift {p : Position} (h : Consistent p = true) (ksq : Nat) (hk64 : ksq < 64)
    (hk : p.c0.getLsbD ksq = true) (to : Nat) (hto : to < 64) :
    isSafe to (p.occ ^^^ bit ksq) (p.c1 &&& p.p0) (p.c1 &&& p.p1) (p.c1 &&& p.p2) (p.c1 &&& p.p3)
      (p.c1 &&& p.p4) (p.c1 &&& p.p5) = !attackedBy (setSq (relBoard p) ksq none) false to := by
  have hne : ∀ kd, relBoard p ksq ≠ some ⟨false, kd⟩ := fun kd e => by
    rw [own_not_enemy h hk64 e rfl] at hk
    cases hk
  have hocc : p.occ.getLsbD ksq = true := by
    unfold Position.occ; rw [BitVec.getLsbD_or, hk]; rfl
  exact isSafe_rep (rep_setSq_none (rep_them h) ksq hne) (occRep_setSq (occRep_rel h) ksq none (by rw [hocc]; rfl))
    to hto

theorem relBoard_def (p : Position) (a : Nat) :
    relBoard p a = if a < 64 then
      match p.pieceOn a with
      | none => none
      | some k =>
        if p.c0.isSet a then some ⟨true, kindOf k⟩
        else if p.c1.isSet a then some ⟨false, kindOf k⟩ else none
      else none := rfl

/-- relative board ↦ absolute board. -/
def frameB (black : Bool) (B : Board) : Board := if black then mirrorB B else B

theorem absBoard_frame (p : Position) : (abs p).board = frameB p.black (relBoard p) := by
  show absBoard p = if p.black then mirrorB (relBoard p) else relBoard p
  cases hb : p.black
  · simp only [Bool.false_eq_true, if_false]
    unfold relBoard
    congr 1
    cases p; simp only at hb; subst hb; rfl
  · simp only [if_true]
    funext a
    unfold mirrorB absBoard
    rw [relBoard_def]
    by_cases ha : a < 64
    · simp only [ha, x56_lt ha, if_true, absSq, hb, Bool.not_true]
      cases p.pieceOn (a ^^^ 56) with
      | none => rfl
      | some k =>
        simp only
        cases p.c0.isSet (a ^^^ 56) <;> cases p.c1.isSet (a ^^^ 56) <;> rfl
    · have : ¬ (a ^^^ 56 < 64) := fun h => ha ((x56_lt_iff a).mp h)
      simp [ha, this]

/-- the colour (as `Piece.white`) of side `them` of position `p`. -/
def sideWhite (p : Position) (them : Bool) : Bool := if them then p.black else !p.black

/-- relative colour (`true` = the mover) ↦ absolute colour (`true` = White). -/
def absCol (black w : Bool) : Bool := if black then !w else w
def framePiece (black : Bool) (pc : Piece) : Piece := if black then flipPiece pc else pc

theorem absCol_false (b : Bool) : absCol b false = b := by cases b <;> rfl

theorem sideWhite_eq (p : Position) (them : Bool) : sideWhite p them = absCol p.black (!them) := by
  unfold sideWhite absCol; cases them <;> cases p.black <;> rfl

theorem attackedBy_frame (black : Bool) (B : Board) (w : Bool) (s : Nat) (hs : s < 64) :
    attackedBy (frameB black B) (absCol black w) (absSq black s) = attackedBy B w s := by
  unfold frameB absCol absSq
  cases black
  · rfl
  · simp only [if_true]
    exact attackedBy_mirror B w s hs

theorem inCheck_frame (black : Bool) (B : Board) (w : Bool) :
    Spec.inCheck (frameB black B) (absCol black w) = Spec.inCheck B w := by
  unfold frameB absCol
  cases black
  · rfl
  · simp only [if_true]
    exact inCheck_mirror B w

theorem attackedBy_abs (p : Position) (them : Bool) (s : Nat) (hs : s < 64) :
    attackedBy (abs p).board (sideWhite p them) (absSq p.black s)
      = attackedBy (relBoard p) (!them) s := by
  rw [absBoard_frame, sideWhite_eq]
  exact attackedBy_frame p.black (relBoard p) (!them) s hs

theorem inCheck_abs (p : Position) (them : Bool) :
    Spec.inCheck (abs p).board (sideWhite p them) = Spec.inCheck (relBoard p) (!them) := by
  rw [absBoard_frame, sideWhite_eq]
  exact inCheck_frame p.black (relBoard p) (!them)

theorem frameB_setSq (black : Bool) (B : Board) (k : Nat) (v : Option Piece) :
    frameB black (setSq B k v) = setSq (frameB black B) (absSq black k) (v.map (framePiece black)) := by
  unfold frameB absSq framePiece
  cases black
  · simp
  · simp only [if_true]; exact mirrorB_setSq B k v

end Rawr.Att
