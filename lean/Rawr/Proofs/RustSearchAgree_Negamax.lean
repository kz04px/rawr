import Rawr.Proofs.RustSearchAgree
import Rawr.Proofs.RustSearchAgree_QSearch
/-!
# Agreement for negamax.rs

`R.negamax` (regenerated from negamax.rs), called with the model's stop function, is the model's `negamax`, fuel for
fuel, under `OrderOkN fuel p` (`RustSearchAgree_QSearch.lean`; proved for every valid position with counter room in
`RustSearchAgree_Rules.lean`).  The null-move subtree is only required to be `OrderOkN` when the node is not in check:
the search tries the null move only then.
-/
namespace Rawr

theorem agree_is_endgame : @R.is_endgame = @isEndgame := by
  funext p
  unfold R.is_endgame isEndgame
  simp only [R.get_knights, R.get_bishops, R.get_rooks, R.get_queens, R.get_us]
  exact decide_eq_decide.mpr (by omega)

/-- the move loop: the regenerated loop returns `(st, best_score, best_move, alpha)`, the model's
`(st, alpha, best, bestMv)`; `for (idx, mv) in moves.iter().enumerate()` is the loop over `zipIdx`. -/
theorem nmloop_eq (recR recM : Position → SState → Int → Int → Int → Int → Bool → Option (Int × SState))
    (p : Position) (beta ply depth : Int) (inCheck : Bool) :
    ∀ (ms : List Mv), (∀ m ∈ ms, ∀ np, p.makemove m true = some np → recR np = recM np) →
    ∀ (idx : Nat) (st : SState) (best : Int) (bestMv : Option Mv) (alpha : Int),
      (R.negamax_loop1 recR p beta ply depth inCheck (List.zipIdx ms idx) st best bestMv alpha).map
          (fun x => (x.1, x.2.2.2, x.2.1, x.2.2.1)) =
        nmLoop recM p beta ply depth inCheck ms idx st alpha best bestMv := by
  intro ms
  induction ms with
  | nil => intro _ idx st best bestMv alpha; rfl
  | cons m ms ih =>
    intro hrec idx st best bestMv alpha
    rw [List.zipIdx_cons]
    unfold R.negamax_loop1 nmLoop
    simp only [agree_after_move, agree_is_capture]
    cases hm : p.makemove m true with
    | none => rfl
    | some np =>
      simp only [hrec m (by simp) np hm]
      generalize ({ st with nodes := st.nodes + 1, hist := np.hash :: st.hist } : SState) = st1
      -- the score of the child (full window for the first move, null window and re-search for the others) is computed
      -- before anything is done with it: compare the two computations first
      generalize hR : (if (idx == 0) = true then _ else _ : Option (Int × SState)) = resR
      generalize hM : (if (idx == 0) = true then _ else _ : Option (Int × SState)) = resM
      have hres : resR = resM := by
        rw [← hR, ← hM]
        refine ite_congr rfl (fun _ => rfl) fun _ => ?_
        generalize hd1 : (depth - 1 - if (decide (idx < 4) || decide (depth < 3) || inCheck || p.isCapture m || m.promo == 4) = true then 0 else 1) = d'
        generalize hd2 : (depth - 1 - _) = d''
        obtain rfl : d'' = d' := by rw [← hd1, ← hd2]; rfl
        rcases recM np st1 (-alpha - 1) (-alpha) (ply + 1) d'' true with _ | ⟨r5, st2⟩
        · rfl
        · simp only
          by_cases hc : (decide (alpha < -r5) && decide (-r5 < beta)) = true
          · simp only [hc, if_true]
            cases recM np st2 (-beta) (-alpha) (ply + 1) (depth - 1) true <;> rfl
          · simp only [hc, if_false, Bool.false_eq_true]
      subst hres
      rcases resR with _ | ⟨score, st2⟩
      · rfl
      · simp only [apply_ite (Option.map _)]
        exact ite_congr rfl (fun _ => rfl) fun _ => ih (fun m' hm' => hrec m' (by simp [hm'])) _ _ _ _ _

/-! the transposition-table cut-off: the `if`/`match` nest of negamax.rs as compiled (`cutR`) and as written in the
model (`cutM`), over the atoms of the two expressions -/
def cutR (hit cond : Bool) (flag : Nat) (score alpha beta : Int) (mv : Mv) : Option Int × Option Mv × Int × Int :=
  if hit = true then
    (match ((if cond = true then
        (match ((if (flag == 0) = true then (some score, alpha, beta)
                else if (flag == 1) = true then (none, max alpha score, beta)
                else if (flag == 2) = true then (none, alpha, min beta score) else (none, alpha, beta)) : Option Int × Int × Int) with
          | (some e, a, b) => (some e, a, b)
          | (none, a, b) => if a ≥ b then (some score, a, b) else (none, a, b))
      else (none, alpha, beta)) : Option Int × Int × Int) with
      | (some e, a, b) => (some e, some mv, a, b)
      | (none, a, b) => (none, some mv, a, b))
  else (none, none, alpha, beta)

def cutM (c : Bool) (flag : Nat) (score alpha beta : Int) : Option Int × Int × Int :=
  if c = true then
    if (flag == 0) = true then (some score, alpha, beta)
    else
      if (if (flag == 1) = true then max alpha score else alpha) ≥ (if (flag == 2) = true then min beta score else beta) then
        (some score, if (flag == 1) = true then max alpha score else alpha, if (flag == 2) = true then min beta score else beta)
      else (none, if (flag == 1) = true then max alpha score else alpha, if (flag == 2) = true then min beta score else beta)
  else (none, alpha, beta)

theorem cut_rel (hit A B C : Bool) (flag : Nat) (score alpha beta : Int) (mv : Mv) :
    (cutR hit (A && B && C) flag score alpha beta mv).1 = (cutM (hit && A && B && C) flag score alpha beta).1 ∧
    (cutR hit (A && B && C) flag score alpha beta mv).2.2.1 = (cutM (hit && A && B && C) flag score alpha beta).2.1 ∧
    (cutR hit (A && B && C) flag score alpha beta mv).2.2.2 = (cutM (hit && A && B && C) flag score alpha beta).2.2 ∧
    (cutR hit (A && B && C) flag score alpha beta mv).2.1 = (if hit = true then some mv else none) := by
  unfold cutR cutM
  cases hit <;> cases A <;> cases B <;> cases C <;> simp only [Bool.and_true, Bool.and_false,
    if_true, if_false, Bool.false_eq_true, and_self]
  by_cases f0 : flag = 0
  · simp [f0]
  · by_cases f1 : flag = 1
    · subst f1
      simp only [show ((1 : Nat) == 0) = false from rfl, show ((1 : Nat) == 2) = false from rfl, beq_self_eq_true,
        if_true, if_false, Bool.false_eq_true]
      generalize max alpha score = a'
      by_cases hge : a' ≥ beta <;> simp [hge]
    · by_cases f2 : flag = 2
      · subst f2
        simp only [show ((2 : Nat) == 0) = false from rfl, show ((2 : Nat) == 1) = false from rfl, beq_self_eq_true,
          if_true, if_false, Bool.false_eq_true]
        generalize min beta score = b'
        by_cases hge : alpha ≥ b' <;> simp [hge]
      · have h0 : (flag == 0) = false := by simpa using f0
        have h1 : (flag == 1) = false := by simpa using f1
        have h2 : (flag == 2) = false := by simpa using f2
        simp only [h0, h1, h2, if_false, Bool.false_eq_true]
        by_cases hge : alpha ≥ beta <;> simp [hge]

theorem agree_negamax (lim : Limit) : ∀ (fuel : Nat) (p : Position), OrderOkN fuel p →
    ∀ (st : SState) (alpha beta ply depth : Int) (canNull : Bool),
      R.negamax (fun s => some (shouldStop lim s)) fuel p st alpha beta ply depth canNull =
        negamax lim fuel p st alpha beta ply depth canNull := by
  intro fuel
  induction fuel with
  | zero => intro p _ st a b ply d cn; rfl
  | succ fuel ih =>
    intro p hok st alpha beta ply depth canNull
    unfold R.negamax negamax
    rw [agree_in_check, agree_eval, agree_legal_moves, agree_after_null, agree_is_endgame]
    simp only [Table.agree_tt_poll, Table.agree_tt_add]
    cases hpoll : Table.poll st.tt p.hash.toNat with
    | none => rfl
    | some tte =>
      simp only
      -- name the two cut-off expressions and relate them by `cut_rel`
      generalize hR : (if (tte.hash == p.hash) = true then _ else _ : Option Int × Option Mv × Int × Int) = cr
      generalize hM : (if (_ && _) = true then _ else _ : Option Int × Int × Int) = cm
      have hcut := cut_rel (tte.hash == p.hash) (decide (tte.depth ≥ if p.inCheck = true then depth + 1 else depth))
        (!ply == 0) (!beta != alpha + 1) tte.flag tte.score alpha beta tte.mv
      rw [show cutR _ _ _ _ _ _ _ = cr from hR, show cutM _ _ _ _ _ = cm from hM] at hcut
      obtain ⟨e, tm, a, b⟩ := cr
      obtain ⟨v, a', b'⟩ := cm
      obtain ⟨rfl, rfl, rfl, rfl⟩ := hcut
      cases e with
      | some e => rfl
      | none =>
          simp only
          have hsort := fun tt => agree_nm_sort p (legalMoves p) tt hok.1
          simp only [repCount, Gen.DRAW_SCORE, Gen.INF, Gen.MATE_SCORE, hsort, agree_qsearch qFuel p hok.2.1, ← apply_ite some]
          generalize hd : (if p.inCheck = true then depth + 1 else depth) = d2
          -- from here on both sides make the same tests in the same order
          refine ite_congr rfl (fun _ => ?_) fun _ => ?_
          · generalize qsearch qFuel p _ a b ply = qr
            rcases qr with _ | ⟨r, q⟩ <;> rfl
          generalize (if (!(ply == 0 && decide (st.depth ≤ 1))) = true then shouldStop lim _ else _) = X
          rcases X with ⟨stop, st1⟩
          simp only
          refine ite_congr rfl (fun _ => rfl) fun _ => ?_
          refine ite_congr rfl (fun _ => rfl) fun _ => ?_
          refine ite_congr rfl (fun _ => rfl) fun _ => ?_
          -- the null move is tried only out of check, where the subtree of `p.makenull` is `OrderOkN`
          generalize hnR : (if (!ply == 0 && canNull && decide (d2 > 2) && !p.inCheck && !isEndgame p) = true then _ else some (none, st1)) = nullR
          generalize hnM : (if (!ply == 0 && canNull && decide (d2 > 2) && !p.inCheck && !isEndgame p) = true then _ else some (none, st1)) = nullM
          have hnull : nullR = nullM := by
            rw [← hnR, ← hnM]
            refine ite_congr rfl (fun hc => ?_) fun _ => rfl
            simp only [Bool.and_eq_true, Bool.not_eq_true'] at hc
            rw [ih p.makenull (hok.2.2.2 hc.1.2)]
            rfl
          subst hnull
          rcases nullR with _ | ⟨_ | e, st2⟩
          · rfl
          · simp only
            cases hsm : sortNm p (legalMoves p) (if (tte.hash == p.hash) = true then some tte.mv else none) with
            | none => rfl
            | some moves =>
              simp only
              have hperm := sortNm_perm p _ _ _ hsm
              rw [← nmloop_eq (R.negamax (fun s => some (shouldStop lim s)) fuel) (negamax lim fuel) p b ply d2 p.inCheck moves
                (fun m hm np hk => by
                  funext s a1 b1 pl dd cn
                  exact ih np (hok.2.2.1 m (hperm.mem_iff.mp hm) np hk) s a1 b1 pl dd cn) 0 _ (-10000000) none a]
              generalize R.negamax_loop1 _ _ _ _ _ _ _ _ _ _ _ = lr
              rcases lr with _ | ⟨st3, best, bm, a1⟩
              · rfl
              · cases bm with
                | none => simp only [Option.map, Option.isNone, ↓reduceIte]; cases p.inCheck <;> rfl
                | some u =>
                  simp only [Option.map, Option.isNone, Bool.false_eq_true, ↓reduceIte]
                  generalize st3.tt.add _ _ = r
                  cases r <;> rfl
          · rfl

end Rawr

#print axioms Rawr.agree_is_endgame
#print axioms Rawr.agree_negamax
