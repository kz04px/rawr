import Rawr.Proofs.FenSound
import Rawr.Proofs.FenRound
import Rawr.Props.C08d
/-! # `StructurallyValid` against `Spec.Valid`, and what `set_fen` guarantees about the castle files and the `frc` flag

`StructurallyValid p` and `Spec.Valid (abs p)` differ in how they say that the side not to move is not in check; C08d
(`C08d_inCheckThem`, which needs only board consistency and the king counts) converts the one into the other, the rest is
`VB.valid_iff`.

`Position::default()` has castle files 7, 0, 7, 0. The castling loop writes a file only together with its
right (and never clears a right), every written file is `< 8` (`castleLetter_spec`), the board loop and the
remaining stages do not touch these fields, and the final flip swaps the two sides' fields. Hence in every
accepted position each file is either that of a present right (`< 8`) or the default of an absent one:
the position is a fixed point of `FenC.normCf`. The `frc` flag is the one passed in. -/
namespace Rawr.FenValid
open Rawr.FenS Rawr.FenC

/-- the attack clause of `StructurallyValid` and that of `Spec.Valid`, given the king counts. -/
theorem notInCheck_iff {p : Position} (hC : Consistent p = true) (hk : ∀ them, count (p.side them &&& p.p5) = 1) :
    p.isSqAttacked (lsb (p.c1 &&& p.p5)) false = false ↔ Spec.inCheck (abs p).board p.black = false := by
  rw [← C08d_inCheckThem p hC (by rw [BitVec.and_comm]; exact Nat.le_of_eq (hk false))
    (by rw [BitVec.and_comm]; exact hk true)]
  unfold Position.inCheckThem
  rw [BitVec.and_comm]

theorem spec_valid_of_structural {p : Position} (h : StructurallyValid p) : Spec.Valid (abs p) = true :=
  (VB.valid_iff h.consistent).mpr
    ⟨bitValid_of_structural h, (notInCheck_iff h.consistent (bitValid_of_structural h).kings).mp h.notInCheck⟩

/-- every castle file belongs to a present right and is `< 8`, or is the default (7, 0, 7, 0). -/
def CfNorm (p : Position) : Prop :=
  (if p.usK = true then p.cf0 < 8 else p.cf0 = 7) ∧ (if p.usQ = true then p.cf1 < 8 else p.cf1 = 0) ∧
  (if p.themK = true then p.cf2 < 8 else p.cf2 = 7) ∧ (if p.themQ = true then p.cf3 < 8 else p.cf3 = 0)

theorem cfNorm_lt {p : Position} (h : CfNorm p) : p.cf0 < 8 ∧ p.cf1 < 8 ∧ p.cf2 < 8 ∧ p.cf3 < 8 := by
  obtain ⟨a, b, c, d⟩ := h
  refine ⟨?_, ?_, ?_, ?_⟩
  · split at a <;> omega
  · split at b <;> omega
  · split at c <;> omega
  · split at d <;> omega

/-- a file that is the default whenever its right is absent is what `normCf` writes. -/
theorem cf_fix {b : Bool} {x d : Nat} (h : if b = true then x < 8 else x = d) : (if b = true then x else d) = x := by
  cases b
  · exact h.symm
  · rfl

theorem cfNorm_normCf {p : Position} (h : CfNorm p) : normCf p = p := by
  obtain ⟨a, b, c, d⟩ := h
  unfold normCf
  rw [cf_fix a, cf_fix b, cf_fix c, cf_fix d]

theorem cfNorm_setRight {p : Position} {c : Char} {black ks : Bool} {file : Nat}
    (hl : castleLetter p c = some (some (black, file, ks))) (hp : CfNorm p) :
    CfNorm (setRight p black ks file) := by
  have h8 : ∀ d : Nat, (if (true : Bool) = true then file < 8 else file = d) := fun d => by
    rw [if_pos rfl]; exact (castleLetter_spec hl).1
  obtain ⟨i1, i2, i3, i4⟩ := hp
  cases black <;> cases ks
  · exact ⟨i1, h8 0, i3, i4⟩
  · exact ⟨h8 7, i2, i3, i4⟩
  · exact ⟨i1, i2, i3, h8 0⟩
  · exact ⟨i1, i2, h8 7, i4⟩

theorem fenCastlePart_cfNorm {part : Option (List Char)} {p q : Position}
    (h : fenCastlePart part p = some q) (hp : CfNorm p) : CfNorm q ∧ q.frc = p.frc :=
  fenCastlePart_inv (fun q => CfNorm q ∧ q.frc = p.frc)
    (fun r _ black file ks hl hr =>
      ⟨cfNorm_setRight hl hr.1, (congrArg Position.frc (clearCastle_setRight r black ks file)).trans hr.2⟩)
    h ⟨hp, rfl⟩

theorem setFenCore_cfNorm {ar frc s r} (h : setFenCore ar frc s = some r) : CfNorm r ∧ r.frc = frc := by
  obtain ⟨pb, sidePart, flip, pc, epPart, ep, hmPart, hm, fmPart, fm, hb, _, _, _, _, hc, _, _, _, _, _,
    _, _, _, _, hfin⟩ := setFenCore_some h
  have hfrb := fenBoard_frame hb
  -- `CfNorm` and `frc` read none of the boards, and the rest of `pb` is that of the initial position
  have hnb : CfNorm (clearBoards pb) ∧ (clearBoards pb).frc = frc := by
    rw [hfrb]
    exact ⟨⟨rfl, rfl, rfl, rfl⟩, rfl⟩
  obtain ⟨⟨i1, i2, i3, i4⟩, hfc⟩ := fenCastlePart_cfNorm hc hnb.1
  obtain ⟨hr, _⟩ := fenFinish_some hfin
  cases flip
  · rw [hr]; exact ⟨⟨i1, i2, i3, i4⟩, hfc.trans hnb.2⟩
  · rw [hr]; exact ⟨⟨i3, i4, i1, i2⟩, hfc.trans hnb.2⟩

theorem setFen_cfNorm {ar frc s r} (h : setFen ar frc s = some r) : CfNorm r ∧ r.frc = frc := by
  unfold setFen at h
  split at h <;> exact setFenCore_cfNorm h

end Rawr.FenValid
