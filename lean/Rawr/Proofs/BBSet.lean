import Rawr.Model.Basic
import Rawr.Spec.Walk
import Rawr.Proofs.Bits
/-!
# Bitboards as sets of squares: `setBB`, single bits, and maps that distribute over `|||`

Used by C10 (leaper sets, ray fills).
-/
namespace Rawr
open Spec

theorem setBB_nil : setBB [] = 0#64 := rfl
theorem setBB_cons (t : Nat) (l : List Nat) : setBB (t :: l) = bit t ||| setBB l := rfl

theorem getLsbD_setBB (l : List Nat) (t : Nat) :
    (setBB l).getLsbD t = (decide (t < 64) && l.contains t) := by
  induction l with
  | nil => simp [setBB]
  | cons x xs ih =>
    rw [setBB_cons, BitVec.getLsbD_or, ih, getLsbD_bit, List.contains_cons]
    by_cases h1 : t < 64
    · by_cases h2 : t = x
      · subst h2; simp [h1]
      · simp [h1, h2]
    · simp [h1]

theorem setBB_append (a b : List Nat) : setBB (a ++ b) = setBB a ||| setBB b := by
  induction a with
  | nil => simp [setBB]
  | cons t ts ih =>
    rw [List.cons_append, setBB_cons, ih, setBB_cons, BitVec.or_assoc]

theorem getLsbD_walkBB (dirs : List (Int × Int)) (s : Nat) (occ : BB) (t : Nat) :
    (walkBB dirs s occ).getLsbD t = (decide (t < 64) && walkSet4 dirs s occ.getLsbD t) := by
  unfold walkBB walkSet4 walkList
  rw [getLsbD_setBB]
  congr 1
  induction dirs with
  | nil => rfl
  | cons d ds ih =>
    simp only [List.contains_eq_mem] at ih
    simp only [List.flatMap_cons, List.any_cons, List.contains_eq_mem, List.mem_append,
      Bool.decide_or, ih]

/-- `F` distributes over unions, as shifts and masks do. -/
def Linear (F : BB → BB) : Prop := F 0#64 = 0#64 ∧ ∀ a b, F (a ||| b) = F a ||| F b

theorem Linear.id : Linear (fun b => b) := ⟨rfl, fun _ _ => rfl⟩
theorem Linear.comp {F G : BB → BB} (hF : Linear F) (hG : Linear G) : Linear (fun b => F (G b)) :=
  ⟨by simp only [hG.1, hF.1], fun a b => by simp only [hG.2, hF.2]⟩
theorem Linear.or {F G : BB → BB} (hF : Linear F) (hG : Linear G) : Linear (fun b => F b ||| G b) :=
  ⟨by simp only [hG.1, hF.1, BitVec.or_zero], fun a b => by
    simp only [hG.2, hF.2]; ext i; simp only [BitVec.getElem_or]; cases (F a)[i] <;> cases (G a)[i] <;>
      cases (F b)[i] <;> cases (G b)[i] <;> rfl⟩
theorem Linear.shl (n : Nat) : Linear (fun b => b <<< n) :=
  ⟨by simp, fun a b => BitVec.shiftLeft_or_distrib a b n⟩
theorem Linear.shr (n : Nat) : Linear (fun b => b >>> n) :=
  ⟨by simp, fun a b => BitVec.ushiftRight_or_distrib a b n⟩
theorem Linear.and (m : BB) : Linear (fun b => b &&& m) :=
  ⟨by simp, fun _ _ => BitVec.and_or_distrib_right⟩

theorem linear_north : Linear north := Linear.shl 8
theorem linear_south : Linear south := Linear.shr 8
theorem Linear.shl_and (n : Nat) (m : BB) : Linear (fun b => (b <<< n) &&& m) :=
  Linear.comp (F := fun b => b &&& m) (G := fun b => b <<< n) (Linear.and m) (Linear.shl n)
theorem Linear.shr_and (n : Nat) (m : BB) : Linear (fun b => (b >>> n) &&& m) :=
  Linear.comp (F := fun b => b &&& m) (G := fun b => b >>> n) (Linear.and m) (Linear.shr n)
theorem linear_east : Linear east := Linear.shl_and 1 notAFile
theorem linear_west : Linear west := Linear.shr_and 1 notHFile
theorem linear_northEast : Linear northEast := Linear.shl_and 9 notAFile
theorem linear_northWest : Linear northWest := Linear.shl_and 7 notHFile
theorem linear_southEast : Linear southEast := Linear.shr_and 7 notAFile
theorem linear_southWest : Linear southWest := Linear.shr_and 9 notHFile

def orList (l : List BB) : BB := l.foldr (· ||| ·) 0#64

theorem orList_cons (x : BB) (l : List BB) : orList (x :: l) = x ||| orList l := rfl

theorem getLsbD_orList (l : List BB) (t : Nat) : (orList l).getLsbD t = l.any (·.getLsbD t) := by
  induction l with
  | nil => simp [orList]
  | cons x xs ih =>
    rw [orList_cons, BitVec.getLsbD_or, ih, List.any_cons]

theorem Linear.orList {F : BB → BB} (hF : Linear F) (l : List BB) :
    F (Rawr.orList l) = Rawr.orList (l.map F) := by
  induction l with
  | nil => exact hF.1
  | cons x xs ih =>
    rw [orList_cons, hF.2, ih]; rfl

theorem eq_orList_bits (b : BB) :
    b = orList ((List.range 64).map fun s => if b.getLsbD s then bit s else 0#64) := by
  apply BitVec.eq_of_getLsbD_eq
  intro i hi
  rw [getLsbD_orList, List.any_map]
  cases hb : b.getLsbD i
  · symm
    rw [List.any_eq_false]
    intro s _
    simp only [Function.comp]
    split
    · rename_i hs
      rw [getLsbD_bit]
      have : i ≠ s := by intro h; subst h; simp [hb] at hs
      simp [this]
    · simp
  · symm
    rw [List.any_eq_true]
    refine ⟨i, List.mem_range.mpr hi, ?_⟩
    simp only [Function.comp, hb, if_true, getLsbD_bit, hi, decide_true, Bool.and_self]

/-- A map distributing over unions is determined by its values on single squares:
`t ∈ F b ↔ ∃ s ∈ b, t ∈ F {s}`. -/
theorem Linear.getLsbD {F : BB → BB} (hF : Linear F) (b : BB) (t : Nat) :
    (F b).getLsbD t = (List.range 64).any fun s => b.getLsbD s && (F (bit s)).getLsbD t := by
  conv => lhs; rw [eq_orList_bits b]
  rw [hF.orList, getLsbD_orList, List.map_map, List.any_map]
  congr 1
  funext s
  simp only [Function.comp]
  cases b.getLsbD s
  · simp [hF.1]
  · simp

theorem Linear.eq_orList {F : BB → BB} (hF : Linear F) (b : BB) :
    F b = Rawr.orList (((List.range 64).filter b.getLsbD).map fun s => F (bit s)) := by
  apply BitVec.eq_of_getLsbD_eq
  intro t _
  rw [hF.getLsbD, getLsbD_orList, List.any_map, List.any_filter]
  rfl

end Rawr
