import Rawr.Props.C02_domain
import Rawr.Props.C08
import Rawr.Props.C08c
import Rawr.Props.C08d
import Rawr.Proofs.BridgePerft
import Rawr.Proofs.TerminationCore
import Rawr.Proofs.TerminationSpec
import Rawr.Proofs.EvalDomain
/-! Termination: the engine model against the potential of `TerminationSpec` and the number of men.

`menP p` / `potP p` are the number of men and the potential of the position denoted by `p`. One ply of the model
(`move_step`: a generated move that is legal by the rules, made with key update; `capt_step`: a generated
capture made without key update, as quiescence does; `null_step`) keeps the position in the domain `ValidPos`
(`ValidH` of `Proofs/BridgePerft.lean` = up to the stored key, which quiescence leaves stale); a move changes `potP`
as `apply_potential` says, a capture (`is_capture` is "capture" by the rules on generated moves, `C08c_isCapture`) removes a man.
`CaptDom D` / `ChessDom D` say that a set `D` of positions is closed under these plies; at the end of the file they are
shown for `D = E ∧ M`, up to the one open hypothesis `MovesFit`. -/
namespace Rawr.Term
open Rawr.MM Rawr.SV

def menP (p : Position) : Nat := SpecS.menCount (abs p).board
/-- men plus remaining pawn advancement. -/
def potP (p : Position) : Nat := pot (abs p).board

theorem menP_le (p : Position) : menP p ≤ 64 := SpecS.menCount_le _
theorem potP_le (p : Position) : potP p ≤ 512 := pot_le _

theorem menP_pos {p : Position} (h : ValidH p) : 1 ≤ menP p := by
  obtain ⟨k, hk, hb, _⟩ := ((valid_iff (abs p)).mp (validPos_parts h).spec).kw
  exact SpecS.menCount_pos hk hb

theorem halfmoves_nonneg {p : Position} (h : ValidH p) : 0 ≤ p.halfmoves :=
  ((valid_iff (abs p)).mp (validPos_parts h).spec).half

theorem move_step {q : Position} {m : Mv} (hV : ValidPos q = true) (hm : m ∈ legalMoves q)
    (hL : decodeMove q m ∈ Spec.legalMoves (abs q))
    (hh : q.halfmoves + 1 < 2147483648) (hf : q.fullmoves + 1 < 2147483648) :
    ∃ q', q.makemove m true = some q' ∧ ValidPos q' = true ∧
      q'.halfmoves ≤ q.halfmoves + 1 ∧ q'.fullmoves ≤ q.fullmoves + 1 ∧
      (potP q' < potP q ∨ (potP q' ≤ potP q ∧ q'.halfmoves = q.halfmoves + 1)) := by
  obtain ⟨q', hq, hV', he, b1, b2⟩ := Br.step_of_legal hV hm hL hh hf
  have p3 := apply_potential (validPos_parts hV).spec hL
  rw [← he] at p3
  exact ⟨q', hq, hV', b1, b2, p3⟩

/-- move generation does not read the stored key, so validity up to the key will do. -/
theorem mem_captures {q : Position} {m : Mv} (hV : ValidH q) (hm : m ∈ legalCaptures q) :
    m ∈ legalMoves q ∧ q.isCapture m = true := by
  obtain ⟨h1, h2, h3, h4, h5, _⟩ := (consistent_parts (validPos_parts hV).consistent).2.1
  rw [C08b_captures_filter q ⟨h1, h2, h3, h4, h5⟩, List.mem_filter] at hm
  exact hm

theorem capt_step {q : Position} {m : Mv} (hV : ValidH q) (hm : m ∈ legalCaptures q)
    (hL : decodeMove q m ∈ Spec.legalMoves (abs q))
    (hh : q.halfmoves + 1 < 2147483648) (hf : q.fullmoves + 1 < 2147483648) :
    ∃ q', q.makemove m false = some q' ∧ ValidH q' ∧
      q'.halfmoves ≤ q.halfmoves + 1 ∧ q'.fullmoves ≤ q.fullmoves + 1 ∧ menP q' < menP q := by
  obtain ⟨hmm, hcap⟩ := mem_captures hV hm
  obtain ⟨q', hq', hV', he, b1, b2⟩ := Br.step_nohash_of_legal hV hmm hL hh hf
  have hc : Spec.isCaptureMove (abs q) (decodeMove q m) = true := (C08c_isCapture (fixHash q) hV m hmm).symm.trans hcap
  have p2 := SpecS.men_apply (a := abs q) (validPos_parts hV).spec hL
  rw [← he, hc, if_pos rfl] at p2
  exact ⟨q', hq', hV', b1, b2, by unfold menP; omega⟩

theorem null_step {q : Position} (hV : ValidPos q = true) (hc : q.inCheck = false) :
    ValidPos q.makenull = true ∧ q.makenull.halfmoves = 0 ∧ q.makenull.fullmoves = q.fullmoves ∧
      potP q.makenull = potP q := by
  have hc' : Spec.inCheck (abs q).board (abs q).whiteToMove = false :=
    (C08d_inCheck_valid q hV).symm.trans hc
  obtain ⟨hVn, h1, h2⟩ := validPos_null hV hc'
  refine ⟨hVn, h1, h2, ?_⟩
  unfold potP
  rw [abs_makenull hV]
  rfl

/-- hypotheses on a set `D` of positions closed under the captures quiescence makes: the capture lists fit
the ordering buffer, and every generated capture is legal by the rules (C01). All three only for positions that
are in the domain V up to the stored key. -/
structure CaptDom (D : Position → Prop) : Prop where
  capt : ∀ q m q', D q → ValidH q → m ∈ legalCaptures q → q.makemove m false = some q' → D q'
  fit : ∀ q, D q → ValidH q → (legalCaptures q).length ≤ Gen.orderBufQsearch
  legal : ∀ q, D q → ValidH q → ∀ m ∈ legalCaptures q, decodeMove q m ∈ Spec.legalMoves (abs q)

/-- the invariant of a quiescence line: both counters (`i32` in position.rs, bounded by `2^31` in `ValidPos`) have room
for one step per man still on the board; every capture removes a man, so the room lasts to the end of the line. -/
def QInv (D : Position → Prop) (q : Position) : Prop :=
  D q ∧ ValidH q ∧ q.halfmoves + menP q < 2147483648 ∧ q.fullmoves + menP q < 2147483648

theorem captDom_qdom {D : Position → Prop} (hD : CaptDom D) : QDomT (QInv D) (fun q => menP q - 1) := by
  constructor
  · intro q hq
    exact hD.fit q hq.1 hq.2.1
  · intro q m hq hm
    obtain ⟨hDq, hV, hh, hf⟩ := hq
    have hpos := menP_pos hV
    obtain ⟨q', hmk, hV', b1, b2, hlt⟩ := capt_step hV hm (hD.legal q hDq hV m hm) (by omega) (by omega)
    have hpos' := menP_pos hV'
    exact ⟨q', hmk, ⟨hD.capt q m q' hDq hV hm hmk, hV', by omega, by omega⟩, by omega⟩

theorem qinv_of_valid {D : Position → Prop} {p : Position} (hp : D p) (hV : ValidH p)
    (hh : p.halfmoves + 64 < 2147483648) (hf : p.fullmoves + 64 < 2147483648) : QInv D p := by
  have := menP_le p
  exact ⟨hp, hV, by omega, by omega⟩

theorem qsearch_total_chess {D : Position → Prop} (hD : CaptDom D) {p : Position} (hp : D p) (hV : ValidH p)
    (hh : p.halfmoves + 64 < 2147483648) (hf : p.fullmoves + 64 < 2147483648)
    (f : Nat) (hfuel : menP p ≤ f) (st : QState) (α β ply : Int) :
    ∃ r, qsearch f p st α β ply = some r := by
  have := menP_pos hV
  exact qsearch_total (captDom_qdom hD) f p (qinv_of_valid hp hV hh hf) (by show menP p - 1 < f; omega) st α β ply

theorem qminimax_total_chess {D : Position → Prop} (hD : CaptDom D) {p : Position} (hp : D p) (hV : ValidH p)
    (hh : p.halfmoves + 64 < 2147483648) (hf : p.fullmoves + 64 < 2147483648)
    (f : Nat) (hfuel : menP p ≤ f) : ∃ v, qminimax f p = some v := by
  have := menP_pos hV
  exact qminimax_total (captDom_qdom hD) f p (qinv_of_valid hp hV hh hf) (by show menP p - 1 < f; omega)

/-- hypotheses on a set `D` of positions closed under the three kinds of ply the search makes: the move lists
fit the ordering buffer, and every generated move is legal by the rules (C01). All clauses only for positions
that are in the domain V (up to the stored key where quiescence is concerned); the null move only where the
model tries one (not in check, not `isEndgame`). -/
structure ChessDom (D : Position → Prop) : Prop where
  move : ∀ q m q', D q → ValidPos q = true → m ∈ legalMoves q → q.makemove m true = some q' → D q'
  capt : ∀ q m q', D q → ValidH q → m ∈ legalCaptures q → q.makemove m false = some q' → D q'
  null : ∀ q, D q → ValidPos q = true → q.inCheck = false → isEndgame q = false → D q.makenull
  fit : ∀ q, D q → ValidH q → (legalMoves q).length ≤ Gen.orderBufNegamax
  legal : ∀ q, D q → ValidH q → ∀ m ∈ legalMoves q, decodeMove q m ∈ Spec.legalMoves (abs q)

/-- the captures are among the moves, and the ordering buffer of quiescence is no smaller than that of `negamax`. -/
theorem captures_fit {q : Position} (h : (legalMoves q).length ≤ Gen.orderBufNegamax) :
    (legalCaptures q).length ≤ Gen.orderBufQsearch :=
  Nat.le_trans (Nat.le_trans (C08b_captures_length_le q) h) (by decide)

theorem ChessDom.captDom {D : Position → Prop} (hD : ChessDom D) : CaptDom D :=
  ⟨hD.capt, fun q hq hV => captures_fit (hD.fit q hq hV),
   fun q hq hV m hm => hD.legal q hq hV m (mem_captures hV hm).1⟩

/-- the invariant of the search tree, with `n` plies of counter budget left. -/
def NInv (D : Position → Prop) (n : Nat) (q : Position) : Prop :=
  D q ∧ ValidPos q = true ∧ q.halfmoves + n + 64 < 2147483648 ∧ q.fullmoves + n + 64 < 2147483648

theorem chessDom_ndom {D : Position → Prop} (hD : ChessDom D) : NDomT (NInv D) potP := by
  constructor
  · intro n q hq
    exact hD.fit q hq.1 (validH_of_valid hq.2.1)
  · intro n q hq st α β ply
    obtain ⟨hDq, hV, hh, hf⟩ := hq
    have h0 := halfmoves_nonneg (validH_of_valid hV)
    exact qsearch_total_chess hD.captDom hDq (validH_of_valid hV) (by omega) (by omega) qFuel (menP_le q) _ _ _ _
  · intro n q hq
    exact halfmoves_nonneg (validH_of_valid hq.2.1)
  · intro n q m hq hm
    obtain ⟨hDq, hV, hh, hf⟩ := hq
    obtain ⟨q', hmk, hV', b1, b2, hpot⟩ :=
      move_step hV hm (hD.legal q hDq (validH_of_valid hV) m hm) (by omega) (by omega)
    exact ⟨q', hmk, ⟨hD.move q m q' hDq hV hm hmk, hV', by omega, by omega⟩, hpot⟩
  · intro n q hq hc he
    obtain ⟨hDq, hV, hh, hf⟩ := hq
    obtain ⟨hVn, h1, h2, h3⟩ := null_step hV hc
    have h0 := halfmoves_nonneg (validH_of_valid hV)
    exact ⟨⟨hD.null q hDq hV hc he, hVn, by omega, by omega⟩, by omega⟩

/-! The number of men of the denoted position is the population count of the occupancy board (`menP_eq_count`), so the fuel
bounds can be read on the engine representation. -/

theorem menP_eq_count {p : Position} (hC : Consistent p = true) : menP p = count p.occ := by
  apply countPieces_abs
  intro s hs
  have h := absBoard_none_iff hC hs
  cases hb : absBoard p (absSq p.black s) with
  | none => exact h.mp hb
  | some pc =>
    cases ho : p.occ.getLsbD s
    · rw [h.mpr ho] at hb
      cases hb
    · rfl

/-! The domain `D = V ∧ E ∧ M` of DESIGN.md §4 is closed in the sense of `ChessDom` (`chessDom_EM`): the bridge C01
(`C01_sound`) and the closure of E and M (`E_of_legal`, `M_of_legal`, `Props/C02_domain.lean`) discharge every clause
but `fit`, the bound of 218 on the number of legal moves (`MovesFit`). -/

/-- E ∧ M of the denoted position (V is carried by the search theorems themselves). -/
def EM (q : Position) : Prop := Spec.EpConsistent (abs q) = true ∧ Spec.LegalMaterial (abs q) = true

/-- **the one hypothesis left**: a position of `D = V ∧ E ∧ M` (stored key aside) has at most 218 legal moves —
the size of the ordering buffers of negamax.rs / qsearch.rs. (A fact about chess: 218 is the known maximum
over positions with legal material; it is not proved here.) -/
def MovesFit : Prop := ∀ q, ValidH q → EM q → (legalMoves q).length ≤ Gen.orderBufNegamax

/-- the same for captures only (what quiescence needs). -/
def CapturesFit : Prop := ∀ q, ValidH q → EM q → (legalCaptures q).length ≤ Gen.orderBufQsearch

theorem MovesFit.captures (h : MovesFit) : CapturesFit :=
  fun q hV hEM => captures_fit (h q hV hEM)

theorem em_move {q : Position} {m : Mv} {q' : Position} {u : Bool} (hEM : EM q) (hV : ValidPos q = true)
    (hm : m ∈ legalMoves q) (hmk : q.makemove m u = some q') : EM q' := by
  have hs := gen_moveShape q hV m hm
  have hL := (C01_sound q hV hEM.1 m hm).1
  exact ⟨E_of_legal q m q' u hV hs hL hmk, M_of_legal q m q' u hV hEM.2 hs hL hmk⟩

theorem em_capt {q : Position} {m : Mv} {q' : Position} (hEM : EM q) (hV : ValidH q)
    (hm : m ∈ legalCaptures q) (hmk : q.makemove m false = some q') : EM q' := by
  have hmm := (mem_captures hV hm).1
  -- the run with key update from the recomputed key differs from `hmk` in the stored key only
  obtain ⟨q1, hq1⟩ := C02_makemove_total (fixHash q) m hV (gen_moveShape _ hV m hmm)
  have e : q.makemove m false = some (wh q1 q.hash) := makemove_false_of_true hq1 q.hash
  rw [hmk] at e
  cases e
  exact em_move (q := fixHash q) (q' := q1) hEM hV hmm hq1

theorem em_null {q : Position} (hEM : EM q) (hV : ValidPos q = true) : EM q.makenull := by
  unfold EM
  rw [abs_makenull hV]
  exact ⟨rfl, hEM.2⟩

theorem chessDom_EM (hfit : MovesFit) : ChessDom EM :=
  ⟨fun _ _ _ hEM hV hm hmk => em_move hEM hV hm hmk,
   fun _ _ _ hEM hV hm hmk => em_capt hEM hV hm hmk,
   fun _ hEM hV _ _ => em_null hEM hV,
   fun q hEM hV => hfit q hV hEM,
   fun q hEM hV m hm => (C01_sound (fixHash q) hV hEM.1 m hm).1⟩

theorem captDom_EM (hfit : CapturesFit) : CaptDom EM :=
  ⟨fun _ _ _ hEM hV hm hmk => em_capt hEM hV hm hmk,
   fun q hEM hV => hfit q hV hEM,
   fun q hEM hV m hm => (C01_sound (fixHash q) hV hEM.1 m (mem_captures hV hm).1).1⟩

theorem em_of_inD {p : Position} (h : InD p = true) : ValidPos p = true ∧ EM p := by
  obtain ⟨hV, hE, hM⟩ := (inD_iff p).mp h
  exact ⟨hV, hE, hM⟩

end Rawr.Term
