import Rawr.Proofs.RustSessionAgree_Words
import Rawr.Proofs.RustSearchAgree_Root
/-!
# uci/go.rs `info_printer` regenerated from the Rust source agrees with the model's `infoLine`, modulo the
canonicalisation of the clock-dependent words (`time <t>`, `nps <n>`)
-/
namespace Rawr.Sess

/-- the printed form of a record of the search driver: every field but `mate` (absent) and `hashfull` (optional) present, `hashfull`
not negative, the moves of the principal variation between on-board squares (`Square::fmt` panics otherwise). -/
structure InfoOk (i : R.Info) : Prop where
  depth : i.depth.isSome = true
  seldepth : i.seldepth.isSome = true
  score : i.score.isSome = true
  nodes : i.nodes.isSome = true
  mate : i.mate = none
  elapsed : i.elapsed.isSome = true
  hashfull : ∀ h, i.hashfull = some h → 0 ≤ h
  pv : ∀ m ∈ i.pv, m.src < 64 ∧ m.dst < 64

theorem info_printer_loop1_eq (info : R.Info) (pv : List Mv) (out : List Char) (h : ∀ m ∈ pv, m.src < 64 ∧ m.dst < 64) :
    R.info_printer_loop1 info pv out = some (out ++ tailSp (pv.map (toUciChars info.pos))) := by
  rw [tailSp, List.flatMap_map]
  refine forIn_append pv (fun m hm f => ?_) out
  simp [R.info_printer_loop1_step, agree_to_uci m info.pos (h m hm).1 (h m hm).2, T.chars, String.toList_append]

def wSeldepth : List Char := ['s', 'e', 'l', 'd', 'e', 'p', 't', 'h']
def wScore : List Char := ['s', 'c', 'o', 'r', 'e']
def wCp : List Char := ['c', 'p']
def wNodes : List Char := ['n', 'o', 'd', 'e', 's']
def wHashfull : List Char := ['h', 'a', 's', 'h', 'f', 'u', 'l', 'l']
def wPv : List Char := ['p', 'v']

/-- the words of an `info` line between `depth` and `time`. -/
def infoHead (d sd sc : Int) (n : Nat) : List (List Char) :=
  [(toString d).toList, wSeldepth, (toString sd).toList, wScore, wCp, (toString sc).toList, wNodes, (toString n).toList]

/-- the words of an `info` line after the clock-dependent ones. -/
def infoTail (p : Position) (hf : Option Int) (pv : List Mv) : List (List Char) :=
  (match hf with | some h => [wHashfull, (toString h).toList] | none => []) ++
  (if pv.isEmpty then [] else wPv :: pv.map (toUciChars p))

/-- the `nps` value `info_printer` prints. -/
def infoNps (n t : Nat) : Option (List Char) := if t > 0 then some (toString (n * 1000 / t)).toList else none

/-- the line `info_printer` prints, as words. -/
def infoWords (p : Position) (d sd sc : Int) (n t : Nat) (hf : Option Int) (pv : List Mv) : List (List Char) :=
  wInfo :: wDepth :: (infoHead d sd sc n ++ wTime :: (toString t).toList :: (npsWords (infoNps n t) ++ infoTail p hf pv))

theorem infoWords_split (h : List (List Char)) (t : List Char) (ws : List (List Char)) :
    joinSp (wInfo :: wDepth :: (h ++ wTime :: t :: ws)) = joinSp (wInfo :: (wDepth :: h ++ [wTime, t])) ++ tailSp ws := by
  rw [← joinSp_append]
  simp only [List.cons_append, List.append_assoc, List.nil_append]

theorem info_printer_eq (p : Position) (d sd sc : Int) (n t : Nat) (hf : Option Int) (pv : List Mv)
    (hpv : ∀ m ∈ pv, m.src < 64 ∧ m.dst < 64) :
    R.info_printer ⟨p, some d, some sd, some n, some sc, none, some t, hf, pv⟩ =
      some (joinSp (infoWords p d sd sc n t hf pv) ++ ['\n']) := by
  -- the text up to the time is the same in all eight cases of the optional parts: it is turned into words once
  have hP : [] ++ "info".toList ++ (" depth ".toList ++ (toString d).toList) ++ (" seldepth ".toList ++ (toString sd).toList) ++
      (" score cp ".toList ++ (toString sc).toList) ++ (" nodes ".toList ++ (toString n).toList) ++
      (" time ".toList ++ (toString t).toList) =
        joinSp (wInfo :: (wDepth :: infoHead d sd sc n ++ [wTime, (toString t).toList])) := by
    rw [joinSp_eq]
    simp only [infoHead, wInfo, wDepth, wSeldepth, wScore, wCp, wNodes, wTime, tailSp_cons, tailSp_nil, String.reduceToList,
      List.cons_append, List.nil_append, List.append_assoc, List.append_nil]
  unfold R.info_printer infoWords
  simp only [bind, pure, Option.bind_some, T.chars, T.line, String.toList_append, info_printer_loop1_eq _ _ _ hpv, hP,
    infoWords_split, tailSp_append]
  generalize joinSp (wInfo :: (wDepth :: infoHead d sd sc n ++ [wTime, (toString t).toList])) = head
  unfold infoNps infoTail
  by_cases ht : t > 0
  · have hne : t ≠ 0 := by omega
    simp only [ht, if_true, R.checkedDiv, hne, if_false, Option.bind_some]
    cases hf <;> cases hpe : pv.isEmpty <;>
      simp only [npsWords, wNps, wHashfull, wPv, tailSp_cons, tailSp_nil, String.reduceToList, String.toList_empty,
        List.cons_append, List.nil_append, List.append_nil, List.append_assoc, Bool.not_true, Bool.not_false, Bool.false_eq_true,
        if_true, if_false]
  · simp only [ht, if_false]
    cases hf <;> cases hpe : pv.isEmpty <;>
      simp only [npsWords, wHashfull, wPv, tailSp_cons, tailSp_nil, String.reduceToList, String.toList_empty,
        List.cons_append, List.nil_append, List.append_nil, List.append_assoc, Bool.not_true, Bool.not_false, Bool.false_eq_true,
        if_true, if_false]

theorem word_plain_num {w : List Char} (h : NumChars w) : Word w ∧ Plain w := ⟨h.word, h.plain⟩

theorem infoHead_ok (d sd sc : Int) (n : Nat) : ∀ w ∈ infoHead d sd sc n, Word w ∧ Plain w := by
  intro w hw
  simp only [infoHead, List.mem_cons, List.not_mem_nil, or_false] at hw
  rcases hw with rfl | rfl | rfl | rfl | rfl | rfl | rfl | rfl
  · exact word_plain_num (numChars_int d)
  · exact ⟨by constructor <;> decide, by constructor <;> decide⟩
  · exact word_plain_num (numChars_int sd)
  · exact ⟨by constructor <;> decide, by constructor <;> decide⟩
  · exact ⟨by constructor <;> decide, by constructor <;> decide⟩
  · exact word_plain_num (numChars_int sc)
  · exact ⟨by constructor <;> decide, by constructor <;> decide⟩
  · exact word_plain_num (numChars_nat n)

theorem infoTail_ok (p : Position) (hf : Option Int) (pv : List Mv) (hpv : ∀ m ∈ pv, m.src < 64 ∧ m.dst < 64) :
    ∀ w ∈ infoTail p hf pv, Word w ∧ Plain w := by
  intro w hw
  simp only [infoTail, List.mem_append] at hw
  rcases hw with hw | hw
  · cases hf with
    | none => simp at hw
    | some h =>
      simp only [List.mem_cons, List.not_mem_nil, or_false] at hw
      rcases hw with rfl | rfl
      · exact ⟨by constructor <;> decide, by constructor <;> decide⟩
      · exact word_plain_num (numChars_int h)
  · split at hw
    · simp at hw
    · simp only [List.mem_cons, List.mem_map] at hw
      rcases hw with rfl | ⟨m, hm, rfl⟩
      · exact ⟨by constructor <;> decide, by constructor <;> decide⟩
      · have := toUciChars_facts p m (hpv m hm).1 (hpv m hm).2
        exact ⟨this.1, plain_of_head this.2⟩

theorem infoLine_eq (p : Position) (d sd sc : Int) (n : Nat) (hf : Option Int) (hhf : ∀ h, hf = some h → 0 ≤ h) (pv : List Mv) :
    (infoLine p ⟨d, sd, n, sc, hf.map Int.toNat, pv⟩).toList =
      joinSp (wInfo :: wDepth :: (infoHead d sd sc n ++ wTime :: ['?'] :: infoTail p hf pv)) := by
  have hP : "info depth ".toList ++ (toString d).toList ++ " seldepth ".toList ++ (toString sd).toList ++
      " score cp ".toList ++ (toString sc).toList ++ " nodes ".toList ++ (toString n).toList ++ " time ?".toList =
        joinSp (wInfo :: (wDepth :: infoHead d sd sc n ++ [wTime, ['?']])) := by
    rw [joinSp_eq]
    simp only [infoHead, wInfo, wDepth, wSeldepth, wScore, wCp, wNodes, wTime, tailSp_cons, tailSp_nil, String.reduceToList,
      List.cons_append, List.nil_append, List.append_assoc, List.append_nil]
  have hV : (if pv.isEmpty = true then "" else " pv" ++ String.join (pv.map fun m => " " ++ mvStr p m)).toList =
      tailSp (if pv.isEmpty = true then [] else wPv :: pv.map (toUciChars p)) := by
    have hj : ∀ l : List Mv, (String.join (l.map fun m => " " ++ mvStr p m)).toList = tailSp (l.map (toUciChars p)) := by
      intro l
      rw [join_toList]
      induction l with
      | nil => rfl
      | cons m l ih => simp [tailSp, mvStr, toUci, String.toList_append] at ih ⊢; exact ih
    split
    · rfl
    · rw [String.toList_append, hj, tailSp_cons]; rfl
  unfold infoLine infoTail
  rw [infoWords_split, tailSp_append]
  cases hf with
  | none =>
    simp only [Option.map_none, String.toList_append, hts, hP, hV, String.toList_empty, List.append_nil, List.nil_append, tailSp_nil]
  | some h =>
    -- a non-negative `hashfull` prints like its `toNat`
    obtain ⟨k, rfl⟩ := Int.eq_ofNat_of_zero_le (hhf h rfl)
    simp only [Option.map_some, Int.toNat_natCast, String.toList_append, hts, hP, hV]
    simp only [String.reduceToList, wHashfull, tailSp_cons, tailSp_nil, List.cons_append, List.nil_append, List.append_nil,
      List.append_assoc]
    rfl

/-- **`info_printer`** (uci/go.rs): the regenerated function prints one line whose canonical form is the model's
`infoLine` of the record as the model keeps it (`infoToModel`). -/
theorem _root_.Rawr.agree_info_printer (i : R.Info) (h : InfoOk i) :
    ∃ s, R.info_printer i = some s ∧ Out s [infoLine i.pos (infoToModel i)] := by
  obtain ⟨p, od, osd, on, osc, om, ot, hf, pv⟩ := i
  obtain ⟨h1, h2, h3, h4, h5, h6, h7, h8⟩ := h
  simp only at h1 h2 h3 h4 h5 h6 h7 h8
  obtain ⟨d, rfl⟩ := Option.isSome_iff_exists.1 h1
  obtain ⟨sd, rfl⟩ := Option.isSome_iff_exists.1 h2
  obtain ⟨sc, rfl⟩ := Option.isSome_iff_exists.1 h3
  obtain ⟨n, rfl⟩ := Option.isSome_iff_exists.1 h4
  obtain ⟨t, rfl⟩ := Option.isSome_iff_exists.1 h6
  subst h5
  refine ⟨_, info_printer_eq p d sd sc n t hf pv h8, ?_⟩
  refine Out.info_line _ _ _ _ _ (infoLine_eq p d sd sc n hf h7 pv) (infoHead_ok d sd sc n) (infoTail_ok p hf pv h8)
    (numChars_nat t).word ?_
  intro v hv
  unfold infoNps at hv
  split at hv
  · cases hv; exact (numChars_nat _).word
  · cases hv

end Rawr.Sess

#print axioms Rawr.agree_info_printer
