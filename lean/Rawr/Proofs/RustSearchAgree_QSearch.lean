import Rawr.Proofs.RustImpAgree_Eval
import Rawr.Proofs.RustSearchAgree_Sort
import Rawr.Proofs.RustImpAgree_MakeMove
import Rawr.Proofs.RustImpAgree_MoveGen
import Rawr.Proofs.GenBlocks
/-!
# Agreement for qsearch.rs, and the side condition of the two search agreements

`R.qsearch` (regenerated from qsearch.rs) is the model's `qsearch`, fuel for fuel, on every position from which the
move ordering cannot hit `piece.unwrap()` on an empty origin square within the tree the search walks
(`QOrderOk fuel p` for quiescence, `OrderOkN fuel p` for the main search; `SrcOk` is in `RustSearchAgree_Sort.lean`).
Both are defined by recursion on the fuel along exactly the steps the search makes: quiescence plays generated
captures with `makemove::<false>`; the main search plays generated moves with `makemove::<true>`, tries a null move
only when not in check, and drops into quiescence with the constant fuel `qFuel`.
`RustSearchAgree_Rules.lean` proves both for every valid position with counter room; `OrderOkN.reach` reads `OrderOkN`
along a path of the main search (`ReachN`).
-/
namespace Rawr

/-- the ordering code of quiescence cannot panic in the first `n` plies below `q`. -/
def QOrderOk : Nat → Position → Prop
  | 0, _ => True
  | n + 1, q => SrcOk q (legalMoves q) ∧
      ∀ m ∈ legalCaptures q, ∀ r, q.makemove m false = some r → QOrderOk n r

/-- the ordering code of the main search and of the quiescence it calls cannot panic in the first `n` plies below `q`. -/
def OrderOkN : Nat → Position → Prop
  | 0, _ => True
  | n + 1, q => SrcOk q (legalMoves q) ∧ QOrderOk qFuel q ∧
      (∀ m ∈ legalMoves q, ∀ r, q.makemove m true = some r → OrderOkN n r) ∧
      (q.inCheck = false → OrderOkN n q.makenull)

/-- positions reachable in exactly `k` plies of the main search: generated moves, null moves when not in check. -/
inductive ReachN : Nat → Position → Position → Prop
  | refl (p : Position) : ReachN 0 p p
  | move {k : Nat} {p q r : Position} {m : Mv} : m ∈ legalMoves p → p.makemove m true = some q → ReachN k q r →
      ReachN (k + 1) p r
  | null {k : Nat} {p r : Position} : p.inCheck = false → ReachN k p.makenull r → ReachN (k + 1) p r

theorem OrderOkN.reach {n : Nat} {p : Position} (h : OrderOkN n p) {k : Nat} {q : Position} (hr : ReachN k p q)
    (hk : k < n) : SrcOk q (legalMoves q) ∧ QOrderOk qFuel q := by
  induction hr generalizing n with
  | refl p =>
    cases n with
    | zero => omega
    | succ n => exact ⟨h.1, h.2.1⟩
  | move hm hmk _ ih =>
    cases n with
    | zero => omega
    | succ n => exact ih (h.2.2.1 _ hm _ hmk) (by omega)
  | null hc _ ih =>
    cases n with
    | zero => omega
    | succ n => exact ih (h.2.2.2 hc) (by omega)

theorem SrcOk.sub {p : Position} {l l' : List Mv} (h : SrcOk p l) (hs : ∀ m ∈ l', m ∈ l) : SrcOk p l' :=
  fun m hm => h m (hs m hm)

/-- the move loop: the regenerated loop returns `(stats, best_score, alpha)`, the model's `(best, st)`. -/
theorem qloop_eq (recR recM : Position → QState → Int → Int → Int → Option (Int × QState)) (p : Position) (beta ply : Int) :
    ∀ (ms : List Mv), (∀ m ∈ ms, ∀ np, p.makemove m false = some np → recR np = recM np) →
    ∀ (st : QState) (best alpha : Int),
      (R.qsearch_loop1 recR p beta ply ms st best alpha).map (fun x => (x.2.1, x.1)) = qloop recM p beta ply ms st alpha best := by
  intro ms
  induction ms with
  | nil => intro _ st best alpha; rfl
  | cons m ms ih =>
    intro hrec st best alpha
    unfold R.qsearch_loop1 qloop
    simp only [agree_after_move]
    cases hm : p.makemove m false with
    | none => rfl
    | some np =>
      simp only [hrec m (by simp) np hm]
      cases hr : recM np { st with nodes := st.nodes + 1 } (-beta) (-alpha) (ply + 1) with
      | none => rfl
      | some r =>
        rcases r with ⟨sc, st'⟩
        simp only [apply_ite (Option.map _)]
        exact ite_congr rfl (fun _ => rfl) fun _ => ih (fun m' hm' => hrec m' (by simp [hm'])) _ _ _

theorem agree_qsearch : ∀ (fuel : Nat) (p : Position), QOrderOk fuel p → ∀ (st : QState) (alpha beta ply : Int),
    R.qsearch fuel p st alpha beta ply = qsearch fuel p st alpha beta ply := by
  intro fuel
  induction fuel with
  | zero => intro p _ st a b ply; rfl
  | succ fuel ih =>
    intro p hok st alpha beta ply
    unfold R.qsearch qsearch
    simp only [agree_eval, agree_legal_captures]
    rw [agree_qs_sort p _ (hok.1.sub (legalCaptures_sub p))]
    refine ite_congr rfl (fun _ => rfl) fun _ => ?_
    cases hs : sortQs p (legalCaptures p) with
    | none => rfl
    | some moves =>
      simp only
      have hperm := sortQs_perm p _ _ hs
      rw [← qloop_eq (R.qsearch fuel) (qsearch fuel) p beta ply moves (fun m hm np hk => by
        funext st a b pl
        exact ih np (hok.2 m (hperm.mem_iff.mp hm) np hk) st a b pl)]
      cases R.qsearch_loop1 (R.qsearch fuel) p beta ply moves _ _ _ with
      | none => rfl
      | some v => rcases v with ⟨s, b, a⟩; rfl

/-! non-vacuity: the regenerated quiescence computes (start position: stand pat 0, no captures) -/
example : (R.qsearch 2 Gen.startpos ⟨0, 0⟩ (-100) 100 0).map (·.1) = some 0 := by decide +kernel

end Rawr

#print axioms Rawr.agree_qsearch
