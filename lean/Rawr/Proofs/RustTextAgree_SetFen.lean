import Rawr.Proofs.RustTextAgree
import Rawr.Proofs.FenSound
/-!
# `set_fen` / `from_fen` regenerated from set_fen.rs, from_fen.rs agree with the model's `setFen`
(both arithmetics: `ar = .wrap` optimised build, `ar = .trap` checked build)
-/
namespace Rawr

/-- one iteration of the board loop, in the model's vocabulary (`boardTok`). -/
theorem set_fen_loop1_step_eq (ar : Arith) (c : Char) (p : Position) (idx : Nat) :
    R.set_fen_loop1_step ar c p idx = (do
      let r7 ← u8sub ar 7 (idx / 8)
      let r8 ← u8mul ar 8 r7
      let sq ← u8add ar r8 (idx % 8)
      let bb ← bitAr ar sq
      match boardTok c with
      | none => none
      | some (.piece black pc) =>
        let p := if black then { p with c1 := p.c1 ^^^ bb } else { p with c0 := p.c0 ^^^ bb }
        let p := p.setPiece pc (p.piece pc ^^^ bb)
        let idx ← u8add ar idx 1
        some (ForInStep.yield (p, idx))
      | some (.skip n) => do
        let idx ← u8add ar idx n
        some (ForInStep.yield (p, idx))
      | some .slash => some (ForInStep.yield (p, idx))) := by
  unfold R.set_fen_loop1_step
  simp only [bind, pure]
  refine Option.bind_congr fun r7 _ => ?_
  refine Option.bind_congr fun r8 _ => ?_
  refine Option.bind_congr fun sq _ => ?_
  refine Option.bind_congr fun bb _ => ?_
  -- the character is a literal in every case but the last, where `boardTok` needs the hypotheses of `split`
  split <;>
    first
      | rfl
      | (cases u8add ar idx _ <;> rfl)
      | (simp only [boardTok] <;> rfl)

theorem set_fen_loop1_eq (ar : Arith) (cs : List Char) :
    ∀ (p : Position) (idx : Nat), R.set_fen_loop1 ar cs p idx = fenBoard ar cs p idx := by
  induction cs with
  | nil => intro p idx; simp [R.set_fen_loop1, fenBoard]
  | cons c cs ih =>
    intro p idx
    unfold fenBoard
    simp only [R.set_fen_loop1, List.forIn_cons, set_fen_loop1_step_eq, bind, pure, Option.bind_assoc] at ih ⊢
    refine Option.bind_congr fun r7 _ => ?_
    refine Option.bind_congr fun r8 _ => ?_
    refine Option.bind_congr fun sq _ => ?_
    refine Option.bind_congr fun bb _ => ?_
    cases boardTok c with
    | none => rfl
    | some t =>
      cases t with
      | piece black pc =>
        simp only []
        cases u8add ar idx 1 with
        | none => rfl
        | some i => simp only [Option.bind_some]; exact ih _ _
      | skip n =>
        simp only []
        cases u8add ar idx n with
        | none => rfl
        | some i => simp only [Option.bind_some]; exact ih _ _
      | slash => simp only [Option.bind_some]; exact ih _ _

theorem set_fen_loop2_eq (part : List Char) (c : Char) :
    ∀ l : List Nat, (∀ i ∈ l, i < part.length) →
      R.set_fen_loop2 part c l = if l.any (fun i => part[i]? == some c) then none else some () := by
  intro l
  induction l with
  | nil => intro _; simp [R.set_fen_loop2]
  | cons i l ih =>
    intro hl
    have hi : i < part.length := hl i (by simp)
    have ih' := ih (fun j hj => hl j (by simp [hj]))
    simp only [R.set_fen_loop2, List.forIn_cons] at ih' ⊢
    have hstep : R.set_fen_loop2_step part c i = if part[i] = c then none else some (ForInStep.yield ()) := by
      unfold R.set_fen_loop2_step
      rw [List.getElem?_eq_getElem hi]
      by_cases h : part[i] = c <;> simp [h]
    rw [hstep]
    by_cases h : part[i] = c
    · simp [h, List.getElem?_eq_getElem hi]
    · simp only [h, if_false, bind, Option.bind_some, pure]
      rw [ih']
      simp [h, List.getElem?_eq_getElem hi]

theorem range_any_take (part : List Char) (c : Char) (k : Nat) (hk : k ≤ part.length) :
    (List.range k).any (fun i => part[i]? == some c) = (part.take k).contains c := by
  rw [Bool.eq_iff_iff, List.contains_iff_mem, List.mem_take_iff_getElem]
  simp only [List.any_eq_true, List.mem_range, beq_iff_eq]
  constructor
  · rintro ⟨i, hi, h⟩
    have hlt : i < part.length := by omega
    rw [List.getElem?_eq_getElem hlt] at h
    exact ⟨i, by omega, by simpa using h⟩
  · rintro ⟨j, hj, h⟩
    have hlt : j < part.length := by omega
    exact ⟨j, by omega, by rw [List.getElem?_eq_getElem hlt, h]⟩

theorem char_le_iff (a b : Char) : a ≤ b ↔ a.toNat ≤ b.toNat := by
  rw [Char.le_def]; exact UInt32.le_iff_toNat_le

/-- subtracting the code of the first letter of a range from a letter of that range does not wrap. -/
theorem u8sub_letter (ar : Arith) (a b c : Char) (hb : b.toNat < 256) (h : (a ≤ c && c ≤ b) = true) :
    u8sub ar (asU8 c) (asU8 a) = some (asU8 c - asU8 a) := by
  simp only [Bool.and_eq_true, decide_eq_true_eq, char_le_iff] at h
  unfold u8sub asU8
  rw [Nat.mod_eq_of_lt (by omega), Nat.mod_eq_of_lt (by omega), if_pos h.1]

theorem toU8_fileOf (x : Nat) : T.toU8 (fileOf x) = fileOf x := by
  unfold T.toU8 fileOf; omega

/-- while `set_fen` parses, White is the side to move: the men of the two colours are `c0` and `c1`. -/
theorem get_white_eq {s : Position} (hb : s.black = false) : R.get_white s = s.c0 := by
  rw [agree_get_white, Position.white, hb]; rfl

theorem get_black_eq {s : Position} (hb : s.black = false) : R.get_black s = s.c1 := by
  rw [agree_get_black, Position.blackBB, hb]; rfl

/-- what the castling loop does with the reading of a letter. -/
def castleStep (s : Position) : Option (Option (Bool × Nat × Bool)) → Option (ForInStep Position)
  | none => none
  | some none => some (ForInStep.done s)
  | some (some (black, file, ks)) => some (ForInStep.yield (FenS.setRight s black ks file))

/-- one iteration of the castling loop, in the model's vocabulary (`castleLetter`). -/
theorem set_fen_loop3_step_eq (ar : Arith) (part : List Char) (c : Char) (idx : Nat) (s : Position)
    (hb : s.black = false) (hidx : idx ≤ part.length) :
    R.set_fen_loop3_step ar part (0xFF#64 &&& rayEastBB (lsb (s.c0 &&& s.p5))) (0xFF#64 &&& rayWestBB (lsb (s.c0 &&& s.p5)))
        (0xFF00000000000000#64 &&& rayEastBB (lsb (s.c1 &&& s.p5))) (0xFF00000000000000#64 &&& rayWestBB (lsb (s.c1 &&& s.p5)))
        (c, idx) s =
      if (part.take idx).contains c then none else castleStep s (castleLetter s c) := by
  unfold R.set_fen_loop3_step
  dsimp only []
  rw [set_fen_loop2_eq part c (List.range idx) (by intro i hi; simp at hi; omega), range_any_take part c idx hidx]
  unfold castleLetter
  -- what is done with the reading of the letter goes into the branches of the tests, on both sides
  simp only [bind, pure, ite_bind, Option.bind_some, Option.bind_none, apply_ite (castleStep s), get_white_eq hb,
    get_black_eq hb, R.get_rooks,
    R.get_kings, R.get_us, R.get_them, toU8_fileOf]
  simp only [castleStep]
  -- the same tests in the same order: no letter twice, `KQkq` (with a rook on that wing), a file letter, `-`
  refine ite_congr rfl (fun _ => rfl) fun _ => ?_
  refine ite_congr rfl (fun _ => ite_congr rfl (fun _ => rfl) fun _ => rfl) fun _ => ?_
  refine ite_congr rfl (fun _ => ite_congr rfl (fun _ => rfl) fun _ => rfl) fun _ => ?_
  refine ite_congr rfl (fun _ => ite_congr rfl (fun _ => rfl) fun _ => rfl) fun _ => ?_
  refine ite_congr rfl (fun _ => ite_congr rfl (fun _ => rfl) fun _ => rfl) fun _ => ?_
  refine ite_congr rfl (fun h => ?_) fun _ => ?_
  · rw [u8sub_letter ar 'A' 'H' c (by decide) h, Option.bind_some, BitVec.and_comm s.p5 s.c0]
    cases decide (asU8 c - asU8 'A' > fileOf (lsb (s.c0 &&& s.p5))) <;> rfl
  refine ite_congr rfl (fun h => ?_) fun _ => rfl
  rw [u8sub_letter ar 'a' 'h' c (by decide) h, Option.bind_some, BitVec.and_comm s.p5 s.c1]
  cases decide (asU8 c - asU8 'a' > fileOf (lsb (s.c1 &&& s.p5))) <;> rfl

theorem set_fen_loop3_eq (ar : Arith) (part : List Char) :
    ∀ (rest pre : List Char) (s : Position), part = pre ++ rest → s.black = false →
      R.set_fen_loop3 ar part (0xFF#64 &&& rayEastBB (lsb (s.c0 &&& s.p5))) (0xFF#64 &&& rayWestBB (lsb (s.c0 &&& s.p5)))
        (0xFF00000000000000#64 &&& rayEastBB (lsb (s.c1 &&& s.p5))) (0xFF00000000000000#64 &&& rayWestBB (lsb (s.c1 &&& s.p5)))
        (rest.zipIdx pre.length) s = fenCastling rest pre s := by
  intro rest
  induction rest with
  | nil => intro pre s _ _; simp [R.set_fen_loop3, fenCastling]
  | cons c rest ih =>
    intro pre s hp hb
    have hlen : pre.length ≤ part.length := by rw [hp]; simp
    have htake : part.take pre.length = pre := by rw [hp]; simp
    simp only [R.set_fen_loop3, List.zipIdx_cons, List.forIn_cons] at ih ⊢
    rw [set_fen_loop3_step_eq ar part c pre.length s hb hlen, htake, fenCastling]
    simp only [bind, ite_bind, Option.bind_none]
    refine ite_congr rfl (fun _ => rfl) fun _ => ?_
    rcases castleLetter s c with _ | _ | ⟨black, file, ks⟩
    · rfl
    · rfl
    · have hp' : part = (pre ++ [c]) ++ rest := by rw [hp]; simp
      have hl' : (pre ++ [c]).length = pre.length + 1 := by simp
      -- a right is set in one of four fields; the kings, which the masks of the loop are taken from, stay
      cases black <;> cases ks <;>
        simp only [castleStep, Option.bind_some, FenS.setRight] <;>
        (rw [← hl']; exact ih (pre ++ [c]) _ hp' hb)

/-! ## the parts of `set_fen` (the translator cuts the long function body into `R.set_fen_part2 .. part6`, each ending
in a tail call of the next), each as a stage of `setFenStaged` (Proofs/FenStaged.lean: `fenBoard` of Model/Fen.lean,
then `fenSide`, `fenCastlePart`, `fenEp`, the two counters, `fenFinish`) followed by the next part -/
theorem set_fen_init (frc : Bool) : ({ c0 := 0x0#64, c1 := 0x0#64, p0 := 0x0#64, p1 := 0x0#64, p2 := 0x0#64, p3 := 0x0#64, p4 := 0x0#64, p5 := 0x0#64, halfmoves := 0, fullmoves := 1, black := false, ep := none, usK := false, usQ := false, themK := false, themQ := false, cf0 := 7, cf1 := 0, cf2 := 7, cf3 := 0, hash := 0#64, frc := frc } : Position) = { Position.dflt with frc := frc } := rfl

theorem len6' (l : List (List Char)) : l.length > 6 ↔ l.tail.tail.tail.tail.tail.tail.head?.isSome = true := by
  rcases l with _ | ⟨_, _ | ⟨_, _ | ⟨_, _ | ⟨_, _ | ⟨_, _ | ⟨_, _ | ⟨_, _⟩⟩⟩⟩⟩⟩⟩ <;> simp
theorem len6 (l : List (List Char)) : decide (l.length > 6) = l.tail.tail.tail.tail.tail.tail.head?.isSome := by
  rw [Bool.eq_iff_iff, decide_eq_true_iff]
  exact len6' l

/-- the board loop writes the boards only. -/
theorem fenBoard_fields (ar : Arith) (cs : List Char) (p : Position) (idx : Nat) (r : Position × Nat)
    (h : fenBoard ar cs p idx = some r) : r.1.black = p.black ∧ r.1.frc = p.frc := by
  have e := FenS.fenBoard_frame (q := r.1) (j := r.2) h
  exact ⟨(congrArg Position.black e :), (congrArg Position.frc e :)⟩

theorem set_fen_part6_eq (ar : Arith) (parts : List (List Char)) (flip : Bool) (s : Position) :
    R.set_fen_part6 parts flip s =
      if parts.head?.isSome then none else fenFinish ar s s.halfmoves s.fullmoves flip := by
  unfold R.set_fen_part6 fenFinish
  simp only [agree_flip, agree_calculate_hash, Position.calculateHash, agree_validate, validateAr_eq]
  cases parts.head?.isSome
  · -- the Rust code matches on the verdict of `validate`, the model tests it with `isNone`
    cases flip <;>
      simp only [Bool.false_eq_true, if_false, if_true, bind, pure, Option.bind_none] <;>
      generalize Position.validate _ = v <;>
      cases v <;>
      rfl
  · rfl

theorem set_fen_part5_eq (parts : List (List Char)) (s : Position) (flip : Bool) :
    R.set_fen_part5 parts s flip = (do
      let hmPart ← parts.head?
      let hm ← parseI32 hmPart
      if hm < 0 then none else
      let fmPart ← parts.tail.head?
      let fm ← parseI32 fmPart
      if fm < 0 then none else
      R.set_fen_part6 parts.tail.tail flip { s with halfmoves := hm, fullmoves := fm }) := by
  unfold R.set_fen_part5
  simp only [bind]
  cases parts.head? with
  | none => rfl
  | some a =>
    simp only [Option.bind_some]
    cases parseI32 a with
    | none => rfl
    | some hm =>
      simp only [Option.bind_some]
      by_cases h1 : hm < 0
      · simp [h1]
      · simp only [h1, if_false]
        cases parts.tail.head? with
        | none => rfl
        | some b =>
          simp only [Option.bind_some]
          cases parseI32 b with
          | none => rfl
          | some fm =>
            simp only [Option.bind_some]
            by_cases h2 : fm < 0 <;> simp [h2]

theorem strLen_ge3 (a b c : Char) (r : List Char) : strLen (a :: b :: c :: r) ≠ 2 := by
  have h : ∀ x : Char, 1 ≤ utf8Len x := by intro x; unfold utf8Len; split <;> (try split) <;> (try split) <;> omega
  have := h a; have := h b; have := h c
  simp only [strLen, List.map_cons, List.sum_cons]
  omega

theorem set_fen_part4_eq (ar : Arith) (parts : List (List Char)) (s : Position) (flip : Bool) :
    R.set_fen_part4 ar parts s flip =
      parts.head?.bind fun epPart => (fenEp ar epPart).bind fun ep => R.set_fen_part5 parts.tail { s with ep := ep } flip := by
  unfold R.set_fen_part4
  simp only [bind]
  cases parts.head? with
  | none => rfl
  | some d =>
    simp only [Option.bind_some]
    rw [← ep_stage ar d s fun p => R.set_fen_part5 parts.tail p flip]
    by_cases h1 : (d == ['-']) = true
    · simp [h1]
    · by_cases h2 : (strLen d == 2) = true
      · match d, h1, h2 with
        | [], _, h2 => simp [strLen] at h2
        | [a], _, _ => simp [*]
        | [a, b], h1, h2 =>
          simp only [h1, h2, Bool.false_eq_true, if_false, if_true, Option.bind_some, List.getElem?_cons_zero,
            List.getElem?_cons_succ, Option.bind_assoc]
        | a :: b :: c :: r, _, h2 => exact absurd (by simpa using h2) (strLen_ge3 a b c r)
      · simp [h1, h2]

theorem set_fen_part3_eq (ar : Arith) (parts : List (List Char)) (s : Position) (flip : Bool) (hb : s.black = false) :
    R.set_fen_part3 ar parts s flip =
      (fenCastlePart parts.head? s).bind fun p => R.set_fen_part4 ar parts.tail p flip := by
  unfold R.set_fen_part3 fenCastlePart
  simp only [bind, get_white_eq hb, get_black_eq hb, R.get_kings]
  cases parts.head? with
  | none => rfl
  | some part =>
    have h := set_fen_loop3_eq ar part part [] s rfl hb
    simp only [List.length_nil] at h
    simp only []
    rw [show part.zipIdx = part.zipIdx 0 from rfl, h]

theorem splitSpace_go_ne_nil : ∀ (s cur : List Char) (acc : List (List Char)), splitSpace.go s cur acc ≠ [] := by
  intro s
  induction s with
  | nil => intro cur acc; simp [splitSpace.go]
  | cons c s ih =>
    intro cur acc
    unfold splitSpace.go
    split
    · exact ih _ _
    · exact ih _ _

theorem splitSpace_head (s : List Char) : ∃ a, (splitSpace s).head? = some a := by
  have := splitSpace_go_ne_nil s [] []
  unfold splitSpace
  cases h : splitSpace.go s [] [] with
  | nil => exact absurd h this
  | cons a _ => exact ⟨a, rfl⟩

theorem set_fen_part2_eq (ar : Arith) (parts : List (List Char)) (s : Position) (hb : s.black = false)
    (hparts : ∃ a, parts.head? = some a) :
    R.set_fen_part2 ar parts s =
      (fenBoard ar (parts.head?.getD []) s 0).bind fun r =>
      if r.2 != 64 then none else
      parts.tail.head?.bind fun sidePart =>
      (fenSide sidePart).bind fun shouldFlip =>
      if (r.1.c0 &&& r.1.p5).isEmpty || (r.1.c1 &&& r.1.p5).isEmpty then none else
      R.set_fen_part3 ar parts.tail.tail r.1 shouldFlip := by
  unfold R.set_fen_part2 fenSide
  simp only [bind, pure, set_fen_loop1_eq]
  obtain ⟨a, ha⟩ := hparts
  rw [ha]
  simp only [Option.getD_some, Option.bind_some]
  refine Option.bind_congr fun r hbd => ?_
  have hblk : r.1.black = false := by rw [(fenBoard_fields ar a s 0 r hbd).1, hb]
  simp only [get_white_eq hblk, get_black_eq hblk, R.get_kings, ite_bind, Option.bind_none, Option.bind_some]
  refine ite_congr rfl (fun _ => rfl) fun _ => ?_
  cases parts.tail.head? with
  | none => rfl
  | some b => simp only [Option.bind_some, ite_bor (BB.isEmpty _)]

/-- `set_fen` on a string other than "startpos" is the model's `setFenCore`: part by part, the stages of `setFenStaged`. -/
theorem set_fen_core_eq (ar : Arith) (n : Nat) (s : Position) (fen : List Char)
    (hne : (fen == "startpos".toList) = false) :
    R.set_fen (n + 1) ar s fen = setFenCore ar s.frc fen := by
  have hs : "startpos".toList = ['s', 't', 'a', 'r', 't', 'p', 'o', 's'] := by decide
  rw [hs] at hne
  unfold R.set_fen
  simp only [hne, Bool.false_eq_true, if_false, set_fen_init]
  rw [set_fen_part2_eq ar _ _ rfl (splitSpace_head fen), setFenCore_eq_staged]
  unfold setFenStaged
  simp only [List.headD_eq_head?_getD, ← List.getElem?_tail, ← List.head?_eq_getElem?, len6']
  refine Option.bind_congr fun r hbd => ?_
  have hblk : r.1.black = false := (fenBoard_fields ar _ _ 0 _ hbd).1
  simp only [set_fen_part3_eq ar _ r.1 _ hblk, set_fen_part4_eq, set_fen_part5_eq, set_fen_part6_eq ar, bind]
  rfl

/-- **`Position::set_fen`** (set_fen.rs), for both arithmetics: with at least two units of recursion fuel (the Rust
function calls itself once, for "startpos") the regenerated function is the model's `setFen`; `none` = panic. -/
theorem agree_set_fen (ar : Arith) (n : Nat) (s : Position) (fen : List Char) :
    R.set_fen (n + 2) ar s fen = setFen ar s.frc fen := by
  unfold setFen
  by_cases h : (fen == "startpos".toList) = true
  · have hs : "startpos".toList = ['s', 't', 'a', 'r', 't', 'p', 'o', 's'] := by decide
    have hlit : ['r', 'n', 'b', 'q', 'k', 'b', 'n', 'r', '/', 'p', 'p', 'p', 'p', 'p', 'p', 'p', 'p', '/', '8', '/', '8', '/', '8', '/', '8', '/', 'P', 'P', 'P', 'P', 'P', 'P', 'P', 'P', '/', 'R', 'N', 'B', 'Q', 'K', 'B', 'N', 'R', ' ', 'w', ' ', 'K', 'Q', 'k', 'q', ' ', '-', ' ', '0', ' ', '1'] = startFen := by decide
    have hne : (startFen == "startpos".toList) = false := by decide
    rw [if_pos h]
    rw [hs] at h
    unfold R.set_fen
    simp only [h, if_true, hlit, set_fen_core_eq ar n s startFen hne, bind, pure]
    cases setFenCore ar s.frc startFen <;> rfl
  · have h' : (fen == "startpos".toList) = false := by simpa using h
    rw [if_neg h]
    exact set_fen_core_eq ar (n + 1) s fen h'

/-- `Position::default()` (position.rs). -/
theorem agree_default : R.default_ = Position.dflt := rfl

/-- **`Position::from_fen`** (from_fen.rs). -/
theorem agree_from_fen (ar : Arith) (n : Nat) (fen : List Char) :
    R.from_fen (n + 2) ar fen = setFen ar false fen := by
  unfold R.from_fen
  have hf : Position.dflt.frc = false := rfl
  simp only [agree_default, agree_set_fen, bind, pure, hf]
  cases setFen ar false fen <;> rfl

example : R.from_fen 2 .trap "startpos".toList = some Gen.startpos := by decide +kernel
example : (R.from_fen 2 .wrap "4k3/8/8/4p3/8/8/8/4K3 w - e6 0 1".toList).isSome = true := by decide +kernel
example : R.from_fen 2 .wrap "4k3/8/8/4p3/8/8/8/4K3 w - e6 0".toList = none := by decide +kernel
end Rawr

#print axioms Rawr.agree_set_fen
#print axioms Rawr.agree_from_fen
#print axioms Rawr.agree_default
