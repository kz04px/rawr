import Rawr.Proofs.RustTextAgree_GetFenRules
import Rawr.Proofs.RustTextAgree_Uci
import Rawr.Props.C03_rules
/-!
# The text-side agreement theorems on the positions the properties quantify over

`agree_to_uci`, `agree_get_fen`, `agree_moves(_ix)`, `agree_position` carry side conditions (on-board squares and castle
files, legal moves between on-board squares along the game).  Here they are discharged for valid positions:
`ValidPos` gives an en-passant square `< 64` (`VFacts`), castle files `< 8` (`validPos_parts`) and the generator shape
`GenOk` (`src, dst < 64`); along a list of move tokens the family `VE n` of Props/C03_rules.lean ("`V ∧ E`, counter
room for `n + 64` plies") is closed under generated moves (`searchDomC_VE.move`; `E` is needed there because
preservation of validity goes through `C01_sound`, which needs `EpConsistent`) and decreasing in `n`.

What remains in `agree_position_rules`: that the position `set_fen` ACCEPTS lies in `VE (number of move tokens)`.
Acceptance gives `ValidPos p` (`C07_accepted_validPos`); `EpConsistent` is not implied by acceptance (an en-passant
square whose double push would have left the mover in check is accepted), nor is the counter room.
-/
namespace Rawr

theorem movesOnBoard_of_valid {p : Position} (hV : ValidPos p = true) : MovesOnBoard p := by
  intro m hm
  unfold legalMoves at hm
  rw [List.mem_map] at hm
  obtain ⟨g, hg, rfl⟩ := hm
  have ok := gen_shape p hV g hg
  exact ⟨ok.src_lt, ok.dst_lt⟩

theorem agree_to_uci_rules (p : Position) (hV : ValidPos p = true) (m : Mv) (hm : m ∈ legalMoves p) :
    R.to_uci m p = some (toUciChars p m) :=
  agree_to_uci m p (movesOnBoard_of_valid hV m hm).1 (movesOnBoard_of_valid hV m hm).2

theorem VE_onBoard (n : Nat) (p : Position) (h : VE (n + 1) p) : MovesOnBoard p := movesOnBoard_of_valid h.1

/-- **`uci::moves::moves`** on `V ∧ E` with counter room for the tokens: no other hypothesis. -/
theorem agree_moves_rules (toks : List (List Char)) (p : Position) (hist : List BB) (h : VE toks.length p) :
    R.moves toks p hist =
      (applyTokens toks p hist.reverse []).map fun r => (([] : List (List Char)), r.1, r.2.1.reverse, r.2.2) :=
  agree_moves_ix VE VE_onBoard (fun n _ h => VE_le h (Nat.le_succ n)) searchDomC_VE.move toks p hist h

/-- **`uci::position::position`**: the only hypothesis left is that the accepted position is in `V ∧ E` with counter room
for the move tokens of the command (see the header). -/
theorem agree_position_rules (ar : Arith) (n : Nat) (s : UState) (hist0 : List BB) (toks : List (List Char))
    (hdom : ∀ p, setFen ar s.pos.frc (positionArgs toks).1 = some p → VE (positionArgs toks).2.length p) :
    (R.position (n + 2) ar toks s.pos hist0).map
        (fun r => (({ s with pos := { r.2.1 with frc := s.frc }, hist := r.2.2.1.reverse } : UState), r.2.2.2))
      = doPosition ar s toks :=
  agree_position VE VE_onBoard (fun n _ h => VE_le h (Nat.le_succ n)) searchDomC_VE.move ar n s hist0 toks hdom

theorem startpos_VE' : VE 1000 Gen.startpos := startpos_VE

example (hist : List BB) : R.moves ["e2e4".toList, "e7e5".toList] Gen.startpos hist =
    (applyTokens ["e2e4".toList, "e7e5".toList] Gen.startpos hist.reverse []).map
      fun r => (([] : List (List Char)), r.1, r.2.1.reverse, r.2.2) :=
  agree_moves_rules _ _ hist (VE_le startpos_VE (by decide))

example (ar : Arith) : R.get_fen ar Gen.startpos = getFen Gen.startpos := agree_get_fen_rules ar _ startpos_VE.1

/-- `position startpos moves ..`: the hypothesis of `agree_position_rules` is discharged by evaluation. -/
example (ar : Arith) (s : UState) (hs : s.pos.frc = false) (hist0 : List BB) :
    (R.position 2 ar ["startpos".toList, "moves".toList, "e2e4".toList] s.pos hist0).map
        (fun r => (({ s with pos := { r.2.1 with frc := s.frc }, hist := r.2.2.1.reverse } : UState), r.2.2.2))
      = doPosition ar s ["startpos".toList, "moves".toList, "e2e4".toList] := by
  apply agree_position_rules ar 0 s hist0
  intro p hp
  rw [hs] at hp
  have e : setFen ar false (positionArgs ["startpos".toList, "moves".toList, "e2e4".toList]).1 = some Gen.startpos :=
    setFen_startpos ar
  rw [e] at hp
  cases hp
  have hl : (positionArgs ["startpos".toList, "moves".toList, "e2e4".toList]).2.length = 1 := by decide
  rw [hl]
  exact VE_le startpos_VE (by decide)
end Rawr

#print axioms Rawr.agree_to_uci_rules
#print axioms Rawr.agree_moves_rules
#print axioms Rawr.agree_position_rules
