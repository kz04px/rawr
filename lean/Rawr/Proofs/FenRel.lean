import Rawr.Proofs.FenDefs
import Rawr.Proofs.AbsCell
import Rawr.Proofs.MakeMoveStages
/-! `rel : APos → Position` spelled out: the bits of its eight boards, its other fields, board
consistency, and the two round trips `abs (rel a) = a` (for boards empty beyond square 63) and `rel (abs p) = p` up to
the castle files of absent rights (`FenC.normCf`). -/
namespace Rawr.FenRel
open Rawr.Spec Rawr.ZH

theorem any_range_absSq (b : Bool) (f : Nat → Bool) (i : Nat) (hi : i < 64) :
    (List.range 64).any (fun s => f s && decide (absSq b s = i)) = f (absSq b i) := by
  rw [Bool.eq_iff_iff, List.any_eq_true]
  constructor
  · rintro ⟨s, _, hs⟩
    rw [Bool.and_eq_true, decide_eq_true_eq] at hs
    rw [← hs.2, absSq_absSq]
    exact hs.1
  · intro h
    refine ⟨absSq b i, List.mem_range.mpr (absSq_lt b hi), ?_⟩
    rw [Bool.and_eq_true, decide_eq_true_eq]
    exact ⟨h, absSq_absSq b i⟩

/-- the step function of the fold in `rel`. -/
def put (a : APos) (p : Position) (s : Nat) : Position :=
  match a.board s with
  | none => p
  | some pc =>
    let r := absSq (!a.whiteToMove) s
    let p := if pc.white == a.whiteToMove then { p with c0 := p.c0 ||| bit r } else { p with c1 := p.c1 ||| bit r }
    p.setPiece (kindIdx pc.kind) (p.piece (kindIdx pc.kind) ||| bit r)

theorem piece_setPiece (p : Position) (k k' : Kind) (b : BB) :
    (p.setPiece (kindIdx k) b).piece (kindIdx k') = if k = k' then b else p.piece (kindIdx k') := by
  cases k <;> cases k' <;> rfl

/-! `put` ors the bit of the square into `c0`, `c1` and the six piece boards according to the content of the square. -/

theorem put_c0 (a : APos) (p : Position) (s : Nat) :
    (put a p s).c0 = p.c0 ||| (if isCol a.board a.whiteToMove s then bit (absSq (!a.whiteToMove) s) else 0#64) := by
  unfold put isCol
  cases a.board s with
  | none => exact BitVec.or_zero.symm
  | some pc =>
    simp only [(setPiece_colours _ _ _).1]
    split
    · rfl
    · exact BitVec.or_zero.symm

theorem put_c1 (a : APos) (p : Position) (s : Nat) :
    (put a p s).c1 = p.c1 ||| (if isCol a.board (!a.whiteToMove) s then bit (absSq (!a.whiteToMove) s) else 0#64) := by
  unfold put isCol
  cases a.board s with
  | none => exact BitVec.or_zero.symm
  | some pc =>
    obtain ⟨w, k⟩ := pc
    simp only [(setPiece_colours _ _ _).2]
    cases w <;> cases a.whiteToMove
    · exact BitVec.or_zero.symm
    · rfl
    · rfl
    · exact BitVec.or_zero.symm

theorem put_piece (a : APos) (p : Position) (s : Nat) (k : Kind) :
    (put a p s).piece (kindIdx k) =
      p.piece (kindIdx k) ||| (if isKind a.board k s then bit (absSq (!a.whiteToMove) s) else 0#64) := by
  unfold put isKind
  cases a.board s with
  | none => exact BitVec.or_zero.symm
  | some pc =>
    have hp : ∀ i, (if pc.white == a.whiteToMove then { p with c0 := p.c0 ||| bit (absSq (!a.whiteToMove) s) }
        else { p with c1 := p.c1 ||| bit (absSq (!a.whiteToMove) s) }).piece i = p.piece i := by
      intro i; split <;> rfl
    simp only [piece_setPiece, hp]
    by_cases h : pc.kind = k
    · subst h; simp
    · simp [h]

theorem getLsbD_or_cond_bit (x : BB) (c : Bool) (r i : Nat) :
    (x ||| if c then bit r else 0#64).getLsbD i = (x.getLsbD i || (decide (i < 64) && (c && decide (r = i)))) := by
  rw [BitVec.getLsbD_or]
  cases c
  · simp
  · simp [Rawr.getLsbD_bit, eq_comm]

/-- a board (`g`) into which `put` ors one conditional bit collects, over the fold, the bits of the squares selected. -/
theorem fold_bits (a : APos) (g : Position → BB) (c : Nat → Bool)
    (hg : ∀ p s, g (put a p s) = g p ||| (if c s then bit (absSq (!a.whiteToMove) s) else 0#64))
    (l : List Nat) (p : Position) (i : Nat) :
    (g (l.foldl (put a) p)).getLsbD i =
      ((g p).getLsbD i || (decide (i < 64) && l.any fun s => c s && decide (absSq (!a.whiteToMove) s = i))) := by
  induction l generalizing p with
  | nil => simp
  | cons s l ih =>
    rw [List.foldl_cons, ih, hg, getLsbD_or_cond_bit, List.any_cons, Bool.or_assoc, ← Bool.and_or_distrib_left]

def relBoards (a : APos) : Position := squares.foldl (put a) Position.dflt

theorem relBoards_bits (a : APos) (g : Position → BB) (c : Nat → Bool)
    (hg : ∀ p s, g (put a p s) = g p ||| (if c s then bit (absSq (!a.whiteToMove) s) else 0#64))
    (h0 : g Position.dflt = 0#64) (i : Nat) :
    (g (relBoards a)).getLsbD i = (decide (i < 64) && c (absSq (!a.whiteToMove) i)) := by
  unfold relBoards squares
  rw [fold_bits a g c hg, h0, BitVec.getLsbD_zero, Bool.false_or]
  by_cases hi : i < 64
  · rw [any_range_absSq _ _ _ hi]
  · simp [hi]

def relFields (a : APos) (frc : Bool) (p : Position) : Position :=
  let black := !a.whiteToMove
  let (uK, uQ, tK, tQ) := if black then (a.bK, a.bQ, a.wK, a.wQ) else (a.wK, a.wQ, a.bK, a.bQ)
  let p := { p with
    halfmoves := a.half, fullmoves := a.full, black := black, ep := a.ep.map (absSq black),
    usK := uK.isSome, usQ := uQ.isSome, themK := tK.isSome, themQ := tQ.isSome,
    cf0 := uK.getD 7, cf1 := uQ.getD 0, cf2 := tK.getD 7, cf3 := tQ.getD 0, frc := frc }
  { p with hash := p.calculateHash }

theorem rel_eq (a : APos) (frc : Bool) : rel a frc = relFields a frc (relBoards a) := rfl

theorem relFields_boards (a : APos) (frc : Bool) (p : Position) :
    (relFields a frc p).c0 = p.c0 ∧ (relFields a frc p).c1 = p.c1 ∧ ∀ i, (relFields a frc p).piece i = p.piece i :=
  ⟨rfl, rfl, fun _ => rfl⟩

end Rawr.FenRel

namespace Rawr
open Spec FenRel

theorem rel_c0_bit (a : APos) (frc : Bool) (i : Nat) :
    ((rel a frc).c0).getLsbD i = (decide (i < 64) && isCol a.board a.whiteToMove (absSq (!a.whiteToMove) i)) := by
  rw [rel_eq, (relFields_boards a frc _).1]
  exact relBoards_bits a (·.c0) _ (put_c0 a) rfl i

theorem rel_c1_bit (a : APos) (frc : Bool) (i : Nat) :
    ((rel a frc).c1).getLsbD i = (decide (i < 64) && isCol a.board (!a.whiteToMove) (absSq (!a.whiteToMove) i)) := by
  rw [rel_eq, (relFields_boards a frc _).2.1]
  exact relBoards_bits a (·.c1) _ (put_c1 a) rfl i

theorem rel_piece_bit (a : APos) (frc : Bool) (k : Kind) (i : Nat) :
    ((rel a frc).piece (kindIdx k)).getLsbD i = (decide (i < 64) && isKind a.board k (absSq (!a.whiteToMove) i)) := by
  rw [rel_eq, (relFields_boards a frc _).2.2]
  exact relBoards_bits a (·.piece (kindIdx k)) _ (fun p s => put_piece a p s k) (by cases k <;> rfl) i

theorem shows_rel (a : APos) (frc : Bool) : (rel a frc).Shows a.board := by
  have bit := fun {i : Nat} (hi : i < 64) (b : Bool) => show (decide (i < 64) && b) = b by rw [decide_eq_true hi]; rfl
  refine ⟨fun s hs => ?_, fun s hs => ?_, fun s hs k => ?_⟩
  · rw [rel_c0_bit, bit hs]
    show _ = colP _ (!(!a.whiteToMove))
    rw [Bool.not_not]
    rfl
  · rw [rel_c1_bit, bit hs]
    rfl
  · rw [rel_piece_bit, bit hs]
    rfl

namespace FenRel

/-- a board whose bit `i` is `f` of the absolute square of `i` is the board of `f`, mirrored for Black. -/
theorem eq_geom_of_bits (t : Bool) (x : BB) (f : Nat → Bool)
    (h : ∀ i, x.getLsbD i = (decide (i < 64) && f (absSq (!t) i))) :
    x = if t then geomBB f else flipBB (geomBB f) := by
  apply BitVec.eq_of_getLsbD_eq
  intro i hi
  rw [h]
  cases t
  · rw [if_neg (by decide), flipBB_getLsbD_xor _ i hi, getLsbD_geomBB]
    simp [hi, x56_lt hi, absSq]
  · exact (getLsbD_geomBB f i).symm

end FenRel

/-- the boards of `rel a` are the boards `a.board` spells out, mirrored when Black is to move. -/
theorem rel_boards (a : APos) (frc : Bool) (q : Position) :
    SameBoards (rel a frc) (if a.whiteToMove then placeAbs a.board q else (placeAbs a.board q).flip) := by
  have c0 := eq_geom_of_bits _ _ _ (rel_c0_bit a frc)
  have c1 := eq_geom_of_bits _ _ _ (rel_c1_bit a frc)
  have pk := fun k => eq_geom_of_bits _ _ _ (rel_piece_bit a frc k)
  cases h : a.whiteToMove <;> rw [h] at c0 c1 pk <;>
    exact ⟨c0, c1, pk .pawn, pk .knight, pk .bishop, pk .rook, pk .queen, pk .king⟩

theorem rel_black (a : APos) (frc : Bool) : (rel a frc).black = !a.whiteToMove := rfl
theorem rel_halfmoves (a : APos) (frc : Bool) : (rel a frc).halfmoves = a.half := rfl
theorem rel_fullmoves (a : APos) (frc : Bool) : (rel a frc).fullmoves = a.full := rfl
theorem rel_ep (a : APos) (frc : Bool) : (rel a frc).ep = a.ep.map (absSq (!a.whiteToMove)) := rfl
theorem rel_frc (a : APos) (frc : Bool) : (rel a frc).frc = frc := rfl
theorem rel_hash (a : APos) (frc : Bool) : (rel a frc).hash = (rel a frc).calculateHash := rfl
theorem rel_usK (a : APos) (frc : Bool) : (rel a frc).usK = (if a.whiteToMove then a.wK else a.bK).isSome := by
  cases h : a.whiteToMove <;> simp [rel, h]
theorem rel_usQ (a : APos) (frc : Bool) : (rel a frc).usQ = (if a.whiteToMove then a.wQ else a.bQ).isSome := by
  cases h : a.whiteToMove <;> simp [rel, h]
theorem rel_themK (a : APos) (frc : Bool) : (rel a frc).themK = (if a.whiteToMove then a.bK else a.wK).isSome := by
  cases h : a.whiteToMove <;> simp [rel, h]
theorem rel_themQ (a : APos) (frc : Bool) : (rel a frc).themQ = (if a.whiteToMove then a.bQ else a.wQ).isSome := by
  cases h : a.whiteToMove <;> simp [rel, h]
theorem rel_cf0 (a : APos) (frc : Bool) : (rel a frc).cf0 = (if a.whiteToMove then a.wK else a.bK).getD 7 := by
  cases h : a.whiteToMove <;> simp [rel, h]
theorem rel_cf1 (a : APos) (frc : Bool) : (rel a frc).cf1 = (if a.whiteToMove then a.wQ else a.bQ).getD 0 := by
  cases h : a.whiteToMove <;> simp [rel, h]
theorem rel_cf2 (a : APos) (frc : Bool) : (rel a frc).cf2 = (if a.whiteToMove then a.bK else a.wK).getD 7 := by
  cases h : a.whiteToMove <;> simp [rel, h]
theorem rel_cf3 (a : APos) (frc : Bool) : (rel a frc).cf3 = (if a.whiteToMove then a.bQ else a.wQ).getD 0 := by
  cases h : a.whiteToMove <;> simp [rel, h]


namespace FenRel

theorem isCol_eq (b : Board) (w : Bool) (s : Nat) : isCol b w s = colP (b s) w := rfl
theorem isKind_eq (b : Board) (k : Kind) (s : Nat) : isKind b k s = kindP (b s) k := rfl

end FenRel

theorem rel_consistent (a : APos) (frc : Bool) : Consistent (rel a frc) = true := (shows_rel a frc).consistent

namespace FenRel

theorem opt_getD (o : Option Nat) (d : Nat) : (if o.isSome then some (o.getD d) else none) = o := by
  cases o <;> rfl

theorem map_absSq_absSq (b : Bool) (o : Option Nat) : (o.map (absSq b)).map (absSq b) = o := by
  cases o with
  | none => rfl
  | some e => simp only [Option.map_some, absSq_absSq]

end FenRel

theorem abs_rel (a : APos) (frc : Bool) (hb : ∀ s, 64 ≤ s → a.board s = none) : abs (rel a frc) = a := by
  apply APos.ext'
  · show absBoard (rel a frc) = a.board
    funext s
    by_cases hs : s < 64
    · exact (shows_rel a frc).absBoard hs
    · rw [hb s (by omega)]
      simp only [absBoard, hs, if_false]
  · show (!(rel a frc).black) = a.whiteToMove
    rw [rel_black, Bool.not_not]
  case h3 | h4 | h5 | h6 =>
    simp only [abs, rel_black, rel_usK, rel_usQ, rel_themK, rel_themQ, rel_cf0, rel_cf1, rel_cf2, rel_cf3]
    cases a.whiteToMove <;> exact opt_getD _ _
  · show (rel a frc).ep.map (absSq (rel a frc).black) = a.ep
    rw [rel_ep, rel_black, map_absSq_absSq]
  · rfl
  · rfl


namespace FenRel

/-- the key recomputation reads the boards, the side, the en-passant square and the four right flags only. -/
theorem calculateHash_congr {x y : Position} (hb : SameBoards x y) (h11 : x.black = y.black) (h12 : x.ep = y.ep)
    (h13 : x.usK = y.usK) (h14 : x.usQ = y.usQ) (h15 : x.themK = y.themK) (h16 : x.themQ = y.themQ) :
    x.calculateHash = y.calculateHash := by
  obtain ⟨h1, h2, h3, h4, h5, h6, h7, h8⟩ := hb
  cases x; cases y; simp only at *; subst_vars; rfl

/-- two positions with the same boards and the same other fields, the key aside, whose keys are the recomputed
keys, are equal. -/
theorem eq_of_sameBoards {x y : Position} (hb : SameBoards x y)
    (h9 : x.halfmoves = y.halfmoves) (h10 : x.fullmoves = y.fullmoves) (h11 : x.black = y.black)
    (h12 : x.ep = y.ep) (h13 : x.usK = y.usK) (h14 : x.usQ = y.usQ) (h15 : x.themK = y.themK)
    (h16 : x.themQ = y.themQ) (h17 : x.cf0 = y.cf0) (h18 : x.cf1 = y.cf1) (h19 : x.cf2 = y.cf2)
    (h20 : x.cf3 = y.cf3) (h22 : x.frc = y.frc)
    (hx : x.hash = x.calculateHash) (hy : y.hash = y.calculateHash) : x = y := by
  have h21 : x.hash = y.hash := hx.trans ((calculateHash_congr hb h11 h12 h13 h14 h15 h16).trans hy.symm)
  obtain ⟨h1, h2, h3, h4, h5, h6, h7, h8⟩ := hb
  cases x; cases y; simp only at *; subst_vars; rfl

theorem abs_board (p : Position) : (abs p).board = absBoard p := rfl
theorem abs_whiteToMove (p : Position) : (abs p).whiteToMove = !p.black := rfl

end FenRel

/-- `p` with the castle files of absent rights reset to `Position::default()`'s 7, 0, 7, 0. -/
def FenC.normCf (p : Position) : Position :=
  { p with cf0 := if p.usK then p.cf0 else 7, cf1 := if p.usQ then p.cf1 else 0,
           cf2 := if p.themK then p.cf2 else 7, cf3 := if p.themQ then p.cf3 else 0 }

/-- `rel ∘ abs` restores everything except the castle files of absent rights (no hypothesis on the en-passant
square is needed). -/
theorem rel_abs' (p : Position) (hC : Consistent p = true) (hh : p.hash = p.calculateHash) :
    rel (abs p) p.frc = FenC.normCf p := by
  unfold FenC.normCf
  -- the boards: both positions are consistent and show the same absolute board (`abs_rel`)
  have hb : SameBoards (rel (abs p) p.frc) p :=
    sameBoards_of_absBoard_eq (rel_consistent _ _) hC (Bool.not_not _)
      (congrArg APos.board (abs_rel (abs p) p.frc (absBoard_ge p)))
  refine eq_of_sameBoards hb rfl rfl (Bool.not_not _) ?_ ?_ ?_ ?_ ?_ ?_ ?_ ?_ ?_ rfl (rel_hash _ _) hh
  · rw [rel_ep, abs_whiteToMove, Bool.not_not]
    exact map_absSq_absSq p.black p.ep
  · rw [rel_usK]; simp only [abs]; cases p.black <;> cases p.usK <;> rfl
  · rw [rel_usQ]; simp only [abs]; cases p.black <;> cases p.usQ <;> rfl
  · rw [rel_themK]; simp only [abs]; cases p.black <;> cases p.themK <;> rfl
  · rw [rel_themQ]; simp only [abs]; cases p.black <;> cases p.themQ <;> rfl
  · rw [rel_cf0]; simp only [abs]; cases p.black <;> cases p.usK <;> rfl
  · rw [rel_cf1]; simp only [abs]; cases p.black <;> cases p.usQ <;> rfl
  · rw [rel_cf2]; simp only [abs]; cases p.black <;> cases p.themK <;> rfl
  · rw [rel_cf3]; simp only [abs]; cases p.black <;> cases p.themQ <;> rfl

/-- the same with the (unused) range hypothesis on the en-passant square. -/
theorem rel_abs (p : Position) (hC : Consistent p = true) (hh : p.hash = p.calculateHash)
    (_hep : ∀ e, p.ep = some e → e < 64) :
    rel (abs p) p.frc =
      { p with cf0 := if p.usK then p.cf0 else 7, cf1 := if p.usQ then p.cf1 else 0,
               cf2 := if p.themK then p.cf2 else 7, cf3 := if p.themQ then p.cf3 else 0 } :=
  rel_abs' p hC hh

namespace FenRel

/-- two kings, a white rook and a black pawn, Black to move, mixed rights. -/
def exA : APos :=
  { board := fun s => if s = 4 then some ⟨true, .king⟩ else if s = 7 then some ⟨true, .rook⟩
      else if s = 60 then some ⟨false, .king⟩ else if s = 35 then some ⟨false, .pawn⟩ else none
    whiteToMove := false, wK := some 7, wQ := none, bK := none, bQ := none, ep := none, half := 3, full := 9 }

theorem exA_board (s : Nat) (h : 64 ≤ s) : exA.board s = none := by
  simp only [exA]
  repeat' split
  all_goals first | rfl | (exfalso; omega)

theorem ex_hash (q : Position) (n : Nat) (h : q.hash = q.calculateHash) :
    ({ q with cf0 := n } : Position).hash = ({ q with cf0 := n } : Position).calculateHash :=
  h.trans (calculateHash_congr ⟨rfl, rfl, rfl, rfl, rfl, rfl, rfl, rfl⟩ rfl rfl rfl rfl rfl rfl)

end FenRel

example : abs (rel exA true) = exA := abs_rel exA true exA_board
example : (rel exA).black = true ∧ (rel exA).themK = true ∧ (rel exA).cf2 = 7 ∧ (rel exA).cf0 = 7 :=
  ⟨rfl, by rw [rel_themK]; rfl, by rw [rel_cf2]; rfl, by rw [rel_cf0]; rfl⟩
/-- the hypotheses of `rel_abs` hold of `rel exA` with a non-default file for an absent right. -/
example : ∃ p : Position, Consistent p = true ∧ p.hash = p.calculateHash ∧ (∀ e, p.ep = some e → e < 64) ∧
    p.usK = false ∧ p.cf0 = 3 ∧ p.black = true ∧ p.c0 ≠ 0#64 := by
  refine ⟨{ rel exA with cf0 := 3 }, ?_, ?_, ?_, ?_, rfl, rfl, ?_⟩
  · have hc : ∀ q : Position, Consistent q = true → Consistent { q with cf0 := 3 } = true := fun _ h => h
    exact hc _ (rel_consistent exA false)
  · exact ex_hash (rel exA) 3 (rel_hash exA false)
  · intro e he; exact absurd he (by simp [rel_ep, exA])
  · show (rel exA).usK = false
    rw [rel_usK]; rfl
  · show (rel exA).c0 ≠ 0#64
    intro h
    have := rel_c0_bit exA false 4
    rw [h] at this
    revert this
    decide

end Rawr

#print axioms Rawr.rel_boards
#print axioms Rawr.rel_consistent
#print axioms Rawr.abs_rel
#print axioms Rawr.rel_abs'
#print axioms Rawr.rel_abs
