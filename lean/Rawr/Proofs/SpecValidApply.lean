import Rawr.Proofs.SpecValid
/-! `C02_spec_valid_preserved` on the specification alone: every legal move preserves `Spec.Valid` (`valid_apply`): a pseudo-legal non-castling move
that does not leave the mover in check (`valid_normal`), and legal castling (`valid_castle`, through `valid_cBoard`, which holds
for any four squares), with `Spec.castleLegal` read off (`castleLegal_of`, `castle_facts`). -/
namespace Rawr.SV
open Rawr.Spec

section normal
variable {a : APos} {s t : Nat} {pr : Option Kind} {pc : Piece}

def newPiece (pr : Option Kind) (pc : Piece) : Piece :=
  match pr with | some k => ⟨pc.white, k⟩ | none => pc

def newBoard (a : APos) (s t : Nat) (pr : Option Kind) (pc : Piece) : Board :=
  setSq (if isEpB a s t pc = true then setSq (setSq a.board s none) (sq (file t) (rank s)) none
    else setSq a.board s none) t (some (newPiece pr pc))

theorem apply_board (h : a.board s = some pc) : (apply a (.normal s t pr)).board = newBoard a s t pr pc := by
  rw [apply_normal h]
  rfl

theorem newPiece_white : (newPiece pr pc).white = pc.white := by
  unfold newPiece; split <;> rfl

theorem newBoard_t : newBoard a s t pr pc t = some (newPiece pr pc) := by
  simp [newBoard, setSq]

theorem newBoard_other {j : Nat} (hj : j ≠ t) :
    newBoard a s t pr pc j = if j = s then none
      else if isEpB a s t pc = true ∧ j = sq (file t) (rank s) then none else a.board j := by
  unfold newBoard setSq
  rw [if_neg hj]
  by_cases hE : isEpB a s t pc = true
  · simp only [hE, if_true, true_and]
    by_cases h1 : j = s
    · simp [h1]
    · simp [h1]
  · simp only [hE]
    rfl

theorem newBoard_some {j : Nat} {x : Piece} (hj : j ≠ t) (h : newBoard a s t pr pc j = some x) :
    a.board j = some x ∧ j ≠ s := by
  rw [newBoard_other hj] at h
  split at h
  · cases h
  · next h1 =>
    split at h
    · cases h
    · exact ⟨h, h1⟩

theorem ep_victim (v : ValidFacts a) (nl : NormalLegal a s t pr pc) (hE : isEpB a s t pc = true) :
    a.board (sq (file t) (rank s)) = some ⟨!a.whiteToMove, .pawn⟩ ∧ sq (file t) (rank s) ≠ t := by
  obtain ⟨hk, hf, hn⟩ := isEpB_iff.mp hE
  obtain ⟨hep, hr⟩ := nl.epT hk hn (fun e => hf e.symm)
  obtain ⟨v1, _, v3⟩ := v.ep t hep
  have hdc := pdir_cases pc.white
  have hw := nl.hw
  have : rank s = (if a.whiteToMove = true then 4 else 3) := by
    rw [← hw] at v1 ⊢
    cases hwh : pc.white <;> simp only [hwh, Bool.false_eq_true, if_false, if_true, pdir] at v1 hr ⊢ <;> omega
  rw [this]
  refine ⟨v3, fun e => ?_⟩
  rw [e, hn] at v3
  cases v3

/-- a pseudo-legal move never captures a king: the opponent would be in check. -/
theorem no_king_capture (v : ValidFacts a) (nl : NormalLegal a s t pr pc) :
    a.board t ≠ some ⟨!a.whiteToMove, .king⟩ := by
  intro h
  obtain ⟨_, hatt⟩ := nl.tgt _ h
  have : inCheck a.board (!a.whiteToMove) = true := by
    unfold inCheck kingSquares
    rw [List.any_eq_true]
    refine ⟨t, ?_, ?_⟩
    · rw [List.mem_filter]
      exact ⟨List.mem_range.mpr nl.ht, by simp [h]⟩
    · unfold attackedBy
      rw [List.any_eq_true]
      refine ⟨s, List.mem_range.mpr nl.hs, ?_⟩
      rw [nl.hpc]
      simp [nl.hw, hatt]
  rw [v.notInCheck] at this
  cases this

theorem newPiece_not_king (nl : NormalLegal a s t pr pc) (hk : pc.kind ≠ .king) : (newPiece pr pc).kind ≠ .king := by
  unfold newPiece
  split
  · next k =>
    obtain ⟨_, hm, _⟩ := nl.prK k rfl
    intro e
    simp only [] at e
    subst e
    simp [promoKinds] at hm
  · exact hk

theorem king_stays (v : ValidFacts a) (nl : NormalLegal a s t pr pc) {c : Bool} {k : Nat}
    (hu : UniqueKing a.board c k) (hc : c ≠ a.whiteToMove ∨ pc.kind ≠ .king) :
    UniqueKing (newBoard a s t pr pc) c k := by
  apply uniqueKing_congr hu
  intro j hj
  by_cases hjt : j = t
  · subst hjt
    rw [newBoard_t]
    constructor
    · intro h
      exfalso
      have h := Option.some.inj h
      have hw : (newPiece pr pc).white = c := by rw [h]
      rw [newPiece_white, nl.hw] at hw
      rcases hc with hc | hc
      · exact hc hw.symm
      · exact newPiece_not_king nl hc (by rw [h])
    · intro h
      exfalso
      by_cases hcw : c = a.whiteToMove
      · obtain ⟨h1, _⟩ := nl.tgt _ h
        apply h1
        rw [nl.hw, hcw]
      · have : c = !a.whiteToMove := Bool.eq_not_of_ne hcw
        rw [this] at h
        exact no_king_capture v nl h
  · constructor
    · intro h
      exact (newBoard_some hjt h).1
    · intro h
      rw [newBoard_other hjt]
      have h1 : j ≠ s := by
        intro e
        subst e
        rw [nl.hpc] at h
        have h := Option.some.inj h
        rcases hc with hc | hc
        · apply hc; rw [← nl.hw, h]
        · apply hc; rw [h]
      rw [if_neg h1]
      split
      · next hE =>
        exfalso
        obtain ⟨hv, _⟩ := ep_victim v nl hE.1
        rw [← hE.2, h] at hv
        cases hv
      · exact h

theorem king_moves (nl : NormalLegal a s t pr pc) {k : Nat}
    (hu : UniqueKing a.board a.whiteToMove k) (hk : pc.kind = .king) :
    UniqueKing (newBoard a s t pr pc) a.whiteToMove t := by
  have hpr : pr = none := nl.pr_none (by rw [hk]; exact nofun)
  have hpc : pc = ⟨a.whiteToMove, .king⟩ := by rw [nl.pc_eq, hk]
  have hnp : newPiece pr pc = ⟨a.whiteToMove, .king⟩ := by rw [hpr]; exact hpc
  have hsk : s = k := hu.2.2 s nl.hs (by rw [nl.hpc, hpc])
  refine ⟨nl.ht, by rw [newBoard_t, hnp], ?_⟩
  intro j hj h
  by_cases hjt : j = t
  · exact hjt
  · exfalso
    obtain ⟨h1, h2⟩ := newBoard_some hjt h
    exact h2 ((hu.2.2 j hj h1).trans hsk.symm)

theorem lostCore_some {r : Option Nat} {mover km : Bool} {hr : Int} {s t f : Nat}
    (h : lostCore r mover hr s t km = some f) :
    r = some f ∧ (mover && km) = false ∧ s ≠ sq f hr ∧ t ≠ sq f hr := by
  unfold lostCore at h
  cases r with
  | none => cases h
  | some g =>
    simp only [] at h
    split at h
    · cases h
    · next hc =>
      cases h
      simp only [Bool.or_eq_true, beq_iff_eq, not_or] at hc
      exact ⟨rfl, by simpa using hc.1.1, hc.1.2, hc.2⟩

theorem right_apply_normal (h : a.board s = some pc) (w ks : Bool) :
    right (apply a (.normal s t pr)) w ks =
      lostCore (right a w ks) (w == a.whiteToMove) (homeRank w) s t (pc.kind == .king) := by
  rw [apply_normal h]
  cases w <;> cases ks <;> rfl

theorem kings_normal (v : ValidFacts a) (nl : NormalLegal a s t pr pc) {c : Bool} {k : Nat}
    (hk : UniqueKing a.board c k) : UniqueKing (newBoard a s t pr pc) c (if k = s then t else k) := by
  by_cases hks : k = s
  · rw [if_pos hks]
    subst hks
    have hpc : pc = ⟨c, .king⟩ := Option.some.inj (nl.hpc.symm.trans hk.2.1)
    have hcw : c = a.whiteToMove := by rw [← nl.hw, hpc]
    subst hcw
    exact king_moves nl hk (by rw [hpc])
  · rw [if_neg hks]
    apply king_stays v nl hk
    by_cases hc : c = a.whiteToMove
    · right
      intro hkd
      exact hks (hk.2.2 s nl.hs (by rw [nl.hpc, nl.pc_eq, hkd, hc])).symm
    · exact .inl hc

theorem pawns_normal (v : ValidFacts a) (nl : NormalLegal a s t pr pc) (j : Nat) (hj : j < 64) (x : Piece)
    (hx : newBoard a s t pr pc j = some x) (hk : x.kind = .pawn) : rank j ≠ 0 ∧ rank j ≠ 7 := by
  by_cases hjt : j = t
  · subst hjt
    rw [newBoard_t] at hx
    have hx := Option.some.inj hx
    subst hx
    unfold newPiece at hk
    split at hk
    · next k =>
      obtain ⟨_, hm, _⟩ := nl.prK k rfl
      simp only [] at hk
      subst hk
      simp [promoKinds] at hm
    · have hs := v.pawns s nl.hs pc nl.hpc hk
      have hb := Att.file_bounds s
      have hbr := Att.rank_bounds nl.hs
      have hdc := pdir_cases pc.white
      have hlast : rank j ≠ plast pc.white := by
        by_cases hep : a.ep = some j
        · have := (v.ep j hep).1
          rw [← nl.hw] at this
          rw [this]
          cases pc.white <;> simp [plast]
        · exact nl.prN rfl hk hep
      rcases nl.pawnRank hk with h1 | ⟨h1, _⟩ <;> omega
  · obtain ⟨h1, _⟩ := newBoard_some hjt hx
    exact v.pawns j hj x h1 hk

theorem rights_normal (v : ValidFacts a) (nl : NormalLegal a s t pr pc) (w ks : Bool) (f : Nat)
    (h : lostCore (right a w ks) (w == a.whiteToMove) (homeRank w) s t (pc.kind == .king) = some f) :
    f < 8 ∧ newBoard a s t pr pc (sq f (homeRank w)) = some ⟨w, .rook⟩ ∧
      ∃ k, kingSquares (newBoard a s t pr pc) w = [k] ∧ rank k = homeRank w ∧
        (if ks = true then file k < (f : Int) else (f : Int) < file k) := by
  obtain ⟨hr, hm, hs, ht⟩ := lostCore_some h
  obtain ⟨h1, h2, k, hk, h3, h4⟩ := v.rights w ks f hr
  refine ⟨h1, ?_, k, ?_, h3, h4⟩
  · rw [newBoard_other (Ne.symm ht), if_neg (Ne.symm hs)]
    split
    · next hE =>
      exfalso
      obtain ⟨hv, _⟩ := ep_victim v nl hE.1
      rw [← hE.2, h2] at hv
      cases hv
    · exact h2
  · apply kingSquares_of_unique
    apply king_stays v nl (unique_of_kingSquares hk)
    by_cases hc : w = a.whiteToMove
    · right
      intro e
      rw [hc, e] at hm
      simp at hm
    · left; exact hc

/-- a pawn move over two ranks is a double push from the start rank: straight, over an empty square `e`
onto an empty square; the ranks of `s`, `e`, `t` as the opponent, who moves next, sees them. -/
theorem double_push (nl : NormalLegal a s t pr pc) (hk : pc.kind = .pawn) (h2 : (rank t - rank s).natAbs = 2) :
    pr = none ∧ a.board t = none ∧ a.board (sq (file s) ((rank s + rank t) / 2)) = none ∧
    file (sq (file s) ((rank s + rank t) / 2)) = file s ∧ file t = file s ∧
    rank (sq (file s) ((rank s + rank t) / 2)) = (if (!a.whiteToMove) = true then 5 else 2) ∧
    rank s = (if (!a.whiteToMove) = true then 6 else 1) ∧
    rank t = (if (!a.whiteToMove) = true then 4 else 3) := by
  have hb := Att.file_bounds s
  have hbr := Att.rank_bounds nl.hs
  have hdc := pdir_cases pc.white
  rcases nl.pawnRank hk with h1 | ⟨h1, hf, hst, hp1, hemp, hpr⟩
  · omega
  · have hmid : (rank s + rank t) / 2 = rank s + pdir pc.white := by omega
    have hob : onBoard (file s) (rank s + pdir pc.white) = true := by
      simp only [onBoard, Bool.and_eq_true, decide_eq_true_eq]; omega
    have cf := file_sq hob
    have cr := rank_sq hob
    rw [hmid, cf, cr, ← nl.hw]
    refine ⟨hpr, hemp, hp1, rfl, hf, ?_⟩
    cases hw : pc.white <;> simp only [hw, pdir, pstart, Bool.false_eq_true, if_false, if_true] at hst h1 ⊢ <;>
      simp <;> omega

theorem ep_normal (nl : NormalLegal a s t pr pc) (e : Nat)
    (h : (if (pc.kind == .pawn && (rank t - rank s).natAbs == 2) = true
          then some (sq (file s) ((rank s + rank t) / 2)) else none) = some e) :
    rank e = (if (!a.whiteToMove) = true then 5 else 2) ∧ newBoard a s t pr pc e = none ∧
      newBoard a s t pr pc (sq (file e) (if (!a.whiteToMove) = true then 4 else 3)) =
        some ⟨!(!a.whiteToMove), .pawn⟩ := by
  split at h
  · next hc =>
    cases h
    simp only [Bool.and_eq_true, beq_iff_eq] at hc
    obtain ⟨hpr, _, hemp, hfe, hft, hre, hrs, hrt⟩ := double_push nl hc.1 hc.2
    have het : sq (file s) ((rank s + rank t) / 2) ≠ t := by
      intro e; rw [e, hrt] at hre; revert hre; cases a.whiteToMove <;> decide
    refine ⟨hre, ?_, ?_⟩
    · rw [newBoard_other het]
      split
      · rfl
      · split
        · rfl
        · exact hemp
    · rw [hfe, ← hft, ← hrt, Att.sq_file_rank, newBoard_t, hpr, nl.pc_eq, hc.1, Bool.not_not]
      rfl
  · cases h

theorem valid_normal (v : ValidFacts a) (nl : NormalLegal a s t pr pc)
    (hc : inCheck (apply a (.normal s t pr)).board a.whiteToMove = false) :
    ValidFacts (apply a (.normal s t pr)) := by
  have hB : (apply a (.normal s t pr)).board = newBoard a s t pr pc := apply_board nl.hpc
  have hW : (apply a (.normal s t pr)).whiteToMove = !a.whiteToMove := by rw [apply_normal nl.hpc]
  refine ⟨?_, ?_, ?_, ?_, ?_, ?_, ?_, ?_⟩
  · obtain ⟨k, hk⟩ := v.kw
    rw [hB]; exact ⟨_, kings_normal v nl hk⟩
  · obtain ⟨k, hk⟩ := v.kb
    rw [hB]; exact ⟨_, kings_normal v nl hk⟩
  · rw [hB]; exact pawns_normal v nl
  · rw [hW, Bool.not_not]; exact hc
  · intro w ks f hr
    rw [right_apply_normal nl.hpc] at hr
    unfold RightOK
    rw [hB]
    exact rights_normal v nl w ks f hr
  · intro e he
    rw [hB, hW]
    apply ep_normal nl e
    rw [apply_normal nl.hpc] at he
    exact he
  · rw [apply_normal nl.hpc]
    simp only []
    have := v.half
    split <;> omega
  · rw [apply_normal nl.hpc]
    simp only []
    have := v.full
    split <;> omega

end normal

theorem mem_span_right (x y : Nat) : y ∈ span x y := by
  unfold span
  rw [List.mem_map]
  refine ⟨y - min x y, ?_, ?_⟩
  · rw [List.mem_range]; omega
  · omega

theorem castleLegal_of {a : APos} {ks : Bool} {rf k : Nat}
    (hr : right a a.whiteToMove ks = some rf) (hk : kingSquares a.board a.whiteToMove = [k]) :
    castleLegal a ks =
      (rank k == homeRank a.whiteToMove &&
       a.board (sq rf (homeRank a.whiteToMove)) == some ⟨a.whiteToMove, .rook⟩ &&
       (if ks = true then decide (file k < (rf : Int)) else decide ((rf : Int) < file k)) &&
       !attackedBy a.board (!a.whiteToMove) k &&
       ((span k (sq (if ks = true then 6 else 2) (homeRank a.whiteToMove)) ++
          span (sq rf (homeRank a.whiteToMove)) (sq (if ks = true then 5 else 3) (homeRank a.whiteToMove))).all
          fun s => s == k || s == sq rf (homeRank a.whiteToMove) || (a.board s).isNone) &&
       ((span k (sq (if ks = true then 6 else 2) (homeRank a.whiteToMove))).all
          fun s => !attackedBy a.board (!a.whiteToMove) s) &&
       !inCheck (apply a (.castle ks)).board a.whiteToMove) := by
  unfold castleLegal
  simp only [hr, hk]

theorem castleLegal_no_right {a : APos} {ks : Bool} (hr : right a a.whiteToMove ks = none) :
    castleLegal a ks = false := by
  unfold castleLegal
  simp only [hr]

theorem castleLegal_no_king {a : APos} {ks : Bool} (hk : (kingSquares a.board a.whiteToMove).length ≠ 1) :
    castleLegal a ks = false := by
  unfold castleLegal
  simp only
  split
  · next rf k hr hk' => rw [hk'] at hk; exact absurd rfl hk
  · rfl

section castle
variable {a : APos} {ks : Bool} {rf k : Nat}

/-- what `castleLegal` provides. -/
structure CastleFacts (a : APos) (ks : Bool) (rf k : Nat) : Prop where
  hr : right a a.whiteToMove ks = some rf
  hk : kingSquares a.board a.whiteToMove = [k]
  rook : a.board (sq rf (homeRank a.whiteToMove)) = some ⟨a.whiteToMove, .rook⟩
  free : attackedBy a.board (!a.whiteToMove) k = false
  kTo : sq (if ks = true then 6 else 2) (homeRank a.whiteToMove) = k ∨
        sq (if ks = true then 6 else 2) (homeRank a.whiteToMove) = sq rf (homeRank a.whiteToMove) ∨
        a.board (sq (if ks = true then 6 else 2) (homeRank a.whiteToMove)) = none
  rTo : sq (if ks = true then 5 else 3) (homeRank a.whiteToMove) = k ∨
        sq (if ks = true then 5 else 3) (homeRank a.whiteToMove) = sq rf (homeRank a.whiteToMove) ∨
        a.board (sq (if ks = true then 5 else 3) (homeRank a.whiteToMove)) = none
  safe : inCheck (apply a (.castle ks)).board a.whiteToMove = false

theorem castle_facts (h : castleLegal a ks = true) : ∃ rf k, CastleFacts a ks rf k := by
  unfold castleLegal at h
  simp only [] at h
  split at h
  · next rf k hr hk =>
    simp only [Bool.and_eq_true, beq_iff_eq, List.all_eq_true, List.mem_append, Bool.or_eq_true,
      Option.isNone_iff_eq_none, Bool.not_eq_true'] at h
    obtain ⟨⟨⟨⟨⟨⟨_, hrook⟩, _⟩, hfree⟩, hall⟩, _⟩, hsafe⟩ := h
    refine ⟨rf, k, hr, hk, hrook, hfree, ?_, ?_, hsafe⟩
    · exact or_assoc.mp (hall _ (Or.inl (mem_span_right k _)))
    · exact or_assoc.mp (hall _ (Or.inr (mem_span_right (sq rf (homeRank a.whiteToMove)) _)))
  · cases h

def cBoard (a : APos) (k rsq kTo rTo : Nat) : Board :=
  setSq (setSq (setSq (setSq a.board k none) rsq none) kTo (some ⟨a.whiteToMove, .king⟩)) rTo
    (some ⟨a.whiteToMove, .rook⟩)

theorem cBoard_eq (a : APos) (k rsq kTo rTo j : Nat) :
    cBoard a k rsq kTo rTo j = if j = rTo then some ⟨a.whiteToMove, .rook⟩
      else if j = kTo then some ⟨a.whiteToMove, .king⟩
      else if j = rsq then none else if j = k then none else a.board j := rfl

theorem targets (w ks : Bool) :
    sq (if ks = true then 6 else 2) (homeRank w) < 64 ∧ sq (if ks = true then 5 else 3) (homeRank w) < 64 ∧
    sq (if ks = true then 6 else 2) (homeRank w) ≠ sq (if ks = true then 5 else 3) (homeRank w) := by
  cases w <;> cases ks <;> decide

theorem not_opp {w : Bool} {x : Piece} {kd : Kind} (h : x.white = w) : x ≠ ⟨!w, kd⟩ := by
  intro e
  rw [e] at h
  cases w <;> simp at h

theorem own_or_empty {a : APos} {x k rsq : Nat} {kd : Kind}
    (hk : a.board k = some ⟨a.whiteToMove, .king⟩) (hr : a.board rsq = some ⟨a.whiteToMove, .rook⟩)
    (h : x = k ∨ x = rsq ∨ a.board x = none) : a.board x ≠ some ⟨!a.whiteToMove, kd⟩ := by
  rcases h with h | h | h
  · rw [h, hk]; intro e; exact not_opp (w := a.whiteToMove) rfl (Option.some.inj e)
  · rw [h, hr]; intro e; exact not_opp (w := a.whiteToMove) rfl (Option.some.inj e)
  · rw [h]; intro e; cases e

theorem apply_castle_fields {l : List Nat} (hr : right a a.whiteToMove ks = some rf)
    (hk : kingSquares a.board a.whiteToMove = k :: l) :
    (apply a (.castle ks)).board = cBoard a k (sq rf (homeRank a.whiteToMove))
      (sq (if ks = true then 6 else 2) (homeRank a.whiteToMove))
      (sq (if ks = true then 5 else 3) (homeRank a.whiteToMove)) ∧
    (apply a (.castle ks)).whiteToMove = !a.whiteToMove ∧
    (∀ w ks', right (apply a (.castle ks)) w ks' = if w = a.whiteToMove then none else right a w ks') ∧
    (apply a (.castle ks)).ep = none ∧ (apply a (.castle ks)).half = a.half + 1 ∧
    (apply a (.castle ks)).full = (if a.whiteToMove = true then a.full else a.full + 1) := by
  rw [apply_castle hr hk]
  refine ⟨rfl, rfl, ?_, rfl, rfl, rfl⟩
  intro w ks'
  cases hw : a.whiteToMove <;> cases w <;> cases ks' <;> simp [right]

end castle

section cboard
variable {a : APos} {k rsq kTo rTo : Nat}

theorem cBoard_some {j : Nat} {x : Piece} (h : cBoard a k rsq kTo rTo j = some x) :
    x = ⟨a.whiteToMove, .rook⟩ ∨ (x = ⟨a.whiteToMove, .king⟩ ∧ j = kTo) ∨ (a.board j = some x ∧ j ≠ k) := by
  rw [cBoard_eq] at h
  split at h
  · exact Or.inl (Option.some.inj h).symm
  · split at h
    · next h2 => exact Or.inr (Or.inl ⟨(Option.some.inj h).symm, h2⟩)
    · split at h
      · cases h
      · split at h
        · cases h
        · next h4 => exact Or.inr (Or.inr ⟨h, h4⟩)

theorem cBoard_opp (hk : a.board k = some ⟨a.whiteToMove, .king⟩) (hr : a.board rsq = some ⟨a.whiteToMove, .rook⟩)
    (ck : kTo = k ∨ kTo = rsq ∨ a.board kTo = none) (cr : rTo = k ∨ rTo = rsq ∨ a.board rTo = none)
    (j : Nat) (kd : Kind) :
    cBoard a k rsq kTo rTo j = some ⟨!a.whiteToMove, kd⟩ ↔ a.board j = some ⟨!a.whiteToMove, kd⟩ := by
  constructor
  · intro h
    rcases cBoard_some h with e | ⟨e, _⟩ | ⟨e, _⟩
    · exact absurd e.symm (not_opp rfl)
    · exact absurd e.symm (not_opp rfl)
    · exact e
  · intro h
    have h1 : j ≠ rTo := fun e => own_or_empty hk hr cr (e ▸ h)
    have h2 : j ≠ kTo := fun e => own_or_empty hk hr ck (e ▸ h)
    have h3 : j ≠ rsq := fun e => own_or_empty hk hr (Or.inr (Or.inl rfl)) (e ▸ h)
    have h4 : j ≠ k := fun e => own_or_empty hk hr (Or.inl rfl) (e ▸ h)
    rw [cBoard_eq, if_neg h1, if_neg h2, if_neg h3, if_neg h4]
    exact h

/-- the three clauses of `Spec.Valid` that speak of the board, after castling. -/
theorem valid_cBoard (v : ValidFacts a) (uk : UniqueKing a.board a.whiteToMove k)
    (hr : a.board rsq = some ⟨a.whiteToMove, .rook⟩) (hkT : kTo < 64) (hne : kTo ≠ rTo)
    (ck : kTo = k ∨ kTo = rsq ∨ a.board kTo = none) (cr : rTo = k ∨ rTo = rsq ∨ a.board rTo = none) :
    (∀ c, ∃ k', UniqueKing (cBoard a k rsq kTo rTo) c k') ∧
    (∀ j, j < 64 → ∀ x, cBoard a k rsq kTo rTo j = some x → x.kind = .pawn → rank j ≠ 0 ∧ rank j ≠ 7) ∧
    (∀ ks f, RightOK a (!a.whiteToMove) ks f →
      RightOK { a with board := cBoard a k rsq kTo rTo } (!a.whiteToMove) ks f) := by
  have opp := cBoard_opp uk.2.1 hr ck cr
  have oppKing : ∀ k0, UniqueKing a.board (!a.whiteToMove) k0 →
      UniqueKing (cBoard a k rsq kTo rTo) (!a.whiteToMove) k0 :=
    fun k0 h0 => uniqueKing_congr h0 (fun j _ => opp j .king)
  refine ⟨fun c => ?_, fun j hj x hx hk => ?_, fun ks f ⟨h1, h2, k0, hk0, h3, h4⟩ => ?_⟩
  · by_cases hc : c = a.whiteToMove
    · subst hc
      refine ⟨kTo, hkT, by rw [cBoard_eq, if_neg hne, if_pos rfl], fun j hj h => ?_⟩
      rcases cBoard_some h with e | ⟨_, e⟩ | ⟨e, hjk⟩
      · cases e
      · exact e
      · exact absurd (uk.2.2 j hj e) hjk
    · have : c = !a.whiteToMove := Bool.eq_not_of_ne hc
      subst this
      obtain ⟨k0, h0⟩ := all_kings v (!a.whiteToMove)
      exact ⟨k0, oppKing k0 h0⟩
  · rcases cBoard_some hx with e | ⟨e, _⟩ | ⟨e, _⟩
    · subst e; cases hk
    · subst e; cases hk
    · exact v.pawns j hj x e hk
  · exact ⟨h1, (opp _ _).mpr h2, k0, kingSquares_of_unique (oppKing k0 (unique_of_kingSquares hk0)), h3, h4⟩

end cboard

theorem valid_castle {a : APos} {ks : Bool} {rf k : Nat} (v : ValidFacts a) (cf : CastleFacts a ks rf k) :
    ValidFacts (apply a (.castle ks)) := by
  obtain ⟨hB, hW, hR, hE, hH, hF⟩ := apply_castle_fields cf.hr cf.hk
  obtain ⟨hkT, _, hne⟩ := targets a.whiteToMove ks
  obtain ⟨kings, pawns, rights⟩ :=
    valid_cBoard v (unique_of_kingSquares cf.hk) cf.rook hkT hne cf.kTo cf.rTo
  refine ⟨?_, ?_, ?_, ?_, ?_, ?_, ?_, ?_⟩
  · rw [hB]; exact kings true
  · rw [hB]; exact kings false
  · rw [hB]; exact pawns
  · rw [hW, Bool.not_not]; exact cf.safe
  · intro w ks' f hr
    rw [hR] at hr
    split at hr
    · cases hr
    · next hw =>
      have hw' : w = !a.whiteToMove := Bool.eq_not_of_ne hw
      subst hw'
      unfold RightOK
      rw [hB]
      exact rights ks' f (v.rights _ ks' f hr)
  · intro e he
    rw [hE] at he; cases he
  · rw [hH]; have := v.half; omega
  · rw [hF]; have := v.full; split <;> omega

theorem valid_apply {a : APos} {mv : Move} (hv : Valid a = true) (hl : mv ∈ legalMoves a) :
    Valid (apply a mv) = true := by
  rw [valid_iff] at hv ⊢
  rcases legal_cases hl with ⟨s, t, pr, pc, e, nl, hc⟩ | ⟨ks, e, hc⟩
  · subst e
    exact valid_normal hv nl hc
  · subst e
    obtain ⟨rf, k, cf⟩ := castle_facts hc
    exact valid_castle hv cf

theorem full_apply {a : APos} {mv : Move} (hl : mv ∈ legalMoves a) :
    (apply a mv).full = if a.whiteToMove = true then a.full else a.full + 1 := by
  rcases legal_cases hl with ⟨s, t, pr, pc, rfl, nl, _⟩ | ⟨ks, rfl, hc⟩
  · rw [apply_normal nl.hpc]
  · obtain ⟨rf, k, cf⟩ := castle_facts hc
    exact (apply_castle_fields cf.hr cf.hk).2.2.2.2.2

end Rawr.SV
