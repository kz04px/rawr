/-! Generic fail-soft alpha-beta lemmas (no chess here).

`foldMax cv ms acc` is the reference: the maximum of `acc` and the exact values `cv m` of the moves,
`none` when one of them is undefined. `loop call beta ms st alpha best` is the shape of the move loop of
a fail-soft negamax search whose recursive call on move `m` with window `(a, b)` is `call m st a b`.
`Bound a b r v` says that `r` is a legitimate fail-soft answer for the exact value `v` in window `(a, b)`. -/
namespace Rawr.AB

/-- `r` reported for window `(a, b)` against the exact value `v`:
an upper bound when failing low, exact inside the window, a lower bound when failing high. -/
def Bound (a b r v : Int) : Prop :=
  (r ≤ a → v ≤ r) ∧ (a < r ∧ r < b → r = v) ∧ (b ≤ r → r ≤ v)

theorem Bound.exact_of_inside {a b r v : Int} (h : Bound a b r v) (hv : a < v ∧ v < b) : r = v := by
  obtain ⟨h1, h2, h3⟩ := h
  by_cases c1 : r ≤ a
  · have := h1 c1; omega
  · by_cases c3 : b ≤ r
    · have := h3 c3; omega
    · exact h2 (by omega)

theorem Bound.refl (a b v : Int) : Bound a b v v :=
  ⟨fun _ => Int.le_refl _, fun _ => rfl, fun _ => Int.le_refl _⟩

/-- the negamax convention: the child's answer and value are negated, its window is negated and reversed. -/
theorem Bound.neg {a b r c : Int} (h : Bound (-b) (-a) r (-c)) : Bound a b (-r) c := by
  obtain ⟨h1, h2, h3⟩ := h
  refine ⟨fun h => ?_, fun h => ?_, fun h => ?_⟩
  · have := h3 (by omega); omega
  · have := h2 (by omega); omega
  · have := h1 (by omega); omega

theorem Bound.of_low {a b r v : Int} (hab : a < b) (hr : r ≤ a) (hv : v ≤ r) : Bound a b r v :=
  ⟨fun _ => hv, fun h => by omega, fun h => by omega⟩

theorem Bound.of_high {a b r v : Int} (hab : a < b) (hr : b ≤ r) (hv : r ≤ v) : Bound a b r v :=
  ⟨fun h => by omega, fun h => by omega, fun _ => hv⟩

/-- One step of the move loop. `best` answers for the exact maximum `acc` so far in the window `(a0, b)` without
reaching `b`; the next child, of exact value `c`, answers `s` for the window `(max a0 best, b)`.
Then `max best s` answers for `max acc c`. -/
theorem Bound.step {a0 b best acc s c : Int} (hb : Bound a0 b best acc) (hlt : max a0 best < b)
    (hs : Bound (max a0 best) b s c) : Bound a0 b (max best s) (max acc c) := by
  obtain ⟨h1, h2, -⟩ := hb
  obtain ⟨s1, s2, s3⟩ := hs
  by_cases hba : best ≤ a0
  · -- nothing above `a0` so far: `acc ≤ best`, and the child was searched with alpha `a0`
    have hacc := h1 hba
    rw [Int.max_eq_left hba] at hlt s1 s2
    by_cases hsa : s ≤ a0
    · have hc := s1 hsa
      exact Bound.of_low hlt (by omega) (by omega)
    · rw [Int.max_eq_right (show best ≤ s by omega)]
      by_cases hsb : s < b
      · rw [← s2 ⟨by omega, hsb⟩, Int.max_eq_right (show acc ≤ s by omega)]
        exact Bound.refl _ _ _
      · have hc := s3 (by omega)
        exact Bound.of_high hlt (by omega) (by omega)
  · -- `best` is exact, and the child was searched with alpha `best`
    have hacc := h2 ⟨by omega, by omega⟩
    rw [Int.max_eq_right (show a0 ≤ best by omega)] at hlt s1 s2
    subst hacc
    by_cases hsa : s ≤ best
    · have hc := s1 hsa
      rw [Int.max_eq_left hsa, Int.max_eq_left (show c ≤ best by omega)]
      exact Bound.refl _ _ _
    · rw [Int.max_eq_right (show best ≤ s by omega)]
      by_cases hsb : s < b
      · rw [← s2 ⟨by omega, hsb⟩, Int.max_eq_right (show best ≤ s by omega)]
        exact Bound.refl _ _ _
      · have hc := s3 (by omega)
        exact Bound.of_high (by omega) (by omega) (by omega)

section
variable {M : Type}

def foldMax (cv : M → Option Int) : List M → Int → Option Int
  | [], acc => some acc
  | m :: ms, acc =>
    match cv m with
    | none => none
    | some c => foldMax cv ms (max acc c)

theorem foldMax_ge (cv : M → Option Int) : ∀ (ms : List M) (acc v : Int), foldMax cv ms acc = some v → acc ≤ v
  | [], acc, v, h => by simp only [foldMax, Option.some.injEq] at h; omega
  | m :: ms, acc, v, h => by
    simp only [foldMax] at h
    split at h
    · cases h
    · have := foldMax_ge cv ms _ _ h; omega

theorem foldMax_ge_child (cv : M → Option Int) : ∀ (ms : List M) (acc v : Int), foldMax cv ms acc = some v →
    ∀ m ∈ ms, ∃ c, cv m = some c ∧ c ≤ v
  | [], _, _, _, m, hm => by cases hm
  | x :: ms, acc, v, h, m, hm => by
    simp only [foldMax] at h
    split at h
    · cases h
    · rename_i c hc
      rcases List.mem_cons.mp hm with rfl | hm
      · exact ⟨c, hc, by have := foldMax_ge cv ms _ _ h; omega⟩
      · exact foldMax_ge_child cv ms _ _ h m hm

theorem foldMax_attained (cv : M → Option Int) : ∀ (ms : List M) (acc v : Int), foldMax cv ms acc = some v →
    v = acc ∨ ∃ m ∈ ms, cv m = some v
  | [], acc, v, h => by simp only [foldMax, Option.some.injEq] at h; exact Or.inl h.symm
  | x :: ms, acc, v, h => by
    simp only [foldMax] at h
    split at h
    · cases h
    · rename_i c hc
      rcases foldMax_attained cv ms _ _ h with h' | ⟨m, hm, hv⟩
      · by_cases hle : c ≤ acc
        · left; omega
        · right; exact ⟨x, List.mem_cons_self, by rw [hc, h']; congr 1; omega⟩
      · exact Or.inr ⟨m, List.mem_cons_of_mem _ hm, hv⟩

theorem foldMax_perm (cv : M → Option Int) {l₁ l₂ : List M} (h : l₁.Perm l₂) :
    ∀ acc, foldMax cv l₁ acc = foldMax cv l₂ acc := by
  induction h with
  | nil => intro acc; rfl
  | cons x _ ih =>
    intro acc
    simp only [foldMax]
    split
    · rfl
    · exact ih _
  | swap x y l =>
    intro acc
    simp only [foldMax]
    cases cv x <;> cases cv y <;> simp only
    rename_i a b
    congr 1; omega
  | trans _ _ ih₁ ih₂ => intro acc; rw [ih₁, ih₂]

theorem foldMax_congr (cv cv' : M → Option Int) : ∀ (ms : List M)
    (_h : ∀ m ∈ ms, ∀ c, cv m = some c → cv' m = some c) (acc v : Int),
    foldMax cv ms acc = some v → foldMax cv' ms acc = some v
  | [], _, _, _, h => h
  | m :: ms, hcv, acc, v, h => by
    simp only [foldMax] at h ⊢
    cases hc : cv m with
    | none => rw [hc] at h; cases h
    | some c =>
      rw [hc] at h
      rw [hcv m List.mem_cons_self c hc]
      exact foldMax_congr cv cv' ms (fun m' hm' => hcv m' (List.mem_cons_of_mem _ hm')) _ _ h

theorem foldMax_isSome_iff (cv : M → Option Int) : ∀ (ms : List M) (acc : Int),
    (∃ v, foldMax cv ms acc = some v) ↔ ∀ m ∈ ms, ∃ c, cv m = some c
  | [], acc => by simp [foldMax]
  | x :: ms, acc => by
    simp only [foldMax, List.mem_cons, forall_eq_or_imp]
    cases hx : cv x with
    | none => simp
    | some c => simp only [foldMax_isSome_iff cv ms, Option.some.injEq, exists_eq', true_and]

variable {S : Type}

def loop (call : M → S → Int → Int → Option (Int × S)) (beta : Int) :
    List M → S → Int → Int → Option (Int × S)
  | [], st, _, best => some (best, st)
  | m :: ms, st, alpha, best =>
    match call m st (-beta) (-alpha) with
    | none => none
    | some (sc, st) =>
      let score := -sc
      let best := if score > best then score else best
      let alpha := if score > alpha then score else alpha
      if alpha ≥ beta then some (best, st) else loop call beta ms st alpha best

theorem ite_gt_eq_max (a b : Int) : (if a > b then a else b) = max b a := by omega

/-- one iteration, with the two conditional updates written as `max`. -/
theorem loop_cons (call : M → S → Int → Int → Option (Int × S)) (beta : Int) (m : M) (ms : List M)
    (st : S) (alpha best : Int) :
    loop call beta (m :: ms) st alpha best =
      match call m st (-beta) (-alpha) with
      | none => none
      | some (sc, st1) =>
        if beta ≤ max alpha (-sc) then some (max best (-sc), st1)
        else loop call beta ms st1 (max alpha (-sc)) (max best (-sc)) := by
  simp only [loop]
  cases call m st (-beta) (-alpha) with
  | none => rfl
  | some x => simp only [ite_gt_eq_max, ge_iff_le]

/-- Soundness of the loop, entered with alpha `a0`: `acc` is the exact maximum of the stand-pat value and the
children searched so far, `best` answers for it, and the loop's alpha is `max a0 best < beta`. -/
theorem loop_bound (cv : M → Option Int) (call : M → S → Int → Int → Option (Int × S)) (a0 beta : Int) :
    ∀ (ms : List M)
      (_hcall : ∀ m ∈ ms, ∀ st a b r st', a < b → call m st a b = some (r, st') →
        ∀ c, cv m = some c → Bound a b r (-c))
      (st : S) (best acc r : Int) (st' : S) (v : Int),
      Bound a0 beta best acc → max a0 best < beta →
      loop call beta ms st (max a0 best) best = some (r, st') → foldMax cv ms acc = some v →
      Bound a0 beta r v
  | [], _, st, best, acc, r, st', v, hb, _, h, hv => by
    simp only [loop, Option.some.injEq, Prod.mk.injEq] at h
    simp only [foldMax, Option.some.injEq] at hv
    rw [← h.1, ← hv]; exact hb
  | m :: ms, hcall, st, best, acc, r, st', v, hb, hlt, h, hv => by
    rw [loop_cons] at h
    simp only [foldMax] at hv
    cases hc : cv m with
    | none => rw [hc] at hv; cases hv
    | some c =>
    cases hcl : call m st (-beta) (-max a0 best) with
    | none => rw [hcl] at h; cases h
    | some x =>
    obtain ⟨sc, st1⟩ := x
    rw [hc] at hv
    rw [hcl] at h
    simp only at h hv
    have hb' := hb.step hlt (hcall m List.mem_cons_self st _ _ sc st1 (by omega) hcl c hc).neg
    split at h
    · simp only [Option.some.injEq, Prod.mk.injEq] at h
      rw [← h.1]
      exact Bound.of_high (by omega) (by omega) (Int.le_trans (hb'.2.2 (by omega)) (foldMax_ge cv ms _ _ hv))
    · rw [Int.max_assoc] at h
      exact loop_bound cv call a0 beta ms (fun m' hm' => hcall m' (List.mem_cons_of_mem _ hm')) st1 _ _ r st' v
        hb' (by omega) h hv

theorem loop_isSome (call : M → S → Int → Int → Option (Int × S)) (beta : Int) :
    ∀ (ms : List M) (_hcall : ∀ m ∈ ms, ∀ st a b, ∃ r st', call m st a b = some (r, st'))
      (st : S) (alpha best : Int), ∃ r st', loop call beta ms st alpha best = some (r, st')
  | [], _, st, alpha, best => ⟨_, _, rfl⟩
  | m :: ms, hcall, st, alpha, best => by
    obtain ⟨sc, st1, h⟩ := hcall m List.mem_cons_self st (-beta) (-alpha)
    rw [loop_cons, h]
    simp only
    split
    · exact ⟨_, _, rfl⟩
    · exact loop_isSome call beta ms (fun m' hm' => hcall m' (List.mem_cons_of_mem _ hm')) _ _ _

theorem loop_score_indep {S₁ S₂ : Type} (call₁ : M → S₁ → Int → Int → Option (Int × S₁))
    (call₂ : M → S₂ → Int → Int → Option (Int × S₂)) (beta : Int) :
    ∀ (ms : List M)
      (_hcall : ∀ m ∈ ms, ∀ s₁ s₂ a b, (call₁ m s₁ a b).map Prod.fst = (call₂ m s₂ a b).map Prod.fst)
      (s₁ : S₁) (s₂ : S₂) (alpha best : Int),
      (loop call₁ beta ms s₁ alpha best).map Prod.fst = (loop call₂ beta ms s₂ alpha best).map Prod.fst
  | [], _, _, _, _, _ => rfl
  | m :: ms, hcall, s₁, s₂, alpha, best => by
    have h := hcall m List.mem_cons_self s₁ s₂ (-beta) (-alpha)
    rw [loop_cons, loop_cons]
    cases h₁ : call₁ m s₁ (-beta) (-alpha) with
    | none =>
      cases h₂ : call₂ m s₂ (-beta) (-alpha) with
      | none => rfl
      | some x => rw [h₁, h₂] at h; cases h
    | some x =>
      cases h₂ : call₂ m s₂ (-beta) (-alpha) with
      | none => rw [h₁, h₂] at h; cases h
      | some y =>
        rw [h₁, h₂] at h
        simp only [Option.map_some, Option.some.injEq] at h
        obtain ⟨sc, t₁⟩ := x
        obtain ⟨sc', t₂⟩ := y
        simp only at h
        subst h
        simp only
        split
        · rfl
        · exact loop_score_indep call₁ call₂ beta ms
            (fun m' hm' => hcall m' (List.mem_cons_of_mem _ hm')) _ _ _ _

theorem loop_mono (call : M → S → Int → Int → Option (Int × S)) (beta : Int) (le : S → S → Prop)
    (le_refl : ∀ s, le s s) (le_trans : ∀ a b c, le a b → le b c → le a c) :
    ∀ (ms : List M) (_hcall : ∀ m ∈ ms, ∀ st a b r st', call m st a b = some (r, st') → le st st')
      (st : S) (alpha best r : Int) (st' : S), loop call beta ms st alpha best = some (r, st') → le st st'
  | [], _, st, _, _, r, st', h => by
    simp only [loop, Option.some.injEq, Prod.mk.injEq] at h
    obtain ⟨_, rfl⟩ := h
    exact le_refl _
  | m :: ms, hcall, st, alpha, best, r, st', h => by
    rw [loop_cons] at h
    cases hcl : call m st (-beta) (-alpha) with
    | none => rw [hcl] at h; cases h
    | some x =>
    obtain ⟨sc, st1⟩ := x
    rw [hcl] at h
    simp only at h
    have h01 := hcall m List.mem_cons_self st _ _ sc st1 hcl
    split at h
    · simp only [Option.some.injEq, Prod.mk.injEq] at h
      obtain ⟨_, rfl⟩ := h
      exact h01
    · exact le_trans _ _ _ h01 (loop_mono call beta le le_refl le_trans ms
        (fun m' hm' => hcall m' (List.mem_cons_of_mem _ hm')) _ _ _ _ _ h)

end
end Rawr.AB
