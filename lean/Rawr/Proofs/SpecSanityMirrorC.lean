import Rawr.Proofs.SpecSanityMirrorB
/-!
# Sanity of the specification, part 1 (c): `Spec.pseudoFrom` is colour symmetric
-/
namespace Rawr.SpecS
open Rawr.Spec Rawr.Att Rawr.SV

theorem perm_flatMap_left {α β : Type} (l : List α) {f g : α → List β}
    (h : ∀ a ∈ l, (f a).Perm (g a)) : (l.flatMap f).Perm (l.flatMap g) := by
  induction l with
  | nil => exact List.Perm.refl _
  | cons x xs ih =>
    simp only [List.flatMap_cons]
    exact (h x (List.mem_cons_self)).append (ih (fun a ha => h a (List.mem_cons_of_mem _ ha)))

theorem pieceMoves_mirror (b : Board) {s : Nat} (hs : s < 64) (pc : Piece) :
    (pieceMoves (mirrorB b) (s ^^^ 56) (flipPiece pc)).Perm ((pieceMoves b s pc).map mirrorMove) := by
  unfold pieceMoves
  rw [List.map_map]
  have e1 : (mirrorMove ∘ fun t => Move.normal s t none) =
      (fun t => Move.normal (s ^^^ 56) t none) ∘ (· ^^^ 56) := by
    funext t; rfl
  rw [e1, ← List.map_map]
  apply List.Perm.map
  unfold squares
  refine ((x56_perm.filter _).symm).trans ?_
  rw [List.filter_map]
  apply List.Perm.of_eq
  congr 1
  apply List.filter_congr
  intro t ht
  have ht := List.mem_range.mp ht
  simp only [Function.comp]
  rw [pieceAttacks_mirror b s t hs ht pc, mirrorB_x56]
  congr 1
  cases b t with
  | none => rfl
  | some q => simp only [Option.map_some, flip_white]; cases q.white <;> cases pc.white <;> rfl

theorem pdir_not (w : Bool) : pdir (!w) = - pdir w := by cases w <;> rfl
theorem plast_not (w : Bool) : plast (!w) = 7 - plast w := by cases w <;> rfl
theorem pstart_not (w : Bool) : pstart (!w) = 7 - pstart w := by cases w <;> rfl

theorem onBoard_flip (f r : Int) : onBoard f (7 - r) = onBoard f r := by
  rw [Bool.eq_iff_iff, onBoard_iff, onBoard_iff]; omega

theorem beq_seven_sub (x y : Int) : (7 - x == 7 - y) = (x == y) := by
  rw [Bool.eq_iff_iff, beq_iff_eq, beq_iff_eq]; omega

theorem promoList_mirror (last : Int) (s : Nat) {t : Nat} (ht : t < 64) :
    promoList (7 - last) (s ^^^ 56) (t ^^^ 56) = (promoList last s t).map mirrorMove := by
  unfold promoList
  rw [rank_x56 ht, beq_seven_sub]
  split
  · rw [List.map_map]; rfl
  · rfl

theorem mirrorB_isNone (b : Board) (x : Nat) : (mirrorB b (x ^^^ 56)).isNone = (b x).isNone := by
  rw [mirrorB_x56]; cases b x <;> rfl

theorem pushList_mirror (b : Board) (w : Bool) {s : Nat} (hs : s < 64) :
    pushList (mirrorB b) (!w) (s ^^^ 56) = (pushList b w s).map mirrorMove := by
  unfold pushList
  have e1 : rank (s ^^^ 56) + pdir (!w) = 7 - (rank s + pdir w) := by
    rw [rank_x56 hs, pdir_not]; omega
  have e2 : rank (s ^^^ 56) + 2 * pdir (!w) = 7 - (rank s + 2 * pdir w) := by
    rw [rank_x56 hs, pdir_not]; omega
  rw [file_x56 _, e1, e2, onBoard_flip, plast_not, pstart_not, rank_x56 hs, beq_seven_sub]
  by_cases hob : onBoard (file s) (rank s + pdir w) = true
  · rw [sq_mirror hob, mirrorB_isNone]
    split
    · rw [List.map_append, promoList_mirror _ _ (onBoard_lt hob)]
      congr 1
      by_cases hst : rank s = pstart w
      · have hob2 : onBoard (file s) (rank s + 2 * pdir w) = true := by
          have := file_bounds s
          rw [onBoard_iff, hst]; cases w <;> simp [pstart, pdir] <;> omega
        rw [sq_mirror hob2, mirrorB_isNone]
        split <;> rfl
      · have : (rank s == pstart w) = false := by rw [beq_eq_false_iff_ne]; exact hst
        simp only [this, Bool.false_and, Bool.false_eq_true, if_false, List.map_nil]
    · rfl
  · have : onBoard (file s) (rank s + pdir w) = false := by simpa using hob
    simp only [this, Bool.false_and, Bool.false_eq_true, if_false, List.map_nil]

theorem capL_mirror (b : Board) (ep : Option Nat) (w : Bool) {s : Nat} (hs : s < 64) (df : Int) :
    capL (mirrorB b) (ep.map (· ^^^ 56)) (!w) (s ^^^ 56) df = (capL b ep w s df).map mirrorMove := by
  unfold capL
  have e1 : rank (s ^^^ 56) + pdir (!w) = 7 - (rank s + pdir w) := by
    rw [rank_x56 hs, pdir_not]; omega
  rw [file_x56 _, e1, onBoard_flip, plast_not]
  by_cases hob : onBoard (file s + df) (rank s + pdir w) = true
  · rw [if_pos hob, if_pos hob, sq_mirror hob, mirrorB_x56]
    have hlt := onBoard_lt hob
    cases hq : b (sq (file s + df) (rank s + pdir w)) with
    | none =>
      simp only [Option.map_none]
      have : (Option.map (· ^^^ 56) ep == some (sq (file s + df) (rank s + pdir w) ^^^ 56)) =
          (ep == some (sq (file s + df) (rank s + pdir w))) := by
        cases ep with
        | none => rfl
        | some e => exact x56_beq e _
      rw [this]
      split <;> rfl
    | some q =>
      have hqw : ((flipPiece q).white != !w) = (q.white != w) := by
        rw [flip_white]; cases q.white <;> cases w <;> rfl
      simp only [Option.map_some, hqw]
      split
      · exact promoList_mirror _ _ hlt
      · rfl
  · rw [if_neg hob, if_neg hob]; rfl

theorem pawnMoves_mirror (b : Board) (ep : Option Nat) (w : Bool) {s : Nat} (hs : s < 64) :
    pawnMoves (mirrorB b) (ep.map (· ^^^ 56)) (!w) (s ^^^ 56) = (pawnMoves b ep w s).map mirrorMove := by
  unfold pawnMoves
  rw [List.map_append, pushList_mirror b w hs]
  congr 1
  simp only [List.flatMap_cons, List.flatMap_nil, List.append_nil, List.map_append, capL_mirror b ep w hs]

/-- the pseudo-legal moves of the man on the mirrored square of the mirrored position are the mirrored
moves (as a multiset: the targets of a piece are listed in increasing order of square). -/
theorem pseudoFrom_mirror (a : APos) {s : Nat} (hs : s < 64) :
    (pseudoFrom (mirrorA a) (s ^^^ 56)).Perm ((pseudoFrom a s).map mirrorMove) := by
  have hbd := mirrorA_at a s
  cases hb : a.board s with
  | none =>
    rw [hb] at hbd
    rw [pseudoFrom_none a s hb, pseudoFrom_none _ _ hbd]
    exact List.Perm.refl _
  | some pc =>
    rw [hb] at hbd
    obtain ⟨c, kd⟩ := pc
    by_cases hc : c = a.whiteToMove
    · subst hc
      have hbd' : (mirrorA a).board (s ^^^ 56) = some ⟨(mirrorA a).whiteToMove, kd⟩ := hbd
      by_cases hk : kd = .pawn
      · subst hk
        rw [pseudoFrom_pawn a s hb, pseudoFrom_pawn _ _ hbd']
        exact List.Perm.of_eq (pawnMoves_mirror a.board a.ep a.whiteToMove hs)
      · rw [pseudoFrom_piece a s kd hk hb, pseudoFrom_piece _ _ kd hk hbd']
        exact pieceMoves_mirror a.board hs ⟨a.whiteToMove, kd⟩
    · have hc' : c = !a.whiteToMove := Bool.eq_not_of_ne hc
      subst hc'
      have hbd' : (mirrorA a).board (s ^^^ 56) = some ⟨!(mirrorA a).whiteToMove, kd⟩ := hbd
      rw [pseudoFrom_opp a s kd hb, pseudoFrom_opp _ _ kd hbd']
      exact List.Perm.refl _

theorem pseudoAll_mirror (a : APos) :
    (squares.flatMap (pseudoFrom (mirrorA a))).Perm ((squares.flatMap (pseudoFrom a)).map mirrorMove) := by
  rw [List.map_flatMap]
  have h1 : (squares.flatMap (pseudoFrom (mirrorA a))).Perm
      ((squares.map (· ^^^ 56)).flatMap (pseudoFrom (mirrorA a))) :=
    List.Perm.flatMap_right _ x56_perm.symm
  refine h1.trans ?_
  rw [List.flatMap_map]
  apply perm_flatMap_left
  intro s hs
  exact pseudoFrom_mirror a (List.mem_range.mp hs)

end Rawr.SpecS
