/-! Rules for walking a chain of tests (`if c₁ then .. else if c₂ then .. else ..`), one application per test (a `by_cases`
needs a rewrite of the `if` in each branch after it). To show something OF a chain: `ite_run` (a predicate),
`ite_rel` (a relation between two chains with the same tests; for `=` this is core's `ite_congr rfl`). To use a
hypothesis ABOUT a chain: `ite_cases`, `ite_split`. To bring a term to the form of a chain: `ite_bind` and core's
`apply_ite` push what follows the tests into their branches.

The file imports nothing, so it also holds the few facts about lists and options that modules with no other common
ancestor share: lists without duplicates (`nodup_flatMap_key`, `nodup_map_inj`, `nodup_ite_singleton`) and
`isSome_pair`. -/
namespace Rawr

theorem ite_run {α : Sort _} {R : α → Prop} {c : Prop} [Decidable c] {x y : α} (h1 : c → R x) (h2 : ¬c → R y) :
    R (if c then x else y) := by
  by_cases hc : c
  · rw [if_pos hc]; exact h1 hc
  · rw [if_neg hc]; exact h2 hc

theorem ite_rel {α β : Sort _} {R : α → β → Prop} {c : Prop} [Decidable c] {a b : α} {a' b' : β}
    (h1 : c → R a a') (h2 : ¬c → R b b') : R (if c then a else b) (if c then a' else b') := by
  by_cases hc : c
  · rw [if_pos hc, if_pos hc]; exact h1 hc
  · rw [if_neg hc, if_neg hc]; exact h2 hc

theorem ite_cases {α : Sort _} {c : Prop} [Decidable c] {a b r : α} (h : (if c then a else b) = r) :
    (c ∧ a = r) ∨ (¬c ∧ b = r) := by
  by_cases hc : c
  · left; exact ⟨hc, by rw [if_pos hc] at h; exact h⟩
  · right; exact ⟨hc, by rw [if_neg hc] at h; exact h⟩

/-- case split on an outermost `if` in hypothesis `h : (if c then a else b) = r`, replacing `h`. -/
macro "ite_split " h:ident : tactic =>
  `(tactic| (rcases ite_cases $h with ⟨_, h'⟩ | ⟨_, h'⟩ <;> clear $h <;> have $h := h' <;> clear h'))

/-- a test of `a && b` is a test of `a` and inside it one of `b`; a test of `a || b` is two tests with the same answer
(the Rust source nests or repeats `if`s where the model has the connective). -/
theorem ite_band {α : Sort _} (a b : Bool) (x y : α) :
    (if a = true then (if b = true then x else y) else y) = if (a && b) = true then x else y := by
  cases a <;> cases b <;> rfl

theorem ite_bor {α : Sort _} (a b : Bool) (x y : α) :
    (if (a || b) = true then x else y) = if a = true then x else if b = true then x else y := by
  cases a <;> cases b <;> rfl

theorem ite_bind {α β : Type _} (c : Prop) [Decidable c] (a b : Option α) (f : α → Option β) :
    (if c then a else b).bind f = if c then a.bind f else b.bind f := apply_ite (·.bind f) c a b

theorem nodup_flatMap_key {α β : Type} (key : β → α) (l : List α) (f : α → List β) (hl : l.Nodup)
    (hf : ∀ x ∈ l, (f x).Nodup) (hk : ∀ x ∈ l, ∀ y ∈ f x, key y = x) : (l.flatMap f).Nodup := by
  induction l with
  | nil => exact List.Pairwise.nil
  | cons x xs ih =>
    rw [List.flatMap_cons, List.nodup_append]
    rw [List.nodup_cons] at hl
    refine ⟨hf x List.mem_cons_self, ih hl.2 (fun y hy => hf y (List.mem_cons_of_mem _ hy))
      (fun y hy => hk y (List.mem_cons_of_mem _ hy)), ?_⟩
    intro a ha b hb e
    rw [List.mem_flatMap] at hb
    obtain ⟨y, hy, hby⟩ := hb
    have h1 := hk x List.mem_cons_self a ha
    have h2 := hk y (List.mem_cons_of_mem _ hy) b hby
    rw [e, h2] at h1
    rw [h1] at hy
    exact hl.1 hy

theorem nodup_map_inj {α β : Type} {l : List α} (f : α → β) (hl : l.Nodup)
    (hinj : ∀ a ∈ l, ∀ b ∈ l, f a = f b → a = b) : (l.map f).Nodup := by
  unfold List.Nodup
  rw [List.pairwise_map]
  exact List.Pairwise.imp_of_mem (fun ha hb hne e => hne (hinj _ ha _ hb e)) hl

theorem nodup_ite_singleton {α : Type} (c : Prop) [Decidable c] (a : α) : (if c then [a] else []).Nodup := by
  split
  · exact List.nodup_cons.mpr ⟨List.not_mem_nil, List.Pairwise.nil⟩
  · exact List.Pairwise.nil

theorem isSome_pair {α β : Type} {o : Option (α × β)} (h : o.isSome = true) : ∃ a b, o = some (a, b) := by
  obtain ⟨⟨a, b⟩, h⟩ := Option.isSome_iff_exists.1 h
  exact ⟨a, b, h⟩

end Rawr
