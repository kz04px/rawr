import Rawr.Generated.RustSession
import Rawr.Proofs.FenDecimal
/-!
# The canonicalisation of the UCI transcript, as a function on the printed byte stream

The model (Rawr/Model/Uci.lean) prints `time ?` for every clock value, leaves `nps ..` out and prints `id name Rawr ?`;
the correspondence harness rewrites the real transcript to that form (`canon_transcript` in tools/vlib.py, which
replaces ` time <t>` and removes ` nps <n>` in EVERY line; the function here is narrower and touches only the four
shapes of line below, which are the ones the code prints).  Here the rewriting is a Lean function `transcript : List Char → List String` on the byte stream the regenerated Rust code prints:
the stream is cut at `'\n'` (`linesOf`), every line goes through `canonLine`:

* a line `nps ..` (split.rs) is dropped, a line `time ..` (split.rs) becomes `time ?`,
* `id name Rawr <version>` becomes `id name Rawr ?`,
* in a line `info depth ..` (go.rs `info_printer`, perft.rs) the word after `time` becomes `?` and the word `nps` and
  the word after it are removed (`canonWords`),
* every other line is kept.

`Out s m` says that the stream `s` consists of complete lines whose canonical form is the list `m` of model lines;
`Out.transcript` turns it into the functional statement `transcript s = m`.
`forIn_append` is the rule for the loops of the layer that only print: the text appended is the `flatMap` over the items.
`NumChars` (at the end) are the printed numbers, which `canonWords` copies (`NumChars.plain`).
-/
namespace Rawr.Sess

/-- the lines of a byte stream (each terminated by `'\n'`; an unterminated rest counts as a line). -/
def linesOf : List Char → List (List Char)
  | [] => []
  | c :: r =>
    if c = '\n' then [] :: linesOf r
    else match linesOf r with
      | [] => [[c]]
      | l :: ls => (c :: l) :: ls

theorem linesOf_line (w r : List Char) (h : '\n' ∉ w) : linesOf (w ++ '\n' :: r) = w :: linesOf r := by
  induction w with
  | nil => simp [linesOf]
  | cons c w ih =>
    have hc : c ≠ '\n' := by intro e; apply h; simp [e]
    have hw : '\n' ∉ w := by intro e; apply h; simp [e]
    simp only [List.cons_append, linesOf, hc, if_false, ih hw]

/-- the byte stream of complete lines `L`; `linesOf_unl` recovers them. -/
def unl (L : List (List Char)) : List Char := L.flatMap (· ++ ['\n'])

theorem unl_nil : unl [] = [] := rfl
theorem unl_cons (l : List Char) (L : List (List Char)) : unl (l :: L) = l ++ '\n' :: unl L := by
  simp [unl]
theorem unl_append (A B : List (List Char)) : unl (A ++ B) = unl A ++ unl B := by simp [unl]

theorem linesOf_unl (L : List (List Char)) (h : ∀ l ∈ L, '\n' ∉ l) : linesOf (unl L) = L := by
  induction L with
  | nil => rfl
  | cons l L ih =>
    rw [unl_cons, linesOf_line _ _ (h l (by simp)), ih (fun x hx => h x (by simp [hx]))]

/-- the words of a line, cut at every blank as `str::split(' ')` cuts (empty words between consecutive blanks), so
that `joinSp` undoes it; it mirrors nothing in /repo and serves `canonLine` only. -/
def splitSp : List Char → List (List Char)
  | [] => [[]]
  | c :: r =>
    if c = ' ' then [] :: splitSp r
    else match splitSp r with
      | [] => [[c]]
      | w :: ws => (c :: w) :: ws

theorem splitSp_ne_nil (l : List Char) : splitSp l ≠ [] := by
  cases l with
  | nil => simp [splitSp]
  | cons c r =>
    simp only [splitSp]
    split
    · simp
    · split <;> simp

theorem splitSp_word (w : List Char) (h : ' ' ∉ w) : splitSp w = [w] := by
  induction w with
  | nil => rfl
  | cons c w ih =>
    have hc : c ≠ ' ' := by intro e; apply h; simp [e]
    have hw : ' ' ∉ w := by intro e; apply h; simp [e]
    simp only [splitSp, hc, if_false, ih hw]

theorem splitSp_cons (w r : List Char) (h : ' ' ∉ w) : splitSp (w ++ ' ' :: r) = w :: splitSp r := by
  induction w with
  | nil => simp [splitSp]
  | cons c w ih =>
    have hc : c ≠ ' ' := by intro e; apply h; simp [e]
    have hw : ' ' ∉ w := by intro e; apply h; simp [e]
    simp only [List.cons_append, splitSp, hc, if_false, ih hw]

/-- the words with one blank between them; `splitSp_joinSp` for words without a blank. -/
def joinSp : List (List Char) → List Char
  | [] => []
  | [w] => w
  | w :: ws => w ++ ' ' :: joinSp ws

theorem joinSp_cons (w v : List Char) (ws : List (List Char)) : joinSp (w :: v :: ws) = w ++ ' ' :: joinSp (v :: ws) := rfl

theorem splitSp_joinSp (ws : List (List Char)) (hne : ws ≠ []) (h : ∀ w ∈ ws, ' ' ∉ w) : splitSp (joinSp ws) = ws := by
  induction ws with
  | nil => exact absurd rfl hne
  | cons w ws ih =>
    cases ws with
    | nil => exact splitSp_word w (h w (by simp))
    | cons v ws =>
      rw [joinSp_cons, splitSp_cons _ _ (h w (by simp)), ih (by simp) (fun x hx => h x (by simp [hx]))]

/-- in the words of an `info depth ..` line: `time <t>` becomes `time ?`, `nps <n>` disappears.
State: `none` = copying, `some true` = replace the next word by `?`, `some false` = drop the next word. -/
def canonWords : Option Bool → List (List Char) → List (List Char)
  | _, [] => []
  | some true, _ :: r => ['?'] :: canonWords none r
  | some false, _ :: r => canonWords none r
  | none, w :: r =>
    if w = ['t', 'i', 'm', 'e'] then w :: canonWords (some true) r
    else if w = ['n', 'p', 's'] then canonWords (some false) r
    else w :: canonWords none r

def pfxId : List Char := ['i', 'd', ' ', 'n', 'a', 'm', 'e', ' ', 'R', 'a', 'w', 'r', ' ']
def pfxInfo : List Char := ['i', 'n', 'f', 'o', ' ', 'd', 'e', 'p', 't', 'h', ' ']

/-- the canonical form of one printed line (`none`: the line is dropped). -/
def canonLine (l : List Char) : Option (List Char) :=
  if ['n', 'p', 's', ' '].isPrefixOf l then none
  else if ['t', 'i', 'm', 'e', ' '].isPrefixOf l then some ['t', 'i', 'm', 'e', ' ', '?']
  else if pfxId.isPrefixOf l then some (pfxId ++ ['?'])
  else if pfxInfo.isPrefixOf l then some (joinSp (canonWords none (splitSp l)))
  else some l

/-- **the canonical transcript of a printed byte stream** (what the model's `listen` returns). -/
def transcript (s : List Char) : List String := ((linesOf s).filterMap canonLine).map String.ofList

/-- a word that `canonWords` copies. -/
def Plain (w : List Char) : Prop := w ≠ ['t', 'i', 'm', 'e'] ∧ w ≠ ['n', 'p', 's']

theorem canonWords_plain (w : List Char) (r : List (List Char)) (h : Plain w) :
    canonWords none (w :: r) = w :: canonWords none r := by
  simp [canonWords, h.1, h.2]
/-- the two key words of `canonWords`, under the names the files that follow build the printed lines from. -/
def wTime : List Char := ['t', 'i', 'm', 'e']
def wNps : List Char := ['n', 'p', 's']

theorem canonWords_time (v : List Char) (r : List (List Char)) :
    canonWords none (wTime :: v :: r) = wTime :: ['?'] :: canonWords none r := by
  simp [canonWords, wTime]
theorem canonWords_nps (v : List Char) (r : List (List Char)) :
    canonWords none (wNps :: v :: r) = canonWords none r := by
  simp [canonWords, wNps]
theorem canonWords_append_plain (a b : List (List Char)) (h : ∀ w ∈ a, Plain w) :
    canonWords none (a ++ b) = a ++ canonWords none b := by
  induction a with
  | nil => rfl
  | cons w a ih =>
    rw [List.cons_append, canonWords_plain _ _ (h w (by simp)), ih (fun x hx => h x (by simp [hx]))]
    rfl

theorem isPrefixOf_of_not_mem {a : Char} {l : List Char} (h : a ∉ l) (p : List Char) (ha : a ∈ p) : p.isPrefixOf l = false := by
  cases hp : p.isPrefixOf l
  · rfl
  · exact absurd ((List.isPrefixOf_iff_prefix.1 hp).subset ha) h

/-- a line without a blank is kept: each of the four prefixes contains one. -/
theorem canonLine_noblank (l : List Char) (h : ' ' ∉ l) : canonLine l = some l := by
  have np := isPrefixOf_of_not_mem h
  unfold canonLine
  simp only [np ['n', 'p', 's', ' '] (by decide), np ['t', 'i', 'm', 'e', ' '] (by decide), np pfxId (by decide),
    np pfxInfo (by decide), Bool.false_eq_true, if_false]

/-- a line whose first character is none of `n`, `t`, `i` is kept: these begin the four prefixes. -/
theorem canonLine_head (c : Char) (r : List Char) (h1 : c ≠ 'n') (h2 : c ≠ 't') (h3 : c ≠ 'i') :
    canonLine (c :: r) = some (c :: r) := by
  unfold canonLine
  simp only [pfxId, pfxInfo, List.isPrefixOf, Bool.and_eq_true, beq_iff_eq, Ne.symm h1, Ne.symm h2, Ne.symm h3, false_and,
    if_false]

def Out (s : List Char) (m : List String) : Prop :=
  ∃ L : List (List Char), s = unl L ∧ (∀ l ∈ L, '\n' ∉ l) ∧ L.filterMap canonLine = m.map String.toList

theorem Out.nil : Out [] [] := ⟨[], rfl, by simp, rfl⟩

theorem Out.append {s t : List Char} {m n : List String} (h1 : Out s m) (h2 : Out t n) : Out (s ++ t) (m ++ n) := by
  obtain ⟨L1, e1, n1, c1⟩ := h1
  obtain ⟨L2, e2, n2, c2⟩ := h2
  refine ⟨L1 ++ L2, by rw [e1, e2, unl_append], ?_, by rw [List.filterMap_append, c1, c2, List.map_append]⟩
  intro l hl
  rcases List.mem_append.1 hl with h | h
  · exact n1 l h
  · exact n2 l h

theorem Out.transcript {s : List Char} {m : List String} (h : Out s m) : transcript s = m := by
  obtain ⟨L, e, nl, c⟩ := h
  unfold Sess.transcript
  rw [e, linesOf_unl L nl, c, List.map_map]
  have : (String.ofList ∘ String.toList) = id := by funext x; simp
  rw [this, List.map_id]

theorem Out.line1 (a : String) (b : String) (hn : '\n' ∉ a.toList) (hc : canonLine a.toList = some b.toList) :
    Out (T.line a) [b] :=
  ⟨[a.toList], by simp [T.line, unl], by simpa using hn, by simp [hc]⟩

theorem Out.dropped (a : String) (hn : '\n' ∉ a.toList) (hc : canonLine a.toList = none) : Out (T.line a) [] :=
  ⟨[a.toList], by simp [T.line, unl], by simpa using hn, by simp [hc]⟩

theorem Out.unlines (L : List String) (hn : ∀ a ∈ L, '\n' ∉ a.toList) (hc : ∀ a ∈ L, canonLine a.toList = some a.toList) :
    Out (T.unlines L) L := by
  induction L with
  | nil => exact Out.nil
  | cons a L ih =>
    have : T.unlines (a :: L) = T.line a ++ T.unlines L := by simp [T.unlines]
    rw [this]
    exact Out.append (m := [a]) (Out.line1 a a (hn a (by simp)) (hc a (by simp)))
      (ih (fun x hx => hn x (by simp [hx])) (fun x hx => hc x (by simp [hx])))

theorem forIn_append {α : Type} {step : α → List Char → Option (ForInStep (List Char))} {h : α → List Char} :
    ∀ (l : List α), (∀ x ∈ l, ∀ f, step x f = some (.yield (f ++ h x))) → ∀ f, forIn l f step = some (f ++ l.flatMap h) := by
  intro l
  induction l with
  | nil => intro _ f; simp
  | cons x l ih =>
    intro hs f
    rw [List.forIn_cons, hs x (by simp)]
    simp only [bind, Option.bind_some]
    rw [ih (fun y hy => hs y (by simp [hy]))]
    simp

theorem toString_nat_toList (n : Nat) : (toString n).toList = Nat.toDigits 10 n := by
  show (Nat.repr n).toList = _
  simp [Nat.repr]

theorem nat_digits (n : Nat) : ∀ c ∈ (toString n).toList, '0' ≤ c ∧ c ≤ '9' := by
  rw [toString_nat_toList]; exact toDigits_digits n

/-- the characters of a printed `i32` / `u64` / `u128`: digits or a sign. -/
def NumChars (w : List Char) : Prop := w ≠ [] ∧ ∀ c ∈ w, ('0' ≤ c ∧ c ≤ '9') ∨ c = '-'

theorem numChars_nat (n : Nat) : NumChars (toString n).toList :=
  ⟨by rw [toString_nat_toList]; exact Nat.toDigits_ne_nil, fun c hc => Or.inl (nat_digits n c hc)⟩

theorem numChars_int (i : Int) : NumChars (toString i).toList := by
  cases i with
  | ofNat n => exact numChars_nat n
  | negSucc n =>
    show NumChars (("-" ++ Nat.repr (n + 1))).toList
    have h := numChars_nat (n + 1)
    refine ⟨by simp, ?_⟩
    intro c hc
    simp only [String.toList_append, List.mem_append] at hc
    rcases hc with hc | hc
    · right; simpa using hc
    · exact h.2 c hc

theorem NumChars.ne {w : List Char} (h : NumChars w) {c x : Char} (hc : c ∈ w) (hx : ¬('0' ≤ x ∧ x ≤ '9') ∧ x ≠ '-') : c ≠ x := by
  rintro rfl
  exact (h.2 c hc).elim hx.1 hx.2

theorem NumChars.plain {w : List Char} (h : NumChars w) : Plain w :=
  ⟨fun e => h.ne (c := 't') (by rw [e]; simp) (by decide) rfl, fun e => h.ne (c := 'n') (by rw [e]; simp) (by decide) rfl⟩

theorem NumChars.head {w : List Char} (h : NumChars w) : ∃ c r, w = c :: r ∧ c ≠ 'n' ∧ c ≠ 't' ∧ c ≠ 'i' := by
  cases w with
  | nil => exact absurd rfl h.1
  | cons c r => exact ⟨c, r, rfl, h.ne (by simp) (by decide), h.ne (by simp) (by decide), h.ne (by simp) (by decide)⟩

end Rawr.Sess
