import Rawr.Proofs.SpecValidApply
/-! Weighted census of a board (specification level, no engine model).

`wsum w b` adds the weight `w pc s` of every piece `pc` standing on a square `s < 64` of board `b`.  One equation
says what a pseudo-legal non-castling move of a valid position does to any census (`wsum_newBoard`: the mover's
weight leaves `s`, what stood on `t` and the en-passant victim disappear, the arriving piece's weight lands on `t`),
one what castling does (`wsum_cBoard`).  Counting (`countPieces`) is the census with weights 0 and 1. -/
namespace Rawr.Term
open Rawr Rawr.Spec Rawr.SV

def wsumN (f : Nat → Nat) : Nat → Nat
  | 0 => 0
  | n + 1 => wsumN f n + f n

theorem wsumN_update (f f' : Nat → Nat) (s : Nat) (h : ∀ x, x ≠ s → f' x = f x) :
    ∀ n, (n ≤ s → wsumN f' n = wsumN f n) ∧ (s < n → wsumN f' n + f s = wsumN f n + f' s) := by
  intro n
  induction n with
  | zero => exact ⟨fun _ => rfl, fun h => by omega⟩
  | succ n ih =>
    obtain ⟨ih1, ih2⟩ := ih
    simp only [wsumN]
    constructor
    · intro hle
      rw [ih1 (by omega), h n (by omega)]
    · intro hlt
      by_cases hn : n = s
      · subst hn
        rw [ih1 (Nat.le_refl _)]; omega
      · have := ih2 (by omega)
        rw [h n hn]; omega

theorem wsumN_le (f : Nat → Nat) (h : ∀ x, f x ≤ 1) : ∀ n, wsumN f n ≤ n := by
  intro n
  induction n with
  | zero => exact Nat.le_refl _
  | succ n ih => simp only [wsumN]; have := h n; omega

theorem wsumN_pos (f : Nat → Nat) {s n : Nat} (hs : s < n) (h : 1 ≤ f s) : 1 ≤ wsumN f n := by
  induction n with
  | zero => omega
  | succ n ih =>
    simp only [wsumN]
    by_cases hn : s = n
    · subst hn; omega
    · have := ih (by omega); omega

def cellW (w : Piece → Nat → Nat) (b : Board) (s : Nat) : Nat :=
  match b s with
  | some pc => w pc s
  | none => 0

def wsum (w : Piece → Nat → Nat) (b : Board) : Nat := wsumN (cellW w b) 64

theorem cellW_some {w : Piece → Nat → Nat} {b : Board} {s : Nat} {pc : Piece} (h : b s = some pc) :
    cellW w b s = w pc s := by unfold cellW; rw [h]

theorem cellW_none {w : Piece → Nat → Nat} {b : Board} {s : Nat} (h : b s = none) : cellW w b s = 0 := by
  unfold cellW; rw [h]

theorem cellW_setSq_ne (w : Piece → Nat → Nat) (b : Board) (s : Nat) (v : Option Piece) (x : Nat) (h : x ≠ s) :
    cellW w (setSq b s v) x = cellW w b x := by
  unfold cellW setSq
  rw [if_neg h]

theorem wsum_setSq_none (w : Piece → Nat → Nat) (b : Board) (s : Nat) (hs : s < 64) :
    wsum w (setSq b s none) + cellW w b s = wsum w b := by
  have := (wsumN_update (cellW w b) (cellW w (setSq b s none)) s (cellW_setSq_ne w b s none) 64).2 hs
  rw [cellW_none (setSq_self b s none)] at this
  exact this

theorem wsum_setSq_some (w : Piece → Nat → Nat) (b : Board) (s : Nat) (pc : Piece) (hs : s < 64) :
    wsum w (setSq b s (some pc)) + cellW w b s = wsum w b + w pc s := by
  have := (wsumN_update (cellW w b) (cellW w (setSq b s (some pc))) s (cellW_setSq_ne w b s (some pc)) 64).2 hs
  rw [cellW_some (setSq_self b s (some pc))] at this
  exact this

theorem wsum_add (w w' : Piece → Nat → Nat) (b : Board) :
    wsum (fun pc s => w pc s + w' pc s) b = wsum w b + wsum w' b := by
  unfold wsum
  generalize 64 = n
  induction n with
  | zero => rfl
  | succ n ih =>
    have e : cellW (fun pc s => w pc s + w' pc s) b n = cellW w b n + cellW w' b n := by
      unfold cellW
      split <;> rfl
    simp only [wsumN, ih, e]
    omega

section normal
variable {a : APos} {s t : Nat} {pr : Option Kind} {pc : Piece}

theorem victim_lt (hs : s < 64) : sq (file t) (rank s) < 64 := by
  have hb := Att.rank_bounds hs
  have hb' := Att.file_bounds t
  exact onBoard_lt ((Att.onBoard_iff _ _).mpr (by omega))

theorem wsum_newBoard (w : Piece → Nat → Nat) (v : ValidFacts a) (nl : NormalLegal a s t pr pc) :
    wsum w (newBoard a s t pr pc) + w pc s + cellW w a.board t +
        (if isEpB a s t pc = true then w ⟨!a.whiteToMove, .pawn⟩ (sq (file t) (rank s)) else 0) =
      wsum w a.board + w (newPiece pr pc) t := by
  have h1 := wsum_setSq_none w a.board s nl.hs
  rw [cellW_some nl.hpc] at h1
  unfold newBoard
  by_cases hE : isEpB a s t pc = true
  · obtain ⟨hv, hvt⟩ := ep_victim v nl hE
    have hvs : sq (file t) (rank s) ≠ s := by
      intro e
      rw [e, nl.hpc] at hv
      have hw := nl.hw
      rw [Option.some.inj hv] at hw
      simp at hw
    have h2 := wsum_setSq_none w (setSq a.board s none) _ (victim_lt (t := t) nl.hs)
    rw [cellW_setSq_ne _ _ _ _ _ hvs, cellW_some hv] at h2
    have h3 := wsum_setSq_some w (setSq (setSq a.board s none) (sq (file t) (rank s)) none) t (newPiece pr pc) nl.ht
    rw [cellW_setSq_ne _ _ _ _ _ (Ne.symm hvt), cellW_setSq_ne _ _ _ _ _ (Ne.symm nl.hne)] at h3
    rw [if_pos hE, if_pos hE]
    omega
  · have h3 := wsum_setSq_some w (setSq a.board s none) t (newPiece pr pc) nl.ht
    rw [cellW_setSq_ne _ _ _ _ _ (Ne.symm nl.hne)] at h3
    rw [if_neg hE, if_neg hE]
    omega

end normal

/-- a square that was the king's, the rook's or empty is empty once both have left. -/
theorem vacated {B : Board} {k rsq x : Nat} (h : x = k ∨ x = rsq ∨ B x = none) :
    setSq (setSq B k none) rsq none x = none := by
  unfold setSq
  split
  · rfl
  · split
    · rfl
    · rcases h with h | h | h
      · contradiction
      · contradiction
      · exact h

theorem wsum_cBoard (w : Piece → Nat → Nat) (a : APos) (k rsq kTo rTo : Nat) (hk64 : k < 64) (hr64 : rsq < 64)
    (hkT64 : kTo < 64) (hrT64 : rTo < 64) (hne : rTo ≠ kTo)
    (hking : a.board k = some ⟨a.whiteToMove, .king⟩) (hrook : a.board rsq = some ⟨a.whiteToMove, .rook⟩)
    (hkTo : kTo = k ∨ kTo = rsq ∨ a.board kTo = none) (hrTo : rTo = k ∨ rTo = rsq ∨ a.board rTo = none) :
    wsum w (cBoard a k rsq kTo rTo) + w ⟨a.whiteToMove, .king⟩ k + w ⟨a.whiteToMove, .rook⟩ rsq =
      wsum w a.board + w ⟨a.whiteToMove, .king⟩ kTo + w ⟨a.whiteToMove, .rook⟩ rTo := by
  have hkr : rsq ≠ k := by
    intro e
    rw [e, hking] at hrook
    cases hrook
  have h1 := wsum_setSq_none w a.board k hk64
  have h2 := wsum_setSq_none w (setSq a.board k none) rsq hr64
  have h3 := wsum_setSq_some w (setSq (setSq a.board k none) rsq none) kTo ⟨a.whiteToMove, .king⟩ hkT64
  have h4 := wsum_setSq_some w (setSq (setSq (setSq a.board k none) rsq none) kTo (some ⟨a.whiteToMove, .king⟩)) rTo
    ⟨a.whiteToMove, .rook⟩ hrT64
  rw [cellW_some hking] at h1
  rw [cellW_setSq_ne _ _ _ _ _ hkr, cellW_some hrook] at h2
  rw [cellW_none (vacated hkTo)] at h3
  rw [cellW_setSq_ne _ _ _ _ _ hne, cellW_none (vacated hrTo)] at h4
  unfold cBoard
  omega

theorem wsum_castle (w : Piece → Nat → Nat) {a : APos} {ks : Bool} {rf k : Nat} (v : ValidFacts a)
    (cf : CastleFacts a ks rf k) :
    wsum w (apply a (.castle ks)).board + w ⟨a.whiteToMove, .king⟩ k +
        w ⟨a.whiteToMove, .rook⟩ (sq rf (homeRank a.whiteToMove)) =
      wsum w a.board + w ⟨a.whiteToMove, .king⟩ (sq (if ks = true then 6 else 2) (homeRank a.whiteToMove)) +
        w ⟨a.whiteToMove, .rook⟩ (sq (if ks = true then 5 else 3) (homeRank a.whiteToMove)) := by
  obtain ⟨hkT, hrT, hne⟩ := targets a.whiteToMove ks
  have hu := unique_of_kingSquares cf.hk
  have hr64 : sq rf (homeRank a.whiteToMove) < 64 := by
    have := (v.rights _ _ _ cf.hr).1
    unfold sq homeRank; split <;> omega
  rw [(apply_castle_fields cf.hr cf.hk).1]
  exact wsum_cBoard w a k _ _ _ hu.1 hr64 hkT hrT (Ne.symm hne) hu.2.1 cf.rook cf.kTo cf.rTo

theorem countPieces_eq_wsum (b : Board) (f : Piece → Bool) :
    countPieces b f = wsum (fun pc _ => if f pc = true then 1 else 0) b := by
  have h : ∀ n, ((List.range n).filter fun s => match b s with | some pc => f pc | none => false).length =
      wsumN (cellW (fun pc _ => if f pc = true then 1 else 0) b) n := by
    intro n
    induction n with
    | zero => rfl
    | succ n ih =>
      rw [List.range_succ, List.filter_append, List.length_append, ih, wsumN]
      unfold cellW
      cases hb : b n with
      | none => simp [hb]
      | some pc => cases hf : f pc <;> simp [hb, hf]
  exact h 64

end Rawr.Term
