import Rawr.Proofs.SpecValidApply
/-! Bridge (domain closure, clause E), specification level: after any legal move of a valid position the
en-passant state is consistent with a double push having just been played (`Spec.EpConsistent`). Only the
parent's `Spec.Valid` is used: an en-passant square appears only after a double push, its origin square is
the (now empty) source square, and putting the pawn back gives the parent's board, on which the side that did
not move was not in check (clause V.4 of the parent). -/
namespace Rawr.Br
open Rawr.Spec Rawr.SV

theorem undo_board (B : Board) (s t : Nat) (pc : Piece) (hs : B s = some pc) (ht : B t = none) :
    setSq (setSq (setSq (setSq B s none) t (some pc)) t none) s (some pc) = B := by
  funext j
  unfold setSq
  by_cases h1 : j = s
  · subst h1; simp [hs]
  · by_cases h2 : j = t
    · subst h2; simp [h1, ht]
    · simp [h1, h2]

theorem ep_normal_consistent {a : APos} {s t : Nat} {pr : Option Kind} {pc : Piece}
    (v : ValidFacts a) (nl : NormalLegal a s t pr pc) :
    EpConsistent (apply a (.normal s t pr)) = true := by
  have hB : (apply a (.normal s t pr)).board = newBoard a s t pr pc := apply_board nl.hpc
  have hW : (apply a (.normal s t pr)).whiteToMove = !a.whiteToMove := by rw [apply_normal nl.hpc]
  have hEp : (apply a (.normal s t pr)).ep = (if (pc.kind == .pawn && (rank t - rank s).natAbs == 2) = true
      then some (sq (file s) ((rank s + rank t) / 2)) else none) := by rw [apply_normal nl.hpc]
  unfold EpConsistent
  rw [hEp]
  split
  · rfl
  · next e he =>
    split at he
    · next hc =>
      cases he
      simp only [Bool.and_eq_true, beq_iff_eq] at hc
      obtain ⟨hpr, hemp, _, hfe, hft, _, hrs, hrt⟩ := double_push nl hc.1 hc.2
      -- the origin square is `s`, the pushed pawn stands on `t`, and taking it back gives the parent's board
      have hnb : newBoard a s t pr pc = setSq (setSq a.board s none) t (some pc) := by
        unfold newBoard isEpB
        rw [hpr, hft]
        simp only [bne_self_eq_false, Bool.and_false, Bool.false_and, Bool.false_eq_true, if_false]
        rfl
      simp only [hW, hB]
      rw [hfe, ← hrs, Att.sq_file_rank, ← hft, ← hrt, Att.sq_file_rank, hnb, Bool.not_not]
      have hpc : (⟨a.whiteToMove, .pawn⟩ : Piece) = pc := by rw [nl.pc_eq, hc.1]
      rw [hpc, undo_board a.board s t pc nl.hpc hemp, v.notInCheck]
      simp [setSq, nl.hne]
    · cases he

theorem epConsistent_apply {a : APos} {mv : Move} (hv : Valid a = true) (hl : mv ∈ legalMoves a) :
    EpConsistent (apply a mv) = true := by
  rw [valid_iff] at hv
  rcases legal_cases hl with ⟨s, t, pr, pc, e, nl, _⟩ | ⟨ks, e, hc⟩
  · subst e
    exact ep_normal_consistent hv nl
  · subst e
    obtain ⟨rf, k, cf⟩ := castle_facts hc
    obtain ⟨_, _, _, hE, _, _⟩ := apply_castle_fields cf.hr cf.hk
    unfold EpConsistent
    rw [hE]

theorem epConsistent_pass (a : APos) :
    EpConsistent { a with whiteToMove := !a.whiteToMove, ep := none, half := 0 } = true := rfl

end Rawr.Br
