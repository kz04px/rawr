import Rawr.Model.Fen
/-! `validate p = Ok` as a conjunction of its tests; `validateAr` (what `set_fen` tests in either arithmetic) is `validate`. -/
namespace Rawr
open Position

theorem ite_some_none_iff' {c : Prop} [Decidable c] {a : String} {x : Option String} :
    (if c then some a else x) = none ↔ ¬c ∧ x = none := by
  by_cases h : c <;> simp [h]

/-- the en-passant test of `validate`. -/
def valEpOk (p : Position) : Bool :=
  match p.ep with
  | none => true
  | some ep =>
    rankOf ep == 5 && !(south (bit (ep % 64)) &&& p.c1 &&& p.p0).isEmpty && !(bit (ep % 64) &&& p.occ).isOcc

theorem validate_none_iff (p : Position) : p.validate = none ↔
    ((p.p0 &&& 0xFF000000000000FF#64).isOcc = false ∧ (p.white &&& p.blackBB).isOcc = false ∧
     (p.p0 &&& p.p1).isOcc = false ∧ (p.p0 &&& p.p2).isOcc = false ∧ (p.p0 &&& p.p3).isOcc = false ∧
     (p.p0 &&& p.p4).isOcc = false ∧ (p.p0 &&& p.p5).isOcc = false ∧ (p.p1 &&& p.p2).isOcc = false ∧
     (p.p1 &&& p.p3).isOcc = false ∧ (p.p1 &&& p.p4).isOcc = false ∧ (p.p1 &&& p.p5).isOcc = false ∧
     (p.p2 &&& p.p3).isOcc = false ∧ (p.p2 &&& p.p4).isOcc = false ∧ (p.p2 &&& p.p5).isOcc = false ∧
     (p.p3 &&& p.p4).isOcc = false ∧ (p.p3 &&& p.p5).isOcc = false ∧ (p.p4 &&& p.p5).isOcc = false) ∧
    valEpOk p = true ∧
    (count (p.white &&& p.p5) = 1 ∧ count (p.blackBB &&& p.p5) = 1 ∧ 0 ≤ p.halfmoves ∧ 1 ≤ p.fullmoves) ∧
    ((p.usK = true → rankOf (lsb (p.c0 &&& p.p5)) = 0) ∧ (p.usQ = true → rankOf (lsb (p.c0 &&& p.p5)) = 0) ∧
     (p.themK = true → rankOf (lsb (p.c1 &&& p.p5)) = 7) ∧ (p.themQ = true → rankOf (lsb (p.c1 &&& p.p5)) = 7) ∧
     (p.usK = true → (p.c0 &&& p.p3).isSet (fromCoords p.cf0 0) = true) ∧
     (p.usQ = true → (p.c0 &&& p.p3).isSet (fromCoords p.cf1 0) = true) ∧
     (p.themK = true → (p.c1 &&& p.p3).isSet (fromCoords p.cf2 7) = true) ∧
     (p.themQ = true → (p.c1 &&& p.p3).isSet (fromCoords p.cf3 7) = true)) ∧
    p.isSqAttacked (lsb (p.c1 &&& p.p5)) false = false := by
  unfold validate valEpOk
  simp only [ite_some_none_iff']
  rcases p.ep with _ | e
  · simp only [ite_some_none_iff', Bool.not_eq_true, bne_iff_ne, ne_eq, Decidable.not_not, Int.not_lt,
      Bool.and_eq_true, Bool.not_eq_eq_eq_not, Bool.not_true, not_and, Bool.not_eq_false, and_assoc,
      and_true, true_and]
  · cases hA : (rankOf e == 5) <;> cases hB : (south (bit (e % 64)) &&& p.c1 &&& p.p0).isEmpty <;>
    cases hC : (bit (e % 64) &&& p.occ).isOcc <;>
    simp only [bne, hA, hB, hC, Bool.not_true, Bool.not_false, if_true, if_false, Bool.false_eq_true,
      ite_some_none_iff', Bool.not_eq_true, Int.not_lt, Bool.and_eq_true, Bool.not_eq_eq_eq_not, not_and,
      Bool.not_eq_false, and_assoc, and_true, true_and, Bool.and_self, Bool.and_false, Bool.false_and, and_false,
      false_and, reduceCtorEq, beq_iff_eq]

theorem validate_none_ep {p : Position} {e : Nat} (h : p.validate = none) (he : p.ep = some e) : rankOf e = 5 := by
  have hep := ((validate_none_iff p).mp h).2.1
  simp only [valEpOk, he, Bool.and_eq_true, beq_iff_eq] at hep
  exact hep.1.1

/-- the en-passant range test of the checked build is implied by `validate`: rank 5 is on the board. -/
theorem validateAr_eq (ar : Arith) (p : Position) : validateAr ar p = p.validate.isNone := by
  unfold validateAr
  cases hv : p.validate with
  | some _ => simp
  | none =>
    cases ar with
    | wrap => simp
    | trap =>
      cases he : p.ep with
      | none => simp
      | some e =>
        have := validate_none_ep hv he
        simp only [rankOf] at this
        simp
        omega
end Rawr
