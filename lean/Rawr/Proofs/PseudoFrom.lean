import Rawr.Proofs.SpecApply
/-!
# `Spec.pseudoFrom`, case by case

The branches of `Spec.pseudoFrom` under names of their own: the moves of a piece (`pieceMoves`), and for a pawn
the pushes (`pushList`), one capture clause (`capL`) and the promotion fan (`promoList`). `pseudoFrom_cases` says which
branch is taken; `Att.mem_pseudoFrom_pawn` and `Att.mem_pseudoFrom_piece` say which moves a branch holds.
-/
namespace Rawr.SV

def pdir (w : Bool) : Int := if w = true then 1 else -1
def pstart (w : Bool) : Int := if w = true then 1 else 6
def plast (w : Bool) : Int := if w = true then 7 else 0

end Rawr.SV

namespace Rawr.SpecS
open Rawr.Spec Rawr.SV

def pieceMoves (b : Board) (s : Nat) (pc : Piece) : List Move :=
  (squares.filter fun t => pieceAttacks b s pc t &&
      (match b t with | some q => q.white != pc.white | none => true)).map
    fun t => Move.normal s t none

def promoList (last : Int) (s t : Nat) : List Move :=
  if rank t == last then promoKinds.map fun k => Move.normal s t (some k) else [Move.normal s t none]

def pushList (b : Board) (w : Bool) (s : Nat) : List Move :=
  if onBoard (file s) (rank s + pdir w) && (b (sq (file s) (rank s + pdir w))).isNone then
    promoList (plast w) s (sq (file s) (rank s + pdir w)) ++
    (if rank s == pstart w && (b (sq (file s) (rank s + 2 * pdir w))).isNone
     then [Move.normal s (sq (file s) (rank s + 2 * pdir w)) none] else [])
  else []

def capL (b : Board) (ep : Option Nat) (w : Bool) (s : Nat) (df : Int) : List Move :=
  if onBoard (file s + df) (rank s + pdir w) then
    match b (sq (file s + df) (rank s + pdir w)) with
    | some q => if q.white != w then promoList (plast w) s (sq (file s + df) (rank s + pdir w)) else []
    | none => if ep == some (sq (file s + df) (rank s + pdir w))
        then [Move.normal s (sq (file s + df) (rank s + pdir w)) none] else []
  else []

def pawnMoves (b : Board) (ep : Option Nat) (w : Bool) (s : Nat) : List Move :=
  pushList b w s ++ ([-1, 1] : List Int).flatMap (capL b ep w s)

theorem pseudoFrom_pawn (a : APos) (s : Nat) (h : a.board s = some ⟨a.whiteToMove, .pawn⟩) :
    pseudoFrom a s = pawnMoves a.board a.ep a.whiteToMove s := by
  unfold pseudoFrom
  simp only [h, bne_self_eq_false, Bool.false_eq_true, if_false]
  rfl

theorem pseudoFrom_piece (a : APos) (s : Nat) (kd : Kind) (hk : kd ≠ .pawn)
    (h : a.board s = some ⟨a.whiteToMove, kd⟩) :
    pseudoFrom a s = pieceMoves a.board s ⟨a.whiteToMove, kd⟩ := by
  unfold pseudoFrom
  simp only [h, bne_self_eq_false, Bool.false_eq_true, if_false]
  cases kd
  · exact absurd rfl hk
  all_goals rfl

theorem pseudoFrom_none (a : APos) (s : Nat) (h : a.board s = none) : pseudoFrom a s = [] := by
  unfold pseudoFrom; simp only [h]

theorem pseudoFrom_opp (a : APos) (s : Nat) (kd : Kind) (h : a.board s = some ⟨!a.whiteToMove, kd⟩) :
    pseudoFrom a s = [] := by
  unfold pseudoFrom
  simp only [h]
  rw [if_pos (by cases a.whiteToMove <;> rfl)]

theorem pseudoFrom_cases (a : APos) (s : Nat) :
    pseudoFrom a s = [] ∨
    (a.board s = some ⟨a.whiteToMove, .pawn⟩ ∧ pseudoFrom a s = pawnMoves a.board a.ep a.whiteToMove s) ∨
    ∃ kd, kd ≠ .pawn ∧ a.board s = some ⟨a.whiteToMove, kd⟩ ∧
      pseudoFrom a s = pieceMoves a.board s ⟨a.whiteToMove, kd⟩ := by
  cases hB : a.board s with
  | none => exact .inl (pseudoFrom_none a s hB)
  | some pc =>
    obtain ⟨c, kd⟩ := pc
    by_cases hc : c = a.whiteToMove
    · subst hc
      by_cases hk : kd = .pawn
      · subst hk
        exact .inr (.inl ⟨rfl, pseudoFrom_pawn a s hB⟩)
      · exact .inr (.inr ⟨kd, hk, rfl, pseudoFrom_piece a s kd hk hB⟩)
    · have hc' : c = !a.whiteToMove := Bool.eq_not_of_ne hc
      subst hc'
      exact .inl (pseudoFrom_opp a s kd hB)

theorem capL_cases (b : Board) (ep : Option Nat) (w : Bool) (s : Nat) (df : Int) :
    capL b ep w s df = [] ∨ (onBoard (file s + df) (rank s + pdir w) = true ∧
      (capL b ep w s df = promoList (plast w) s (sq (file s + df) (rank s + pdir w)) ∨
       capL b ep w s df = [Move.normal s (sq (file s + df) (rank s + pdir w)) none])) := by
  unfold capL
  split
  · next hon =>
    split
    · split
      · exact .inr ⟨hon, .inl rfl⟩
      · exact .inl rfl
    · split
      · exact .inr ⟨hon, .inr rfl⟩
      · exact .inl rfl
  · exact .inl rfl

end Rawr.SpecS

namespace Rawr.Att
open Spec SV SpecS

/-- the promotion field of a pawn move to `t`. -/
def PromoA (w : Bool) (t : Nat) (pr : Option Kind) : Prop :=
  if rank t = plast w then ∃ k ∈ promoKinds, pr = some k else pr = none

theorem mem_promoList (w : Bool) (s t : Nat) (m : Move) :
    m ∈ promoList (plast w) s t ↔ ∃ pr, m = .normal s t pr ∧ PromoA w t pr := by
  unfold PromoA promoList
  by_cases h : rank t = plast w
  · simp only [h, beq_self_eq_true, if_true, List.mem_map]
    constructor
    · rintro ⟨k, hk, rfl⟩; exact ⟨_, rfl, k, hk, rfl⟩
    · rintro ⟨_, rfl, k, hk, rfl⟩; exact ⟨k, hk, rfl⟩
  · have : (rank t == plast w) = false := by simpa using h
    simp only [this, Bool.false_eq_true, if_false, List.mem_singleton, h]
    exact ⟨fun e => ⟨none, e, rfl⟩, fun ⟨_, e, hp⟩ => hp ▸ e⟩

/-- the capture clause for one side. -/
def CapA (P : APos) (w : Bool) (s : Nat) (df : Int) (t : Nat) (pr : Option Kind) : Prop :=
  onBoard (file s + df) (rank s + pdir w) = true ∧ t = sq (file s + df) (rank s + pdir w) ∧
    match P.board t with
    | some q => q.white ≠ w ∧ PromoA w t pr
    | none => P.ep = some t ∧ pr = none

theorem mem_capL (P : APos) (w : Bool) (s : Nat) (df : Int) (m : Move) :
    m ∈ capL P.board P.ep w s df ↔ ∃ b pr, m = .normal s b pr ∧ CapA P w s df b pr := by
  unfold CapA capL
  by_cases hon : onBoard (file s + df) (rank s + pdir w) = true
  · simp only [hon, if_true, true_and]
    generalize sq (file s + df) (rank s + pdir w) = t
    cases hB : P.board t with
    | none =>
      by_cases he : P.ep = some t
      · have he' : (P.ep == some t) = true := by rw [he]; exact beq_self_eq_true _
        rw [if_pos he', List.mem_singleton]
        constructor
        · rintro rfl; exact ⟨t, none, rfl, rfl, by rw [hB]; exact ⟨he, rfl⟩⟩
        · rintro ⟨_, _, rfl, rfl, h⟩; rw [hB] at h; rw [h.2]
      · have he' : ¬ (P.ep == some t) = true := by rw [beq_iff_eq]; exact he
        rw [if_neg he']
        simp only [List.not_mem_nil, false_iff]
        rintro ⟨_, _, _, rfl, h⟩; rw [hB] at h; exact he h.1
    | some q =>
      by_cases hq : q.white = w
      · have : (q.white != w) = false := by simp [hq]
        simp only [this, Bool.false_eq_true, if_false, List.not_mem_nil, false_iff]
        rintro ⟨_, _, _, rfl, h⟩; rw [hB] at h; exact h.1 hq
      · have : (q.white != w) = true := by simpa using hq
        simp only [this, if_true]
        rw [mem_promoList]
        constructor
        · rintro ⟨pr, rfl, h⟩; exact ⟨t, pr, rfl, rfl, by rw [hB]; exact ⟨hq, h⟩⟩
        · rintro ⟨_, pr, rfl, rfl, h⟩; rw [hB] at h; exact ⟨pr, rfl, h.2⟩
  · simp only [hon, Bool.false_eq_true, if_false, List.not_mem_nil, false_and, and_false, exists_false]

/-- the pseudo-legal moves of the pawn on `s`: a push (one square, or two from the start rank), or a capture to either
side. -/
def PawnA (P : APos) (s b : Nat) (pr : Option Kind) : Prop :=
  (onBoard (file s) (rank s + pdir P.whiteToMove) = true ∧
    P.board (sq (file s) (rank s + pdir P.whiteToMove)) = none ∧
      ((b = sq (file s) (rank s + pdir P.whiteToMove) ∧ PromoA P.whiteToMove b pr) ∨
       (rank s = pstart P.whiteToMove ∧
         P.board (sq (file s) (rank s + 2 * pdir P.whiteToMove)) = none ∧
         b = sq (file s) (rank s + 2 * pdir P.whiteToMove) ∧ pr = none))) ∨
   CapA P P.whiteToMove s (-1) b pr ∨ CapA P P.whiteToMove s 1 b pr

theorem mem_pseudoFrom_pawn (P : APos) (s : Nat) (hB : P.board s = some ⟨P.whiteToMove, .pawn⟩) (m : Move) :
    m ∈ pseudoFrom P s ↔ ∃ b pr, m = .normal s b pr ∧ PawnA P s b pr := by
  rw [pseudoFrom_pawn P s hB]
  unfold PawnA pawnMoves pushList
  simp only [List.flatMap_cons, List.flatMap_nil, List.append_nil, List.mem_append]
  rw [mem_capL, mem_capL, List.mem_ite_nil_right, List.mem_append, mem_promoList, List.mem_ite_nil_right,
    List.mem_singleton, Bool.and_eq_true, Bool.and_eq_true, beq_iff_eq,
    Option.isNone_iff_eq_none, Option.isNone_iff_eq_none]
  -- what is left is to move the shape of `m` to the front
  constructor
  · rintro (⟨⟨hon, hb1⟩, ⟨pr, rfl, h⟩ | ⟨⟨hst, hb2⟩, rfl⟩⟩ | ⟨b, pr, rfl, h⟩ | ⟨b, pr, rfl, h⟩)
    · exact ⟨_, pr, rfl, Or.inl ⟨hon, hb1, Or.inl ⟨rfl, h⟩⟩⟩
    · exact ⟨_, none, rfl, Or.inl ⟨hon, hb1, Or.inr ⟨hst, hb2, rfl, rfl⟩⟩⟩
    · exact ⟨b, pr, rfl, Or.inr (Or.inl h)⟩
    · exact ⟨b, pr, rfl, Or.inr (Or.inr h)⟩
  · rintro ⟨b, pr, rfl, ⟨hon, hb1, ⟨rfl, h⟩ | ⟨hst, hb2, rfl, rfl⟩⟩ | h | h⟩
    · exact Or.inl ⟨⟨hon, hb1⟩, Or.inl ⟨pr, rfl, h⟩⟩
    · exact Or.inl ⟨⟨hon, hb1⟩, Or.inr ⟨⟨hst, hb2⟩, rfl⟩⟩
    · exact Or.inr (Or.inl ⟨b, pr, rfl, h⟩)
    · exact Or.inr (Or.inr ⟨b, pr, rfl, h⟩)

theorem normal_mem_pseudoFrom_pawn (P : APos) (s : Nat) (hB : P.board s = some ⟨P.whiteToMove, .pawn⟩)
    (t : Nat) (pr : Option Kind) : Move.normal s t pr ∈ pseudoFrom P s ↔ PawnA P s t pr := by
  rw [mem_pseudoFrom_pawn P s hB]
  exact ⟨fun ⟨_, _, e, h⟩ => by cases e; exact h, fun h => ⟨t, pr, rfl, h⟩⟩

theorem mem_pseudoFrom_piece (P : APos) (s : Nat) (pc : Piece) (hB : P.board s = some pc)
    (hw : pc.white = P.whiteToMove) (hk : pc.kind ≠ .pawn) (m : Move) :
    m ∈ pseudoFrom P s ↔ ∃ t, t < 64 ∧ pieceAttacks P.board s pc t = true ∧
      (match P.board t with | some q => q.white != pc.white | none => true) = true ∧
      m = Move.normal s t none := by
  obtain ⟨w, kd⟩ := pc
  dsimp only at hw hk
  subst hw
  rw [pseudoFrom_piece P s kd hk hB]
  simp only [pieceMoves, List.mem_map, List.mem_filter, squares, List.mem_range, Bool.and_eq_true]
  constructor
  · rintro ⟨t, ⟨h1, h2, h3⟩, rfl⟩; exact ⟨t, h1, h2, h3, rfl⟩
  · rintro ⟨t, h1, h2, h3, rfl⟩; exact ⟨t, ⟨h1, h2, h3⟩, rfl⟩

end Rawr.Att
