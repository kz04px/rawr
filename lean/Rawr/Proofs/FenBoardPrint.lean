import Rawr.Proofs.FenDecimal
import Rawr.Proofs.AbsCell
import Rawr.Generated.StartPos
/-! The board field printed by the model of `get_fen` equals the specification printer
`Spec.printBoard` on board-consistent positions stored from White's point of view. -/
namespace Rawr
open Spec

/-- what the printer sees on one square of a board-consistent position (White's point of view):
either nothing on all four views, or a piece on all four views with equal letters. -/
theorem cell_cases (np : Position) (hb : np.black = false) (hC : Consistent np = true) (s : Nat)
    (hs : s < 64) :
    (np.occ.isSet s = false ∧ np.pieceOn s = none ∧ np.colourOn s = none ∧ absBoard np s = none) ∨
    (∃ k col pc, np.occ.isSet s = true ∧ np.pieceOn s = some k ∧ np.colourOn s = some col ∧
      absBoard np s = some pc ∧ pieceChar k col = pieceLetter pc) := by
  -- a consistent cell is the cell of its `cellPiece`: twelve pieces or nothing
  obtain ⟨c0, c1, c2, c3, c4, c5, c6, c7⟩ :=
    FenRel.content_cellPiece false _ _ _ _ _ _ _ _ (ZH.cellOk_of_consistent hC s)
  rw [ZH.absBoard_eq np s hs]
  simp only [Position.colourOn, Position.pieceOn, Position.occ, BB.isSet, BitVec.getLsbD_or, hb, absSq,
    Bool.false_eq_true, if_false]
  generalize ZH.cellPiece false _ _ _ _ _ _ _ _ = o at *
  simp only [← c0, ← c1, ← c2, ← c3, ← c4, ← c5, ← c6, ← c7]
  rcases o with _ | ⟨w, k⟩
  · exact Or.inl ⟨rfl, rfl, rfl, rfl⟩
  · cases w <;> cases k <;> exact Or.inr ⟨_, _, _, rfl, rfl, rfl, rfl, by decide⟩

/-- the model's rank loop and the specification's `go`, from any intermediate state. -/
theorem fenRank_eq_go (np : Position) (hb : np.black = false) (hC : Consistent np = true) (y : Nat)
    (hy : y < 8) :
    ∀ (fuel x run : Nat) (acc : List Char), x + fuel = 8 → run ≤ x →
      fenRank np y fuel x run acc = some (printRank.go (absBoard np) y x fuel run acc)
  | 0, x, run, acc, hx, hr => by
    simp only [fenRank, printRank.go, intToChars_small run (by omega)]
  | fuel + 1, x, run, acc, hx, hr => by
    have hs : fromCoords x y < 64 := by simp only [fromCoords]; omega
    have hsq : x + 8 * y = fromCoords x y := by simp only [fromCoords]; omega
    have ih := fenRank_eq_go np hb hC y hy fuel (x + 1)
    rw [fenRank, printRank.go, hsq]
    rcases cell_cases np hb hC _ hs with ⟨h1, h2, h3, h4⟩ | ⟨k, col, pc, h1, h2, h3, h4, h5⟩
    · simp only [h1, h2, h3, h4, Bool.false_and, Bool.false_eq_true, if_false]
      exact ih (run + 1) acc (by omega) (by omega)
    · simp only [h1, h2, h3, h4, h5, Bool.true_and, decide_eq_true_eq]
      by_cases hr0 : run > 0
      · simp only [hr0, if_true, intToChars_small run (by omega)]
        exact ih 0 _ (by omega) (by omega)
      · simp only [hr0, if_false]
        have : run = 0 := by omega
        subst this
        exact ih 0 _ (by omega) (by omega)

theorem fenRank_eq_printRank (np : Position) (hb : np.black = false) (hC : Consistent np = true)
    (y : Nat) (hy : y < 8) :
    fenRank np y 8 0 0 [] = some (printRank (absBoard np) y) :=
  fenRank_eq_go np hb hC y hy 8 0 0 [] rfl (Nat.le_refl 0)

theorem ranks_eq_printBoard (np : Position) (hb : np.black = false) (hC : Consistent np = true) :
    getFen.ranks np 8 7 [] = some (printBoard (absBoard np)) := by
  have h := fenRank_eq_printRank np hb hC
  simp only [getFen.ranks, h 7 (by decide), h 6 (by decide), h 5 (by decide), h 4 (by decide),
    h 3 (by decide), h 2 (by decide), h 1 (by decide), h 0 (by decide), printBoard, List.range,
    List.range.loop, List.foldl]
  rfl

/-- non-vacuity: the position after 1.e4 (stored from White's point of view) satisfies the hypotheses,
and the printed board field is the expected string (run digits inside a rank, both letter cases). -/
def exE4 : Position :=
  { Gen.startpos with c0 := 0x1000efff#64, p0 := 0xff00001000ef00#64 }

theorem exE4_ok : exE4.black = false ∧ Consistent exE4 = true := by decide +kernel

theorem ranks_exE4 : getFen.ranks exE4 8 7 [] =
    some "rnbqkbnr/pppppppp/8/8/4P3/8/PPPP1PPP/RNBQKBNR".toList := by decide +kernel

example : exE4.black = false ∧ Consistent exE4 = true := exE4_ok

example : fenRank exE4 3 8 0 0 [] = some "4P3".toList := by decide +kernel

example : getFen.ranks exE4 8 7 [] =
    some "rnbqkbnr/pppppppp/8/8/4P3/8/PPPP1PPP/RNBQKBNR".toList := ranks_exE4

example : printBoard (absBoard exE4) = "rnbqkbnr/pppppppp/8/8/4P3/8/PPPP1PPP/RNBQKBNR".toList :=
  Option.some.inj ((ranks_eq_printBoard exE4 exE4_ok.1 exE4_ok.2).symm.trans ranks_exE4)

#print axioms fenRank_eq_printRank
#print axioms ranks_eq_printBoard

end Rawr
