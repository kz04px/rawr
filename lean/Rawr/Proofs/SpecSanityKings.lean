import Rawr.Proofs.SpecValidApply
/-!
# Sanity of the specification, parts 2 and 4 (a, b): kings are never captured; mate, stalemate and check

Also `leaves` where there is no move and at depth one (`leaves_of_no_moves`, `leaves_one`).

Everything here is about `Rawr/Spec/Chess.lean` alone (no engine model).
-/
namespace Rawr.SpecS
open Rawr.Spec Rawr.SV

theorem dest_not_king {a : APos} {s t : Nat} {pr : Option Kind} (hv : Valid a = true)
    (hl : Move.normal s t pr ∈ legalMoves a) (c : Bool) : a.board t ≠ some ⟨c, .king⟩ := by
  have v := (valid_iff a).mp hv
  rcases legal_cases hl with ⟨s', t', pr', pc, e, nl, _⟩ | ⟨ks, e, _⟩
  · cases e
    intro h
    by_cases hc : c = a.whiteToMove
    · -- own king: a move never lands on a man of the mover
      obtain ⟨h1, _⟩ := nl.tgt _ h
      exact h1 (by rw [nl.hw, hc])
    · have : c = !a.whiteToMove := Bool.eq_not_of_ne hc
      rw [this] at h
      exact no_king_capture v nl h
  · cases e

/-- the en-passant victim is a pawn, not a king: the only other square a move empties besides its
origin. -/
theorem ep_victim_is_pawn {a : APos} {s t : Nat} {pr : Option Kind} {pc : Piece} (hv : Valid a = true)
    (nl : NormalLegal a s t pr pc) (hE : isEpB a s t pc = true) :
    a.board (sq (file t) (rank s)) = some ⟨!a.whiteToMove, .pawn⟩ :=
  (ep_victim ((valid_iff a).mp hv) nl hE).1

theorem kings_survive {a : APos} {m : Move} (hv : Valid a = true) (hl : m ∈ legalMoves a) (c : Bool) :
    (kingSquares (apply a m).board c).length = 1 := by
  have v := (valid_iff _).mp (valid_apply hv hl)
  rw [kingSquares_len_one]
  exact all_kings v c

theorem kings_survive_count {a : APos} {m : Move} (hv : Valid a = true) (hl : m ∈ legalMoves a) (c : Bool) :
    countPieces (apply a m).board (fun pc => pc == ⟨c, .king⟩) = 1 := by
  rw [countKing_eq]; exact kings_survive hv hl c

theorem king_square_after {a : APos} {s t : Nat} {pr : Option Kind} (hv : Valid a = true)
    (hl : Move.normal s t pr ∈ legalMoves a) (c : Bool) (k : Nat) (hk : kingSquares a.board c = [k]) :
    kingSquares (apply a (.normal s t pr)).board c = [if k = s then t else k] := by
  have v := (valid_iff a).mp hv
  rcases legal_cases hl with ⟨s', t', pr', pc, e, nl, _⟩ | ⟨ks, e, _⟩
  · cases e
    rw [apply_board nl.hpc]
    exact kingSquares_of_unique (kings_normal v nl (unique_of_kingSquares hk))
  · cases e

theorem isMate_iff (a : APos) :
    isMate a = true ↔ legalMoves a = [] ∧ inCheck a.board a.whiteToMove = true := by
  unfold isMate
  rw [Bool.and_eq_true, List.isEmpty_iff]

theorem isStalemate_iff (a : APos) :
    isStalemate a = true ↔ legalMoves a = [] ∧ inCheck a.board a.whiteToMove = false := by
  unfold isStalemate
  rw [Bool.and_eq_true, List.isEmpty_iff, Bool.not_eq_true']

theorem mate_or_stalemate (a : APos) :
    (legalMoves a = [] ↔ (isMate a = true ∨ isStalemate a = true)) ∧
    ¬ (isMate a = true ∧ isStalemate a = true) := by
  rw [isMate_iff, isStalemate_iff]
  constructor
  · constructor
    · intro h
      cases hc : inCheck a.board a.whiteToMove
      · exact Or.inr ⟨h, rfl⟩
      · exact Or.inl ⟨h, rfl⟩
    · rintro (h | h) <;> exact h.1
  · rintro ⟨⟨_, h1⟩, _, h2⟩
    rw [h1] at h2; cases h2

theorem leaves_of_no_moves {a : APos} (h : legalMoves a = []) (d : Nat) : leaves a (d + 1) = 0 := by
  simp only [leaves, h, List.map_nil, List.sum_nil]

theorem leaves_one (a : APos) : leaves a 1 = (legalMoves a).length := by
  simp only [leaves]
  induction legalMoves a with
  | nil => rfl
  | cons x xs ih => simp only [List.map_cons, List.sum_cons, List.length_cons, ih]; omega

theorem mover_not_in_check {a : APos} {m : Move} (hl : m ∈ legalMoves a) :
    inCheck (apply a m).board a.whiteToMove = false := by
  rcases legal_cases hl with ⟨s, t, pr, pc, e, _, hc⟩ | ⟨ks, e, hc⟩
  · exact hc
  · subst e
    obtain ⟨rf, k, cf⟩ := castle_facts hc
    exact cf.safe

theorem no_castle_in_check {a : APos} {ks : Bool} (hin : inCheck a.board a.whiteToMove = true) :
    Move.castle ks ∉ legalMoves a := by
  intro hl
  rcases legal_cases hl with ⟨s, t, pr, pc, e, _, _⟩ | ⟨ks', e, hc⟩
  · cases e
  · cases e
    obtain ⟨rf, k, cf⟩ := castle_facts hc
    unfold inCheck at hin
    rw [cf.hk, List.any_cons, List.any_nil, Bool.or_false, cf.free] at hin
    cases hin

end Rawr.SpecS
