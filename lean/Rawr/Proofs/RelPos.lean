import Rawr.Proofs.SpecSanityMirrorD
import Rawr.Proofs.AttackLemmas
/-!
# The position in the mover's frame, as a position of the rules

`relPos p` is `p` read with the mover as White: its board is `relBoard p`, White is to move. The generator
never reads `p.black`; the rules are symmetric under `mirrorA` (`SpecS.legalMoves_mirror`). So a statement
"generated ⇔ legal" needs a proof for `relPos p` only: `legal_frame` carries it to `abs p`.
-/
namespace Rawr.Att
open Spec SpecS

def relPos (p : Position) : APos := abs { p with black := false }

theorem relPos_board (p : Position) : (relPos p).board = relBoard p := rfl
theorem relPos_turn (p : Position) : (relPos p).whiteToMove = true := rfl

theorem relPos_ep (p : Position) : (relPos p).ep = p.ep := by
  show p.ep.map (absSq false) = p.ep
  cases p.ep <;> rfl

theorem abs_eq_frame (p : Position) : abs p = if p.black then mirrorA (relPos p) else relPos p := by
  obtain ⟨c0, c1, p0, p1, p2, p3, p4, p5, hm, fm, bl, ep, uK, uQ, tK, tQ, f0, f1, f2, f3, frc, h⟩ := p
  cases bl
  · rfl
  · simp only [if_true, mirrorA, relPos, abs, Option.map_map]
    congr 1
    exact absBoard_frame _

/-- a move in the mover's frame ↦ the move of the rules. -/
def frameMove (b : Bool) : Move → Move
  | .normal s t pr => .normal (absSq b s) (absSq b t) pr
  | .castle ks => .castle ks

theorem frameMove_true : frameMove true = mirrorMove := by
  funext m; cases m <;> rfl

theorem frameMove_false (m : Move) : frameMove false m = m := by
  cases m <;> rfl

theorem rightsOK_relPos {p : Position} (h : p.cf0 < 8 ∧ p.cf1 < 8 ∧ p.cf2 < 8 ∧ p.cf3 < 8) :
    RightsOK (relPos p) := by
  intro w ks f hr
  unfold right relPos abs at hr
  cases w <;> cases ks <;> simp only [Bool.false_eq_true, if_false] at hr <;>
    (split at hr <;> first | (injection hr with hr; omega) | cases hr)

theorem valid_cf {p : Position} (hV : ValidPos p = true) : p.cf0 < 8 ∧ p.cf1 < 8 ∧ p.cf2 < 8 ∧ p.cf3 < 8 :=
  ⟨(validPos_parts hV).cf0, (validPos_parts hV).cf1, (validPos_parts hV).cf2, (validPos_parts hV).cf3⟩

theorem legal_frame {p : Position} (hV : ValidPos p = true) (m : Move) :
    frameMove p.black m ∈ Spec.legalMoves (abs p) ↔ m ∈ Spec.legalMoves (relPos p) := by
  rw [abs_eq_frame]
  cases p.black
  · rw [frameMove_false]; rfl
  · rw [frameMove_true]
    exact mem_legalMoves_mirror (rightsOK_relPos (valid_cf hV)) m

theorem castleLegal_frame {p : Position} (hV : ValidPos p = true) (ks : Bool) :
    castleLegal (abs p) ks = castleLegal (relPos p) ks := by
  rw [abs_eq_frame]
  cases p.black
  · rfl
  · exact castleLegal_mirror _ (rightsOK_relPos (valid_cf hV)) ks

theorem valid_relPos {p : Position} (hV : ValidPos p = true) : Spec.Valid (relPos p) = true := by
  have h := (validPos_parts hV).spec
  rw [abs_eq_frame] at h
  cases hb : p.black <;> rw [hb] at h
  · exact h
  · rwa [if_pos rfl, valid_mirror] at h

theorem epConsistent_relPos (p : Position) : Spec.EpConsistent (relPos p) = Spec.EpConsistent (abs p) := by
  rw [abs_eq_frame]
  cases p.black
  · rfl
  · rw [if_pos rfl, epConsistent_mirror]

end Rawr.Att
