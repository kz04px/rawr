import Rawr.Generated.RustImp
import Rawr.Generated.StartPos
/-!
# The hand-written model agrees with the IMPERATIVE functions regenerated from the Rust source

`Rawr/Generated/RustImp.lean` is rewritten by `tools/rust2lean_imp.py` from /repo on every run: each `R.<fn>` is
compiled statement by statement from the Rust body of `<fn>` (here position.rs, flip.rs, from_flipped, makenull.rs,
after_null.rs, zobrist.rs, attacks.rs, validate.rs; eval.rs in `RustImpAgree_Eval.lean`, makemove.rs in
`RustImpAgree_MakeMove.lean`, move_generator.rs, count_moves.rs, legal_moves.rs, legal_captures.rs in
`RustImpAgree_MoveGen.lean`).  The theorems below say that the model definition IS the regenerated one (as
functions, all arguments).  Any change to the Rust text of one of these functions changes the generated definition
and breaks the corresponding theorem on the next run.

Where a proof is not `rfl` it rewrites with named lemmas (`simp only`, `rw`): plain `simp` on the large terms would
inline their `let` chains.
-/
namespace Rawr
open Position

/-! ## position.rs -/
theorem agree_get_turn : @R.get_turn = @Position.black := rfl
theorem agree_get_us : @R.get_us = @Position.us := rfl
theorem agree_get_them : @R.get_them = @Position.them := rfl
theorem agree_get_white : @R.get_white = @Position.white := by
  funext p; unfold R.get_white Position.white; cases p.black <;> rfl
theorem agree_get_black : @R.get_black = @Position.blackBB := by
  funext p; unfold R.get_black Position.blackBB; cases p.black <;> rfl
theorem agree_get_side : @R.get_side = @Position.side := rfl
theorem agree_get_empty : @R.get_empty = @Position.empty := rfl
theorem agree_get_occupied : @R.get_occupied = @Position.occ := rfl
theorem agree_get_pawns : @R.get_pawns = @Position.pawns := rfl
theorem agree_get_knights : @R.get_knights = @Position.knightsBB := rfl
theorem agree_get_bishops : @R.get_bishops = @Position.bishops := rfl
theorem agree_get_rooks : @R.get_rooks = @Position.rooks := rfl
theorem agree_get_queens : @R.get_queens = @Position.queens := rfl
theorem agree_get_kings : @R.get_kings = @Position.kings := rfl
theorem agree_get_piece : @R.get_piece = @Position.piece := rfl
theorem agree_get_piece_on : @R.get_piece_on = @Position.pieceOn := rfl
theorem agree_get_colour_on : @R.get_colour_on = @Position.colourOn := rfl
theorem agree_is_occupied : @R.is_occupied = fun p sq => p.occ.isSet sq := rfl
theorem agree_is_empty : @R.is_empty = fun p sq => !p.occ.isSet sq := rfl
theorem agree_is_capture : @R.is_capture = @Position.isCapture := rfl

/-! non-vacuity: the regenerated functions compute (start position, e2) -/
example : R.get_piece_on Gen.startpos 12 = some 0 := by decide
example : R.is_capture Gen.startpos ⟨12, 28, 6⟩ = false := by decide

private theorem ite_some_lt {c : Prop} [Decidable c] {a k n : Nat} {o : Option Nat}
    (h : (if c then some a else o) = some k) (ha : a < n) (ho : o = some k → k < n) : k < n := by
  by_cases hc : c
  · rw [if_pos hc] at h
    exact Option.some.inj h ▸ ha
  · rw [if_neg hc] at h
    exact ho h

theorem pieceOn_lt6 {p : Position} {x k : Nat} (h : p.pieceOn x = some k) : k < 6 := by
  unfold Position.pieceOn at h
  exact ite_some_lt h (by decide) fun h => ite_some_lt h (by decide) fun h => ite_some_lt h (by decide) fun h =>
    ite_some_lt h (by decide) fun h => ite_some_lt h (by decide) fun h => ite_some_lt h (by decide) nofun

/-! ## flip.rs, makenull.rs, after_null.rs  (`if self.ep.is_some() { .. unwrap() .. }` is a `match`; the model
uses `Option.map`: one `cases` on the en-passant field) -/
theorem agree_flip : @R.flip = @Position.flip := by
  funext p
  rcases p with ⟨c0, c1, p0, p1, p2, p3, p4, p5, hm, fm, bl, ep, uk, uq, tk, tq, f0, f1, f2, f3, h, frc⟩
  cases ep <;> rfl
theorem agree_from_flipped : @R.from_flipped = @Position.flip := by
  funext p; unfold R.from_flipped; rw [agree_flip]

/-! ## zobrist.rs -/
/-- `colour as usize * 6 * 64 + piece as usize * 64 + sq.0 as usize` is the model's `zIndex`. -/
theorem agree_get_index : @R.get_index = @zIndex := by
  funext b pc sq; cases b <;> simp [R.get_index, zIndex, col]
theorem agree_ep_key : @R.ep_key = fun sq => genKeys.ep (fileOf sq) := rfl
theorem agree_turn_key : R.turn_key = genKeys.turn := rfl
theorem agree_white_pov : @R.white_pov = @Position.whitePov := by
  funext bb b; cases b <;> rfl

theorem agree_predict_hash : @R.predict_hash = @Position.predictHashK genKeys := by
  funext p m
  unfold R.predict_hash Position.predictHashK
  rw [agree_get_index]
  rfl

theorem agree_calculate_hash : @R.calculate_hash = @Position.calculateHashK genKeys := by
  funext p
  unfold R.calculate_hash Position.calculateHashK
  rw [agree_get_index, agree_white_pov, agree_get_white, agree_get_black]
  rfl

theorem agree_makenull : @R.makenull = @Position.makenull := by
  funext p
  rcases p with ⟨c0, c1, p0, p1, p2, p3, p4, p5, hm, fm, bl, ep, uk, uq, tk, tq, f0, f1, f2, f3, h, frc⟩
  cases ep <;> rfl
theorem agree_after_null : @R.after_null = @Position.makenull := by
  funext p; unfold R.after_null; rw [agree_makenull]

/-! ## attacks.rs -/
theorem agree_is_safe : @R.is_safe = @isSafe := rfl
theorem agree_is_sq_attacked : @R.is_sq_attacked = @Position.isSqAttacked := rfl

private theorem ite_true_false (b : Bool) : (if b = true then true else false) = b := by cases b <;> rfl

/-- `for sq in bb { if c { return true; } } false` is compiled to `if (toList bb).any c then true else false`. -/
theorem agree_is_bb_attacked : @R.is_bb_attacked = @Position.isBbAttacked := by
  funext p bb them
  unfold R.is_bb_attacked Position.isBbAttacked
  rw [ite_true_false]
  rfl

/-- the Rust starts from `Bitboard::empty()` and `|=`s the pawn attacks; the model starts from the pawn attacks. -/
theorem agree_get_attacked : @R.get_attacked = @Position.getAttacked := by
  funext p mask them
  unfold R.get_attacked Position.getAttacked
  simp only [BitVec.zero_or]
  cases them <;> rfl
theorem agree_in_check : @R.in_check = @Position.inCheck := rfl
theorem agree_in_check_them : @R.in_check_them = @Position.inCheckThem := rfl

/-! ## validate.rs
Bridges: (1) `count()` is an `i32` in Rust (`Int` in the compiled term), the model compares the `Nat`;
(2) the `if let Some(ep) = self.ep { .. return Err(..) .. }` block that may fall through is compiled to an
`Option`-valued join (`early`), the model uses `epErr`; (3) the model writes `bit (ep % 64)` for
`Bitboard::from_square(ep)` (the optimised build masks the shift), the compiled term `bit ep`: the two are only
reached when `rankOf ep = 5`, where `ep % 64 = ep`. -/
private theorem natCast_bne_one (n : Nat) : ((n : Int) != 1) = (n != 1) := by
  rw [Bool.eq_iff_iff]; simp only [bne_iff_ne, ne_eq]; omega

theorem agree_validate : @R.validate = @Position.validate := by
  funext p
  unfold R.validate Position.validate
  rw [agree_is_sq_attacked, agree_get_white, agree_get_black]
  simp only [natCast_bne_one, R.get_pawns, R.get_knights, R.get_bishops, R.get_rooks, R.get_queens, R.get_kings,
    R.get_us, R.get_them, R.get_occupied, Position.occ]
  cases p.ep with
  | none => rfl
  | some ep =>
    by_cases hr : (rankOf ep != 5) = true
    · simp only [hr, if_true]
    · have e64 : ep % 64 = ep := by
        simp only [rankOf, bne_iff_ne, ne_eq, Decidable.not_not] at hr; omega
      simp only [hr, e64]
      by_cases hb : (south (bit ep) &&& p.c1 &&& p.p0).isEmpty = true
      · simp only [hb, if_true, Bool.false_eq_true, if_false]
      · simp only [hb]
        by_cases hc : (bit ep &&& (p.c0 ||| p.c1)).isOcc = true
        · simp only [hc, if_true, Bool.false_eq_true, if_false]
        · simp only [hc, if_false, Bool.false_eq_true]
          rfl

end Rawr

#print axioms Rawr.agree_flip
#print axioms Rawr.agree_makenull
#print axioms Rawr.agree_predict_hash
#print axioms Rawr.agree_calculate_hash
#print axioms Rawr.agree_is_bb_attacked
#print axioms Rawr.agree_get_attacked
#print axioms Rawr.agree_validate
