import Rawr.Proofs.AbsSq
import Rawr.Proofs.FlipLemmas
/-! Bitboards that spell out a board. `Shows t c0 c1 P A` says square by square that the two colour boards and the six kind
boards are the ones the absolute board `A` spells out in the frame of the mover (`t`: the mover is Black); `p.Shows A` says
it of the boards of `p`. It is board consistency and the reading of `absBoard` in one (`shows_iff`): a consistent position
shows its `absBoard` (`shows_abs`), and boards known square by square are consistent and denote the board they were read
from (`Shows.consistent`, `Shows.absBoard`). One write on the board toggles one bit of each board on which the old and the
new content differ (`Shows.write`). `flip` shows the same board, and the board shown determines the eight boards. The cell of
eight bits of one square (`ZH.cellOk`, `ZH.cellPiece`) proves `shows_iff`, and `ZH.cellOk_of_consistent` is the source of
the one-square facts about the boards themselves (`ZH.cell_facts` in `Proofs/HashFacts.lean`). `ZH.cnd c b`, a bitboard or a key that is there under
a condition, is how a conditional toggle is written here, in the make-move files and in the key files. -/
namespace Rawr
open Spec Position

namespace ZH

/-- a bitboard, or a key, that is there under a condition: what a conditional toggle XORs in. -/
def cnd (c : Prop) [Decidable c] (b : BB) : BB := if c then b else 0#64

theorem getLsbD_cnd (c : Prop) [Decidable c] (b : BB) (x : Nat) :
    (cnd c b).getLsbD x = (decide c && b.getLsbD x) := by
  unfold cnd
  split <;> simp [*]

theorem cnd_xor (c : Prop) [Decidable c] (a b : BB) : cnd c (a ^^^ b) = cnd c a ^^^ cnd c b := by
  unfold cnd
  split <;> simp

theorem cnd_bxor (a b : Bool) (x : BB) : cnd a x ^^^ cnd b x = cnd (a ^^ b) x := by
  cases a <;> cases b <;> simp [cnd]

/-- the eight bits of one square of a board-consistent position. -/
def cellOk (u v q0 q1 q2 q3 q4 q5 : Bool) : Bool :=
  !(u && v) &&
  !(q0 && q1) && !(q0 && q2) && !(q0 && q3) && !(q0 && q4) && !(q0 && q5) &&
  !(q1 && q2) && !(q1 && q3) && !(q1 && q4) && !(q1 && q5) &&
  !(q2 && q3) && !(q2 && q4) && !(q2 && q5) && !(q3 && q4) && !(q3 && q5) && !(q4 && q5) &&
  ((u || v) == (q0 || q1 || q2 || q3 || q4 || q5))

theorem cellOk_of_consistent {p : Position} (h : Consistent p) (s : Nat) :
    cellOk (p.c0.getLsbD s) (p.c1.getLsbD s) (p.p0.getLsbD s) (p.p1.getLsbD s) (p.p2.getLsbD s)
      (p.p3.getLsbD s) (p.p4.getLsbD s) (p.p5.getLsbD s) = true := by
  simp only [Consistent, Bool.and_eq_true, beq_iff_eq] at h
  obtain ⟨⟨⟨⟨⟨⟨⟨⟨⟨⟨⟨⟨⟨⟨⟨⟨h0, h1⟩, h2⟩, h3⟩, h4⟩, h5⟩, h6⟩, h7⟩, h8⟩, h9⟩, h10⟩, h11⟩, h12⟩, h13⟩, h14⟩, h15⟩, h16⟩ := h
  have e := congrArg (fun x => x.getLsbD s) h16
  simp only [BitVec.getLsbD_or] at e
  simp only [cellOk, and_zero_bit h0, and_zero_bit h1, and_zero_bit h2, and_zero_bit h3, and_zero_bit h4,
    and_zero_bit h5, and_zero_bit h6, and_zero_bit h7, and_zero_bit h8, and_zero_bit h9, and_zero_bit h10,
    and_zero_bit h11, and_zero_bit h12, and_zero_bit h13, and_zero_bit h14, and_zero_bit h15, e,
    Bool.not_false, Bool.and_self, beq_self_eq_true]

/-- the kind `pieceOn` reports, from the six kind bits of the square. -/
def chain (q0 q1 q2 q3 q4 q5 : Bool) : Option Nat :=
  if q0 then some 0 else if q1 then some 1 else if q2 then some 2 else if q3 then some 3
         else if q4 then some 4 else if q5 then some 5 else none

/-- the piece `absBoard` reports, from the same eight bits. -/
def cellPiece (t : Bool) (u v q0 q1 q2 q3 q4 q5 : Bool) : Option Piece :=
  match chain q0 q1 q2 q3 q4 q5 with
  | none => none
  | some k => if u then some ⟨!t, kindOf k⟩ else if v then some ⟨t, kindOf k⟩ else none

theorem absBoard_eq (p : Position) (a : Nat) (ha : a < 64) :
    absBoard p a = (let s := absSq p.black a
      cellPiece p.black (p.c0.getLsbD s) (p.c1.getLsbD s) (p.p0.getLsbD s) (p.p1.getLsbD s)
          (p.p2.getLsbD s) (p.p3.getLsbD s) (p.p4.getLsbD s) (p.p5.getLsbD s)) := by
  simp only [absBoard, ha, if_true, pieceOn, BB.isSet, cellPiece, chain]
  rfl

end ZH
open ZH

namespace FenRel

/-- the converse of `ZH.cellOk_of_consistent`. -/
theorem consistent_of_cellOk (p : Position)
    (h : ∀ i, i < 64 → cellOk (p.c0.getLsbD i) (p.c1.getLsbD i) (p.p0.getLsbD i) (p.p1.getLsbD i)
      (p.p2.getLsbD i) (p.p3.getLsbD i) (p.p4.getLsbD i) (p.p5.getLsbD i) = true) :
    Consistent p = true := by
  -- bit by bit, the clauses of `cellOk` are the clauses of `Consistent`
  have bits := fun i hi => by
    simpa only [cellOk, Bool.and_eq_true, Bool.not_eq_true', beq_iff_eq] using h i hi
  simp only [Consistent, Bool.and_eq_true, beq_iff_eq]
  refine ⟨⟨⟨⟨⟨⟨⟨⟨⟨⟨⟨⟨⟨⟨⟨⟨?_, ?_⟩, ?_⟩, ?_⟩, ?_⟩, ?_⟩, ?_⟩, ?_⟩, ?_⟩, ?_⟩, ?_⟩, ?_⟩, ?_⟩, ?_⟩, ?_⟩, ?_⟩, ?_⟩
  all_goals
    apply BitVec.eq_of_getLsbD_eq
    intro i hi
    simp only [BitVec.getLsbD_and, BitVec.getLsbD_or, BitVec.getLsbD_zero, bits i hi]

/-- whether the content of one square has colour `w`, has kind `k`. -/
def colP (o : Option Piece) (w : Bool) : Bool := match o with | some pc => pc.white == w | none => false
def kindP (o : Option Piece) (k : Kind) : Bool := match o with | some pc => pc.kind == k | none => false

theorem colP_own (w : Bool) (k : Kind) : colP (some ⟨w, k⟩) w = true := beq_self_eq_true w

theorem colP_opp (w : Bool) (k : Kind) : colP (some ⟨!w, k⟩) w = false := by
  cases w <;> rfl

theorem colP_opp' (w : Bool) (k : Kind) : colP (some ⟨w, k⟩) (!w) = false := by
  cases w <;> rfl

theorem colP_none (w : Bool) : colP none w = false := rfl

theorem kindP_some (w : Bool) (j k : Kind) : kindP (some ⟨w, j⟩) k = (j == k) := rfl

theorem kindP_none (k : Kind) : kindP none k = false := rfl

/-- the eight bits a square content spells out are consistent. -/
theorem cellOk_content (o : Option Piece) (w : Bool) :
    cellOk (colP o w) (colP o (!w)) (kindP o .pawn) (kindP o .knight) (kindP o .bishop) (kindP o .rook)
      (kindP o .queen) (kindP o .king) = true := by
  rcases o with _ | ⟨c, k⟩
  · rfl
  · cases c <;> cases k <;> cases w <;> rfl

/-- … and they determine the content. -/
theorem cellPiece_content (o : Option Piece) (w : Bool) :
    cellPiece (!w) (colP o w) (colP o (!w)) (kindP o .pawn) (kindP o .knight) (kindP o .bishop) (kindP o .rook)
      (kindP o .queen) (kindP o .king) = o := by
  rcases o with _ | ⟨c, k⟩
  · rfl
  · cases c <;> cases k <;> cases w <;> rfl

/-- conversely a consistent cell is what its `cellPiece` spells out. -/
theorem content_cellPiece (t : Bool) (u v q0 q1 q2 q3 q4 q5 : Bool) (h : cellOk u v q0 q1 q2 q3 q4 q5 = true) :
    colP (cellPiece t u v q0 q1 q2 q3 q4 q5) (!t) = u ∧ colP (cellPiece t u v q0 q1 q2 q3 q4 q5) t = v ∧
    kindP (cellPiece t u v q0 q1 q2 q3 q4 q5) .pawn = q0 ∧ kindP (cellPiece t u v q0 q1 q2 q3 q4 q5) .knight = q1 ∧
    kindP (cellPiece t u v q0 q1 q2 q3 q4 q5) .bishop = q2 ∧ kindP (cellPiece t u v q0 q1 q2 q3 q4 q5) .rook = q3 ∧
    kindP (cellPiece t u v q0 q1 q2 q3 q4 q5) .queen = q4 ∧ kindP (cellPiece t u v q0 q1 q2 q3 q4 q5) .king = q5 := by
  revert t u v q0 q1 q2 q3 q4 q5
  decide

theorem beq_some_piece (o : Option Piece) (w : Bool) (k : Kind) :
    (o == some ⟨w, k⟩) = (colP o w && kindP o k) := by
  rcases o with _ | ⟨pw, pk⟩
  · rfl
  · cases pw <;> cases w <;> cases pk <;> cases k <;> rfl

theorem absBoard_cell (p : Position) (i : Nat) (hi : i < 64) :
    absBoard p (absSq p.black i) =
      cellPiece p.black (p.c0.getLsbD i) (p.c1.getLsbD i) (p.p0.getLsbD i) (p.p1.getLsbD i)
        (p.p2.getLsbD i) (p.p3.getLsbD i) (p.p4.getLsbD i) (p.p5.getLsbD i) := by
  rw [ZH.absBoard_eq p _ (absSq_lt _ hi)]
  simp only [absSq_absSq]

end FenRel
open FenRel

/-- the colour boards `c0` (the mover's), `c1` and the kind boards `P` are the ones the absolute board `A` spells out,
square by square in the mover's frame (`t`: the mover is Black). -/
structure Shows (t : Bool) (c0 c1 : BB) (P : Kind → BB) (A : Board) : Prop where
  c0 : ∀ s, s < 64 → c0.getLsbD s = colP (A (absSq t s)) (!t)
  c1 : ∀ s, s < 64 → c1.getLsbD s = colP (A (absSq t s)) t
  kind : ∀ s, s < 64 → ∀ k, (P k).getLsbD s = kindP (A (absSq t s)) k

abbrev Position.Shows (p : Position) (A : Board) : Prop :=
  Rawr.Shows p.black p.c0 p.c1 (fun k => p.piece (kindIdx k)) A

theorem Shows.congr {t : Bool} {c0 c1 : BB} {P : Kind → BB} {A B : Board} (h : Shows t c0 c1 P A)
    (e : ∀ a, a < 64 → A a = B a) : Shows t c0 c1 P B :=
  ⟨fun s hs => e _ (absSq_lt _ hs) ▸ h.c0 s hs, fun s hs => e _ (absSq_lt _ hs) ▸ h.c1 s hs,
    fun s hs k => e _ (absSq_lt _ hs) ▸ h.kind s hs k⟩

theorem Shows.cast {t : Bool} {c0 c1 d0 d1 : BB} {P Q : Kind → BB} {A : Board} (h : Shows t c0 c1 P A)
    (e0 : d0 = c0) (e1 : d1 = c1) (eP : ∀ k, Q k = P k) : Shows t d0 d1 Q A := by
  subst e0 e1
  exact ⟨h.c0, h.c1, fun s hs k => (eP k) ▸ h.kind s hs k⟩

theorem shows_abs {p : Position} (hC : Consistent p = true) : p.Shows (absBoard p) := by
  have cell := fun s hs => (absBoard_cell p s hs).symm ▸
    content_cellPiece p.black _ _ _ _ _ _ _ _ (cellOk_of_consistent hC s)
  refine ⟨fun s hs => (cell s hs).1.symm, fun s hs => (cell s hs).2.1.symm, fun s hs k => ?_⟩
  obtain ⟨_, _, h0, h1, h2, h3, h4, h5⟩ := cell s hs
  cases k
  · exact h0.symm
  · exact h1.symm
  · exact h2.symm
  · exact h3.symm
  · exact h4.symm
  · exact h5.symm

theorem Shows.consistent {p : Position} {A : Board} (h : p.Shows A) : Consistent p = true := by
  refine consistent_of_cellOk p fun i hi => ?_
  have := cellOk_content (A (absSq p.black i)) (!p.black)
  rw [Bool.not_not] at this
  rw [h.c0 i hi, h.c1 i hi]
  exact (h.kind i hi .pawn) ▸ (h.kind i hi .knight) ▸ (h.kind i hi .bishop) ▸ (h.kind i hi .rook) ▸
    (h.kind i hi .queen) ▸ (h.kind i hi .king) ▸ this

theorem Shows.absBoard {p : Position} {A : Board} (h : p.Shows A) {a : Nat} (ha : a < 64) : absBoard p a = A a := by
  have hs := absSq_lt p.black ha
  have := cellPiece_content (A a) (!p.black)
  rw [Bool.not_not] at this
  rw [← absSq_absSq p.black a, absBoard_cell p _ hs, h.c0 _ hs, h.c1 _ hs]
  rw [absSq_absSq]
  exact (h.kind _ hs .pawn) ▸ (h.kind _ hs .knight) ▸ (h.kind _ hs .bishop) ▸ (h.kind _ hs .rook) ▸
    (h.kind _ hs .queen) ▸ (h.kind _ hs .king) ▸ (absSq_absSq p.black a).symm ▸ this

theorem shows_iff {p : Position} {A : Board} :
    p.Shows A ↔ Consistent p = true ∧ ∀ a, a < 64 → absBoard p a = A a :=
  ⟨fun h => ⟨h.consistent, fun _ => h.absBoard⟩, fun ⟨hC, e⟩ => (shows_abs hC).congr e⟩

theorem absSq_not (b : Bool) (s : Nat) : absSq (!b) s = absSq b (s ^^^ 56) := by
  cases b
  · rfl
  · exact (x56_x56 s).symm

/-- `flip` shows the same board: the two sides change places, and so does the frame. -/
theorem Shows.flip {p : Position} {A : Board} (h : p.Shows A) : p.flip.Shows A := by
  refine ⟨fun s hs => ?_, fun s hs => ?_, fun s hs k => ?_⟩
  · rw [flip_c0, flipBB_getLsbD_xor _ _ hs, h.c1 _ (x56_lt hs), flip_black, absSq_not, Bool.not_not]
  · rw [flip_c1, flipBB_getLsbD_xor _ _ hs, h.c0 _ (x56_lt hs), flip_black, absSq_not]
  · rw [flip_piece, flipBB_getLsbD_xor _ _ hs, h.kind _ (x56_lt hs), flip_black, absSq_not]

theorem ZH.consistent_flip {p : Position} (h : Consistent p = true) : Consistent p.flip = true :=
  (shows_abs h).flip.consistent

theorem absBoard_flip {S : Position} (hC : Consistent S = true) {a : Nat} (ha : a < 64) :
    absBoard S.flip a = absBoard S a :=
  (shows_abs hC).flip.absBoard ha

theorem bit_or_bit {x y : Nat} (h : x ≠ y) : bit x ||| bit y = bit x ^^^ bit y := by
  apply BitVec.eq_of_getLsbD_eq
  intro i hi
  rw [BitVec.getLsbD_or, BitVec.getLsbD_xor, getLsbD_bit, getLsbD_bit]
  by_cases e : i = x
  · simp [e, h]
  · simp [e]

/-- writing `v` on (the image of) square `x` toggles bit `x` of each board on which the old and the new content differ. -/
theorem Shows.write {t : Bool} {c0 c1 : BB} {P : Kind → BB} {A : Board} (h : Shows t c0 c1 P A)
    {x : Nat} (hx : x < 64) (v : Option Piece) :
    Shows t (c0 ^^^ cnd (colP (A (absSq t x)) (!t) != colP v (!t)) (bit x))
      (c1 ^^^ cnd (colP (A (absSq t x)) t != colP v t) (bit x))
      (fun k => P k ^^^ cnd (kindP (A (absSq t x)) k != kindP v k) (bit x)) (setSq A (absSq t x) v) := by
  -- one board `b` that holds the squares whose content satisfies `g`
  have key : ∀ (b : BB) (g : Option Piece → Bool) (s : Nat), s < 64 → b.getLsbD s = g (A (absSq t s)) →
      (b ^^^ cnd (g (A (absSq t x)) != g v) (bit x)).getLsbD s = g (setSq A (absSq t x) v (absSq t s)) := by
    intro b g s hs hb
    rw [BitVec.getLsbD_xor, hb, setSq]
    by_cases e : s = x
    · subst e
      rw [if_pos rfl]
      cases g (A (absSq t s)) <;> cases g v <;> simp [cnd, getLsbD_bit, hs]
    · rw [if_neg fun e' => e (absSq_inj t e')]
      cases (g (A (absSq t x)) != g v) <;> simp [cnd, getLsbD_bit, e]
  exact ⟨fun s hs => key c0 (colP · (!t)) s hs (h.c0 s hs), fun s hs => key c1 (colP · t) s hs (h.c1 s hs),
    fun s hs k => key (P k) (kindP · k) s hs (h.kind s hs k)⟩

theorem Shows.kind_disj {t : Bool} {c0 c1 : BB} {P : Kind → BB} {A : Board} (h : Shows t c0 c1 P A)
    {j k : Kind} (hjk : j ≠ k) : (P j &&& P k).isOcc = false := by
  refine isOcc_false_of fun x hx => ?_
  rw [BitVec.getLsbD_and, h.kind x hx, h.kind x hx]
  cases A (absSq t x) with
  | none => rfl
  | some pc =>
    simp only [kindP]
    cases e : (pc.kind == j)
    · rfl
    · rw [beq_iff_eq.mp e, beq_eq_false_iff_ne.mpr hjk]
      rfl

namespace FenRel

/-- on a board-consistent position the absolute board shows the piece `⟨w, k⟩` exactly where its colour board and its
kind board both have the bit. -/
theorem absBoard_beq {p : Position} (hC : Consistent p = true) {a : Nat} (ha : a < 64) (w : Bool) (k : Kind) :
    (absBoard p a == some ⟨w, k⟩) =
      ((if w = p.black then p.c1 else p.c0) &&& p.piece (kindIdx k)).getLsbD (absSq p.black a) := by
  have S := shows_abs hC
  have hs := absSq_lt p.black ha
  rw [beq_some_piece, BitVec.getLsbD_and, S.kind _ hs, absSq_absSq]
  congr 1
  by_cases hw : w = p.black
  · rw [if_pos hw, S.c1 _ hs, absSq_absSq, hw]
  · rw [if_neg hw, S.c0 _ hs, absSq_absSq, show w = !p.black by revert hw; cases w <;> cases p.black <;> decide]

end FenRel

/-- the pieces of the relative side `them` have the colour `them == p.black` (White is `true`). -/
theorem absBoard_some_iff {p : Position} (hC : Consistent p = true) {r : Nat} (hr : r < 64) (them : Bool) (k : Kind) :
    absBoard p (absSq p.black r) = some ⟨them == p.black, k⟩ ↔
      (p.side them &&& p.piece (kindIdx k)).getLsbD r = true := by
  rw [← beq_iff_eq, FenRel.absBoard_beq hC (absSq_lt _ hr), absSq_absSq]
  cases them <;> cases p.black <;> exact Iff.rfl

theorem absBoard_none_iff {p : Position} (hC : Consistent p = true) {r : Nat} (hr : r < 64) :
    absBoard p (absSq p.black r) = none ↔ p.occ.getLsbD r = false := by
  have S := shows_abs hC
  rw [Position.occ, BitVec.getLsbD_or, S.c0 r hr, S.c1 r hr]
  rcases absBoard p (absSq p.black r) with _ | ⟨w, k⟩
  · exact ⟨fun _ => rfl, fun _ => rfl⟩
  · refine ⟨nofun, ?_⟩
    cases w <;> cases p.black <;> exact nofun

def SameBoards (p q : Position) : Prop :=
  p.c0 = q.c0 ∧ p.c1 = q.c1 ∧ p.p0 = q.p0 ∧ p.p1 = q.p1 ∧ p.p2 = q.p2 ∧ p.p3 = q.p3 ∧
  p.p4 = q.p4 ∧ p.p5 = q.p5

theorem Shows.sameBoards {p q : Position} {A : Board} (hp : p.Shows A) (hq : q.Shows A) (hb : p.black = q.black) :
    SameBoards p q := by
  have k := fun kd => BitVec.eq_of_getLsbD_eq fun s hs => (hp.kind s hs kd).trans (hb ▸ (hq.kind s hs kd).symm)
  exact ⟨BitVec.eq_of_getLsbD_eq fun s hs => (hp.c0 s hs).trans (hb ▸ (hq.c0 s hs).symm),
    BitVec.eq_of_getLsbD_eq fun s hs => (hp.c1 s hs).trans (hb ▸ (hq.c1 s hs).symm),
    k .pawn, k .knight, k .bishop, k .rook, k .queen, k .king⟩

/-- under board consistency the eight boards are determined by the colour flag and the absolute board: the
abstraction is injective on the boards. -/
theorem sameBoards_of_absBoard_eq {p q : Position} (hp : Consistent p = true)
    (hq : Consistent q = true) (hb : p.black = q.black) (h : absBoard p = absBoard q) :
    SameBoards p q :=
  (shows_abs hp).sameBoards (shows_iff.mpr ⟨hq, fun a _ => congrFun h.symm a⟩) hb

theorem absBoard_ge (p : Position) (s : Nat) (h : 64 ≤ s) : (abs p).board s = none := by
  show absBoard p s = none
  unfold absBoard
  rw [if_neg (by omega)]

theorem APos.ext' {x y : APos} (h1 : x.board = y.board) (h2 : x.whiteToMove = y.whiteToMove)
    (h3 : x.wK = y.wK) (h4 : x.wQ = y.wQ) (h5 : x.bK = y.bK) (h6 : x.bQ = y.bQ) (h7 : x.ep = y.ep)
    (h8 : x.half = y.half) (h9 : x.full = y.full) : x = y := by
  cases x; cases y; simp only at *; subst_vars; rfl

/-- `flip` (mover-relative → the other side's view) denotes the same absolute position, turn passed. -/
theorem abs_flip (S : Position) (hC : Consistent S = true) :
    abs S.flip = { abs S with whiteToMove := !(abs S).whiteToMove } := by
  apply APos.ext'
  · funext s
    by_cases hs : s < 64
    · exact absBoard_flip hC hs
    · exact (absBoard_ge S.flip s (by omega)).trans (absBoard_ge S s (by omega)).symm
  · rfl
  · show (abs S.flip).wK = (abs S).wK
    cases hb : S.black <;> simp [abs, Position.flip, hb]
  · show (abs S.flip).wQ = (abs S).wQ
    cases hb : S.black <;> simp [abs, Position.flip, hb]
  · show (abs S.flip).bK = (abs S).bK
    cases hb : S.black <;> simp [abs, Position.flip, hb]
  · show (abs S.flip).bQ = (abs S).bQ
    cases hb : S.black <;> simp [abs, Position.flip, hb]
  · show (abs S.flip).ep = (abs S).ep
    simp only [abs, Position.flip]
    cases S.ep with
    | none => rfl
    | some e => simp only [Option.map_some, flipSq, absSq_not, x56_x56]
  · rfl
  · rfl

/-! ## Counting

A count over the absolute board of an engine position is the population count of a bitboard
(`countPieces_abs`): the squares are re-indexed by `absSq` once, and what is left is a fact about one square. -/

theorem countPieces_eq_rel (b : Board) (f : Piece → Bool) (bl : Bool) :
    countPieces b f = (List.range 64).countP
      (fun s => match b (absSq bl s) with | some pc => f pc | none => false) := by
  unfold countPieces squares
  rw [← List.countP_eq_length_filter]
  rw [← (range64_map_absSq_perm bl).countP_eq, List.countP_map]
  rfl

/-- the men satisfying `f` on the absolute board are as many as the bits of `X`, if `X` holds the squares (in the mover's
frame) whose man satisfies `f`. -/
theorem countPieces_abs (p : Position) (f : Piece → Bool) (X : BB)
    (h : ∀ s, s < 64 → X.getLsbD s = (match absBoard p (absSq p.black s) with | some pc => f pc | none => false)) :
    countPieces (absBoard p) f = count X := by
  rw [countPieces_eq_rel _ _ p.black, count_eq_countP]
  apply List.countP_congr
  intro s hs
  rw [h s (List.mem_range.mp hs)]

end Rawr
