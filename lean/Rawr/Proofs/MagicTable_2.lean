import Rawr.Proofs.MagicCheck
/-! C10 table check, squares 32 to 47: every row evaluated by the kernel. The statements do not mention
any table content, so a changed table or magic makes these proofs fail. -/
namespace Rawr.MagicTable
theorem bishops_2 : (List.range' 32 16).all checkB = true := by decide +kernel
theorem rooks_2 : (List.range' 32 16).all checkR = true := by decide +kernel
end Rawr.MagicTable
