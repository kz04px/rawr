import Rawr.Proofs.RustImpAgree
import Rawr.Generated.StartPos
import Rawr.Proofs.IteRules
/-!
# move_generator.rs, count_moves.rs, legal_moves.rs, legal_captures.rs regenerated from the source agree with the model

* `R.move_generator_prefix` : the statements that `move_generator` and `count_moves` share (compared as syntax trees by
  the translator: rays from the king, attackers, `allowed`, the pin blocks), compiled ONCE; it returns the tuple of the
  variables that are used afterwards.  `agree_move_generator_prefix` : it is the model's `prelude`
  (bridges: `count() > 1` is an `i32` comparison in Rust; the rook pin blocks write
  `xray & them & (rooks | queens)` where the model's `pinStep` has `xray &&& (them &&& (rooks ||| queens))`).
* `R.move_generator : Position → List GMv` : the callback invocations in order (`func(a,b,c,d);` is `[gm a b c d]`,
  sequencing is `++`, `for x in bb` is `flatMap`/`map` over `toList bb`).  `agree_move_generator` : it is the model's
  `moveGenerator` (bridges: the en-passant blocks nest two `if`s where the model has `&&` and `epOk`, and write
  `us & pawns` where the model has `pawns &&& us`; the king loop filters with `if is_safe(..)` where the model uses
  `List.filter`).
* `R.legal_moves`, `R.legal_captures` : the closure passed to `move_generator` runs once per invocation: a `foldl`
  over `R.move_generator`; the model uses `map` / `filter`+`map`.
* `R.count_moves` : `count` is an `i32` accumulator (`Int`), returned `as usize` (`Int.toNat`); the model sums `Nat`s.
-/
namespace Rawr

theorem natCast_gt_one (n : Nat) : (((n : Nat) : Int) > 1) = (n > 1) := by
  apply propext; omega

/-- the tuple returned by the compiled shared prefix, read off the model's `Prelude`. -/
def preTuple (q : Prelude) : Nat × Bool × BB × BB × BB × BB × BB × BB × BB :=
  (q.ksq, q.inCheck, q.allowed, q.bpinned, q.bxrays, q.hpinned, q.rxrays, q.rpinned, q.pinned)

theorem agree_move_generator_prefix (p : Position) : R.move_generator_prefix p = preTuple (prelude p) := by
  unfold R.move_generator_prefix prelude preTuple pinStep
  -- the getters also occur in the `Decidable` instances of the `if`s, where `simp` does not rewrite
  delta R.get_us R.get_them R.get_kings R.get_pawns R.get_knights R.get_bishops R.get_rooks R.get_queens R.get_occupied
    Position.occ
  simp only [natCast_gt_one, BitVec.and_assoc]

theorem flatMap_ite_singleton {α β : Type} (l : List α) (c : α → Bool) (f : α → β) :
    l.flatMap (fun x => if c x = true then [f x] else []) = (l.filter c).map f := by
  induction l with
  | nil => rfl
  | cons a l ih =>
    simp only [List.flatMap_cons, List.filter_cons, ih]
    cases c a <;> simp

theorem agree_move_generator : @R.move_generator = @moveGenerator := by
  funext p
  unfold R.move_generator moveGenerator
  rw [agree_move_generator_prefix, agree_is_safe, agree_is_bb_attacked]
  generalize prelude p = q
  simp only [ite_band, flatMap_ite_singleton]
  -- both sides are `++` of the same 16 blocks in the same order; all but the en-passant block are `rfl`
  iterate 15 (refine congr (congrArg HAppend.hAppend ?_) ?_)
  all_goals (first | rfl | skip)
  cases p.ep with
  | none => rfl
  | some ep =>
    rw [show R.get_us p &&& R.get_pawns p = p.p0 &&& p.c0 from BitVec.and_comm _ _]
    rfl

theorem foldl_push {α β : Type} (l : List α) (f : α → β) (acc : List β) :
    l.foldl (fun acc x => acc ++ [f x]) acc = acc ++ l.map f := by
  induction l generalizing acc with
  | nil => simp
  | cons a l ih => simp [ih]

theorem foldl_push_unless {α β : Type} (l : List α) (c : α → Bool) (f : α → β) (acc : List β) :
    l.foldl (fun acc x => if c x = true then acc else acc ++ [f x]) acc = acc ++ (l.filter (fun x => !c x)).map f := by
  induction l generalizing acc with
  | nil => simp
  | cons a l ih => cases h : c a <;> simp [ih, h]

theorem agree_legal_moves : @R.legal_moves = @legalMoves := by
  funext p
  unfold R.legal_moves legalMoves
  rw [agree_move_generator]
  exact (foldl_push _ _ _).trans (List.nil_append _)

theorem agree_legal_captures : @R.legal_captures = @legalCaptures := by
  funext p
  unfold R.legal_captures legalCaptures
  rw [agree_move_generator]
  refine (foldl_push_unless _ _ _ _).trans ?_
  rw [List.nil_append]
  congr 2
  funext g
  rw [Bool.not_and, Bool.not_not, Bool.not_not]
  rfl

theorem perft_fold_none (p : Position) (f : Position → Option Nat) (l : List Mv) :
    l.foldl (fun acc m =>
      match acc, p.makemove m false with
      | some a, some np => (f np).map (a + ·)
      | _, _ => none) none = none := by
  induction l with
  | nil => rfl
  | cons a l ih => simpa [List.foldl_cons] using ih

/-! ## count_moves.rs -/
theorem cnt_fold {α : Type} (l : List α) (g : α → Nat) (c0 : Int) :
    l.foldl (fun c x => c + ((g x : Nat) : Int)) c0 = c0 + ((l.foldl (fun a x => a + g x) 0 : Nat) : Int) := by
  have h : ∀ (n : Nat) (c0 : Int), l.foldl (fun c x => c + ((g x : Nat) : Int)) (c0 + n)
      = c0 + ((l.foldl (fun a x => a + g x) n : Nat) : Int) := by
    induction l with
    | nil => intro n c0; rfl
    | cons a l ih =>
      intro n c0
      simp only [List.foldl_cons]
      rw [Int.add_assoc, ← Int.natCast_add, ih]
  simpa using h 0 c0

theorem cnt_ite (c : Prop) [Decidable c] (k : Int) : (if c then k + 1 else k) = k + (((if c then 1 else 0 : Nat)) : Int) := by
  split <;> simp

theorem four_mul_cast (a : Nat) : (4 : Int) * (a : Int) = ((4 * a : Nat) : Int) := by omega

theorem cnt_ite_cast (c : Prop) [Decidable c] (k : Int) (n : Nat) :
    (if c then k + (n : Int) else k) = k + (((if c then n else 0 : Nat)) : Int) := by
  split <;> simp

theorem fold_ite_length {α : Type} (l : List α) (t : α → Bool) :
    l.foldl (fun a x => a + (if t x = true then 1 else 0)) 0 = (l.filter t).length := by
  have h : ∀ n, l.foldl (fun a x => a + (if t x = true then 1 else 0)) n = n + (l.filter t).length := by
    induction l with
    | nil => intro n; rfl
    | cons a l ih =>
      intro n
      simp only [List.foldl_cons, List.filter_cons, ih]
      cases t a <;> simp <;> omega
  simpa using h 0

theorem add_congr' {a a' b b' : Nat} (h1 : a = a') (h2 : b = b') : a + b = a' + b' := by rw [h1, h2]

theorem agree_count_moves : @R.count_moves = @countMoves := by
  funext p
  unfold R.count_moves countMoves
  rw [agree_move_generator_prefix, agree_is_safe, agree_is_bb_attacked]
  generalize prelude p = q
  simp only [cnt_ite, cnt_ite_cast, ite_band, cnt_fold, fold_ite_length, Int.zero_add]
  cases p.ep with
  | none =>
    simp only [four_mul_cast, ← Int.natCast_add, Int.toNat_natCast, Nat.add_zero]
    rfl
  | some ep =>
    simp only [four_mul_cast, ← Int.natCast_add, Int.toNat_natCast]
    rw [show R.get_us p &&& R.get_pawns p = p.p0 &&& p.c0 from BitVec.and_comm _ _]
    simp only [Nat.add_assoc]
    rfl

/-! non-vacuity: the regenerated generator computes (no captures in the start position) -/
example : (R.legal_captures Gen.startpos).length = 0 := by decide +kernel

end Rawr

#print axioms Rawr.agree_move_generator_prefix
#print axioms Rawr.agree_move_generator
#print axioms Rawr.agree_legal_moves
#print axioms Rawr.agree_legal_captures
#print axioms Rawr.agree_count_moves
