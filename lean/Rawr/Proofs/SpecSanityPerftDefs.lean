import Rawr.Spec.Chess
/-!
# Sanity of the specification, part 5: literal test positions

Positions with a *frozen* board (a balanced tree of comparisons over literal rows), so that the kernel can
evaluate the rules of `Rawr/Spec/Chess.lean` on them. Squares are `file + 8 * rank`, rank 0 = White's
first rank; rows are listed from rank 1 to rank 8, files a to h.
-/
namespace Rawr.SpecS
open Rawr.Spec

abbrev wP : Option Piece := some ⟨true, .pawn⟩
abbrev wN : Option Piece := some ⟨true, .knight⟩
abbrev wB : Option Piece := some ⟨true, .bishop⟩
abbrev wR : Option Piece := some ⟨true, .rook⟩
abbrev wQ : Option Piece := some ⟨true, .queen⟩
abbrev wK : Option Piece := some ⟨true, .king⟩
abbrev bP : Option Piece := some ⟨false, .pawn⟩
abbrev bN : Option Piece := some ⟨false, .knight⟩
abbrev bB : Option Piece := some ⟨false, .bishop⟩
abbrev bR : Option Piece := some ⟨false, .rook⟩
abbrev bQ : Option Piece := some ⟨false, .queen⟩
abbrev bK : Option Piece := some ⟨false, .king⟩
abbrev __ : Option Piece := none

/-- one rank: files a–h. -/
def row8 (a b c d e f g h : Option Piece) (i : Nat) : Option Piece :=
  if i < 4 then (if i < 2 then (if i < 1 then a else b) else (if i < 3 then c else d))
  else (if i < 6 then (if i < 5 then e else f) else (if i < 7 then g else h))

/-- eight ranks, first rank first; empty off the board. -/
def board8 (r1 r2 r3 r4 r5 r6 r7 r8 : Nat → Option Piece) : Board := fun s =>
  if s < 32 then
    (if s < 16 then (if s < 8 then r1 s else r2 (s - 8)) else (if s < 24 then r3 (s - 16) else r4 (s - 24)))
  else
    (if s < 48 then (if s < 40 then r5 (s - 32) else r6 (s - 40))
     else (if s < 56 then r7 (s - 48) else if s < 64 then r8 (s - 56) else none))

theorem board8_off (r1 r2 r3 r4 r5 r6 r7 r8 : Nat → Option Piece) (s : Nat) (h : 64 ≤ s) :
    board8 r1 r2 r3 r4 r5 r6 r7 r8 s = none := by
  unfold board8
  rw [if_neg (by omega), if_neg (by omega), if_neg (by omega), if_neg (by omega)]

/-- `rnbqkbnr/pppppppp/8/8/8/8/PPPPPPPP/RNBQKBNR w KQkq - 0 1` — the standard start position -/
def stdStart : APos :=
  { board := board8
      (row8 wR wN wB wQ wK wB wN wR)
      (row8 wP wP wP wP wP wP wP wP)
      (row8 __ __ __ __ __ __ __ __)
      (row8 __ __ __ __ __ __ __ __)
      (row8 __ __ __ __ __ __ __ __)
      (row8 __ __ __ __ __ __ __ __)
      (row8 bP bP bP bP bP bP bP bP)
      (row8 bR bN bB bQ bK bB bN bR)
    whiteToMove := true, wK := (some 7), wQ := (some 0), bK := (some 7), bQ := (some 0),
    ep := none, half := 0, full := 1 }

/-- `r3k2r/p1ppqpb1/bn2pnp1/3PN3/1p2P3/2N2Q1p/PPPBBPPP/R3K2R w KQkq - 0 1` — "Kiwipete" (position 2 of the chessprogramming perft page) -/
def kiwipete : APos :=
  { board := board8
      (row8 wR __ __ __ wK __ __ wR)
      (row8 wP wP wP wB wB wP wP wP)
      (row8 __ __ wN __ __ wQ __ bP)
      (row8 __ bP __ __ wP __ __ __)
      (row8 __ __ __ wP wN __ __ __)
      (row8 bB bN __ __ bP bN bP __)
      (row8 bP __ bP bP bQ bP bB __)
      (row8 bR __ __ __ bK __ __ bR)
    whiteToMove := true, wK := (some 7), wQ := (some 0), bK := (some 7), bQ := (some 0),
    ep := none, half := 0, full := 1 }

/-- `8/2p5/3p4/KP5r/1R3p1k/8/4P1P1/8 w - - 0 1` — position 3 of the chessprogramming perft page -/
def cpwPos3 : APos :=
  { board := board8
      (row8 __ __ __ __ __ __ __ __)
      (row8 __ __ __ __ wP __ wP __)
      (row8 __ __ __ __ __ __ __ __)
      (row8 __ wR __ __ __ bP __ bK)
      (row8 wK wP __ __ __ __ __ bR)
      (row8 __ __ __ bP __ __ __ __)
      (row8 __ __ bP __ __ __ __ __)
      (row8 __ __ __ __ __ __ __ __)
    whiteToMove := true, wK := none, wQ := none, bK := none, bQ := none,
    ep := none, half := 0, full := 1 }

/-- `bqnb1rkr/pp3ppp/3ppn2/2p5/5P2/P2P4/NPP1P1PP/BQ1BNRKR w HFhf - 2 9` — Chess960 perft position 1 -/
def frcPos1 : APos :=
  { board := board8
      (row8 wB wQ __ wB wN wR wK wR)
      (row8 wN wP wP __ wP __ wP wP)
      (row8 wP __ __ wP __ __ __ __)
      (row8 __ __ __ __ __ wP __ __)
      (row8 __ __ bP __ __ __ __ __)
      (row8 __ __ __ bP bP bN __ __)
      (row8 bP bP __ __ __ bP bP bP)
      (row8 bB bQ bN bB __ bR bK bR)
    whiteToMove := true, wK := (some 7), wQ := (some 5), bK := (some 7), bQ := (some 5),
    ep := none, half := 2, full := 9 }

/-- `1r4kr/p5pp/8/8/8/8/PPP4P/RK4R1 w GAhb - 0 1` — a Chess960 castling test: White may castle with the g1 and the a1 rook, Black with the h8 and the b8 rook -/
def frcCastle : APos :=
  { board := board8
      (row8 wR wK __ __ __ __ wR __)
      (row8 wP wP wP __ __ __ __ wP)
      (row8 __ __ __ __ __ __ __ __)
      (row8 __ __ __ __ __ __ __ __)
      (row8 __ __ __ __ __ __ __ __)
      (row8 __ __ __ __ __ __ __ __)
      (row8 bP __ __ __ __ __ bP bP)
      (row8 __ bR __ __ __ __ bK bR)
    whiteToMove := true, wK := (some 6), wQ := (some 0), bK := (some 7), bQ := (some 1),
    ep := none, half := 0, full := 1 }

end Rawr.SpecS
