import Rawr.Proofs.FenSound
import Rawr.Proofs.FenBoardParse
import Rawr.Proofs.FenRel
import Rawr.Proofs.FenValidOfSpec
/-! Completeness of `set_fen` on the strings the specification prints, stage by stage: `setFenCore ar frc (printFen a st) =
some (rel a frc)`, given what the castling loop does on the printed castling field (`accepts_core`). First, what
`splitSpace` returns on six space-free fields (`splitSpace_six`). -/
namespace Rawr
open Spec FenS

namespace FenC

theorem go_field (f rest cur : List Char) (acc : List (List Char)) (h : ' ' ∉ f) :
    splitSpace.go (f ++ rest) cur acc = splitSpace.go rest (f.reverse ++ cur) acc := by
  induction f generalizing cur with
  | nil => rfl
  | cons c cs ih =>
    have hc : (c == ' ') = false := by
      cases hcc : c == ' '
      · rfl
      · exact absurd (by rw [beq_iff_eq.mp hcc]; exact List.mem_cons_self) h
    have hcs : ' ' ∉ cs := fun hm => h (List.mem_cons_of_mem _ hm)
    rw [List.cons_append, splitSpace.go, hc]
    simp only [Bool.false_eq_true, if_false]
    rw [ih _ hcs]
    simp [List.reverse_cons, List.append_assoc]

theorem go_space (rest cur : List Char) (acc : List (List Char)) :
    splitSpace.go (' ' :: rest) cur acc = splitSpace.go rest [] (cur.reverse :: acc) := by
  rw [splitSpace.go]; rfl

theorem go_field_space (f rest : List Char) (acc : List (List Char)) (h : ' ' ∉ f) :
    splitSpace.go (f ++ ' ' :: rest) [] acc = splitSpace.go rest [] (f :: acc) := by
  rw [go_field _ _ _ _ h, go_space]
  simp

theorem go_last (f : List Char) (acc : List (List Char)) (h : ' ' ∉ f) :
    splitSpace.go f [] acc = (f :: acc).reverse := by
  have := go_field f [] [] acc h
  rw [List.append_nil] at this
  rw [this, splitSpace.go]
  simp

theorem splitSpace_six (f0 f1 f2 f3 f4 f5 : List Char) (h0 : ' ' ∉ f0) (h1 : ' ' ∉ f1) (h2 : ' ' ∉ f2)
    (h3 : ' ' ∉ f3) (h4 : ' ' ∉ f4) (h5 : ' ' ∉ f5) :
    splitSpace (f0 ++ ' ' :: (f1 ++ ' ' :: (f2 ++ ' ' :: (f3 ++ ' ' :: (f4 ++ ' ' :: f5))))) =
      [f0, f1, f2, f3, f4, f5] := by
  unfold splitSpace
  rw [go_field_space _ _ _ h0, go_field_space _ _ _ h1, go_field_space _ _ _ h2, go_field_space _ _ _ h3,
    go_field_space _ _ _ h4, go_last _ _ h5]
  rfl

def epField (a : APos) : List Char := match a.ep with | some e => sqChars e | none => ['-']

theorem printFen_shape (a : APos) (st : CastleStyle) :
    printFen a st = printBoard a.board ++ ' ' :: ([if a.whiteToMove then 'w' else 'b'] ++ ' ' ::
      (castleField a st ++ ' ' :: (epField a ++ ' ' :: (intChars a.half ++ ' ' :: intChars a.full)))) := by
  unfold printFen epField
  simp only [List.append_assoc, List.cons_append, List.nil_append]
  rfl

theorem fenEp_sqChars : ∀ (ar : Arith) (e : Fin 64), fenEp ar (sqChars e) = some (some e.val) := by
  intro ar; cases ar <;> decide +kernel

theorem sqChars_no_space : ∀ e : Fin 64, ' ' ∉ sqChars e := by decide +kernel

theorem fenEp_dash (ar : Arith) : fenEp ar ['-'] = some none := by cases ar <;> rfl

/-- evaluation of the staged parser on a six-field string. -/
theorem staged_eval {ar : Arith} {frc : Bool} {fen f0 f1 f2 f3 f4 f5 : List Char}
    (hparts : splitSpace fen = [f0, f1, f2, f3, f4, f5])
    {pb pc : Position} {flip : Bool} {ep : Option Nat} {hm fm : Int}
    (h0 : fenBoard ar f0 { Position.dflt with frc := frc } 0 = some (pb, 64))
    (h1 : fenSide f1 = some flip)
    (hk0 : (pb.c0 &&& pb.p5).isEmpty = false) (hk1 : (pb.c1 &&& pb.p5).isEmpty = false)
    (h2 : fenCastling f2 [] pb = some pc) (h3 : fenEp ar f3 = some ep)
    (h4 : parseI32 f4 = some hm) (hm0 : 0 ≤ hm) (h5 : parseI32 f5 = some fm) (hfm0 : 0 ≤ fm) :
    setFenCore ar frc fen = fenFinish ar { pc with ep := ep } hm fm flip := by
  rw [setFenCore_eq_staged]
  unfold setFenStaged
  simp only [hparts, List.headD_cons, h0, Option.bind_some, bne_self_eq_false, Bool.false_eq_true, if_false,
    List.getElem?_cons_succ, List.getElem?_cons_zero, h1, hk0, hk1, Bool.or_self, fenCastlePart, h2, h3, h4, h5,
    Int.not_lt.mpr hm0, Int.not_lt.mpr hfm0, List.length_cons, List.length_nil]
  simp

/-- the position after the board loop on `printBoard a.board`. -/
def preCastle (a : APos) (frc : Bool) : Position := placeAbs a.board { Position.dflt with frc := frc }

/-- the position after the castling loop on `castleField a st`. -/
def postCastle (a : APos) (frc : Bool) : Position :=
  { preCastle a frc with
    usK := a.wK.isSome, usQ := a.wQ.isSome, themK := a.bK.isSome, themQ := a.bQ.isSome,
    cf0 := a.wK.getD (preCastle a frc).cf0, cf1 := a.wQ.getD (preCastle a frc).cf1,
    cf2 := a.bK.getD (preCastle a frc).cf2, cf3 := a.bQ.getD (preCastle a frc).cf3 }

theorem finPos_eq_rel (a : APos) (frc : Bool) :
    finPos { postCastle a frc with ep := a.ep } a.half a.full (!a.whiteToMove) = rel a frc := by
  have hb := rel_boards a frc { postCastle a frc with ep := a.ep, halfmoves := a.half, fullmoves := a.full }
  symm
  apply FenRel.eq_of_sameBoards
  · cases h : a.whiteToMove <;> rw [h] at hb <;> exact hb
  · cases a.whiteToMove <;> rfl
  · cases a.whiteToMove <;> rfl
  · rw [rel_black]; cases a.whiteToMove <;> rfl
  · rw [rel_ep]; cases a.whiteToMove <;> cases a.ep <;> rfl
  · rw [rel_usK]; cases a.whiteToMove <;> rfl
  · rw [rel_usQ]; cases a.whiteToMove <;> rfl
  · rw [rel_themK]; cases a.whiteToMove <;> rfl
  · rw [rel_themQ]; cases a.whiteToMove <;> rfl
  · rw [rel_cf0]; cases a.whiteToMove <;> rfl
  · rw [rel_cf1]; cases a.whiteToMove <;> rfl
  · rw [rel_cf2]; cases a.whiteToMove <;> rfl
  · rw [rel_cf3]; cases a.whiteToMove <;> rfl
  · rw [rel_frc]; cases a.whiteToMove <;> rfl
  · rfl
  · cases a.whiteToMove <;> rfl

theorem kings_nonempty (a : APos) (frc : Bool) (hv : (rel a frc).validate = none) :
    ((preCastle a frc).c0 &&& (preCastle a frc).p5).isEmpty = false ∧
    ((preCastle a frc).c1 &&& (preCastle a frc).p5).isEmpty = false := by
  obtain ⟨hw, hb, _⟩ := ((validate_none_iff (rel a frc)).mp hv).2.2.1
  simp only [Position.white, Position.blackBB, rel_black] at hw hb
  show BB.isEmpty (geomBB (isCol a.board true) &&& geomBB (isKind a.board .king)) = false ∧
    BB.isEmpty (geomBB (isCol a.board false) &&& geomBB (isKind a.board .king)) = false
  rw [isEmpty_false, isEmpty_false]
  obtain ⟨b0, b1, _, _, _, _, _, b7⟩ := rel_boards a frc (preCastle a frc)
  cases hwm : a.whiteToMove <;> rw [hwm] at b0 b1 b7 <;>
    simp only [hwm, Bool.not_false, Bool.not_true, if_true, if_false, Bool.false_eq_true, b0, b1, b7, preCastle, placeAbs,
      Position.flip, ← flipBB_and_distrib, count_flipBB] at hw hb
  · exact ⟨ne_zero_of_count_one hw, ne_zero_of_count_one hb⟩
  · exact ⟨ne_zero_of_count_one hw, ne_zero_of_count_one hb⟩

theorem side_no_space (w : Bool) : ' ' ∉ [if w then 'w' else 'b'] := by cases w <;> decide

theorem fenSide_print (w : Bool) : fenSide [if w then 'w' else 'b'] = some (!w) := by cases w <;> decide

/-- completeness, given the castling loop's result on the printed castling field. -/
theorem accepts_core (a : APos) (frc : Bool) (ar : Arith) (st : CastleStyle)
    (hV : Valid a = true) (hb : ∀ s, 64 ≤ s → a.board s = none)
    (hh : a.half < 2147483648) (hf : a.full < 2147483648)
    (hatt : (rel a frc).isSqAttacked (lsb ((rel a frc).c1 &&& (rel a frc).p5)) false = false)
    (hcastle : fenCastling (castleField a st) [] (preCastle a frc) = some (postCastle a frc))
    (hns : ' ' ∉ castleField a st) :
    setFenCore ar frc (printFen a st) = some (rel a frc) := by
  have hRC := rel_consistent a frc
  have habs := abs_rel a frc hb
  have hRv : (rel a frc).validate = none := validate_of_valid _ hRC (by rw [habs]; exact hV) hatt
  have v := (SV.valid_iff a).mp hV
  have hh0 := v.half
  have hf1 := v.full
  have hep64 : ∀ e, a.ep = some e → e < 64 := fun e he =>
    Att.lt_of_rank (by rw [(v.ep e he).1]; split <;> decide)
  have hepns : ' ' ∉ epField a := by
    unfold epField
    cases he : a.ep with
    | none => decide
    | some e => exact sqChars_no_space ⟨e, hep64 e he⟩
  have hepv : fenEp ar (epField a) = some a.ep := by
    unfold epField
    cases he : a.ep with
    | none => exact fenEp_dash ar
    | some e => exact fenEp_sqChars ar ⟨e, hep64 e he⟩
  have hparts := splitSpace_six _ _ _ _ _ _ (printBoard_no_space a.board) (side_no_space a.whiteToMove) hns hepns
    (intChars_no_space a.half hh0) (intChars_no_space a.full (by omega))
  rw [← printFen_shape a st] at hparts
  obtain ⟨hk0, hk1⟩ := kings_nonempty a frc hRv
  have hfb : fenBoard ar (printBoard a.board) { Position.dflt with frc := frc } 0 = some (preCastle a frc, 64) :=
    fenBoard_printBoard ar a.board _ ⟨rfl, rfl, rfl, rfl, rfl, rfl, rfl, rfl⟩
  rw [staged_eval hparts hfb (fenSide_print _) hk0 hk1 hcastle hepv
    (parseI32_intChars a.half hh0 hh) hh0 (parseI32_intChars a.full (by omega) hf) (by omega)]
  rw [fenFinish_eq, finPos_eq_rel]
  have hva : validateAr ar (rel a frc) = true := by
    rw [validateAr_eq, hRv]
    rfl
  rw [hva]; rfl

end FenC
end Rawr
