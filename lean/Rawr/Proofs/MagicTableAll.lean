import Rawr.Proofs.MagicTable_0
import Rawr.Proofs.MagicTable_1
import Rawr.Proofs.MagicTable_2
import Rawr.Proofs.MagicTable_3
/-! C10 table check: all 128 (piece, square) obligations, 107 648 rows. -/
namespace Rawr
open MagicTable

theorem all_range64 {p : Nat → Bool} (h0 : (List.range' 0 16).all p = true)
    (h1 : (List.range' 16 16).all p = true) (h2 : (List.range' 32 16).all p = true)
    (h3 : (List.range' 48 16).all p = true) (sq : Nat) (h : sq < 64) : p sq = true := by
  have : (List.range' 0 64).all p = true := by
    rw [show List.range' 0 64 = List.range' 0 16 ++ List.range' 16 16 ++ List.range' 32 16 ++ List.range' 48 16
      from by decide, List.all_append, List.all_append, List.all_append, h0, h1, h2, h3]; rfl
  exact List.all_eq_true.mp this sq (List.mem_range'_1.mpr ⟨Nat.zero_le _, by omega⟩)

theorem checkB_all : ∀ sq : Nat, sq < 64 → checkB sq = true :=
  all_range64 bishops_0 bishops_1 bishops_2 bishops_3

theorem checkR_all : ∀ sq : Nat, sq < 64 → checkR sq = true :=
  all_range64 rooks_0 rooks_1 rooks_2 rooks_3
end Rawr
