import Rawr.Proofs.HashMeta
/-! C02, generic part: `AbsEq`, the field-wise equality of absolute positions in which the refinement is stated, `absSq`
under `==` (`absSq_beq`), the kind of an engine piece index against `kindIdx` and
`Spec.kindIndex`; besides, board consistency from a pointwise view of a position (`View.consistent`), which the
make-move proofs do not go through (they use `Shows`). -/
namespace Rawr
open Spec

/-- field-wise equality of two absolute positions, the board compared on the 64 squares. -/
structure AbsEq (a b : APos) : Prop where
  board : ∀ s, s < 64 → a.board s = b.board s
  turn : a.whiteToMove = b.whiteToMove
  wK : a.wK = b.wK
  wQ : a.wQ = b.wQ
  bK : a.bK = b.bK
  bQ : a.bQ = b.bQ
  ep : a.ep = b.ep
  half : a.half = b.half
  full : a.full = b.full

theorem AbsEq.refl (a : APos) : AbsEq a a := ⟨fun _ _ => rfl, rfl, rfl, rfl, rfl, rfl, rfl, rfl, rfl⟩

theorem AbsEq.symm {a b : APos} (h : AbsEq a b) : AbsEq b a :=
  ⟨fun s hs => (h.board s hs).symm, h.turn.symm, h.wK.symm, h.wQ.symm, h.bK.symm, h.bQ.symm, h.ep.symm,
    h.half.symm, h.full.symm⟩

theorem AbsEq.trans {a b c : APos} (h1 : AbsEq a b) (h2 : AbsEq b c) : AbsEq a c :=
  ⟨fun s hs => (h1.board s hs).trans (h2.board s hs), h1.turn.trans h2.turn, h1.wK.trans h2.wK,
    h1.wQ.trans h2.wQ, h1.bK.trans h2.bK, h1.bQ.trans h2.bQ, h1.ep.trans h2.ep, h1.half.trans h2.half,
    h1.full.trans h2.full⟩

end Rawr

namespace Rawr.MM
open Rawr Rawr.Position Rawr.Spec Rawr.ZH

theorem absSq_eq_maybeFlip (b : Bool) (s : Nat) : absSq b s = maybeFlip s b := Rawr.absSq_eq_maybeFlip b s

theorem absSq_beq (b : Bool) (x y : Nat) : (absSq b x == absSq b y) = (x == y) := by
  rw [Bool.eq_iff_iff, beq_iff_eq, beq_iff_eq]
  exact ⟨absSq_inj b, congrArg _⟩

theorem absSq_false (s : Nat) : absSq false s = s := rfl

theorem kindIdx_eq {i : Nat} (hi : i < 6) (k : Kind) : decide (kindIdx k = i) = (kindOf i == k) := by
  rcases kind_cases hi with rfl | rfl | rfl | rfl | rfl | rfl <;> cases k <;> rfl

theorem kindIndex_kindOf {i : Nat} (hi : i < 6) : kindIndex (kindOf i) = i := by
  rcases kind_cases hi with rfl | rfl | rfl | rfl | rfl | rfl <;> rfl

theorem kindOf_pawn {i : Nat} (hi : i < 6) : (kindOf i == Kind.pawn) = (i == 0) := by
  rcases kind_cases hi with rfl | rfl | rfl | rfl | rfl | rfl <;> rfl

theorem kindOf_king {i : Nat} (hi : i < 6) : (kindOf i == Kind.king) = (i == 5) := by
  rcases kind_cases hi with rfl | rfl | rfl | rfl | rfl | rfl <;> rfl


/-- `po x` is the kind standing on (mover-relative) square `x`, `u x` / `v x` tell whether the square
belongs to the mover / the opponent. -/
structure View (S : Position) (po : Nat → Option Nat) (u v : Nat → Bool) : Prop where
  c0 : ∀ x, x < 64 → S.c0.getLsbD x = u x
  c1 : ∀ x, x < 64 → S.c1.getLsbD x = v x
  P : ∀ x k, x < 64 → (S.piece k).getLsbD x = (po x == some k)
  lt : ∀ x k, po x = some k → k < 6

theorem onehot_any (o : Option Nat) (h : ∀ k, o = some k → k < 6) :
    ((o == some 0) || (o == some 1) || (o == some 2) || (o == some 3) || (o == some 4) || (o == some 5))
      = o.isSome := by
  cases o with
  | none => rfl
  | some k =>
    rcases kind_cases (h k rfl) with rfl | rfl | rfl | rfl | rfl | rfl <;> rfl

theorem and_eq_zero_of {a b : BB} (h : ∀ x, x < 64 → (a.getLsbD x && b.getLsbD x) = false) :
    ((a &&& b) == 0#64) = true := by
  rw [beq_iff_eq]
  apply BitVec.eq_of_getLsbD_eq
  intro i hi
  simp [h i hi]

/-- a view with disjoint colours that cover exactly the occupied squares is board consistent. -/
theorem View.consistent {S : Position} {po : Nat → Option Nat} {u v : Nat → Bool} (V : View S po u v)
    (hd : ∀ x, x < 64 → (u x && v x) = false) (ho : ∀ x, x < 64 → (u x || v x) = (po x).isSome) :
    Consistent S = true := by
  have hp : ∀ j k, j ≠ k → ((S.piece j &&& S.piece k) == 0#64) = true := by
    intro j k hjk
    apply and_eq_zero_of
    intro x hx
    rw [V.P x j hx, V.P x k hx]
    exact onehot_disj _ j k hjk
  have hc : ((S.c0 &&& S.c1) == 0#64) = true := by
    apply and_eq_zero_of
    intro x hx
    rw [V.c0 x hx, V.c1 x hx]
    exact hd x hx
  have hocc : ((S.c0 ||| S.c1) == (S.piece 0 ||| S.piece 1 ||| S.piece 2 ||| S.piece 3 ||| S.piece 4 ||| S.piece 5))
      = true := by
    rw [beq_iff_eq]
    apply BitVec.eq_of_getLsbD_eq
    intro i hi
    simp only [BitVec.getLsbD_or, V.c0 i hi, V.c1 i hi, V.P i _ hi, ho i hi, onehot_any _ (V.lt i)]
  have h01 := hp 0 1 (by decide)
  have h02 := hp 0 2 (by decide)
  have h03 := hp 0 3 (by decide)
  have h04 := hp 0 4 (by decide)
  have h05 := hp 0 5 (by decide)
  have h12 := hp 1 2 (by decide)
  have h13 := hp 1 3 (by decide)
  have h14 := hp 1 4 (by decide)
  have h15 := hp 1 5 (by decide)
  have h23 := hp 2 3 (by decide)
  have h24 := hp 2 4 (by decide)
  have h25 := hp 2 5 (by decide)
  have h34 := hp 3 4 (by decide)
  have h35 := hp 3 5 (by decide)
  have h45 := hp 4 5 (by decide)
  simp only [Position.piece] at h01 h02 h03 h04 h05 h12 h13 h14 h15 h23 h24 h25 h34 h35 h45 hocc
  simp only [Consistent, hc, h01, h02, h03, h04, h05, h12, h13, h14, h15, h23, h24, h25, h34, h35, h45, hocc,
    Bool.and_self]

end Rawr.MM
