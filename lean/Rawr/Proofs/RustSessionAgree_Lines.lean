import Rawr.Proofs.RustSessionAgree_Go
import Rawr.Proofs.RustSessionAgree_Display
/-!
# The lines of the session layer that the canonicalisation keeps (`Out (T.unlines L) L`)

tokens of `split_ascii_whitespace`, `{:#x}` of a hash (`agree_listen_loop4`, the `history` command), `info string unknown
move ..`, the value of `eval`, the lines of `Display for Position` (`displayPos_out`).
-/
namespace Rawr.Sess

/-- the local `isWs` of the model's `splitWs`, which Lean makes an argument of `splitWs.go`. -/
def isWsC (c : Char) : Bool := c == ' ' || c == '\t' || c == '\n' || c == '\r' || c == '\x0c'

/-- the invariant of `splitWs.go`: no token holds a whitespace character. -/
abbrev NoWs (l : List (List Char)) : Prop := ∀ t ∈ l, ∀ c ∈ t, isWsC c = false

theorem splitWs_go_mem : ∀ (s cur : List Char) (acc : List (List Char)),
    (∀ c ∈ cur, isWsC c = false) → NoWs acc → NoWs (splitWs.go isWsC s cur acc) := by
  -- the token collected so far goes to the tokens when a blank or the end is met
  have flush : ∀ {cur : List Char} {acc : List (List Char)}, (∀ c ∈ cur, isWsC c = false) → NoWs acc →
      NoWs (if cur.isEmpty then acc else cur.reverse :: acc) :=
    fun hc ha => ite_run (R := NoWs) (fun _ => ha) fun _ =>
      List.forall_mem_cons.2 ⟨fun c h => hc c (List.mem_reverse.1 h), ha⟩
  intro s
  induction s with
  | nil =>
    intro cur acc hc ha t ht
    exact flush hc ha t (List.mem_reverse.1 ht)
  | cons x s ih =>
    intro cur acc hc ha
    simp only [splitWs.go]
    refine ite_run (R := NoWs) (fun _ => ih [] _ (by simp) (flush hc ha)) fun hx => ih (x :: cur) acc ?_ ha
    exact List.forall_mem_cons.2 ⟨by simpa using hx, hc⟩

theorem splitWs_word (l : List Char) : ∀ t ∈ splitWs l, Word t := by
  intro t ht
  have h := splitWs_go_mem l [] [] (by simp) (fun _ h => nomatch h) t ht
  constructor
  · intro hm; have := h _ hm; simp [isWsC] at this
  · intro hm; have := h _ hm; simp [isWsC] at this

theorem splitWs_go_nl : ∀ (s cur : List Char) (acc : List (List Char)),
    splitWs.go isWsC (s ++ ['\n']) cur acc = splitWs.go isWsC s cur acc := by
  intro s
  induction s with
  | nil =>
    intro cur acc
    have : isWsC '\n' = true := by decide
    simp only [List.nil_append, splitWs.go, this, if_true]
    simp
  | cons x s ih =>
    intro cur acc
    simp only [List.cons_append, splitWs.go, ih]

/-- the `'\n'` that `read_line` keeps does not change the tokens. -/
theorem splitWs_nl (l : List Char) : splitWs (l ++ ['\n']) = splitWs l := splitWs_go_nl l [] []

theorem hexDigit_facts : ∀ d, d < 16 → Nat.digitChar d ≠ ' ' ∧ Nat.digitChar d ≠ '\n' := by decide

theorem toDigits16_word (n : Nat) : Word (Nat.toDigits 16 n) := by
  induction n using Nat.strongRecOn with
  | _ n ih =>
    rw [Nat.toDigits_eq_if (by decide)]
    split
    · rename_i h
      have := hexDigit_facts n h
      constructor <;> simp [Ne.symm this.1, Ne.symm this.2]
    · rename_i h
      have hlt : n / 16 < n := Nat.div_lt_self (by omega) (by decide)
      have h1 := ih (n / 16) hlt
      have h2 := hexDigit_facts (n % 16) (Nat.mod_lt _ (by decide))
      refine word_append h1 ?_
      constructor <;> simp [Ne.symm h2.1, Ne.symm h2.2]

theorem hexLine_word (h : BB) : Word (hexLine h).toList := by
  unfold hexLine hexDigits
  rw [String.toList_append]
  refine word_append (by constructor <;> decide) ?_
  rw [String.toList_ofList]
  exact toDigits16_word _

theorem Out.wordline (a : String) (h : Word a.toList) : Out (T.line a) [a] :=
  Out.line1 a a h.2 (canonLine_noblank _ h.1)

theorem _root_.Rawr.agree_listen_loop4 (hist : List BB) (out : List Char) :
    ∃ x, R.listen_loop4 hist out = some (out ++ x) ∧ Out x (hist.map hexLine) := by
  refine ⟨T.unlines (hist.map hexLine), ?_, Out.unlines _ (fun a ha => ?_) fun a ha => ?_⟩
  · rw [T.unlines, List.flatMap_map]
    exact forIn_append hist (fun h _ f => rfl) out
  all_goals obtain ⟨h, _, rfl⟩ := List.mem_map.1 ha
  · exact (hexLine_word h).2
  · exact canonLine_noblank _ (hexLine_word h).1

theorem Out.headline (a : String) (c : Char) (r : List Char) (ha : a.toList = c :: r) (h1 : c ≠ 'n') (h2 : c ≠ 't') (h3 : c ≠ 'i')
    (hn : '\n' ∉ a.toList) : Out (T.line a) [a] :=
  Out.line1 a a hn (by rw [ha]; exact canonLine_head c r h1 h2 h3)

theorem unknown_out (t : List Char) (ht : Word t) :
    Out (T.line ("info string unknown move " ++ String.ofList t)) ["info string unknown move " ++ String.ofList t] := by
  apply Out.line1
  · simp only [String.toList_append, String.toList_ofList, List.mem_append, not_or]
    exact ⟨by decide +kernel, ht.2⟩
  · simp only [String.toList_append, String.toList_ofList]
    have : "info string unknown move ".toList = 'i' :: 'n' :: 'f' :: 'o' :: ' ' :: 's' :: "tring unknown move ".toList := by
      decide +kernel
    rw [this]
    simp [canonLine, List.isPrefixOf, pfxId, pfxInfo]

/-- the lines `moves.rs` prints for a list of whitespace-free tokens are kept. -/
theorem unknown_lines_out (ts : List (List Char)) (hts : ∀ t ∈ ts, Word t) (L : List String)
    (hL : ∀ l ∈ L, ∃ t ∈ ts, l = "info string unknown move " ++ String.ofList t) : Out (T.unlines L) L := by
  induction L with
  | nil => exact Out.nil
  | cons l L ih =>
    have : T.unlines (l :: L) = T.line l ++ T.unlines L := by simp [T.unlines]
    rw [this]
    obtain ⟨t, ht, e⟩ := hL l (by simp)
    subst e
    exact Out.append (m := [_]) (unknown_out t (hts t ht)) (ih (fun x hx => hL x (by simp [hx])))

theorem applyTokens_lines (ts : List (List Char)) (pos : Position) (hist : List BB) (r : Position × List BB × List String)
    (h : applyTokens ts pos hist [] = some r) :
    ∀ l ∈ r.2.2, ∃ t ∈ ts, l = "info string unknown move " ++ String.ofList t := by
  rw [applyTokens_out h]
  exact reports_mem ts pos

theorem positionArgs_mem (toks : List (List Char)) : ∀ t ∈ (positionArgs toks).2, t ∈ toks := by
  intro t ht
  unfold positionArgs at ht
  cases toks with
  | nil => simp at ht
  | cons a r =>
    simp only [] at ht
    split at ht
    · exact List.mem_cons_of_mem _ (List.mem_of_mem_drop ht)
    · split at ht
      · exact List.mem_cons_of_mem _ ((List.dropWhile_sublist _).subset (List.mem_of_mem_drop ht))
      · simp at ht

theorem doPosition_lines {ar : Arith} {s : UState} {toks : List (List Char)} {r : UState × List String}
    (h : doPosition ar s toks = some r) : ∀ l ∈ r.2, ∃ t ∈ toks, l = "info string unknown move " ++ String.ofList t := by
  obtain ⟨p, hist, hrun, _⟩ := doPosition_some h
  obtain ⟨p0, _, hat⟩ := Option.bind_eq_some_iff.1 hrun
  intro l hl
  obtain ⟨t, ht, e⟩ := applyTokens_lines _ _ _ _ hat l hl
  exact ⟨t, positionArgs_mem toks t ht, e⟩

theorem eval_out (i : Int) : Out (T.line (toString i)) [toString i] :=
  Out.wordline _ (numChars_int i).word

theorem ofNat_ne_nl (n : Nat) (h1 : n < 256) (h2 : 32 < n) : Char.ofNat n ≠ '\n' := by
  intro h
  have hv : n.isValidChar := Or.inl (by omega)
  have := congrArg Char.toNat h
  rw [Char.ofNat, dif_pos hv] at this
  have e : (Char.ofNatAux n hv).toNat = n := by
    simp [Char.ofNatAux, Char.toNat]
  rw [e] at this
  have : n = 10 := this
  omega

theorem optChar_nonl (b : Bool) (n : Nat) (h : b = true → 32 < n ∧ n < 256) :
    '\n' ∉ (if b = true then [Char.ofNat n] else []) := by
  cases b
  · simp
  · simpa using (ofNat_ne_nl n (h rfl).2 (h rfl).1).symm

/-- a line the canonicalisation leaves as it is. -/
def Kept (a : String) : Prop := '\n' ∉ a.toList ∧ canonLine a.toList = some a.toList

theorem Out.kept (L : List String) (h : ∀ a ∈ L, Kept a) : Out (T.unlines L) L :=
  Out.unlines L (fun a ha => (h a ha).1) (fun a ha => (h a ha).2)

theorem kept_word (a : String) (h : Word a.toList) : Kept a := ⟨h.2, canonLine_noblank _ h.1⟩

theorem kept_lit (lit rest : String) (c : Char) (r : List Char) (hl : lit.toList = c :: r)
    (h1 : c ≠ 'n') (h2 : c ≠ 't') (h3 : c ≠ 'i') (hn : '\n' ∉ lit.toList) (hr : '\n' ∉ rest.toList) : Kept (lit ++ rest) := by
  constructor
  · simp [String.toList_append, hn, hr]
  · rw [String.toList_append, hl]
    exact canonLine_head c _ h1 h2 h3

/-- for a closed string: `decide` sees the conjunction, not `Kept`. -/
theorem kept_closed (a : String) (h : ('\n' ∉ a.toList ∧ canonLine a.toList = some a.toList)) : Kept a := h

theorem displayPos_out (p : Position) (h : DisplayOk p) : Out (T.unlines (displayPos p)) (displayPos p) := by
  obtain ⟨hep, h0, h1, h2, h3⟩ := h
  apply Out.kept
  intro a ha
  rw [displayPos_eq, dispLines] at ha
  generalize hnp : (if p.black then p.flip else p) = np at *
  simp only [List.mem_append, List.mem_map, List.mem_range, List.mem_cons, List.not_mem_nil, or_false] at ha
  rcases ha with ⟨i, _, rfl⟩ | rfl | rfl | rfl | rfl | rfl | rfl | rfl | rfl
  · apply kept_word
    rw [String.toList_ofList]
    constructor <;> simp only [List.mem_map, not_exists, not_and]
    · intro x _ hx; exact (dispCell_facts np (8 * (7 - i) + x)).1 hx
    · intro x _ hx; exact (dispCell_facts np (8 * (7 - i) + x)).2.1 hx
  · cases p.black <;> exact kept_closed _ (by decide +kernel)
  · cases p.inCheck <;> exact kept_closed _ (by decide +kernel)
  · exact kept_lit _ _ 'H' _ rfl (by decide) (by decide) (by decide) (by decide +kernel) (numChars_int _).word.2
  · exact kept_lit _ _ 'F' _ rfl (by decide) (by decide) (by decide) (by decide +kernel) (numChars_int _).word.2
  · cases hepc : np.ep with
    | none => exact kept_closed _ (by decide +kernel)
    | some e =>
      refine kept_lit _ _ 'E' _ rfl (by decide) (by decide) (by decide) (by decide +kernel) ?_
      rw [String.toList_ofList]
      exact (sqName_word e (hep e hepc)).2
  · unfold dispCastle
    split
    · exact kept_closed _ (by decide +kernel)
    · refine kept_lit _ _ 'C' _ rfl (by decide) (by decide) (by decide) (by decide +kernel) ?_
      rw [String.toList_ofList]
      simp only [List.mem_append, not_or]
      exact ⟨⟨⟨optChar_nonl _ _ fun hk => by have := h0 hk; simp; omega, optChar_nonl _ _ fun hk => by have := h1 hk; simp; omega⟩,
        optChar_nonl _ _ fun hk => by have := h2 hk; simp; omega⟩, optChar_nonl _ _ fun hk => by have := h3 hk; simp; omega⟩
  · refine kept_lit _ _ 'H' _ rfl (by decide) (by decide) (by decide) (by decide +kernel) ?_
    rw [String.toList_ofList]
    exact (toDigits16_word _).2
  · cases p.frc <;> exact kept_closed _ (by decide +kernel)

end Rawr.Sess

#print axioms Rawr.agree_listen_loop4
