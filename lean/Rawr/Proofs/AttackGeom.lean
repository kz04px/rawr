import Rawr.Proofs.Coords
/-!
# Lines on a board: walks, `clearBetween`, `Hit`, `Between`

`Hit Y k d n s`: `s` is the `n`-th square from `k` along `d` and the `n - 1` squares in between are empty on
`Y`. The walks of `Spec/Walk.lean`, `Spec.clearBetween` with `Aligned`, the slider tests `diagAtt`/`orthAtt`
and `Between` are each tied to it once (`mem_walk_iff`, `hit_iff_clear`, `aligned_clear_hit`, `diagAtt_hit`,
`between_iff_at`); symmetry, dependence on the squares in between only, the parts of a line and the join of
two (`hit_prefix`, `hit_suffix`, `hit_append`), and uniqueness of the first occupied square (`hit_le`,
`hit_unique`, `hit_seen_iff`) are facts about `Hit`. At the end `Spec.pieceAttacks` by kind of piece (`pieceAttacks_split`)
and `Spec.attackedBy` as a statement about squares (`attackedBy_iff`).
-/
namespace Rawr.Att
open Spec

/-- with the steps counted from the origin `(f, r)`: the steps `m + 1 … k` are on the board, the steps
`m + 1 … k - 1` empty. -/
def Reach (occ : Nat → Bool) (a b f r : Int) (m k : Nat) : Prop :=
  (∀ j : Nat, m < j → j ≤ k → onBoard (f + a * j) (r + b * j) = true) ∧
  (∀ j : Nat, m < j → j < k → occ (sq (f + a * j) (r + b * j)) = false)

theorem max_natAbs_mul {a b : Int} (ha : Unit3 a) (hb : Unit3 b) (hab : a ≠ 0 ∨ b ≠ 0) (k : Nat) :
    max (a * (k : Int)).natAbs (b * (k : Int)).natAbs = k := by
  rw [Int.natAbs_mul, Int.natAbs_mul, Int.natAbs_natCast]
  rcases ha with rfl | rfl | rfl <;> rcases hb with rfl | rfl | rfl <;> simp at hab ⊢

/-- the walk that has already taken `m` steps from `(f, r)`: as the steps are counted from the origin, the
induction over the fuel never re-indexes them. -/
theorem mem_walkFrom_off (a b : Int) (occ : Nat → Bool) (t : Nat) (f r : Int) :
    ∀ (n m : Nat), t ∈ walkFrom a b occ n (f + a * m) (r + b * m) ↔
      ∃ k : Nat, m < k ∧ k ≤ m + n ∧ Reach occ a b f r m k ∧ t = sq (f + a * k) (r + b * k) := by
  intro n
  induction n with
  | zero =>
    intro m
    simp only [walkFrom, List.not_mem_nil, false_iff]
    rintro ⟨k, h1, h2, _⟩; omega
  | succ n ih =>
    intro m
    have e1 : f + a * (m : Int) + a = f + a * ((m + 1 : Nat) : Int) := by
      rw [Int.natCast_succ, Int.mul_add]; omega
    have e2 : r + b * (m : Int) + b = r + b * ((m + 1 : Nat) : Int) := by
      rw [Int.natCast_succ, Int.mul_add]; omega
    simp only [walkFrom, e1, e2]
    by_cases hbd : onBoard (f + a * ((m + 1 : Nat) : Int)) (r + b * ((m + 1 : Nat) : Int)) = true
    · rw [if_pos hbd]
      have one : Reach occ a b f r m (m + 1) :=
        ⟨fun j h1 h2 => (show j = m + 1 by omega) ▸ hbd, fun j h1 h2 => by omega⟩
      by_cases ho : occ (sq (f + a * ((m + 1 : Nat) : Int)) (r + b * ((m + 1 : Nat) : Int))) = true
      · rw [if_pos ho, List.mem_singleton]
        constructor
        · intro h
          exact ⟨m + 1, by omega, by omega, one, h⟩
        · rintro ⟨k, h1, h2, ⟨_, hr2⟩, ht⟩
          by_cases hk : k = m + 1
          · rw [hk] at ht; exact ht
          · rw [hr2 (m + 1) (by omega) (by omega)] at ho; cases ho
      · rw [if_neg ho, List.mem_cons, ih (m + 1)]
        constructor
        · rintro (h | ⟨k, h1, h2, ⟨hr1, hr2⟩, ht⟩)
          · exact ⟨m + 1, by omega, by omega, one, h⟩
          · refine ⟨k, by omega, by omega, ⟨fun j a b => ?_, fun j a b => ?_⟩, ht⟩
            · by_cases hj : j = m + 1
              · rw [hj]; exact hbd
              · exact hr1 j (by omega) b
            · by_cases hj : j = m + 1
              · rw [hj]; exact Bool.eq_false_iff.mpr ho
              · exact hr2 j (by omega) b
        · rintro ⟨k, h1, h2, ⟨hr1, hr2⟩, ht⟩
          by_cases hk : k = m + 1
          · left; rw [hk] at ht; exact ht
          · exact Or.inr ⟨k, by omega, by omega,
              ⟨fun j a b => hr1 j (by omega) b, fun j a b => hr2 j (by omega) b⟩, ht⟩
    · rw [if_neg hbd]
      simp only [List.not_mem_nil, false_iff]
      rintro ⟨k, h1, _, ⟨hr1, _⟩, _⟩
      exact hbd (hr1 (m + 1) (by omega) h1)

theorem mem_walkFrom (a b : Int) (occ : Nat → Bool) (t n : Nat) (f r : Int) :
    t ∈ walkFrom a b occ n f r ↔
      ∃ k : Nat, 1 ≤ k ∧ k ≤ n ∧ Reach occ a b f r 0 k ∧ t = sq (f + a * k) (r + b * k) := by
  have h := mem_walkFrom_off a b occ t f r n 0
  simp only [Int.natCast_zero, Int.mul_zero, Int.add_zero, Nat.zero_add] at h
  exact h

theorem sgn_mul {a : Int} (ha : Unit3 a) {k : Nat} (hk : 1 ≤ k) : sgn (a * k) = a := by
  unfold sgn
  rcases ha with rfl | rfl | rfl
  · have h1 : ¬ ((-1 : Int) * (k : Int) > 0) := by omega
    have h2 : (-1 : Int) * (k : Int) < 0 := by omega
    simp only [h1, h2, if_false, if_true]
  · simp
  · have h1 : ((1 : Int) * (k : Int) > 0) := by omega
    simp only [h1, if_true]

theorem clearBetween_iff (B : Board) {a b : Int} (ha : Unit3 a) (hb : Unit3 b) (hab : a ≠ 0 ∨ b ≠ 0)
    (s t : Nat) (k : Nat) (hk : 1 ≤ k) (hf : file t = file s + a * k) (hr : rank t = rank s + b * k) :
    clearBetween B s t = true ↔
      ∀ j : Nat, 1 ≤ j → j < k → (B (sq (file s + a * j) (rank s + b * j))).isNone = true := by
  have e1 : file t - file s = a * k := by omega
  have e2 : rank t - rank s = b * k := by omega
  unfold clearBetween
  simp only [e1, e2, sgn_mul ha hk, sgn_mul hb hk, max_natAbs_mul ha hb hab, List.all_eq_true,
    List.mem_range]
  constructor
  · intro h j h1 h2
    obtain ⟨j', rfl⟩ : ∃ j', j = j' + 1 := ⟨j - 1, by omega⟩
    have := h j' (by omega)
    simpa only [Int.natCast_add, Int.cast_ofNat_Int, Int.natCast_one] using this
  · intro h j hj
    have := h (j + 1) (by omega) (by omega)
    simpa only [Int.natCast_add, Int.cast_ofNat_Int, Int.natCast_one] using this

theorem mem_walk_iff (B : Board) (occ : Nat → Bool) (hocc : ∀ x, x < 64 → occ x = (B x).isSome)
    {a b : Int} (ha : Unit3 a) (hb : Unit3 b) (hab : a ≠ 0 ∨ b ≠ 0)
    (s t : Nat) (hs : s < 64) (ht : t < 64) :
    t ∈ walk a b s occ ↔
      ∃ k : Nat, 1 ≤ k ∧ file t = file s + a * k ∧ rank t = rank s + b * k ∧
        clearBetween B s t = true := by
  have hfree : ∀ {f r : Int}, onBoard f r = true → (occ (sq f r) = false ↔ (B (sq f r)).isNone = true) :=
    fun h => by rw [hocc _ (onBoard_lt h), Option.isSome_eq_false_iff]
  unfold walk
  rw [mem_walkFrom]
  constructor
  · rintro ⟨k, h1, _, ⟨hr1, hr2⟩, rfl⟩
    have hb' := hr1 k h1 (Nat.le_refl _)
    refine ⟨k, h1, file_sq hb', rank_sq hb', ?_⟩
    rw [clearBetween_iff B ha hb hab s _ k h1 (file_sq hb') (rank_sq hb')]
    exact fun j hj1 hj2 => (hfree (hr1 j hj1 (Nat.le_of_lt hj2))).mp (hr2 j hj1 hj2)
  · rintro ⟨k, h1, hf, hr, hcb⟩
    have hk7 : k ≤ 7 := by
      have fs := file_bounds s
      have rs := rank_bounds hs
      have ft := file_bounds t
      have rt := rank_bounds ht
      rcases ha with rfl | rfl | rfl <;> rcases hb with rfl | rfl | rfl <;> omega
    have hon : ∀ j : Nat, 1 ≤ j → j ≤ k → onBoard (file s + a * j) (rank s + b * j) = true :=
      fun j _ hj => onBoard_seg ha hb hs ht hj hf hr
    rw [clearBetween_iff B ha hb hab s t k h1 hf hr] at hcb
    refine ⟨k, h1, hk7, ⟨hon, ?_⟩, by rw [← hf, ← hr, sq_file_rank]⟩
    exact fun j hj1 hj2 => (hfree (hon j hj1 (Nat.le_of_lt hj2))).mpr (hcb j hj1 hj2)

def Aligned (dirs : List (Int × Int)) (s t : Nat) : Prop :=
  ∃ d ∈ dirs, ∃ k : Nat, 1 ≤ k ∧ file t = file s + d.1 * k ∧ rank t = rank s + d.2 * k

theorem walkSet4_iff (B : Board) (occ : Nat → Bool) (hocc : ∀ x, x < 64 → occ x = (B x).isSome)
    (dirs : List (Int × Int)) (hd : ∀ d ∈ dirs, GoodDir d) (s t : Nat) (hs : s < 64) (ht : t < 64) :
    walkSet4 dirs s occ t = true ↔ Aligned dirs s t ∧ clearBetween B s t = true := by
  unfold walkSet4 Aligned
  simp only [List.any_eq_true, List.contains_iff_mem]
  constructor
  · rintro ⟨d, hdm, hm⟩
    obtain ⟨h1, h2, h3⟩ := hd d hdm
    obtain ⟨k, hk, hf, hr, hcb⟩ := (mem_walk_iff B occ hocc h1 h2 h3 s t hs ht).mp hm
    exact ⟨⟨d, hdm, k, hk, hf, hr⟩, hcb⟩
  · rintro ⟨⟨d, hdm, k, hk, hf, hr⟩, hcb⟩
    obtain ⟨h1, h2, h3⟩ := hd d hdm
    exact ⟨d, hdm, (mem_walk_iff B occ hocc h1 h2 h3 s t hs ht).mpr ⟨k, hk, hf, hr, hcb⟩⟩

theorem aligned_ne {dirs : List (Int × Int)} (hd : ∀ d ∈ dirs, GoodDir d) {s t : Nat}
    (h : Aligned dirs s t) : s ≠ t := by
  obtain ⟨d, hdm, k, hk, hf, hr⟩ := h
  rintro rfl
  have := at_inj (hd d hdm) ⟨hf, hr⟩ (at_zero s d)
  omega

theorem sgn_mul_natAbs (x : Int) : sgn x * (x.natAbs : Int) = x := by
  unfold sgn
  split
  · omega
  · split <;> omega

theorem sgn_of_ne {x : Int} (h : x ≠ 0) : sgn x = 1 ∨ sgn x = -1 := by
  unfold sgn
  split
  · exact Or.inl rfl
  · rw [if_pos (by omega)]; exact Or.inr rfl

theorem aligned_diag (s t : Nat) :
    Aligned diag s t ↔ s ≠ t ∧ (file t - file s).natAbs = (rank t - rank s).natAbs := by
  constructor
  · intro h
    refine ⟨aligned_ne goodDir_diag h, ?_⟩
    obtain ⟨d, hd, k, hk, hf, hr⟩ := h
    have e1 : file t - file s = d.1 * k := by omega
    have e2 : rank t - rank s = d.2 * k := by omega
    rw [e1, e2, Int.natAbs_mul, Int.natAbs_mul]
    simp only [diag, List.mem_cons, List.not_mem_nil, or_false] at hd
    rcases hd with rfl | rfl | rfl | rfl <;> rfl
  · -- the direction is the pair of signs of the two differences
    rintro ⟨hne, h⟩
    have hf0 : file t - file s ≠ 0 := fun e => hne (eq_of_file_rank (by omega) (by omega))
    have hr0 : rank t - rank s ≠ 0 := by omega
    refine ⟨(sgn (file t - file s), sgn (rank t - rank s)), ?_, (file t - file s).natAbs, by omega,
      ?_, ?_⟩
    · rcases sgn_of_ne hf0 with e | e <;> rcases sgn_of_ne hr0 with e' | e' <;> rw [e, e'] <;> decide
    · show file t = file s + sgn (file t - file s) * ((file t - file s).natAbs : Int)
      rw [sgn_mul_natAbs]; omega
    · show rank t = rank s + sgn (rank t - rank s) * ((file t - file s).natAbs : Int)
      rw [h, sgn_mul_natAbs]; omega

theorem aligned_orth (s t : Nat) :
    Aligned orth s t ↔ s ≠ t ∧ (file t - file s = 0 ∨ rank t - rank s = 0) := by
  constructor
  · intro h
    refine ⟨aligned_ne goodDir_orth h, ?_⟩
    obtain ⟨d, hd, k, hk, hf, hr⟩ := h
    simp only [orth, List.mem_cons, List.not_mem_nil, or_false] at hd
    rcases hd with rfl | rfl | rfl | rfl <;> simp only at hf hr <;> omega
  · rintro ⟨hne, h | h⟩
    · have hr0 : rank t - rank s ≠ 0 := fun e => hne (eq_of_file_rank (by omega) (by omega))
      refine ⟨(0, sgn (rank t - rank s)), ?_, (rank t - rank s).natAbs, by omega, ?_, ?_⟩
      · rcases sgn_of_ne hr0 with e | e <;> rw [e] <;> decide
      · show file t = file s + 0 * _
        omega
      · show rank t = rank s + sgn (rank t - rank s) * _
        rw [sgn_mul_natAbs]; omega
    · have hf0 : file t - file s ≠ 0 := fun e => hne (eq_of_file_rank (by omega) (by omega))
      refine ⟨(sgn (file t - file s), 0), ?_, (file t - file s).natAbs, by omega, ?_, ?_⟩
      · rcases sgn_of_ne hf0 with e | e <;> rw [e] <;> decide
      · show file t = file s + sgn (file t - file s) * _
        rw [sgn_mul_natAbs]; omega
      · show rank t = rank s + 0 * _
        omega

/-- the bishop and rook branches of `Spec.pieceAttacks` (a queen has both): `pieceAttacks_split` in `SpecMirror`. -/
def diagAtt (B : Board) (s t : Nat) : Bool :=
  s != t && (file t - file s).natAbs == (rank t - rank s).natAbs && clearBetween B s t
def orthAtt (B : Board) (s t : Nat) : Bool :=
  s != t && (file t - file s == 0 || rank t - rank s == 0) && clearBetween B s t

theorem diagAtt_iff (B : Board) (s t : Nat) :
    diagAtt B s t = true ↔ Aligned diag s t ∧ clearBetween B s t = true := by
  rw [aligned_diag]; simp [diagAtt, and_assoc]
theorem orthAtt_iff (B : Board) (s t : Nat) :
    orthAtt B s t = true ↔ Aligned orth s t ∧ clearBetween B s t = true := by
  rw [aligned_orth]; simp [orthAtt, and_assoc]

theorem walkSet4_diag (B : Board) (occ : Nat → Bool) (hocc : ∀ x, x < 64 → occ x = (B x).isSome)
    (s t : Nat) (hs : s < 64) (ht : t < 64) : walkSet4 diag s occ t = diagAtt B s t := by
  rw [Bool.eq_iff_iff, walkSet4_iff B occ hocc diag goodDir_diag s t hs ht, diagAtt_iff]
theorem walkSet4_orth (B : Board) (occ : Nat → Bool) (hocc : ∀ x, x < 64 → occ x = (B x).isSome)
    (s t : Nat) (hs : s < 64) (ht : t < 64) : walkSet4 orth s occ t = orthAtt B s t := by
  rw [Bool.eq_iff_iff, walkSet4_iff B occ hocc orth goodDir_orth s t hs ht, orthAtt_iff]

def Hit (Y : Board) (k : Nat) (d : Int × Int) (n : Nat) (s : Nat) : Prop :=
  1 ≤ n ∧ At k d n s ∧ ∀ i : Nat, 1 ≤ i → i < n → Y (pt k d i) = none

theorem hit_iff_clear (Y : Board) {d : Int × Int} (hd : GoodDir d) (k s n : Nat) (hn : 1 ≤ n)
    (h : At k d n s) :
    clearBetween Y k s = true ↔ ∀ i : Nat, 1 ≤ i → i < n → Y (pt k d i) = none := by
  obtain ⟨ha, hb, hab⟩ := hd
  rw [clearBetween_iff Y ha hb hab k s n hn h.1 h.2]
  unfold pt
  constructor
  · intro h' i h1 h2; exact Option.isNone_iff_eq_none.mp (h' i h1 h2)
  · intro h' i h1 h2; exact Option.isNone_iff_eq_none.mpr (h' i h1 h2)

/-- `Aligned` + `clearBetween` from `k` to `s` is a `Hit` from `k`, the first square; the slider tests, which look from
the piece to its target, are turned round in `diagAtt_hit` / `orthAtt_hit`. -/
theorem aligned_clear_hit (Y : Board) (dirs : List (Int × Int)) (hd : ∀ d ∈ dirs, GoodDir d) (k s : Nat) :
    (Aligned dirs k s ∧ clearBetween Y k s = true) ↔ ∃ d ∈ dirs, ∃ n, Hit Y k d n s := by
  unfold Aligned Hit
  constructor
  · rintro ⟨⟨d, hdm, n, hn, hf, hr⟩, hc⟩
    exact ⟨d, hdm, n, hn, ⟨hf, hr⟩, (hit_iff_clear Y (hd d hdm) k s n hn ⟨hf, hr⟩).mp hc⟩
  · rintro ⟨d, hdm, n, hn, hat, hc⟩
    exact ⟨⟨d, hdm, n, hn, hat.1, hat.2⟩, (hit_iff_clear Y (hd d hdm) k s n hn hat).mpr hc⟩

theorem hit_blocked {B : Board} {k : Nat} {d : Int × Int} {n m s x : Nat}
    (h : Hit B k d n s) (hx : At k d m x) (hm1 : 1 ≤ m) (hmn : m < n) : B x = none := by
  have := h.2.2 m hm1 hmn
  rw [at_pt hx] at this
  exact this

theorem hit_rev {Y : Board} {k s : Nat} {d : Int × Int} {n : Nat} (h : Hit Y k d n s) :
    Hit Y s (-d.1, -d.2) n k := by
  refine ⟨h.1, at_rev h.2.1, fun i h1 h2 => ?_⟩
  rw [pt_rev h.2.1 (Nat.le_of_lt h2)]
  exact h.2.2 (n - i) (by omega) (by omega)

/-- a line that is open on `B` is open on a board that is empty wherever `B` is, except perhaps on `t`,
unless it passes over `t`. -/
theorem hit_keep {B B' : Board} {k : Nat} {d : Int × Int} {n c t : Nat} (h : Hit B k d n c)
    (he : ∀ x, x ≠ t → B x = none → B' x = none) (ht : ∀ i : Nat, 1 ≤ i → i < n → pt k d i ≠ t) :
    Hit B' k d n c :=
  ⟨h.1, h.2.1, fun i a b => he _ (ht i a b) (h.2.2 i a b)⟩

theorem hit_mono {B B' : Board} {k : Nat} {d : Int × Int} {n s : Nat} (h : Hit B k d n s)
    (he : ∀ x, B x = none → B' x = none) : Hit B' k d n s :=
  ⟨h.1, h.2.1, fun i a b => he _ (h.2.2 i a b)⟩

theorem hit_prefix {B : Board} {k : Nat} {d : Int × Int} {n s i t : Nat} (h : Hit B k d n s) (hi : 1 ≤ i)
    (hin : i ≤ n) (ht : At k d i t) : Hit B k d i t :=
  ⟨hi, ht, fun j a b => h.2.2 j a (Nat.lt_of_lt_of_le b hin)⟩

theorem hit_suffix {B : Board} {k : Nat} {d : Int × Int} {n s j f : Nat} (h : Hit B k d n s) (hf : At k d j f)
    (hjn : j < n) : Hit B f d (n - j) s :=
  ⟨by omega, at_sub hf h.2.1 (Nat.le_of_lt hjn), fun i a b => by
    rw [pt_add hf i]; exact h.2.2 (j + i) (by omega) (by omega)⟩

theorem hit_append {B : Board} {k f s : Nat} {d : Int × Int} {j m : Nat} (h1 : Hit B k d j f)
    (hf : B f = none) (h2 : Hit B f d m s) : Hit B k d (j + m) s := by
  refine ⟨Nat.le_trans h1.1 (Nat.le_add_right j m), at_add h1.2.1 h2.2.1, fun i a b => ?_⟩
  rcases Nat.lt_trichotomy i j with h | h | h
  · exact h1.2.2 i a h
  · rw [h, at_pt h1.2.1]; exact hf
  · rw [show i = j + (i - j) by omega, ← pt_add h1.2.1]
    exact h2.2.2 (i - j) (by omega) (by omega)

/-- an open line does not reach past an occupied point of its ray. -/
theorem hit_le {B : Board} {k : Nat} {d : Int × Int} {i n t s : Nat} (h : Hit B k d i t) (hn : 1 ≤ n)
    (hs : At k d n s) (o : B s ≠ none) : i ≤ n :=
  Nat.le_of_not_lt fun hlt => o (hit_blocked h hs hn hlt)

theorem hit_unique {B : Board} {k : Nat} {d : Int × Int} {n1 n2 s1 s2 : Nat} (h1 : Hit B k d n1 s1)
    (h2 : Hit B k d n2 s2) (o1 : B s1 ≠ none) (o2 : B s2 ≠ none) : s1 = s2 := by
  obtain rfl : n1 = n2 := Nat.le_antisymm (hit_le h1 h2.1 h2.2.1 o2) (hit_le h2 h1.1 h1.2.1 o1)
  exact at_eq h1.2.1 h2.2.1

theorem hit_seen_iff {B : Board} {k s : Nat} {d : Int × Int} {n : Nat} (hd : GoodDir d) (hk : k < 64)
    (hs : s < 64) (h : Hit B k d n s) (o : B s ≠ none) (t : Nat) :
    (∃ i, Hit B k d i t) ↔ t = s ∨ ∃ i : Nat, 1 ≤ i ∧ i < n ∧ pt k d i = t := by
  constructor
  · rintro ⟨i, hi⟩
    rcases Nat.lt_or_eq_of_le (hit_le hi h.1 h.2.1 o) with hlt | rfl
    · exact Or.inr ⟨i, hi.1, hlt, at_pt hi.2.1⟩
    · exact Or.inl (at_eq hi.2.1 h.2.1)
  · rintro (rfl | ⟨i, h1, h2, rfl⟩)
    · exact ⟨n, h⟩
    · exact ⟨i, hit_prefix h h1 (Nat.le_of_lt h2) (at_le hd hk hs h.2.1 (Nat.le_of_lt h2)).1⟩

/-- two lines from `k` through one square `t`, both ending on an occupied square, end on the same square:
they have the same direction. -/
theorem hit_through_unique {B : Board} {k t : Nat} (hk : k < 64) {d1 d2 : Int × Int}
    {n1 n2 i1 i2 s1 s2 : Nat} (g1 : GoodDir d1) (g2 : GoodDir d2) (hs1 : s1 < 64) (hs2 : s2 < 64)
    (h1 : Hit B k d1 n1 s1) (h2 : Hit B k d2 n2 s2) (a1 : 1 ≤ i1) (b1 : i1 < n1) (a2 : 1 ≤ i2)
    (b2 : i2 < n2) (p1 : pt k d1 i1 = t) (p2 : pt k d2 i2 = t) (o1 : B s1 ≠ none) (o2 : B s2 ≠ none) :
    s1 = s2 := by
  have at1 := (at_le g1 hk hs1 h1.2.1 (Nat.le_of_lt b1)).1
  have at2 := (at_le g2 hk hs2 h2.2.1 (Nat.le_of_lt b2)).1
  rw [p1] at at1
  rw [p2] at at2
  obtain ⟨rfl, _⟩ := at_unique g1 g2 a1 a2 at1 at2
  exact hit_unique h1 h2 o1 o2

/-- `x` lies strictly between the aligned squares `s` and `t`. -/
def Between (s t x : Nat) : Prop :=
  ∃ (d : Int × Int) (k j : Nat), GoodDir d ∧ 1 ≤ j ∧ j < k ∧
    file t = file s + d.1 * k ∧ rank t = rank s + d.2 * k ∧
    file x = file s + d.1 * j ∧ rank x = rank s + d.2 * j

theorem between_iff_at {s t x : Nat} :
    Between s t x ↔ ∃ d n i, GoodDir d ∧ 1 ≤ i ∧ i < n ∧ At s d n t ∧ At s d i x :=
  ⟨fun ⟨d, n, i, g, h1, h2, a, b, c, e⟩ => ⟨d, n, i, g, h1, h2, ⟨a, b⟩, ⟨c, e⟩⟩,
   fun ⟨d, n, i, g, h1, h2, ⟨a, b⟩, ⟨c, e⟩⟩ => ⟨d, n, i, g, h1, h2, a, b, c, e⟩⟩

/-- `Between` read from the other end: the direction is reversed, the `i`-th square becomes the `(n - i)`-th. -/
theorem between_symm {s t x : Nat} (h : Between s t x) : Between t s x := by
  obtain ⟨d, n, i, g, h1, h2, hn, hi⟩ := between_iff_at.mp h
  exact between_iff_at.mpr ⟨_, n, n - i, neg_goodDir g, by omega, by omega, at_rev hn,
    at_rev (at_sub hi hn (Nat.le_of_lt h2))⟩

theorem between_ne {s t x : Nat} (h : Between s t x) : x ≠ s ∧ x ≠ t := by
  obtain ⟨d, n, i, g, h1, h2, hn, hi⟩ := between_iff_at.mp h
  constructor
  · rintro rfl
    have := at_inj g hi (at_zero x d)
    omega
  · rintro rfl
    have := at_inj g hi hn
    omega

theorem hit_between {Y : Board} {k s : Nat} {d : Int × Int} {n : Nat} (hd : GoodDir d) (hk : k < 64)
    (hs : s < 64) (h : Hit Y k d n s) {i : Nat} (h1 : 1 ≤ i) (h2 : i < n) :
    pt k d i < 64 ∧ Between k s (pt k d i) := by
  obtain ⟨hat, hlt⟩ := at_le hd hk hs h.2.1 (Nat.le_of_lt h2)
  exact ⟨hlt, between_iff_at.mpr ⟨d, n, i, hd, h1, h2, h.2.1, hat⟩⟩

theorem lineAtt_congr {dirs : List (Int × Int)} (hd : ∀ d ∈ dirs, GoodDir d) (B B' : Board) {s t : Nat}
    (hs : s < 64) (ht : t < 64) (h : ∀ x, x < 64 → Between s t x → B x = B' x)
    (ha : Aligned dirs s t ∧ clearBetween B s t = true) :
    Aligned dirs s t ∧ clearBetween B' s t = true := by
  obtain ⟨d, hdm, n, hh⟩ := (aligned_clear_hit B dirs hd s t).mp ha
  refine (aligned_clear_hit B' dirs hd s t).mpr ⟨d, hdm, n, hh.1, hh.2.1, fun i h1 h2 => ?_⟩
  obtain ⟨hlt, hb⟩ := hit_between (hd d hdm) hs ht hh h1 h2
  rw [← h _ hlt hb]
  exact hh.2.2 i h1 h2

theorem clearBetween_symm (B : Board) (dirs : List (Int × Int)) (hd : ∀ d ∈ dirs, GoodDir d)
    (s t : Nat) (hal : Aligned dirs s t) :
    clearBetween B s t = clearBetween B t s := by
  obtain ⟨d, hdm, n, hn, hf, hr⟩ := hal
  have hat : At s d n t := ⟨hf, hr⟩
  rw [Bool.eq_iff_iff, hit_iff_clear B (hd d hdm) s t n hn hat,
    hit_iff_clear B (neg_goodDir (hd d hdm)) t s n hn (at_rev hat)]
  constructor
  · intro h
    exact (hit_rev ⟨hn, hat, h⟩).2.2
  · intro h
    have := (hit_rev ⟨hn, at_rev hat, h⟩).2.2
    rwa [Int.neg_neg, Int.neg_neg] at this

theorem diag_neg : ∀ d ∈ diag, (-d.1, -d.2) ∈ diag := by decide
theorem orth_neg : ∀ d ∈ orth, (-d.1, -d.2) ∈ orth := by decide

theorem aligned_symm {dirs : List (Int × Int)} (hneg : ∀ d ∈ dirs, (-d.1, -d.2) ∈ dirs) {s t : Nat}
    (h : Aligned dirs s t) : Aligned dirs t s := by
  obtain ⟨d, hd, k, hk, hf, hr⟩ := h
  have := at_rev (k := s) (s := t) ⟨hf, hr⟩
  exact ⟨_, hneg d hd, k, hk, this.1, this.2⟩

theorem lineAtt_symm {dirs : List (Int × Int)} (hd : ∀ d ∈ dirs, GoodDir d)
    (hneg : ∀ d ∈ dirs, (-d.1, -d.2) ∈ dirs) (B : Board) {s t : Nat}
    (h : Aligned dirs s t ∧ clearBetween B s t = true) :
    Aligned dirs t s ∧ clearBetween B t s = true :=
  ⟨aligned_symm hneg h.1, by rw [← clearBetween_symm B dirs hd s t h.1]; exact h.2⟩

theorem diagAtt_symm (B : Board) (s t : Nat) :
    diagAtt B s t = diagAtt B t s := by
  rw [Bool.eq_iff_iff, diagAtt_iff, diagAtt_iff]
  exact ⟨lineAtt_symm goodDir_diag diag_neg B, lineAtt_symm goodDir_diag diag_neg B⟩

theorem orthAtt_symm (B : Board) (s t : Nat) :
    orthAtt B s t = orthAtt B t s := by
  rw [Bool.eq_iff_iff, orthAtt_iff, orthAtt_iff]
  exact ⟨lineAtt_symm goodDir_orth orth_neg B, lineAtt_symm goodDir_orth orth_neg B⟩

theorem diagAtt_congr (B B' : Board) (s t : Nat) (hs : s < 64) (ht : t < 64)
    (h : ∀ x, x < 64 → Between s t x → B x = B' x) : diagAtt B s t = diagAtt B' s t := by
  rw [Bool.eq_iff_iff, diagAtt_iff, diagAtt_iff]
  exact ⟨lineAtt_congr goodDir_diag B B' hs ht h,
    lineAtt_congr goodDir_diag B' B hs ht fun x hx hb => (h x hx hb).symm⟩

theorem orthAtt_congr (B B' : Board) (s t : Nat) (hs : s < 64) (ht : t < 64)
    (h : ∀ x, x < 64 → Between s t x → B x = B' x) : orthAtt B s t = orthAtt B' s t := by
  rw [Bool.eq_iff_iff, orthAtt_iff, orthAtt_iff]
  exact ⟨lineAtt_congr goodDir_orth B B' hs ht h,
    lineAtt_congr goodDir_orth B' B hs ht fun x hx hb => (h x hx hb).symm⟩

theorem diagAtt_hit (Y : Board) (s k : Nat) :
    diagAtt Y s k = true ↔ ∃ d ∈ diag, ∃ n, Hit Y k d n s := by
  rw [diagAtt_symm, diagAtt_iff, aligned_clear_hit Y diag goodDir_diag]

theorem orthAtt_hit (Y : Board) (s k : Nat) :
    orthAtt Y s k = true ↔ ∃ d ∈ orth, ∃ n, Hit Y k d n s := by
  rw [orthAtt_symm, orthAtt_iff, aligned_clear_hit Y orth goodDir_orth]

theorem queen_split (a b c d e : Bool) :
    (a && (b || c || d) && e) = ((a && b && e) || (a && (c || d) && e)) := by
  cases a <;> cases b <;> cases c <;> cases d <;> cases e <;> rfl

theorem pieceAttacks_split (B : Board) (s : Nat) (pc : Piece) (t : Nat) :
    pieceAttacks B s pc t = match pc.kind with
      | .pawn => pawnStep pc.white s t
      | .knight => knightStep s t
      | .king => kingStep s t
      | .bishop => diagAtt B s t
      | .rook => orthAtt B s t
      | .queen => diagAtt B s t || orthAtt B s t := by
  obtain ⟨w, kd⟩ := pc
  cases kd <;> simp only [pieceAttacks, pawnStep, knightStep, kingStep, diagAtt, orthAtt, queen_split]

theorem attackedBy_iff (B : Board) (w : Bool) (t : Nat) :
    attackedBy B w t = true ↔
      ∃ s, s < 64 ∧ ∃ pc : Piece, B s = some pc ∧ pc.white = w ∧ pieceAttacks B s pc t = true := by
  unfold attackedBy squares
  rw [List.any_eq_true]
  constructor
  · rintro ⟨s, hs, h⟩
    cases hB : B s with
    | none => rw [hB] at h; cases h
    | some pc =>
      rw [hB] at h
      simp only [Bool.and_eq_true, beq_iff_eq] at h
      exact ⟨s, List.mem_range.mp hs, pc, hB, h.1, h.2⟩
  · rintro ⟨s, hs, pc, hB, hw, ha⟩
    exact ⟨s, List.mem_range.mpr hs, by rw [hB]; simp [hw, ha]⟩

end Rawr.Att
