import Rawr.Proofs.AbsCell
import Rawr.Proofs.HashFacts
import Rawr.Proofs.SpecValid
/-! `Spec.Valid (abs p)` read on the bitboards of a board-consistent position: `VB.valid_iff`, clause by clause through
`SV.ValidFacts`. Everything is said by relative side (`them = false`: the mover, boards `c0`, home rank 0); the colour of
side `them` is `them == p.black`. `StructurallyValid`, `VFacts`, `KeyHyps` and the tests of `validate` are readings of
`BitValid`; the attack clause stays on the specification side (its bitboard form is C08d). At the end the two facts the
generator proofs take from `ValidPos` most often: `Att.valid_consistent`, `Att.valid_kings`. -/
namespace Rawr
open Spec Position ZH

structure ValidParts (p : Position) : Prop where
  consistent : Consistent p = true
  spec : Spec.Valid (abs p) = true
  half : p.halfmoves < 2147483648
  full : p.fullmoves < 2147483648
  cf0 : p.cf0 < 8
  cf1 : p.cf1 < 8
  cf2 : p.cf2 < 8
  cf3 : p.cf3 < 8
  hash : p.hash = p.calculateHash

theorem validPos_iff (p : Position) : ValidPos p = true ↔ ValidParts p := by
  simp only [ValidPos, Bool.and_eq_true, decide_eq_true_eq, beq_iff_eq]
  exact ⟨fun ⟨⟨⟨⟨⟨⟨⟨⟨a, b⟩, c⟩, d⟩, e⟩, f⟩, g⟩, h⟩, i⟩ => ⟨a, b, c, d, e, f, g, h, i⟩,
    fun ⟨a, b, c, d, e, f, g, h, i⟩ => ⟨⟨⟨⟨⟨⟨⟨⟨a, b⟩, c⟩, d⟩, e⟩, f⟩, g⟩, h⟩, i⟩⟩

theorem validPos_parts {p : Position} (hV : ValidPos p = true) : ValidParts p := (validPos_iff p).mp hV

namespace VB

/-- is the castling right (`them`, `ks`) set, and its rook file. -/
def hasRight (p : Position) (them ks : Bool) : Bool :=
  match them, ks with
  | false, true => p.usK | false, false => p.usQ | true, true => p.themK | true, false => p.themQ

def rightFile (p : Position) (them ks : Bool) : Nat :=
  match them, ks with
  | false, true => p.cf0 | false, false => p.cf1 | true, true => p.cf2 | true, false => p.cf3

/-- a castling right as the specification holds it: the rook file, if the right is set. -/
def _root_.Rawr.MM.optR (b : Bool) (f : Nat) : Option Nat := if b = true then some f else none

theorem right_abs (p : Position) (them ks : Bool) :
    right (abs p) (them == p.black) ks = MM.optR (hasRight p them ks) (rightFile p them ks) := by
  unfold abs
  cases them <;> cases ks <;> cases p.black <;> rfl

theorem colour_colour (w t : Bool) : ((w == t) == t) = w := by
  cases w <;> cases t <;> rfl

/-- the kings of side `them` on the absolute board are the bits of its king board. -/
theorem uniqueKing_iff {p : Position} (hC : Consistent p = true) (them : Bool) (k : Nat) :
    SV.UniqueKing (abs p).board (them == p.black) k ↔
      k < 64 ∧ count (p.side them &&& p.p5) = 1 ∧ lsb (p.side them &&& p.p5) = absSq p.black k := by
  have key : ∀ a, a < 64 → ((abs p).board a = some ⟨them == p.black, .king⟩ ↔
      (p.side them &&& p.p5).getLsbD (absSq p.black a) = true) := by
    intro a ha
    have := absBoard_some_iff hC (absSq_lt p.black ha) them .king
    rwa [absSq_absSq] at this
  constructor
  · rintro ⟨hk, hb, hu⟩
    have hbit := (key k hk).mp hb
    have h1 : count (p.side them &&& p.p5) = 1 := by
      refine (count_one_iff _).mpr ⟨_, hbit, fun j hj => ?_⟩
      have hj64 := absSq_lt p.black (BitVec.lt_of_getLsbD hj)
      rw [← hu _ hj64 ((key _ hj64).mpr (by rwa [absSq_absSq])), absSq_absSq]
    exact ⟨hk, h1, lsb_unique (Nat.le_of_eq h1) hbit⟩
  · rintro ⟨hk, h1, hl⟩
    have hbit := lsb_mem (ne_zero_of_count_one h1)
    rw [hl] at hbit
    refine ⟨hk, (key k hk).mpr hbit, fun j hj hb => ?_⟩
    have := lsb_unique (Nat.le_of_eq h1) ((key j hj).mp hb)
    rw [hl] at this
    rw [← absSq_absSq p.black j, ← this, absSq_absSq]

/-- with one king bit, the king square the specification finds is the image of `lsb`. -/
theorem uniqueKing_lsb {p : Position} (hC : Consistent p = true) {them : Bool}
    (h1 : count (p.side them &&& p.p5) = 1) :
    SV.UniqueKing (abs p).board (them == p.black) (absSq p.black (lsb (p.side them &&& p.p5))) :=
  (uniqueKing_iff hC them _).mpr ⟨absSq_lt _ ((toList_of_count_one _ h1).2), h1, (absSq_absSq _ _).symm⟩

theorem king_iff {p : Position} (hC : Consistent p = true) (them : Bool) :
    (∃ k, SV.UniqueKing (abs p).board (them == p.black) k) ↔ count (p.side them &&& p.p5) = 1 :=
  ⟨fun ⟨k, hk⟩ => ((uniqueKing_iff hC them k).mp hk).2.1, fun h1 => ⟨_, uniqueKing_lsb hC h1⟩⟩

theorem edge_mask : ∀ i, i < 64 → ∀ t : Bool,
    (0xFF000000000000FF#64 : BB).getLsbD i = (rank (absSq t i) == 0 || rank (absSq t i) == 7) := by
  decide

theorem pawn_bit_iff {p : Position} (hC : Consistent p = true) {r : Nat} (hr : r < 64) :
    p.p0.getLsbD r = true ↔ ∃ w, absBoard p (absSq p.black r) = some ⟨w, .pawn⟩ := by
  have hs := fun them => absBoard_some_iff hC hr them .pawn
  simp only [BitVec.getLsbD_and, Bool.and_eq_true] at hs
  constructor
  · intro h0
    have hocc := occ_bit hC r
    rw [pieceOn_of_bit hC (k := 0) h0] at hocc
    cases h : p.c0.getLsbD r
    · rw [h, Bool.false_or] at hocc
      exact ⟨_, (hs true).mpr ⟨hocc, h0⟩⟩
    · exact ⟨_, (hs false).mpr ⟨h, h0⟩⟩
  · rintro ⟨w, h⟩
    rw [← colour_colour w p.black] at h
    exact ((hs _).mp h).2

theorem pawns_iff {p : Position} (hC : Consistent p = true) :
    (∀ s, s < 64 → ∀ pc, (abs p).board s = some pc → pc.kind = .pawn → rank s ≠ 0 ∧ rank s ≠ 7) ↔
      p.p0 &&& 0xFF000000000000FF#64 = 0#64 := by
  constructor
  · intro h
    apply BitVec.eq_of_getLsbD_eq
    intro i hi
    rw [BitVec.getLsbD_and, BitVec.getLsbD_zero, edge_mask i hi p.black]
    cases h0 : p.p0.getLsbD i
    · rfl
    · obtain ⟨w, hb⟩ := (pawn_bit_iff hC hi).mp h0
      have := h _ (absSq_lt p.black hi) _ hb rfl
      simp [this.1, this.2]
  · intro h s hs pc hb hk
    obtain ⟨w, k⟩ := pc
    cases hk
    have hr := absSq_lt p.black hs
    have h0 := (pawn_bit_iff hC hr).mpr ⟨w, by rw [absSq_absSq]; exact hb⟩
    have := congrArg (·.getLsbD (absSq p.black s)) h
    simp only [BitVec.getLsbD_and, BitVec.getLsbD_zero, h0, Bool.true_and, edge_mask _ hr p.black,
      absSq_absSq, Bool.or_eq_false_iff, beq_eq_false_iff_ne] at this
    exact this

/-- the right of side `them` to castle with the rook on file `f`, on the bitboards. -/
def RightBits (p : Position) (them ks : Bool) (f : Nat) : Prop :=
  rankOf (lsb (p.side them &&& p.p5)) = (if them then 7 else 0) ∧
    (p.side them &&& p.p3).isSet (fromCoords f (if them then 7 else 0)) = true ∧ f < 8 ∧
    (if ks then fileOf (lsb (p.side them &&& p.p5)) < f else f < fileOf (lsb (p.side them &&& p.p5)))

theorem home_sq (f : Nat) (hf : f < 8) (t them : Bool) :
    fromCoords f (if them then 7 else 0) < 64 ∧
      absSq t (fromCoords f (if them then 7 else 0)) = sq (↑f) (homeRank (them == t)) := by
  have h7 : (if them then 7 else 0) < 8 := by split <;> omega
  refine ⟨by unfold fromCoords; omega, ?_⟩
  rw [absSq_fromCoords t hf h7]
  cases t <;> cases them <;> rfl

theorem home_king (k : Nat) (hk : k < 64) (t them : Bool) :
    (rank (absSq t k) = homeRank (them == t) ↔ rankOf k = (if them then 7 else 0)) ∧
      file (absSq t k) = ((fileOf k : Nat) : Int) := by
  refine ⟨?_, file_absSq t k⟩
  rw [rank_absSq t hk, show rank k = ((rankOf k : Nat) : Int) from rfl]
  have : rankOf k < 8 := by unfold rankOf; omega
  cases t <;> cases them <;> simp [homeRank] <;> omega

theorem right_iff {p : Position} (hC : Consistent p = true) {them : Bool}
    (h1 : count (p.side them &&& p.p5) = 1) (ks : Bool) (f : Nat) :
    SV.RightOK (abs p) (them == p.black) ks f ↔ RightBits p them ks f := by
  have hks := SV.kingSquares_of_unique (uniqueKing_lsb hC h1)
  obtain ⟨hrank, hfile⟩ := home_king _ ((toList_of_count_one _ h1).2) p.black them
  have hside : (if ks = true then file (absSq p.black (lsb (p.side them &&& p.p5))) < (f : Int)
        else (f : Int) < file (absSq p.black (lsb (p.side them &&& p.p5)))) ↔
      (if ks then fileOf (lsb (p.side them &&& p.p5)) < f else f < fileOf (lsb (p.side them &&& p.p5))) := by
    rw [hfile]
    cases ks <;> simp
  unfold SV.RightOK RightBits
  rw [hks]
  constructor
  · rintro ⟨hf, hrook, k, hk, h2, h3⟩
    cases hk
    obtain ⟨hs, hm⟩ := home_sq f hf p.black them
    rw [← hm] at hrook
    exact ⟨hrank.mp h2, (absBoard_some_iff hC hs them .rook).mp hrook, hf, hside.mp h3⟩
  · rintro ⟨h2, hrook, hf, h3⟩
    obtain ⟨hs, hm⟩ := home_sq f hf p.black them
    refine ⟨hf, ?_, _, rfl, hrank.mpr h2, hside.mpr h3⟩
    rw [← hm]
    exact (absBoard_some_iff hC hs them .rook).mpr hrook

theorem ep_sq (e : Nat) (he : e < 64) (t : Bool) :
    (rank (absSq t e) = (if (!t) = true then 5 else 2) ↔ rankOf e = 5) ∧
    (rankOf e = 5 → e - 8 < 64 ∧
      sq (file (absSq t e)) (if (!t) = true then 4 else 3) = absSq t (e - 8)) := by
  constructor
  · rw [rank_absSq t he, show rank e = ((rankOf e : Nat) : Int) from rfl]
    cases t <;> simp <;> omega
  · intro h5
    -- the pawn stands one rank below the en-passant square, on the mover's fifth rank
    have e8 : e - 8 = sq (file e) 4 := by
      unfold sq file
      unfold rankOf at h5
      omega
    have hon : onBoard (file e) 4 = true := (Att.onBoard_iff _ _).mpr (by have := Att.file_bounds e; omega)
    refine ⟨by omega, ?_⟩
    rw [file_absSq, e8, absSq_sq t hon]
    cases t <;> rfl

theorem ep_iff {p : Position} (hC : Consistent p = true) (e : Nat) :
    (rank (absSq p.black e) = (if (abs p).whiteToMove = true then 5 else 2) ∧
      (abs p).board (absSq p.black e) = none ∧
      (abs p).board (sq (file (absSq p.black e)) (if (abs p).whiteToMove = true then 4 else 3)) =
        some ⟨!(abs p).whiteToMove, .pawn⟩) ↔
    (rankOf e = 5 ∧ p.occ.isSet e = false ∧ (p.c1 &&& p.p0).isSet (e - 8) = true) := by
  show (rank (absSq p.black e) = (if (!p.black) = true then 5 else 2) ∧
      absBoard p (absSq p.black e) = none ∧
      absBoard p (sq (file (absSq p.black e)) (if (!p.black) = true then 4 else 3)) =
        some ⟨!(!p.black), .pawn⟩) ↔ _
  by_cases he : e < 64
  · obtain ⟨h1, h2⟩ := ep_sq e he p.black
    rw [h1]
    refine and_congr_right fun h5 => ?_
    obtain ⟨h8, hsq⟩ := h2 h5
    have hp := absBoard_some_iff hC h8 true .pawn
    rw [show (true == p.black) = !(!p.black) by cases p.black <;> rfl] at hp
    rw [hsq, absBoard_none_iff hC he, hp]
    exact Iff.rfl
  · have h1 : ¬ rankOf e = 5 := by
      unfold rankOf
      omega
    have h2 : ¬ rank (absSq p.black e) = (if (!p.black) = true then 5 else 2) := by
      have : 64 ≤ absSq p.black e := Nat.le_of_not_lt fun h => he ((absSq_lt_iff _ _).mp h)
      unfold rank
      split <;> omega
    exact ⟨fun h => absurd h.1 h2, fun h => absurd h.1 h1⟩

end VB

/-- `Spec.Valid (abs p)` without the attack clause, on the bitboards. -/
structure BitValid (p : Position) : Prop where
  kings : ∀ them, count (p.side them &&& p.p5) = 1
  pawns : p.p0 &&& 0xFF000000000000FF#64 = 0#64
  rights : ∀ them ks, VB.hasRight p them ks = true → VB.RightBits p them ks (VB.rightFile p them ks)
  ep : ∀ e, p.ep = some e → rankOf e = 5 ∧ p.occ.isSet e = false ∧ (p.c1 &&& p.p0).isSet (e - 8) = true
  half : 0 ≤ p.halfmoves
  full : 1 ≤ p.fullmoves

namespace VB

theorem validFacts_iff {p : Position} (hC : Consistent p = true) :
    SV.ValidFacts (abs p) ↔ BitValid p ∧ inCheck (abs p).board p.black = false := by
  have hw : (!(abs p).whiteToMove) = p.black := Bool.not_not _
  have hep : ∀ e, (abs p).ep = some e ↔ ∃ e', p.ep = some e' ∧ e = absSq p.black e' := by
    intro e
    show p.ep.map (absSq p.black) = some e ↔ _
    cases p.ep <;> simp [eq_comm]
  -- a right of `abs p` is a set right of the side of its colour
  have hr : ∀ w ks f, right (abs p) w ks = some f ↔
      hasRight p (w == p.black) ks = true ∧ f = rightFile p (w == p.black) ks := by
    intro w ks f
    have := right_abs p (w == p.black) ks
    rw [colour_colour] at this
    rw [this]
    cases hasRight p (w == p.black) ks <;> simp [MM.optR, eq_comm]
  constructor
  · intro v
    have hk : ∀ them, count (p.side them &&& p.p5) = 1 := fun them =>
      (king_iff hC them).mp (by cases h : them == p.black; exact h ▸ v.kb; exact h ▸ v.kw)
    refine ⟨⟨hk, (pawns_iff hC).mp v.pawns, fun them ks h => ?_,
      fun e he => (ep_iff hC e).mp (v.ep _ ((hep _).mpr ⟨e, he, rfl⟩)), v.half, v.full⟩, hw ▸ v.notInCheck⟩
    refine (right_iff hC (hk them) ks _).mp (v.rights _ ks _ ?_)
    rw [right_abs, h]
    rfl
  · rintro ⟨b, hchk⟩
    have hk : ∀ w, ∃ k, SV.UniqueKing (abs p).board w k := fun w => by
      have := (king_iff hC (w == p.black)).mpr (b.kings _)
      rwa [colour_colour] at this
    refine ⟨hk true, hk false, (pawns_iff hC).mpr b.pawns, hw.symm ▸ hchk, fun w ks f h => ?_, ?_, b.half, b.full⟩
    · obtain ⟨h1, rfl⟩ := (hr w ks f).mp h
      have := (right_iff hC (b.kings _) ks _).mpr (b.rights _ ks h1)
      rwa [colour_colour] at this
    · intro e he
      obtain ⟨e', he', rfl⟩ := (hep e).mp he
      exact (ep_iff hC e').mpr (b.ep e' he')

/-- the one conversion between the specification's validity and the bitboards. -/
theorem valid_iff {p : Position} (hC : Consistent p = true) :
    Spec.Valid (abs p) = true ↔ BitValid p ∧ inCheck (abs p).board p.black = false :=
  (SV.valid_iff _).trans (validFacts_iff hC)

theorem of_validPos {p : Position} (hv : ValidPos p = true) :
    Consistent p = true ∧ BitValid p ∧ inCheck (abs p).board p.black = false := by
  have V := validPos_parts hv
  exact ⟨V.consistent, (valid_iff V.consistent).mp V.spec⟩

end VB

theorem Att.valid_consistent {p : Position} (hv : ValidPos p = true) : Consistent p = true :=
  (validPos_parts hv).consistent

theorem Att.valid_kings {p : Position} (hv : ValidPos p = true) (them : Bool) :
    count (p.p5 &&& p.side them) = 1 := by
  rw [BitVec.and_comm]
  exact (VB.of_validPos hv).2.1.kings them

end Rawr

#print axioms Rawr.VB.valid_iff
