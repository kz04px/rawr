/-! Evaluation order for checks that the kernel evaluates: `forceN n k` is `k n`, but the match makes the kernel bring
`n` to a literal before it goes on, so that `n` is computed once and not again at every use inside `k`. -/
namespace Rawr

def forceN {α : Type} (n : Nat) (k : Nat → α) : α :=
  match n with
  | 0 => k 0
  | Nat.succ j => k (Nat.succ j)

theorem forceN_eq {α : Type} (n : Nat) (k : Nat → α) : forceN n k = k n := by
  cases n <;> rfl

end Rawr
