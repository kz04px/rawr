import Rawr.Generated.PyStyle
import Rawr.Proofs.StyleLists
import Lean
/-!
# The hand-written model of style.py agrees with the definitions REGENERATED from the Python source

`Rawr/Generated/PyStyle.lean` is the script as it stands, so the functions that differ between the model's two
`Variant`s are proved equal to the `.guarded` one (`guard_eq`).  The three score functions are instances of one
statement, `score_generic`.  `#check_stats_fields` (it is why `Lean` is imported) compares the field names of
`Style.Stats` with those of the dataclass when the file is checked.
-/
namespace Rawr.PyStyleAgree
open Rawr Rawr.Style Rawr.PyStyle

open Lean Elab Command Meta in
def decodeStringList : Nat → Expr → MetaM (List String)
  | 0, _ => throwError "list too long"
  | fuel + 1, e => do
    let e ← whnf e
    match e.getAppFnArgs with
    | (``List.nil, _) => pure []
    | (``List.cons, #[_, hd, tl]) =>
      let hd ← whnf hd
      match hd with
      | .lit (.strVal s) => return s :: (← decodeStringList fuel tl)
      | _ => throwError "not a string literal: {hd}"
    | _ => throwError "not a list display: {e}"

open Lean Elab Command in
/-- elaboration-time check: the model's structure `Style.Stats` has exactly the dataclass fields, in order. -/
elab "#check_stats_fields" : command => do
  let env ← getEnv
  let fields := (getStructureFields env ``Rawr.Style.Stats).toList.map (·.toString)
  let expected ← liftTermElabM (decodeStringList 1000 (mkConst ``Rawr.PyStyle.Stats.fieldNames))
  unless fields == expected do
    throwError "Style.Stats fields {fields} differ from the dataclass fields {expected}"
  logInfo m!"Style.Stats has exactly the {fields.length} dataclass fields"

#check_stats_fields

theorem agree_Stats_default : PyStyle.Stats.default = Style.Stats.fresh := by
  decide +kernel

example : PyStyle.Stats.default.gameLength.length = 1024 ∧ PyStyle.Stats.default.finalMaterial.length = 207 ∧
    PyStyle.Stats.default.captureDistance = [0, 0, 0, 0, 0, 0, 0, 0] := by decide +kernel

theorem agree_add_capture : @PyStyle.Stats.add_capture = @Style.Stats.addCapture := rfl
theorem agree_add_noncapture : @PyStyle.Stats.add_noncapture = @Style.Stats.addNoncapture := rfl

theorem bind_ok {ε α β : Type} (a : α) (f : α → Except ε β) : (Except.ok a >>= f) = f a := rfl
theorem bind_err {ε α β : Type} (e : ε) (f : α → Except ε β) : ((Except.error e : Except ε α) >>= f) = .error e := rfl
theorem pure_eq {ε α : Type} (a : α) : (pure a : Except ε α) = .ok a := rfl
theorem throw_eq {ε α : Type} (e : ε) : (throw e : Except ε α) = .error e := rfl

theorem augAdd_one (l : List Nat) (i : Nat) : Py.augAdd l i 1 = incAt l i := rfl

theorem augAddI_ofNat (l : List Nat) (i v : Nat) : Py.augAddI l (i : Int) v = Py.augAdd l i v := by
  simp [Py.augAddI]

theorem rank_eq (side : Color) (to : Square) :
    (if (side == WHITE) = true then ((squareRank to : Nat) : Int) else (7 : Int) - (squareRank to : Int))
      = ((Stats.relRank side to : Nat) : Int) := by
  have h : squareRank to ≤ 7 := by unfold squareRank; omega
  unfold Stats.relRank
  split <;> omega

theorem agree_add_pawn_push (s : Stats) (ply : Nat) (to : Square) (side : Color) (k : Square) :
    PyStyle.Stats.add_pawn_push s ply to side k = Style.Stats.addPawnPush s ply to side k := by
  unfold PyStyle.Stats.add_pawn_push Style.Stats.addPawnPush
  have e1 : (PyStyle.Stats.aug_totalPawnPushes s 1).earlyPawnPushes = s.earlyPawnPushes := rfl
  have e2 : (PyStyle.Stats.aug_totalPawnPushes s 1).midPawnPushes = s.midPawnPushes := rfl
  have e3 : (PyStyle.Stats.aug_totalPawnPushes s 1).latePawnPushes = s.latePawnPushes := rfl
  simp only [rank_eq, augAddI_ofNat, augAdd_one, e1, e2, e3]
  split
  · generalize incAt _ _ = r; cases r <;> rfl
  · split
    · generalize incAt _ _ = r; cases r <;> rfl
    · generalize incAt _ _ = r; cases r <;> rfl

theorem agree_finish_game : @PyStyle.Stats.finish_game = @Style.Stats.finishGame := by
  funext s ply
  unfold PyStyle.Stats.finish_game Style.Stats.finishGame
  simp only [augAdd_one]
  rfl

theorem agree_queens_off : @PyStyle.Stats.queens_off = @Style.Stats.queensOff := by
  funext s ply
  unfold PyStyle.Stats.queens_off Style.Stats.queensOff
  simp only [augAdd_one]
  rfl

/-- `if l[0] > 0 or l[1] > 0: return False`, then `K`: the generated short-circuit form and the model's. -/
theorem pair_eq (x y : Except PyErr Nat) (K : Except PyErr Bool) :
    (do let t3 ← (do let t1 ← x
                     if decide (t1 > 0) = true then pure true else do
                       let t2 ← y
                       pure (decide (t2 > 0)))
        if t3 = true then pure false else K)
    = (match x with
       | .error e => .error e
       | .ok a => if a > 0 then .ok false else
          match y with
          | .error e => .error e
          | .ok b => if b > 0 then .ok false else K) := by
  cases x with
  | error e => rfl
  | ok a =>
    by_cases ha : a > 0
    · simp only [bind_ok, pure_eq, ha, ↓reduceIte, decide_true]
    · cases y with
      | error e => simp only [bind_ok, bind_err, pure_eq, ha, ↓reduceIte, decide_false, Bool.false_eq_true]
      | ok b =>
        by_cases hb : b > 0
        · simp only [bind_ok, pure_eq, ha, hb, ↓reduceIte, decide_false, decide_true, Bool.false_eq_true]
        · simp only [bind_ok, pure_eq, ha, hb, ↓reduceIte, decide_false, Bool.false_eq_true]

theorem agree_is_valid : @PyStyle.is_valid = @Style.isValid := by
  funext s
  unfold PyStyle.is_valid Style.isValid
  simp only [pair_eq]
  rfl

theorem map_ok {α β : Type} (f : α → β) (a : α) : (Except.ok a : Except PyErr α).map f = .ok (f a) := rfl
theorem map_err {α β : Type} (f : α → β) (e : PyErr) : (Except.error e : Except PyErr α).map f = .error e := rfl

/-- `sum(w[d] * x for d, x in enumerate(l))` -/
theorem sumGenM_enumDot (w : List Nat) (f : Nat × Nat → Except PyErr Nat)
    (hf : ∀ d x, f (d, x) = (getAt w d).map (· * x)) (l : List Nat) (i acc : Nat) :
    Py.sumGenM f (Py.enumerateFrom i l) acc = (enumDotFrom w i l).map (acc + ·) := by
  induction l generalizing i acc with
  | nil => rfl
  | cons x xs ih =>
    unfold Py.enumerateFrom Py.sumGenM enumDotFrom
    rw [hf]
    cases h : getAt w i with
    | error e => cases enumDotFrom w (i + 1) xs <;> rfl
    | ok wi =>
      simp only [map_ok]
      rw [ih]
      cases enumDotFrom w (i + 1) xs with
      | error e => rfl
      | ok r => simp only [map_ok, Nat.add_assoc]

/-- `sum(w[i] * l[i] for i in range(lo, lo + n))` -/
theorem sumGenM_rangeDot (w l : List Nat) (f : Nat → Except PyErr Nat)
    (hf : ∀ i, f i = (do let a ← getAt w i; let b ← getAt l i; pure (a * b))) (i n acc : Nat) :
    Py.sumGenM f (List.range' i n) acc = (Aggression.rangeDot w l i n).map (acc + ·) := by
  induction n generalizing i acc with
  | zero => rfl
  | succ n ih =>
    unfold List.range' Py.sumGenM Aggression.rangeDot
    rw [hf]
    cases h : getAt w i with
    | error e => cases getAt l i <;> cases Aggression.rangeDot w l (i + 1) n <;> rfl
    | ok a =>
      cases h2 : getAt l i with
      | error e => cases Aggression.rangeDot w l (i + 1) n <;> rfl
      | ok b =>
        simp only [bind_ok, pure_eq]
        rw [ih]
        cases Aggression.rangeDot w l (i + 1) n with
        | error e => rfl
        | ok r => simp only [map_ok, Nat.add_assoc]

/-- `sum(min(idx, c) * freq for idx, freq in enumerate(l))` -/
theorem sumGen_enumMinSum (c : Nat) (f : Nat × Nat → Nat) (hf : ∀ i x, f (i, x) = Nat.min i c * x)
    (l : List Nat) (i acc : Nat) :
    List.foldl (fun acc x => acc + f x) acc (Py.enumerateFrom i l) = acc + enumMinSumFrom c i l := by
  induction l generalizing i acc with
  | nil => rfl
  | cons x xs ih =>
    unfold Py.enumerateFrom enumMinSumFrom
    rw [List.foldl, ih, hf, Nat.add_assoc]

theorem agree_aggr_feature_game_length :
    @PyStyle.get_aggression_score.feature_game_length = @Aggression.featureGameLength := rfl

/-- the four guards of finding F9: `if n == 0: return 0.0` in front of a feature is the model's `.guarded` variant. -/
theorem guard_eq (n : Nat) {x y : Except PyErr Q} (h : x = y) :
    (if n = 0 then pure (Q.nat 0) else x) = (if Variant.guarded = .guarded ∧ n = 0 then .ok Q.zero else y) := by
  subst h
  by_cases hn : n = 0 <;> simp only [hn, and_self, and_false, ↓reduceIte] <;> rfl

theorem agree_aggr_feature_capture_early :
    @PyStyle.get_aggression_score.feature_capture_early = Aggression.featureCaptureEarly .guarded :=
  funext fun s => guard_eq s.totalCaptures rfl

/-- `sum(weights[dist] * frequency …) / (max(weights) * total)` of the two near-king features. -/
theorem nearKing_py (l : List Nat) (total : Nat) :
    (do let score ← Py.sumGenM (fun (dist, frequency) => do
            let t1 ← getAt [0, 8, 4, 2, 1, 0, 0, 0] dist
            pure (t1 * frequency)) (Py.enumerate l) 0
        Q.div (Q.nat score) (Q.nat (Py.listMax [0, 8, 4, 2, 1, 0, 0, 0] * total))) =
    (do let score ← enumDot Aggression.nearKingWeights l
        (Q.nat score).div (Q.nat (Aggression.listMax Aggression.nearKingWeights * total))) := by
  unfold Py.enumerate enumDot Aggression.nearKingWeights
  rw [sumGenM_enumDot [0, 8, 4, 2, 1, 0, 0, 0] _ (by intro d x; dsimp only; cases getAt _ d <;> rfl)]
  cases enumDotFrom [0, 8, 4, 2, 1, 0, 0, 0] 0 l with
  | error e => rfl
  | ok r => simp only [map_ok, Nat.zero_add]; rfl

theorem agree_aggr_feature_capture_near_king :
    @PyStyle.get_aggression_score.feature_capture_near_king = Aggression.featureCaptureNearKing .guarded :=
  funext fun s => guard_eq s.totalCaptures (nearKing_py s.captureDistance s.totalCaptures)

theorem agree_aggr_feature_move_near_king :
    @PyStyle.get_aggression_score.feature_move_near_king = Aggression.featureMoveNearKing .guarded :=
  funext fun s => guard_eq s.totalNoncaptures (nearKing_py s.noncaptureDistance s.totalNoncaptures)

theorem agree_aggr_feature_castle_opposite :
    @PyStyle.get_aggression_score.feature_castle_opposite = @Aggression.featureCastleOpposite := rfl

theorem agree_aggr_feature_sacrifices :
    @PyStyle.get_aggression_score.feature_sacrifices = @Aggression.featureSacrifices := rfl

theorem agree_aggr_feature_push_pawns :
    @PyStyle.get_aggression_score.feature_push_pawns = @Aggression.featurePushPawns := by
  funext s
  unfold PyStyle.get_aggression_score.feature_push_pawns Aggression.featurePushPawns
  split
  · rfl
  · have hr : Py.range 2 8 = List.range' 2 6 := rfl
    unfold Py.sumGen Py.enumerate enumMinSum Aggression.pushWeights
    dsimp only
    rw [hr, sumGen_enumMinSum 40 _ (fun _ _ => rfl),
      sumGenM_rangeDot [0, 0, 1, 1, 2, 4, 8, 16] s.earlyPawnPushes _ (fun _ => rfl)]
    cases Aggression.rangeDot [0, 0, 1, 1, 2, 4, 8, 16] s.earlyPawnPushes 2 6 with
    | error e => rfl
    | ok r => simp only [map_ok, Nat.zero_add]; rfl

theorem agree_aggr_feature_checks : @PyStyle.get_aggression_score.feature_checks = @Aggression.featureChecks := rfl
theorem agree_aggr_feature_wins_behind :
    @PyStyle.get_aggression_score.feature_wins_behind = @Aggression.featureWinsBehind := rfl
theorem agree_aggr_feature_capture_frequency :
    @PyStyle.get_aggression_score.feature_capture_frequency = @Aggression.featureCaptureFrequency := rfl
theorem agree_aggr_feature_push_pawn_towards_king :
    @PyStyle.get_aggression_score.feature_push_pawn_towards_king = @Aggression.featurePushPawnTowardsKing := rfl
theorem agree_aggr_feature_rook_threats :
    @PyStyle.get_aggression_score.feature_rook_threats = @Aggression.featureRookThreats := rfl
theorem agree_aggr_feature_bishop_threats :
    @PyStyle.get_aggression_score.feature_bishop_threats = @Aggression.featureBishopThreats := rfl

/-- a `(weight, name, func)` tuple of a generated `features` list as the model's `Feature`. -/
def toFeature (x : Q × String × (Stats → Except PyErr Q)) : Feature := ⟨x.1, x.2.1, x.2.2⟩

/-- the generated `for weight, name, func in features:` loop is the model's `scoreLoop`. -/
theorem foldlM_scoreLoop (s : Stats) (body : Q → (Q × String × (Stats → Except PyErr Q)) → Except PyErr Q)
    (hb : ∀ sc w n f, body sc (w, n, f) =
      (match f s with
       | .error e => .error e
       | .ok v => if v.inUnit then .ok (sc.add (w.mul v)) else .error .assertion))
    (fs : List (Q × String × (Stats → Except PyErr Q))) (sc : Q) :
    List.foldlM body sc fs = scoreLoop s (fs.map toFeature) sc := by
  induction fs generalizing sc with
  | nil => rfl
  | cons x xs ih =>
    obtain ⟨w, n, f⟩ := x
    rw [List.foldlM_cons, hb]
    simp only [List.map, scoreLoop, toFeature]
    cases f s with
    | error e => rfl
    | ok v =>
      dsimp only
      split
      · rw [bind_ok, ih]
      · rfl

/-- `sum([weight for weight, _, _ in features])` is the model's `weightSum`. -/
theorem sumQ_weightSum (proj : (Q × String × (Stats → Except PyErr Q)) → Q) (hp : ∀ w n f, proj (w, n, f) = w)
    (fs : List (Q × String × (Stats → Except PyErr Q))) :
    Py.sumQ (fs.map proj) = weightSum (fs.map toFeature) := by
  unfold Py.sumQ weightSum
  generalize Q.nat 0 = acc
  induction fs generalizing acc with
  | nil => rfl
  | cons x xs ih =>
    obtain ⟨w, n, f⟩ := x
    simp only [List.map, List.foldl, hp, toFeature]
    exact ih _

theorem div_ok_of_ne (a b : Q) (h : (!Py.qeq b (Q.nat 0)) = true) : ∃ r, Q.div a b = .ok r := by
  have hb : b.num ≠ 0 := by
    intro h0
    simp [Py.qeq, Q.nat, h0] at h
  unfold Q.div
  rw [if_neg hb]
  split
  · exact ⟨_, rfl⟩
  · exact ⟨_, rfl⟩

/-- the `if verbose:` loop re-evaluates features that were evaluated successfully and divides by `score` only
when it is not zero: it cannot raise. -/
theorem verbose_loop_ok (s : Stats) (body : Unit → (Q × String × (Stats → Except PyErr Q)) → Except PyErr Unit)
    (hb : ∀ u w n f v, f s = .ok v → body u (w, n, f) = .ok ())
    (fs : List (Q × String × (Stats → Except PyErr Q)))
    (hok : ∀ f ∈ fs.map toFeature, ∃ v, f.func s = .ok v) :
    List.foldlM body () fs = .ok () := by
  induction fs with
  | nil => rfl
  | cons x xs ih =>
    obtain ⟨w, n, f⟩ := x
    obtain ⟨v, hv⟩ := hok (toFeature (w, n, f)) (by simp)
    rw [List.foldlM_cons, hb () w n f v hv, bind_ok]
    exact ih (fun g hg => hok g (by simp only [List.map, List.mem_cons]; exact Or.inr hg))

/-- the common shape of the three generated score functions (after the `num_games == 0` guard) against the common
shape of the model's; `post` is the rescaling (`min(1.0, 2.0 * scaled)` or nothing). -/
theorem score_generic (s : Stats) (verbose : Bool) (fs : List (Q × String × (Stats → Except PyErr Q))) (post : Q → Q)
    (bodyS : Q → (Q × String × (Stats → Except PyErr Q)) → Except PyErr Q)
    (hbS : ∀ sc w n f, bodyS sc (w, n, f) =
      (match f s with
       | .error e => .error e
       | .ok v => if v.inUnit then .ok (sc.add (w.mul v)) else .error .assertion))
    (proj : (Q × String × (Stats → Except PyErr Q)) → Q) (hp : ∀ w n f, proj (w, n, f) = w)
    (bodyV : Q → Unit → (Q × String × (Stats → Except PyErr Q)) → Except PyErr Unit)
    (hbV : ∀ score u w n f v, f s = .ok v → bodyV score u (w, n, f) = .ok ()) :
    (do let score ← List.foldlM bodyS (Q.nat 0) fs
        let scaled ← Q.div score (Py.sumQ (List.map proj fs))
        if (Q.le (Q.nat 0) (post scaled) && Q.le (post scaled) (Q.nat 1)) = true then do
            let _ ← (if verbose = true then (do
                        let _ ← List.foldlM (bodyV score) () fs
                        pure ())
                      else pure ())
            pure (some (post scaled))
          else throw PyErr.assertion)
    = (do let score ← scoreLoop s (fs.map toFeature) (Q.nat 0)
          let scaled ← Q.div score (weightSum (fs.map toFeature))
          if (post scaled).inUnit = true then pure (some (post scaled)) else throw PyErr.assertion) := by
  rw [foldlM_scoreLoop s bodyS hbS, sumQ_weightSum proj hp]
  cases hsl : scoreLoop s (fs.map toFeature) (Q.nat 0) with
  | error e => rfl
  | ok score =>
    simp only [bind_ok]
    cases Q.div score (weightSum (fs.map toFeature)) with
    | error e => rfl
    | ok scaled =>
      simp only [bind_ok]
      have hv : List.foldlM (bodyV score) () fs = .ok () :=
        verbose_loop_ok s (bodyV score) (hbV score) fs (scoreLoop_ok_mem s _ _ _ hsl)
      rw [hv]
      cases verbose <;> rfl

theorem agree_get_aggression_score (s : Stats) (verbose : Bool) :
    PyStyle.get_aggression_score s verbose = getAggressionScore .guarded s := by
  unfold PyStyle.get_aggression_score getAggressionScore
  split
  · rfl
  · dsimp only
    refine (score_generic s verbose _ _ _ ?_ _ ?_ _ ?_).trans ?_
    · intro sc w n f; dsimp only; cases f s <;> rfl
    · intros; rfl
    · intro score u w n f v hv
      dsimp only
      simp only [hv, bind_ok]
      split
      · obtain ⟨r, hr⟩ := div_ok_of_ne ((Q.nat 100).mul (w.mul v)) score ‹_›
        rw [hr]; rfl
      · rfl
    · simp only [List.map, toFeature, agree_aggr_feature_game_length, agree_aggr_feature_capture_early,
        agree_aggr_feature_capture_near_king, agree_aggr_feature_move_near_king, agree_aggr_feature_castle_opposite,
        agree_aggr_feature_push_pawns, agree_aggr_feature_checks, agree_aggr_feature_wins_behind,
        agree_aggr_feature_capture_frequency, agree_aggr_feature_push_pawn_towards_king,
        agree_aggr_feature_rook_threats, agree_aggr_feature_bishop_threats]
      rfl

theorem agree_pos_feature_game_length :
    @PyStyle.get_positional_score.feature_game_length = @Positional.featureGameLength := rfl

theorem agree_pos_feature_capture_early :
    @PyStyle.get_positional_score.feature_capture_early = Positional.featureCaptureEarly .guarded :=
  funext fun s => guard_eq s.totalCaptures rfl

theorem agree_get_positional_score (s : Stats) (verbose : Bool) :
    PyStyle.get_positional_score s verbose = getPositionalScore .guarded s := by
  unfold PyStyle.get_positional_score getPositionalScore
  split
  · rfl
  · dsimp only
    refine (score_generic s verbose _ (fun x => x) _ ?_ _ ?_ _ ?_).trans ?_
    · intro sc w n f; dsimp only; cases f s <;> rfl
    · intros; rfl
    · intro score u w n f v hv
      dsimp only
      simp only [hv, bind_ok]
      split
      · obtain ⟨r, hr⟩ := div_ok_of_ne ((Q.nat 100).mul (w.mul v)) score ‹_›
        rw [hr]; rfl
      · rfl
    · simp only [List.map, toFeature, agree_pos_feature_game_length, agree_pos_feature_capture_early]
      rfl

theorem agree_pawn_feature_placeholder (s : Stats) :
    .ok (PyStyle.get_pawn_pusher_score.feature_placeholder s) = PawnPusher.featurePlaceholder s := rfl

theorem agree_get_pawn_pusher_score (s : Stats) (verbose : Bool) :
    PyStyle.get_pawn_pusher_score s verbose = getPawnPusherScore s := by
  unfold PyStyle.get_pawn_pusher_score getPawnPusherScore
  split
  · rfl
  · cases verbose <;> rfl

end Rawr.PyStyleAgree

#print axioms Rawr.PyStyleAgree.agree_Stats_default
#print axioms Rawr.PyStyleAgree.agree_add_capture
#print axioms Rawr.PyStyleAgree.agree_add_noncapture
#print axioms Rawr.PyStyleAgree.agree_add_pawn_push
#print axioms Rawr.PyStyleAgree.agree_finish_game
#print axioms Rawr.PyStyleAgree.agree_queens_off
#print axioms Rawr.PyStyleAgree.agree_is_valid
#print axioms Rawr.PyStyleAgree.agree_aggr_feature_game_length
#print axioms Rawr.PyStyleAgree.agree_aggr_feature_capture_early
#print axioms Rawr.PyStyleAgree.agree_aggr_feature_capture_near_king
#print axioms Rawr.PyStyleAgree.agree_aggr_feature_move_near_king
#print axioms Rawr.PyStyleAgree.agree_aggr_feature_castle_opposite
#print axioms Rawr.PyStyleAgree.agree_aggr_feature_sacrifices
#print axioms Rawr.PyStyleAgree.agree_aggr_feature_push_pawns
#print axioms Rawr.PyStyleAgree.agree_aggr_feature_checks
#print axioms Rawr.PyStyleAgree.agree_aggr_feature_wins_behind
#print axioms Rawr.PyStyleAgree.agree_aggr_feature_capture_frequency
#print axioms Rawr.PyStyleAgree.agree_aggr_feature_push_pawn_towards_king
#print axioms Rawr.PyStyleAgree.agree_aggr_feature_rook_threats
#print axioms Rawr.PyStyleAgree.agree_aggr_feature_bishop_threats
#print axioms Rawr.PyStyleAgree.agree_get_aggression_score
#print axioms Rawr.PyStyleAgree.agree_pos_feature_game_length
#print axioms Rawr.PyStyleAgree.agree_pos_feature_capture_early
#print axioms Rawr.PyStyleAgree.agree_get_positional_score
#print axioms Rawr.PyStyleAgree.agree_pawn_feature_placeholder
#print axioms Rawr.PyStyleAgree.agree_get_pawn_pusher_score
