import Rawr.Proofs.MakeMoveRes
import Rawr.Proofs.SpecValidApply
import Rawr.Proofs.ValidReadings
/-! C02, specification side: the absolute position `makemove` returns, field by field from the description `Res` of
the position before the flip (`absEq_of_res`; both refinement theorems match `Spec.apply` against it), the
castling-right bookkeeping in mover-relative terms, the refinement theorem for non-castling moves (`nc_refines`), and for
castling (`c_refines`: king takes own rook, Chess960 geometry). -/
namespace Rawr.MM
open Rawr Rawr.Position Rawr.Spec Rawr.ZH Rawr.SV Rawr.VB

theorem right_abs_us (p : Position) (ks : Bool) :
    right (abs p) (!p.black) ks = optR (hasRight p false ks) (rightFile p false ks) := by
  have := right_abs p false ks
  rwa [Bool.false_beq] at this

theorem right_abs_them (p : Position) (ks : Bool) :
    right (abs p) p.black ks = optR (hasRight p true ks) (rightFile p true ks) := by
  have := right_abs p true ks
  rwa [Bool.true_beq] at this

theorem right_of_sides {a b : APos} (c : Bool) (us : ∀ ks, right a (!c) ks = right b (!c) ks)
    (them : ∀ ks, right a c ks = right b c ks) (w ks : Bool) : right a w ks = right b w ks := by
  cases c
  · cases w
    · exact them ks
    · exact us ks
  · cases w
    · exact us ks
    · exact them ks

theorem abs_full_eq (S : Position) :
    abs (stFull S) = { abs S with full := if S.black = true then S.fullmoves + 1 else S.fullmoves } := by
  unfold stFull
  split
  · rfl
  · rfl

theorem consistent_full {S : Position} (h : Consistent S = true) : Consistent (stFull S) = true := by
  unfold stFull
  split
  · exact h
  · exact h

/-- `abs` of the final position in terms of the pre-flip position `S`. -/
theorem abs_result (S : Position) (hC : Consistent S = true) :
    AbsEq (abs (stFull S).flip)
      { abs S with whiteToMove := S.black, full := if S.black = true then S.fullmoves + 1 else S.fullmoves } := by
  rw [abs_flip (stFull S) (consistent_full hC), abs_full_eq]
  refine ⟨fun _ _ => rfl, ?_, rfl, rfl, rfl, rfl, rfl, rfl, rfl⟩
  show (!!S.black) = S.black
  cases S.black <;> rfl

/-- the absolute position `makemove` returns, from the description `Res` of the position before the flip: the mover's
and the opponent's rights are lost as `stRights` says, turn and move number advance, the rest is carried over. -/
theorem absEq_of_res {p S : Position} {m : Mv} {i : Nat} {h d0 d1 : BB} {dP : Nat → BB} {hm : Int}
    (R : Res p m i h d0 d1 dP hm S) (hC : Consistent S = true) {b : APos}
    (board : ∀ a, a < 64 → absBoard S a = b.board a) (turn : b.whiteToMove = p.black)
    (us : ∀ ks, right b (!p.black) ks = optR (hasRight p false ks && (m.src != lsb (p.c0 &&& p.p5) &&
      m.src != fromCoords (rightFile p false ks) 0 && m.dst != fromCoords (rightFile p false ks) 0)) (rightFile p false ks))
    (them : ∀ ks, right b p.black ks = optR (hasRight p true ks && (m.src != lsb (p.c1 &&& p.p5) &&
      m.src != fromCoords (rightFile p true ks) 7 && m.dst != fromCoords (rightFile p true ks) 7)) (rightFile p true ks))
    (ep : b.ep = (if (i == 0 && m.dst - m.src == 16) = true then some (m.dst - 8) else none).map (absSq p.black))
    (half : b.half = hm) (full : b.full = if p.black = true then p.fullmoves + 1 else p.fullmoves) :
    AbsEq (abs (stFull S).flip) b := by
  obtain ⟨e0, e1, e2, e3, _⟩ := R.cf
  have rights := right_of_sides (a := abs S) (b := b) p.black
    (fun ks => by
      rw [us, ← R.black, right_abs_us]
      cases ks <;> simp only [hasRight, rightFile, R.usK, R.usQ, e0, e1])
    (fun ks => by
      rw [them, ← R.black, right_abs_them]
      cases ks <;> simp only [hasRight, rightFile, R.themK, R.themQ, e2, e3])
  refine (abs_result S hC).trans
    ⟨board, (R.black).trans turn.symm, rights true true, rights true false, rights false true, rights false false,
      ?_, (R.half).trans half.symm, ?_⟩
  · show S.ep.map (absSq S.black) = b.ep
    rw [ep, R.black, R.ep]
  · show (if S.black = true then S.fullmoves + 1 else S.fullmoves) = b.full
    rw [full, R.black, R.full]

/-- a square without a man of the mover's is occupied exactly when the opponent has a man there. -/
theorem abs_board_isSome {p : Position} (hC : Consistent p = true) {x : Nat} (hx : x < 64)
    (h0 : p.c0.getLsbD x = false) : ((abs p).board (absSq p.black x)).isSome = p.c1.getLsbD x := by
  rw [abs_board_rel hx]
  simp only [h0, Bool.false_eq_true, if_false]
  have ho := occ_bit hC x
  rw [h0, Bool.false_or] at ho
  rw [ho]
  cases p.pieceOn x with
  | none => rfl
  | some k => rfl

theorem decodeMove_castle {p : Position} {m : Mv} (h : p.c0.getLsbD m.dst = true) :
    decodeMove p m = .castle (decide (m.dst > m.src)) := by
  unfold decodeMove
  rw [BB.isSet, h]
  rfl

theorem decodeMove_normal {p : Position} {m : Mv} (h : p.c0.getLsbD m.dst = false) :
    decodeMove p m = .normal (absSq p.black m.src) (absSq p.black m.dst)
      (if (m.promo == 6) = true then none else some (kindOf m.promo)) := by
  unfold decodeMove
  rw [BB.isSet, h]
  rfl

theorem sq_home_us (b : Bool) {f : Nat} (hf : f < 8) : sq (f : Int) (homeRank (!b)) = absSq b (fromCoords f 0) := by
  rw [absSq_fromCoords b hf (by omega)]
  cases b <;> rfl

theorem sq_home_them (b : Bool) {f : Nat} (hf : f < 8) : sq (f : Int) (homeRank b) = absSq b (fromCoords f 7) := by
  rw [absSq_fromCoords b hf (by omega)]
  cases b <;> rfl

/-- the mover's right as `Spec.apply` updates it is the right as `stRights` updates it; `l` is the king's square, so that
leaving it is being the king. -/
theorem lost_us (b r : Bool) {cf i : Nat} (hcf : cf < 8) (hi : i < 6) (src dst l : Nat)
    (h1 : (src == l) = (i == 5)) :
    lostCore (optR r cf) true (homeRank (!b)) (absSq b src) (absSq b dst) (kindOf i == Kind.king) =
      optR (r && (src != l && src != fromCoords cf 0 && dst != fromCoords cf 0)) cf := by
  rw [kindOf_king hi]
  cases r
  · rfl
  · simp only [lostCore, optR, if_true, sq_home_us b hcf, absSq_beq, Bool.true_and, bne, h1]
    cases (i == 5) <;> cases (src == fromCoords cf 0) <;> cases (dst == fromCoords cf 0) <;> rfl

/-- the opponent's right likewise; the mover never leaves the opponent's king square `l`. -/
theorem lost_them (b r km : Bool) {cf : Nat} (hcf : cf < 8) (src dst l : Nat) (h1 : (src == l) = false) :
    lostCore (optR r cf) false (homeRank b) (absSq b src) (absSq b dst) km =
      optR (r && (src != l && src != fromCoords cf 7 && dst != fromCoords cf 7)) cf := by
  cases r
  · rfl
  · simp only [lostCore, optR, if_true, sq_home_them b hcf, absSq_beq, Bool.true_and, Bool.false_and, Bool.false_or, bne,
      h1, Bool.not_false]
    cases (src == fromCoords cf 7) <;> cases (dst == fromCoords cf 7) <;> rfl

/-- the specification's files differ where the engine's do. -/
theorem file_bne (x y : Nat) : (file x != file y) = (fileOf x != fileOf y) := by
  rw [Bool.eq_iff_iff, bne_iff_ne, bne_iff_ne]
  unfold file fileOf
  omega

/-- the square of the pawn captured en passant. -/
theorem epVictim_sq (b : Bool) {src dst : Nat} (hs : src < 64) (hd : dst < 64) (h8 : 8 ≤ dst)
    (hr : dst / 8 = src / 8 + 1) :
    sq (file (absSq b dst)) (rank (absSq b src)) = absSq b (dst - 8) := by
  have h : dst - 8 < 64 := by omega
  have ef : file (dst - 8) = file dst := by unfold file; omega
  have er : rank (dst - 8) = rank src := by unfold rank; omega
  rw [file_absSq, rank_absSq b hs, ← Att.sq_file_rank (absSq b (dst - 8)), file_absSq, rank_absSq b h, ef, er]

section nc
variable {p : Position} {m : Mv} {i c : Nat} {cap epc pr : Bool}

theorem nc_board_dst (f : NCFacts p m i c cap epc pr) :
    ((abs p).board (absSq p.black m.dst)).isSome = cap :=
  (abs_board_isSome f.hC f.hd f.h0d).trans f.hcap

theorem nc_dst_none (f : NCFacts p m i c cap epc pr) : (p.pieceOn m.dst).isNone = !cap := by
  cases hcp : cap
  · rw [f.hnc hcp]; rfl
  · rw [f.hc hcp]; rfl

/-- the specification's en-passant test is the engine's. -/
theorem nc_isEp (f : NCFacts p m i c cap epc pr) :
    (kindOf i == Kind.pawn && file (absSq p.black m.src) != file (absSq p.black m.dst) &&
      !((abs p).board (absSq p.black m.dst)).isSome) = epc := by
  rw [kindOf_pawn (pieceOn_lt f.hpo), file_absSq, file_absSq, file_bne, nc_board_dst f, f.epcE,
    nc_dst_none f]

/-- the rank relation of an en-passant capture, from the pawn geometry. -/
theorem nc_ep_rank (f : NCFacts p m i c cap epc pr)
    (hG : i = 0 → rankOf m.dst = rankOf m.src + 1 ∨ m.dst = m.src + 16) (hE : epc = true) :
    m.dst / 8 = m.src / 8 + 1 := by
  have h := f.epcE.symm
  rw [hE] at h
  simp only [Bool.and_eq_true, beq_iff_eq, bne_iff_ne, ne_eq] at h
  obtain ⟨⟨h0, hf⟩, _⟩ := h
  rcases hG h0 with g | g
  · exact g
  · exfalso
    apply hf
    unfold fileOf
    omega

/-- the board after a non-castling move as `Spec.apply` writes it: the en-passant victim stands on the file of the
target and the rank of the source, by the pawn geometry. -/
theorem nc_board_apply (f : NCFacts p m i c cap epc pr)
    (hprE : pr = (m.promo != 6))
    (hG : i = 0 → rankOf m.dst = rankOf m.src + 1 ∨ m.dst = m.src + 16)
    {h : BB} {hm : Int} {S : Position}
    (R : Res p m i h (bit m.src ||| bit m.dst) (ncD1 m cap epc) (ncDP m i c cap epc pr) hm S)
    (a : Nat) (ha : a < 64) :
    absBoard S a =
      setSq (if epc = true
        then setSq (setSq (abs p).board (absSq p.black m.src) none)
          (sq (file (absSq p.black m.dst)) (rank (absSq p.black m.src))) none
        else setSq (abs p).board (absSq p.black m.src) none) (absSq p.black m.dst)
        (some (match (if (m.promo == 6) = true then none else some (kindOf m.promo)) with
          | some k => ⟨!p.black, k⟩
          | none => ⟨!p.black, kindOf i⟩)) a := by
  have hnp : (some (match (if (m.promo == 6) = true then none else some (kindOf m.promo)) with
          | some k => (⟨!p.black, k⟩ : Piece)
          | none => ⟨!p.black, kindOf i⟩)) = some ⟨!p.black, kindOf (if pr = true then m.promo else i)⟩ := by
    cases h6 : (m.promo == 6)
    · have : pr = true := by rw [hprE]; simp only [bne, h6]; rfl
      simp only [this, if_true, Bool.false_eq_true, if_false]
    · have : pr = false := by rw [hprE]; simp only [bne, h6]; rfl
      simp only [this, if_true, Bool.false_eq_true, if_false]
  rw [(nc_shows f R).absBoard ha, boardNC, ← hnp]
  cases hE : epc
  · rfl
  · rw [epVictim_sq p.black f.hs f.hd (f.hepc hE).1 (nc_ep_rank f hG hE)]

/-- seen from either side, two ranks are as far apart, and the rank between them is the same rank. -/
theorem flip_dist (b : Bool) (S D : Int) :
    ((if b = true then 7 - D else D) - (if b = true then 7 - S else S)).natAbs = (D - S).natAbs := by
  cases b
  · rfl
  · simp only [if_true]
    omega

theorem flip_mid (b : Bool) (S : Int) :
    ((if b = true then 7 - S else S) + (if b = true then 7 - (S + 2) else S + 2)) / 2 =
      (if b = true then 7 - (S + 1) else S + 1) := by
  cases b
  · simp only [Bool.false_eq_true, if_false]
    omega
  · simp only [if_true]
    omega

theorem nc_ep_field (b : Bool) {src dst i : Nat} (hi : i < 6) (hs : src < 64) (hd : dst < 64)
    (hG : i = 0 → rankOf dst = rankOf src + 1 ∨ dst = src + 16) :
    (if (i == 0 && dst - src == 16) = true then some (dst - 8) else none : Option Nat).map (absSq b) =
      if (kindOf i == Kind.pawn && (rank (absSq b dst) - rank (absSq b src)).natAbs == 2) = true
      then some (sq (file (absSq b src)) ((rank (absSq b src) + rank (absSq b dst)) / 2)) else none := by
  rw [kindOf_pawn hi, rank_absSq b hs, rank_absSq b hd, file_absSq, flip_dist]
  by_cases h16 : i = 0 ∧ dst = src + 16
  · obtain ⟨rfl, rfl⟩ := h16
    have h : src + 16 - 8 < 64 := by omega
    have e0 : file (src + 16 - 8) = file src := by unfold file; omega
    have e1 : rank (src + 16 - 8) = rank src + 1 := by unfold rank; omega
    have e2 : rank (src + 16) = rank src + 2 := by unfold rank; omega
    rw [if_pos (by simp), e2, if_pos (by simp only [beq_self_eq_true, Bool.true_and, beq_iff_eq]; omega), Option.map_some,
      ← Att.sq_file_rank (absSq b _), file_absSq, rank_absSq b h, e0, e1, flip_mid]
  · have hl : ¬ (i == 0 && dst - src == 16) = true := by
      simp only [Bool.and_eq_true, beq_iff_eq]
      omega
    have hr : ¬ (i == 0 && (rank dst - rank src).natAbs == 2) = true := by
      simp only [Bool.and_eq_true, beq_iff_eq]
      unfold rank
      unfold rankOf at hG
      omega
    rw [if_neg hl, if_neg hr]
    rfl

theorem nc_refines (hV : ValidPos p = true) (f : NCFacts p m i c cap epc pr)
    (hprE : pr = (m.promo != 6))
    (hG : i = 0 → rankOf m.dst = rankOf m.src + 1 ∨ m.dst = m.src + 16)
    {h : BB} {S : Position}
    (R : Res p m i h (bit m.src ||| bit m.dst) (ncD1 m cap epc) (ncDP m i c cap epc pr)
      (if (cap || i == 0) = true then 0 else p.halfmoves + 1) S) :
    AbsEq (abs (stFull S).flip)
      (Spec.apply (abs p) (.normal (absSq p.black m.src) (absSq p.black m.dst)
        (if (m.promo == 6) = true then none else some (kindOf m.promo)))) := by
  obtain ⟨hC, _, _, _, c0, c1, c2, c3, _⟩ := validPos_parts hV
  have kh := keyHyps_of_valid hV
  have r := rfacts_of kh f.hs f.h0s f.hpo (nc_h3 kh f).1 (nc_h3 kh f).2
  have hi := pieceOn_lt f.hpo
  have hsrc := abs_board_own f.hs f.h0s f.hpo
  have hw : (abs p).whiteToMove = !p.black := rfl
  apply absEq_of_res R (nc_shows f R).consistent
  · intro a ha
    rw [apply_normal hsrc]
    simp only []
    rw [nc_isEp f]
    exact nc_board_apply f hprE hG R a ha
  · rw [apply_normal hsrc]
    exact Bool.not_not _
  · intro ks
    rw [right_apply_normal hsrc, right_abs_us, hw, beq_self_eq_true]
    cases ks
    · exact lost_us p.black p.usQ c1 hi m.src m.dst _ r.a1
    · exact lost_us p.black p.usK c0 hi m.src m.dst _ r.a1
  · intro ks
    rw [right_apply_normal hsrc, right_abs_them, hw, Bool.beq_not_self]
    cases ks
    · exact lost_them p.black p.themQ _ c3 m.src m.dst _ r.b1
    · exact lost_them p.black p.themK _ c2 m.src m.dst _ r.b1
  · rw [apply_normal hsrc]
    exact (nc_ep_field p.black hi f.hs f.hd hG).symm
  · rw [apply_normal hsrc]
    simp only []
    rw [nc_board_dst f, kindOf_pawn hi, Bool.or_comm]
    rfl
  · rw [apply_normal hsrc]
    simp only [hw]
    cases p.black <;> rfl

end nc

theorem kingSquares_mover {p : Position} (hV : ValidPos p = true) {x : Nat} (hx : x < 64)
    (h0 : p.c0.getLsbD x = true) (hk : p.pieceOn x = some 5) :
    kingSquares (abs p).board (!p.black) = [absSq p.black x] := by
  obtain ⟨hC, hS, _⟩ := validPos_parts hV
  obtain ⟨k, hu⟩ := all_kings ((SV.valid_iff _).mp hS) (!p.black)
  rw [← hu.2.2 _ (absSq_lt _ hx) (abs_board_own hx h0 hk)] at hu
  exact kingSquares_of_unique hu

section castle
variable {p : Position} {m : Mv} {kTo rTo : Nat}

/-- a castling right of the opponent survives the mover's castling. -/
theorem c_them_keep (kh : KeyHyps p = true) (f : CFacts p m kTo rTo) :
    (p.themK && (m.src != lsb (p.c1 &&& p.p5) && m.src != fromCoords p.cf2 7 && m.dst != fromCoords p.cf2 7)) = p.themK ∧
    (p.themQ && (m.src != lsb (p.c1 &&& p.p5) && m.src != fromCoords p.cf3 7 && m.dst != fromCoords p.cf3 7)) = p.themQ := by
  have r := rfacts_of kh f.hs f.h0s f.hpo (fun _ _ => rfl) (fun _ _ => rfl)
  obtain ⟨_, _, _, _, tK, tQ⟩ := keyHyps_unfold kh
  have h1d := c1_of_c0 f.hC f.h0d
  -- `dst` holds the mover's rook, so it is none of the opponent's rook squares
  have hd : ∀ x, p.c1.getLsbD x = true → (m.dst == x) = false := by
    intro x hx
    rw [beq_eq_false_iff_ne]
    rintro rfl
    rw [h1d] at hx
    cases hx
  have keep : ∀ t a b : Bool, (t = true → a = false) → (t = true → b = false) →
      (t && (!a && !b)) = t := by decide
  simp only [bne, r.b1, Bool.not_false, Bool.true_and]
  exact ⟨keep _ _ _ r.b2K (fun hu => hd _ (tK hu).1), keep _ _ _ r.b2Q (fun hu => hd _ (tQ hu).1)⟩

/-- the mover loses both rights. -/
theorem c_us_lost (kh : KeyHyps p = true) (f : CFacts p m kTo rTo) (x y : Nat) (r0 : Bool) :
    (r0 && (m.src != lsb (p.c0 &&& p.p5) && m.src != x && m.dst != y)) = false := by
  have r := rfacts_of kh f.hs f.h0s f.hpo (fun _ _ => rfl) (fun _ _ => rfl)
  have : (m.src == lsb (p.c0 &&& p.p5)) = true := r.a1
  simp only [bne, this, Bool.not_true, Bool.false_and, Bool.and_false]

theorem c_refines (hV : ValidPos p = true) (f : CFacts p m kTo rTo) (ks : Bool)
    (hkT : kTo = if ks = true then 6 else 2) (hrT : rTo = if ks = true then 5 else 3)
    (hright : optR (VB.hasRight p false ks) (VB.rightFile p false ks) = some m.dst)
    (hrank : m.dst < 8)
    {h : BB} {S : Position}
    (R : Res p m 5 h (cD0 m kTo rTo) 0#64 (cDP m kTo rTo) (p.halfmoves + 1) S) :
    AbsEq (abs (stFull S).flip) (Spec.apply (abs p) (.castle ks)) := by
  have kh := keyHyps_of_valid hV
  obtain ⟨kK, kQ⟩ := c_them_keep kh f
  have hw : (abs p).whiteToMove = !p.black := rfl
  have hr : right (abs p) (abs p).whiteToMove ks = some m.dst := (right_abs_us p ks).trans hright
  obtain ⟨hB, hT, hR, hE, hH, hF⟩ := apply_castle_fields hr (kingSquares_mover hV f.hs f.h0s f.hpo)
  have s1 : sq ((m.dst : Nat) : Int) (homeRank (!p.black)) = absSq p.black m.dst := by
    rw [sq_home_us p.black hrank]
    congr 1
    simp [fromCoords]
  have s2 : sq (if ks = true then 6 else 2) (homeRank (!p.black)) = absSq p.black kTo := by
    rw [hkT]
    cases ks
    · exact sq_home_us p.black (f := 2) (by omega)
    · exact sq_home_us p.black (f := 6) (by omega)
  have s3 : sq (if ks = true then 5 else 3) (homeRank (!p.black)) = absSq p.black rTo := by
    rw [hrT]
    cases ks
    · exact sq_home_us p.black (f := 3) (by omega)
    · exact sq_home_us p.black (f := 5) (by omega)
  apply absEq_of_res R (c_shows f R).consistent
  · intro a ha
    rw [hB, hw, s1, s2, s3]
    exact (c_shows f R).absBoard ha
  · rw [hT]
    exact Bool.not_not _
  · intro ks'
    rw [hR, hw, if_pos rfl, c_us_lost kh f]
    rfl
  · intro ks'
    rw [hR, hw, if_neg (by cases p.black <;> decide), right_abs_them]
    cases ks'
    · exact congrArg (optR · _) kQ.symm
    · exact congrArg (optR · _) kK.symm
  · exact hE
  · exact hH
  · rw [hF, hw]
    cases p.black <;> rfl

end castle

end Rawr.MM
