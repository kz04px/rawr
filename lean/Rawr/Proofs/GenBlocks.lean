import Rawr.Proofs.CountLemmas
import Rawr.Proofs.IteRules
/-!
# The move generator as a list of blocks

`moveGenerator p` is the concatenation of sixteen blocks of four shapes: pawns arriving on a set of targets
(`arriveBlock`), the double pushes (`dblBlock`), the pieces of one kind moving from a set of sources to the targets of
each source (`pieceBlock`), and single optional moves (en passant, castling): `moveGenerator_eq`. Each shape has its
membership and no-duplicates lemma. `Gen p pc s t pr` says where the generated move `gm pc s t pr` comes from, and
`mem_gen` that these are the generated moves; what holds of every generated move, and which moves of one tag are
generated, is read off by cases on `Gen`. At the end `legalCaptures_sub`: the captures are among the moves.
-/
namespace Rawr

def arriveBlock (d : Nat) (T : BB) : List GMv := (toList T).flatMap (pawnArrive d)
def dblBlock (T : BB) : List GMv := (toList T).map fun to => gm 0 (to - 16) to 6
def pieceBlock (pc : Nat) (S : BB) (F : Nat → List Nat) : List GMv :=
  (toList S).flatMap fun src => (F src).map fun to => gm pc src to 6
def optMove (c : Bool) (g : GMv) : List GMv := if c then [g] else []

theorem mem_arriveBlock {d : Nat} {T : BB} {g : GMv} :
    g ∈ arriveBlock d T ↔ ∃ t pr, T.getLsbD t = true ∧ PromoOk t pr ∧ g = gm 0 (t - d) t pr := by
  simp only [arriveBlock, List.mem_flatMap, mem_toList, mem_pawnArrive]
  constructor
  · rintro ⟨t, ht, h0, hs, hd, hp⟩
    obtain ⟨pc, s, t', pr⟩ := g
    dsimp only at h0 hs hd hp
    subst h0 hs hd
    exact ⟨_, pr, ht, hp, rfl⟩
  · rintro ⟨t, pr, ht, hp, rfl⟩
    exact ⟨t, ht, rfl, rfl, rfl, hp⟩

theorem mem_dblBlock {T : BB} {g : GMv} : g ∈ dblBlock T ↔ ∃ t, T.getLsbD t = true ∧ g = gm 0 (t - 16) t 6 := by
  simp only [dblBlock, List.mem_map, mem_toList]
  exact ⟨fun ⟨t, ht, e⟩ => ⟨t, ht, e.symm⟩, fun ⟨t, ht, e⟩ => ⟨t, ht, e.symm⟩⟩

theorem mem_pieceBlock {pc : Nat} {S : BB} {F : Nat → List Nat} {g : GMv} :
    g ∈ pieceBlock pc S F ↔ ∃ s t, S.getLsbD s = true ∧ t ∈ F s ∧ g = gm pc s t 6 := by
  simp only [pieceBlock, List.mem_flatMap, List.mem_map, mem_toList]
  exact ⟨fun ⟨s, hs, t, ht, e⟩ => ⟨s, t, hs, ht, e.symm⟩, fun ⟨s, t, hs, ht, e⟩ => ⟨s, hs, t, ht, e.symm⟩⟩

theorem mem_optMove {c : Bool} {g g' : GMv} : g' ∈ optMove c g ↔ c = true ∧ g' = g := by
  cases c <;> simp [optMove]

theorem nodup_arriveBlock (d : Nat) (T : BB) : (arriveBlock d T).Nodup := by
  refine nodup_flatMap_key (fun g => g.mv.dst) _ _ (toList_nodup T) (fun x _ => ?_)
    (fun _ _ _ hy => (mem_pawnArrive.mp hy).2.2.1)
  unfold pawnArrive
  split <;> simp [gm]

theorem nodup_dblBlock (T : BB) : (dblBlock T).Nodup :=
  nodup_map_inj _ (toList_nodup T) fun _ _ _ _ e => (gm_inj_iff.mp e).2.2.1

theorem nodup_pieceBlock (pc : Nat) (S : BB) (F : Nat → List Nat) (hF : ∀ s, (F s).Nodup) :
    (pieceBlock pc S F).Nodup := by
  refine nodup_flatMap_key (fun g => g.mv.src) _ _ (toList_nodup S)
    (fun s _ => nodup_map_inj _ (hF s) fun _ _ _ _ e => (gm_inj_iff.mp e).2.2.1) (fun _ _ _ hy => ?_)
  obtain ⟨_, _, rfl⟩ := List.mem_map.mp hy
  rfl

theorem nodup_optMove (c : Bool) (g : GMv) : (optMove c g).Nodup :=
  nodup_ite_singleton _ _

/-- the blocks have no duplicates and `key` numbers them `n, n + 1, …`; then their concatenation has none. -/
def Keyed {α : Type} (key : α → Nat) : Nat → List (List α) → Prop
  | _, [] => True
  | n, L :: Ls => (L.Nodup ∧ ∀ a ∈ L, key a = n) ∧ Keyed key (n + 1) Ls

theorem Keyed.nodup {α : Type} {key : α → Nat} : ∀ {Ls : List (List α)} {n : Nat}, Keyed key n Ls →
    Ls.flatten.Nodup ∧ ∀ a ∈ Ls.flatten, n ≤ key a
  | [], _, _ => ⟨List.Pairwise.nil, fun _ h => nomatch h⟩
  | L :: Ls, n, ⟨⟨hL, hk⟩, h⟩ => by
    obtain ⟨ih1, ih2⟩ := h.nodup
    rw [List.flatten_cons]
    refine ⟨List.nodup_append.mpr ⟨hL, ih1, fun a ha b hb e => ?_⟩, fun a ha => ?_⟩
    · have := ih2 b hb
      rw [← e, hk a ha] at this
      omega
    · rcases List.mem_append.mp ha with h' | h'
      · rw [hk a h']
        exact Nat.le_refl n
      · exact Nat.le_of_succ_le (ih2 a h')

def pushSet (p : Position) : BB :=
  north (p.p0 &&& p.c0 &&& ~~~((prelude p).hpinned ||| (prelude p).bpinned)) &&& p.empty &&& (prelude p).allowed
def dblSet (p : Position) : BB :=
  northNorth (p.p0 &&& p.c0 &&& ~~~((prelude p).hpinned ||| (prelude p).bpinned)) &&& p.empty &&& north p.empty
    &&& 0xFF000000#64 &&& (prelude p).allowed
/-- targets of captures towards the h-file. -/
def capNESet (p : Position) : BB :=
  east (north (p.p0 &&& p.c0 &&& ~~~(prelude p).rpinned &&& (~~~(prelude p).bpinned ||| southWest (prelude p).bxrays)))
    &&& p.c1 &&& (prelude p).allowed
/-- targets of captures towards the a-file. -/
def capNWSet (p : Position) : BB :=
  northWest (p.p0 &&& p.c0 &&& ~~~(prelude p).rpinned &&& (~~~(prelude p).bpinned ||| southEast (prelude p).bxrays))
    &&& p.c1 &&& (prelude p).allowed

namespace Att

/-- the north-east branch (`gm 0 (e - 9) e 6`). -/
def epCondNE (p : Position) (e : Nat) : Bool :=
  (northEast (p.p0 &&& p.c0 &&& ~~~(prelude p).rpinned &&&
      (~~~(prelude p).bpinned ||| ~~~southEast (prelude p).bxrays))).isSet e
    && epOk p (prelude p) e (southWest (bit e))

/-- the north-west branch (`gm 0 (e - 7) e 6`). -/
def epCondNW (p : Position) (e : Nat) : Bool :=
  (northWest (p.p0 &&& p.c0 &&& ~~~(prelude p).rpinned &&&
      (~~~(prelude p).bpinned ||| ~~~southWest (prelude p).bxrays))).isSet e
    && epOk p (prelude p) e (southEast (bit e))

end Att
open Att (epCondNE epCondNW)

def epBlock (p : Position) : List GMv :=
  match p.ep with
  | none => []
  | some e => optMove (epCondNE p e) (gm 0 (e - 9) e 6) ++ optMove (epCondNW p e) (gm 0 (e - 7) e 6)

/-- a block of knights or sliders: the own pieces tagged `pc` inside `pin` move to what they attack (`att`), cut to the
`allowed` mask and, for the pieces pinned along a line, to the pin rays `ray`. -/
structure SBlock where
  pc : Nat
  pin : BB
  att : Nat → BB
  ray : Option BB

def SBlock.src (b : SBlock) (p : Position) : BB := p.piece b.pc &&& p.c0 &&& b.pin
def SBlock.tgt (b : SBlock) (p : Position) (s : Nat) : BB :=
  match b.ray with
  | none => b.att s &&& (prelude p).allowed
  | some r => b.att s &&& (prelude p).allowed &&& r
def SBlock.moves (b : SBlock) (p : Position) : List GMv := pieceBlock b.pc (b.src p) fun s => toList (b.tgt p s)

/-- knights; bishops, rooks and queens, pinned and free. -/
def sliderBlocks (p : Position) : List SBlock :=
  let q := prelude p
  [⟨1, ~~~q.pinned, fun s => knights (bit s), none⟩,
   ⟨2, q.bpinned, fun s => bishopMoves s p.occ, some q.bxrays⟩,
   ⟨2, ~~~q.pinned, fun s => bishopMoves s p.occ, none⟩,
   ⟨3, q.rpinned, fun s => rookMoves s p.occ, some q.rxrays⟩,
   ⟨3, ~~~q.pinned, fun s => rookMoves s p.occ, none⟩,
   ⟨4, q.bpinned, fun s => bishopMoves s p.occ, some q.bxrays⟩,
   ⟨4, q.rpinned, fun s => rookMoves s p.occ, some q.rxrays⟩,
   ⟨4, ~~~q.pinned, fun s => queenMoves s p.occ, none⟩]

def genBlocks (p : Position) : List (List GMv) :=
  [arriveBlock 8 (pushSet p), dblBlock (dblSet p), arriveBlock 9 (capNESet p), arriveBlock 7 (capNWSet p), epBlock p]
    ++ (sliderBlocks p).map (·.moves p)
    ++ [pieceBlock 5 (p.p5 &&& p.c0) (kingTargetsSafe p),
        optMove (castleOk p (prelude p) p.usK (fromCoords p.cf0 0) 6 5) (gm 5 (prelude p).ksq (fromCoords p.cf0 0) 6),
        optMove (castleOk p (prelude p) p.usQ (fromCoords p.cf1 0) 2 3) (gm 5 (prelude p).ksq (fromCoords p.cf1 0) 6)]

theorem moveGenerator_eq (p : Position) : moveGenerator p = (genBlocks p).flatten := by
  simp only [genBlocks, sliderBlocks, List.map_cons, List.map_nil, List.cons_append, List.nil_append,
    List.flatten_cons, List.flatten_nil, List.append_nil, ← List.append_assoc]
  rfl

/-- where a generated move (tag, source, target, promotion field) comes from. -/
inductive Gen (p : Position) : Nat → Nat → Nat → Nat → Prop
  | push {t pr : Nat} : (pushSet p).getLsbD t = true → PromoOk t pr → Gen p 0 (t - 8) t pr
  | dbl {t : Nat} : (dblSet p).getLsbD t = true → Gen p 0 (t - 16) t 6
  | capNE {t pr : Nat} : (capNESet p).getLsbD t = true → PromoOk t pr → Gen p 0 (t - 9) t pr
  | capNW {t pr : Nat} : (capNWSet p).getLsbD t = true → PromoOk t pr → Gen p 0 (t - 7) t pr
  | epNE {e : Nat} : p.ep = some e → epCondNE p e = true → Gen p 0 (e - 9) e 6
  | epNW {e : Nat} : p.ep = some e → epCondNW p e = true → Gen p 0 (e - 7) e 6
  | piece {b : SBlock} {pc s t : Nat} : b ∈ sliderBlocks p → b.pc = pc → (b.src p).getLsbD s = true →
      (b.tgt p s).getLsbD t = true → Gen p pc s t 6
  | king {s t : Nat} : (p.p5 &&& p.c0).getLsbD s = true → t ∈ kingTargetsSafe p s → Gen p 5 s t 6
  | castleK {k : Nat} : castleOk p (prelude p) p.usK (fromCoords p.cf0 0) 6 5 = true → k = (prelude p).ksq →
      Gen p 5 k (fromCoords p.cf0 0) 6
  | castleQ {k : Nat} : castleOk p (prelude p) p.usQ (fromCoords p.cf1 0) 2 3 = true → k = (prelude p).ksq →
      Gen p 5 k (fromCoords p.cf1 0) 6

theorem mem_epBlock {p : Position} {g : GMv} :
    g ∈ epBlock p ↔ ∃ e, p.ep = some e ∧
      ((epCondNE p e = true ∧ g = gm 0 (e - 9) e 6) ∨ (epCondNW p e = true ∧ g = gm 0 (e - 7) e 6)) := by
  unfold epBlock
  cases p.ep with
  | none => simp
  | some e => simp only [List.mem_append, mem_optMove, Option.some.injEq, exists_eq_left']

theorem mem_gen {p : Position} {pc f t pr : Nat} : gm pc f t pr ∈ moveGenerator p ↔ Gen p pc f t pr := by
  simp only [moveGenerator_eq, genBlocks, List.flatten_append, List.flatten_cons, List.flatten_nil, List.append_nil,
    ← List.flatMap_def, List.mem_append, List.mem_flatMap, mem_arriveBlock, mem_dblBlock, mem_epBlock, SBlock.moves,
    mem_pieceBlock, mem_optMove, mem_toList, gm_inj_iff]
  constructor
  · rintro ((h | h) | h)
    · rcases h with ⟨t, pr, ht, hp, rfl, rfl, rfl, rfl⟩ | ⟨t, ht, rfl, rfl, rfl, rfl⟩ | ⟨t, pr, ht, hp, rfl, rfl, rfl, rfl⟩ |
        ⟨t, pr, ht, hp, rfl, rfl, rfl, rfl⟩ | ⟨e, he, ⟨hc, rfl, rfl, rfl, rfl⟩ | ⟨hc, rfl, rfl, rfl, rfl⟩⟩
      · exact .push ht hp
      · exact .dbl ht
      · exact .capNE ht hp
      · exact .capNW ht hp
      · exact .epNE he hc
      · exact .epNW he hc
    · obtain ⟨b, hb, s, t, hs, ht, e, rfl, rfl, rfl⟩ := h
      exact .piece hb e.symm hs ht
    · rcases h with ⟨s, t, hs, ht, rfl, rfl, rfl, rfl⟩ | ⟨hc, rfl, e, rfl, rfl⟩ | ⟨hc, rfl, e, rfl, rfl⟩
      · exact .king hs ht
      · exact .castleK hc e
      · exact .castleQ hc e
  · intro h
    cases h with
    | push ht hp => exact .inl (.inl (.inl ⟨_, _, ht, hp, rfl, rfl, rfl, rfl⟩))
    | dbl ht => exact .inl (.inl (.inr (.inl ⟨_, ht, rfl, rfl, rfl, rfl⟩)))
    | capNE ht hp => exact .inl (.inl (.inr (.inr (.inl ⟨_, _, ht, hp, rfl, rfl, rfl, rfl⟩))))
    | capNW ht hp => exact .inl (.inl (.inr (.inr (.inr (.inl ⟨_, _, ht, hp, rfl, rfl, rfl, rfl⟩)))))
    | epNE he hc => exact .inl (.inl (.inr (.inr (.inr (.inr ⟨_, he, .inl ⟨hc, rfl, rfl, rfl, rfl⟩⟩)))))
    | epNW he hc => exact .inl (.inl (.inr (.inr (.inr (.inr ⟨_, he, .inr ⟨hc, rfl, rfl, rfl, rfl⟩⟩)))))
    | piece hb e hs ht => exact .inl (.inr ⟨_, hb, _, _, hs, ht, e.symm, rfl, rfl, rfl⟩)
    | king hs ht => exact .inr (.inl ⟨_, _, hs, ht, rfl, rfl, rfl, rfl⟩)
    | castleK hc e => exact .inr (.inr (.inl ⟨hc, rfl, e, rfl, rfl⟩))
    | castleQ hc e => exact .inr (.inr (.inr ⟨hc, rfl, e, rfl, rfl⟩))

theorem mem_gen_slider {p : Position} {pc f t : Nat} (hpc : pc = 1 ∨ pc = 2 ∨ pc = 3 ∨ pc = 4) :
    gm pc f t 6 ∈ moveGenerator p ↔
      ∃ b ∈ sliderBlocks p, b.pc = pc ∧ (b.src p).getLsbD f = true ∧ (b.tgt p f).getLsbD t = true := by
  rw [mem_gen]
  constructor
  · intro h
    cases h with
    | @piece b _ _ _ hb e hs ht => exact ⟨b, hb, e, hs, ht⟩
    | _ => omega
  · rintro ⟨b, hb, e, hs, ht⟩
    exact .piece hb e hs ht

def OwnPawn (p : Position) (s : Nat) : Prop := p.p0.getLsbD s = true ∧ p.c0.getLsbD s = true

section facts
variable {p : Position} {t : Nat}

theorem pushSet_facts (h : (pushSet p).getLsbD t = true) :
    t < 64 ∧ 8 ≤ t ∧ OwnPawn p (t - 8) ∧ p.occ.getLsbD t = false := by
  have h64 := BitVec.lt_of_getLsbD h
  simp only [pushSet, Position.empty, BitVec.getLsbD_and, BitVec.getLsbD_not, Bool.and_eq_true, Bool.not_eq_true',
    north_iff _ h64] at h
  exact ⟨h64, h.1.1.1, h.1.1.2.1, h.1.2.2⟩

theorem dblSet_facts (h : (dblSet p).getLsbD t = true) :
    t < 64 ∧ 16 ≤ t ∧ t / 8 = 3 ∧ OwnPawn p (t - 16) ∧ p.occ.getLsbD (t - 8) = false ∧ p.occ.getLsbD t = false := by
  have h64 := BitVec.lt_of_getLsbD h
  simp only [dblSet, Position.empty, BitVec.getLsbD_and, BitVec.getLsbD_not, Bool.and_eq_true, Bool.not_eq_true',
    north_iff _ h64, northNorth_iff _ h64, rank4_iff ⟨t, h64⟩, decide_eq_true_eq] at h
  exact ⟨h64, h.1.1.1.1.1, h.1.2, h.1.1.1.1.2.1, h.1.1.2.2.2, h.1.1.1.2.2⟩

theorem capNESet_facts (h : (capNESet p).getLsbD t = true) :
    t < 64 ∧ 9 ≤ t ∧ t % 8 ≠ 0 ∧ OwnPawn p (t - 9) ∧ p.c1.getLsbD t = true := by
  have h64 := BitVec.lt_of_getLsbD h
  simp only [capNESet, BitVec.getLsbD_and, Bool.and_eq_true, east_north_iff _ h64] at h
  exact ⟨h64, h.1.1.1, h.1.1.2.1, h.1.1.2.2.1.1, h.1.2⟩

theorem capNWSet_facts (h : (capNWSet p).getLsbD t = true) :
    t < 64 ∧ 7 ≤ t ∧ t % 8 ≠ 7 ∧ OwnPawn p (t - 7) ∧ p.c1.getLsbD t = true := by
  have h64 := BitVec.lt_of_getLsbD h
  simp only [capNWSet, BitVec.getLsbD_and, Bool.and_eq_true, northWest_iff _ h64] at h
  exact ⟨h64, h.1.1.1, h.1.1.2.1, h.1.1.2.2.1.1, h.1.2⟩

theorem epCondNE_facts (h : epCondNE p t = true) : 9 ≤ t ∧ t % 8 ≠ 0 ∧ OwnPawn p (t - 9) := by
  simp only [epCondNE, BB.isSet, Bool.and_eq_true] at h
  obtain ⟨h9, hf, hs⟩ := (northEast_iff _ (BitVec.lt_of_getLsbD h.1)).mp h.1
  simp only [BitVec.getLsbD_and, Bool.and_eq_true] at hs
  exact ⟨h9, hf, hs.1.1⟩

theorem epCondNW_facts (h : epCondNW p t = true) : 7 ≤ t ∧ t % 8 ≠ 7 ∧ OwnPawn p (t - 7) := by
  simp only [epCondNW, BB.isSet, Bool.and_eq_true] at h
  obtain ⟨h7, hf, hs⟩ := (northWest_iff _ (BitVec.lt_of_getLsbD h.1)).mp h.1
  simp only [BitVec.getLsbD_and, Bool.and_eq_true] at hs
  exact ⟨h7, hf, hs.1.1⟩

theorem SBlock.src_own {b : SBlock} {s : Nat} (h : (b.src p).getLsbD s = true) :
    (p.piece b.pc &&& p.c0).getLsbD s = true := by
  rw [SBlock.src, BitVec.getLsbD_and, Bool.and_eq_true] at h
  exact h.1

theorem SBlock.tgt_allowed {b : SBlock} {s : Nat} (h : (b.tgt p s).getLsbD t = true) :
    (prelude p).allowed.getLsbD t = true := by
  unfold SBlock.tgt at h
  split at h
  · rw [BitVec.getLsbD_and, Bool.and_eq_true] at h
    exact h.2
  · simp only [BitVec.getLsbD_and, Bool.and_eq_true] at h
    exact h.1.2

theorem sliderBlocks_pc {b : SBlock} (h : b ∈ sliderBlocks p) : b.pc = 1 ∨ b.pc = 2 ∨ b.pc = 3 ∨ b.pc = 4 := by
  simp only [sliderBlocks, List.mem_cons, List.not_mem_nil, or_false] at h
  rcases h with rfl | rfl | rfl | rfl | rfl | rfl | rfl | rfl
  all_goals simp

end facts

/-- the source of a generated move holds an own piece of the kind the move is tagged with (castling: it is the king's
square, whatever stands there). -/
theorem gen_src {p : Position} {pc s t pr : Nat} (h : Gen p pc s t pr) :
    (p.piece pc &&& p.c0).getLsbD s = true ∨ (pc = 5 ∧ s = (prelude p).ksq) := by
  have pawn : ∀ {s : Nat}, OwnPawn p s → (p.piece 0 &&& p.c0).getLsbD s = true ∨ ((0 : Nat) = 5 ∧ s = (prelude p).ksq) :=
    fun h => .inl (by rw [BitVec.getLsbD_and, Bool.and_eq_true]; exact h)
  cases h with
  | push ht _ => exact pawn (pushSet_facts ht).2.2.1
  | dbl ht => exact pawn (dblSet_facts ht).2.2.2.1
  | capNE ht _ => exact pawn (capNESet_facts ht).2.2.2.1
  | capNW ht _ => exact pawn (capNWSet_facts ht).2.2.2.1
  | epNE _ hc => exact pawn (epCondNE_facts hc).2.2
  | epNW _ hc => exact pawn (epCondNW_facts hc).2.2
  | piece _ e hs _ => exact .inl (e ▸ SBlock.src_own hs)
  | king hs _ => exact .inl hs
  | castleK _ e => exact .inr ⟨rfl, e⟩
  | castleQ _ e => exact .inr ⟨rfl, e⟩

/-- the callback's `piece == Pawn` tag agrees with "a pawn stands on the source" on every generated move. -/
theorem src_tag (p : Position) (h : OwnPawnsDisjoint p) :
    ∀ g ∈ moveGenerator p, (g.piece == 0) = p.p0.isSet g.mv.src := by
  intro g hg
  rcases gen_src (mem_gen.mp (show gm g.piece g.mv.src g.mv.dst g.mv.promo ∈ moveGenerator p from hg)) with hs | ⟨h5, hs⟩
  · rw [BitVec.getLsbD_and, Bool.and_eq_true] at hs
    by_cases h0 : g.piece = 0
    · rw [h0] at hs
      simp [BB.isSet, h0, show p.p0.getLsbD g.mv.src = true from hs.1]
    · have hu : (p.p1 ||| p.p2 ||| p.p3 ||| p.p4 ||| p.p5).getLsbD g.mv.src = true := by
        have := hs.1
        unfold Position.piece at this
        split at this
        · rename_i e
          exact absurd e h0
        · simp [BitVec.getLsbD_or, this]
        · simp [BitVec.getLsbD_or, this]
        · simp [BitVec.getLsbD_or, this]
        · simp [BitVec.getLsbD_or, this]
        · simp [BitVec.getLsbD_or, this]
        · simp at this
      simp [BB.isSet, h0, own_nonpawn_not_pawn h hs.2 hu]
  · rcases lsb_cases (p.p5 &&& p.c0) with h64 | hk
    · simp [BB.isSet, h5, hs, prelude_ksq, h64]
    · rw [BitVec.getLsbD_and, Bool.and_eq_true] at hk
      simp [BB.isSet, h5, hs, prelude_ksq, own_nonpawn_not_pawn h hk.2 (by simp [BitVec.getLsbD_or, hk.1])]

/-- both lists are read off the one generator run. -/
theorem legalCaptures_sub (p : Position) : ∀ m ∈ legalCaptures p, m ∈ legalMoves p := by
  intro m hm
  unfold legalCaptures at hm
  unfold legalMoves
  obtain ⟨g, hg, rfl⟩ := List.mem_map.mp hm
  exact List.mem_map.mpr ⟨g, (List.mem_filter.mp hg).1, rfl⟩

end Rawr
