import Rawr.Proofs.FenBoardPrint
import Rawr.Proofs.FenDecimal
import Rawr.Proofs.FenRel
import Rawr.Proofs.ValidBits
import Rawr.Proofs.TestPositions
/-! `get_fen` on valid positions prints the canonical X-FEN of the absolute position:
`getFen p = some (Spec.printFen (abs p) .xfen)`. -/
namespace Rawr
open Spec

namespace FenGet

/-- the body of `getFen` after the choice of the White-point-of-view position `np`
(`b` = Black to move). -/
def body (np : Position) (b : Bool) : Option (List Char) := do
  let board ← getFen.ranks np 8 7 []
  let side := if b then " b".toList else " w".toList
  let castling :=
    if !np.usK && !np.usQ && !np.themK && !np.themQ then " -".toList
    else ' ' :: ((if np.usK then [castleLetterOut (np.c0 &&& np.p3) np.cf0 0 true] else []) ++
                 (if np.usQ then [castleLetterOut (np.c0 &&& np.p3) np.cf1 0 false] else []) ++
                 (if np.themK then [castleLetterOut (np.c1 &&& np.p3) np.cf2 7 true] else []) ++
                 (if np.themQ then [castleLetterOut (np.c1 &&& np.p3) np.cf3 7 false] else []))
  let ep := match np.ep with
    | some sq => ' ' :: sqName sq
    | none => " -".toList
  some (board ++ side ++ castling ++ ep ++ [' '] ++ intToChars np.halfmoves ++ [' '] ++ intToChars np.fullmoves)

theorem getFen_eq_body (p : Position) :
    getFen p = body (if p.black then p.flip else p) p.black := rfl

theorem rook_of (np : Position) (hb : np.black = false) (hC : Consistent np = true) (w : Bool) (s : Nat)
    (hs : s < 64) :
    ((if w then np.c0 else np.c1) &&& np.p3).isSet s = (absBoard np s == some (⟨w, .rook⟩ : Piece)) := by
  rw [FenRel.absBoard_beq hC hs, hb]
  cases w <;> rfl

theorem not_any_eq_all {α : Type} (p q : α → Bool) :
    ∀ l : List α, (∀ x ∈ l, q x = !p x) → (!(l.any p)) = l.all q
  | [], _ => rfl
  | x :: l, h => by
    have ih := not_any_eq_all p q l (fun y hy => h y (List.mem_cons_of_mem _ hy))
    simp only [List.any_cons, List.all_cons, Bool.not_or, ih, h x List.mem_cons_self]

def fileL (f : Nat) : Char := Char.ofNat ('a'.toNat + f)

/-- the letter `Spec.castleField` prints for the right `(w, ks)` with rook file `f`. -/
def letterOf (b : Board) (st : CastleStyle) (w ks : Bool) (f : Nat) : Char :=
  let letter := if ks then 'k' else 'q'
  let c := match st with
    | .xfen => if outermost b w ks f then letter else fileL f
    | .shredder => fileL f
    | .kqkq => letter
  if w then c.toUpper else c

def one (b : Board) (st : CastleStyle) (o : Option Nat) (w ks : Bool) : List Char :=
  match o with
  | none => []
  | some f => [letterOf b st w ks f]

theorem castleField_eq (a : APos) (st : CastleStyle) :
    castleField a st =
      (if (one a.board st a.wK true true ++ one a.board st a.wQ true false ++ one a.board st a.bK false true ++
            one a.board st a.bQ false false).isEmpty then ['-']
       else one a.board st a.wK true true ++ one a.board st a.wQ true false ++ one a.board st a.bK false true ++
            one a.board st a.bQ false false) := rfl

theorem letter_eq (rooks : BB) (b : Board) (white : Bool) (rank : Nat)
    (hrank : (homeRank white).toNat = rank) (hw : (rank == 0) = white)
    (H : ∀ g, g < 8 → rooks.isSet (fromCoords g rank) = (b (g + 8 * rank) == some (⟨white, .rook⟩ : Piece)))
    (ks : Bool) (file : Nat) :
    [castleLetterOut rooks file rank ks] = one b .xfen (some file) white ks := by
  have houter : (if ks then !((List.range 8).any fun f => f > file && rooks.isSet (fromCoords f rank))
      else !((List.range 8).any fun f => f < file && rooks.isSet (fromCoords f rank)))
      = outermost b white ks file := by
    unfold outermost
    simp only [hrank]
    cases ks
    · simp only [Bool.false_eq_true, if_false]
      apply not_any_eq_all
      intro g hg
      rw [H g (List.mem_range.mp hg)]
      by_cases hc : g < file <;> simp [hc, bne]
    · simp only [if_true]
      apply not_any_eq_all
      intro g hg
      rw [H g (List.mem_range.mp hg)]
      by_cases hc : g > file <;> simp [hc, bne]
  unfold castleLetterOut one letterOf fileL
  simp only [houter, hw]
  cases outermost b white ks file <;> cases white <;> simp

theorem castling_eq (np : Position) (a : APos) (hb : np.black = false) (hC : Consistent np = true)
    (hboard : a.board = absBoard np)
    (hwK : a.wK = if np.usK then some np.cf0 else none)
    (hwQ : a.wQ = if np.usQ then some np.cf1 else none)
    (hbK : a.bK = if np.themK then some np.cf2 else none)
    (hbQ : a.bQ = if np.themQ then some np.cf3 else none) :
    (if !np.usK && !np.usQ && !np.themK && !np.themQ then " -".toList
      else ' ' :: ((if np.usK then [castleLetterOut (np.c0 &&& np.p3) np.cf0 0 true] else []) ++
                 (if np.usQ then [castleLetterOut (np.c0 &&& np.p3) np.cf1 0 false] else []) ++
                 (if np.themK then [castleLetterOut (np.c1 &&& np.p3) np.cf2 7 true] else []) ++
                 (if np.themQ then [castleLetterOut (np.c1 &&& np.p3) np.cf3 7 false] else [])))
      = ' ' :: castleField a .xfen := by
  have L : ∀ w : Bool, _ := fun w =>
    letter_eq ((if w then np.c0 else np.c1) &&& np.p3) a.board w (if w then 0 else 7)
      (by cases w <;> rfl) (by cases w <;> rfl) fun g hg => by
        rw [show fromCoords g (if w then 0 else 7) = g + 8 * (if w then 0 else 7) by simp only [fromCoords]; omega,
          hboard]
        exact rook_of np hb hC w _ (by split <;> omega)
  have e : ∀ (flag : Bool) (f : Nat) (w ks : Bool) (c : Char), [c] = one a.board .xfen (some f) w ks →
      one a.board .xfen (if flag then some f else none) w ks = if flag then [c] else [] := by
    intro flag f w ks c h
    cases flag
    · rfl
    · exact h.symm
  have hd : " -".toList = [' ', '-'] := rfl
  rw [castleField_eq, hwK, hwQ, hbK, hbQ, e _ _ _ _ _ (L true true _), e _ _ _ _ _ (L true false _),
    e _ _ _ _ _ (L false true _), e _ _ _ _ _ (L false false _), hd]
  cases np.usK <;> cases np.usQ <;> cases np.themK <;> cases np.themQ <;> rfl

theorem ep_eq (o : Option Nat) :
    (match o with
      | some sq => ' ' :: sqName sq
      | none => " -".toList) = ' ' :: (match o with | some e => sqChars e | none => ['-']) := by
  cases o <;> rfl

/-- the printer on a board-consistent position `np` stored from White's point of view prints the absolute position
`np` denotes, with the side to move it is told. -/
theorem body_eq (np : Position) (b : Bool) (hb : np.black = false) (hC : Consistent np = true)
    (hh0 : 0 ≤ np.halfmoves) (hh1 : np.halfmoves < 2147483648)
    (hf0 : 0 ≤ np.fullmoves) (hf1 : np.fullmoves < 2147483648) :
    body np b = some (printFen { abs np with whiteToMove := !b } .xfen) := by
  have hwK : (abs np).wK = if np.usK then some np.cf0 else none := by simp only [abs, hb, Bool.false_eq_true, if_false]
  have hwQ : (abs np).wQ = if np.usQ then some np.cf1 else none := by simp only [abs, hb, Bool.false_eq_true, if_false]
  have hbK : (abs np).bK = if np.themK then some np.cf2 else none := by simp only [abs, hb, Bool.false_eq_true, if_false]
  have hbQ : (abs np).bQ = if np.themQ then some np.cf3 else none := by simp only [abs, hb, Bool.false_eq_true, if_false]
  have hep : (abs np).ep = np.ep := by
    show np.ep.map (absSq np.black) = np.ep
    rw [hb]
    cases np.ep <;> rfl
  unfold body
  rw [ranks_eq_printBoard np hb hC]
  simp only [Option.bind_some, bind]
  rw [castling_eq np { abs np with whiteToMove := !b } hb hC rfl hwK hwQ hbK hbQ, ep_eq,
    intToChars_eq_intChars _ hh0 hh1, intToChars_eq_intChars _ hf0 hf1]
  unfold printFen
  dsimp only
  rw [hep]
  have hs : (if b = true then " b".toList else " w".toList) = [' ', if (!b) = true then 'w' else 'b'] := by
    cases b <;> rfl
  rw [hs]
  simp only [List.append_assoc, List.cons_append, List.nil_append]
  cases np.ep <;> rfl

end FenGet

theorem getFen_eq_printFen (p : Position) (hV : ValidPos p = true) :
    getFen p = some (Spec.printFen (abs p) .xfen) := by
  have vp := validPos_parts hV
  obtain ⟨hC, b, _⟩ := VB.of_validPos hV
  have hh0 := b.half
  have hf0 : 0 ≤ p.fullmoves := by
    have := b.full
    omega
  rw [FenGet.getFen_eq_body]
  cases hbk : p.black
  · rw [if_neg (by decide), FenGet.body_eq p false hbk hC hh0 vp.half hf0 vp.full]
    unfold abs
    rw [hbk]
  · -- stored from Black's point of view: `flip` denotes the same absolute position with the turn passed
    rw [if_pos rfl, FenGet.body_eq p.flip true (by rw [Position.flip_black, hbk]; rfl) (ZH.consistent_flip hC)
      hh0 vp.half hf0 vp.full, abs_flip p hC]
    unfold abs
    rw [hbk]

theorem getFen_startpos : getFen Gen.startpos = some startFen := by decide +kernel

/-- `Spec.printFen` is never evaluated: the value comes from `getFen_startpos` through `getFen_eq_printFen`. -/
theorem printFen_startpos : Spec.printFen (abs Gen.startpos) .xfen = startFen :=
  Option.some.inj ((getFen_eq_printFen Gen.startpos startpos_valid).symm.trans getFen_startpos)

example : ValidPos Gen.startpos = true := startpos_valid

example : getFen Gen.startpos =
    some "rnbqkbnr/pppppppp/8/8/8/8/PPPPPPPP/RNBQKBNR w KQkq - 0 1".toList := getFen_startpos

example : Spec.printFen (abs Gen.startpos) .xfen =
    "rnbqkbnr/pppppppp/8/8/8/8/PPPPPPPP/RNBQKBNR w KQkq - 0 1".toList := printFen_startpos

/-- a Black-to-move position (stored flipped) with an en-passant square, an inner rook (file letter
`C` in X-FEN) and partial rights. -/
def FenGet.exBlack : Option Position :=
  setFen .wrap false "1r2k2r/8/8/8/4P3/8/8/R1R1K3 b Ck e3 5 17".toList

example : (FenGet.exBlack.map fun p => (p.black, ValidPos p, getFen p)) =
    some (true, true, some "1r2k2r/8/8/8/4P3/8/8/R1R1K3 b Ck e3 5 17".toList) := by decide +kernel

#print axioms getFen_eq_printFen

end Rawr
