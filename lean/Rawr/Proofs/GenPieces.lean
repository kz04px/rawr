import Rawr.Proofs.GenPins
/-!
# C01, knights, bishops, rooks, queens

`legal_plain_iff`: the safety lemma as a statement about the rules (of `relPos p`), for every move that lifts one own
piece and puts one on another square; `legal_piece_iff`: its reading for a knight, bishop, rook or queen: the piece
attacks `t`, `t` holds no own piece, `allowed t`, `PinOk f t`. Then the generator's clauses (`knight_clause`, `slide_clauses`)
and the class theorem of the four kinds (`pieces_core`, the tag a parameter).
-/
namespace Rawr.Att
open Spec

/-- **Every move that is neither a king move, nor en passant, nor castling**: a pseudo-legal move `f → t` of an
own piece, after which the board is the old one with `f` lifted and an own piece `pc` (not a king) put on `t`, is
legal iff `t` is `allowed` and `f` stays on its pin line. -/
theorem legal_plain_iff {p : Position} (hV : ValidPos p = true) {f t : Nat} {pr : Option Kind} {kd : Kind}
    {pc : Piece} (hf : f < 64) (ht : t < 64) (hB : relBoard p f = some ⟨true, kd⟩) (hkd : kd ≠ .king)
    (hpc : pc.white = true) (hpk : (some pc : Option Piece) ≠ some ⟨true, .king⟩)
    (hto : p.c0.getLsbD t = false)
    (hps : Move.normal f t pr ∈ pseudoFrom (relPos p) f)
    (hb : (apply (relPos p) (.normal f t pr)).board = setSq (setSq (relBoard p) f none) t (some pc)) :
    Move.normal f t pr ∈ Spec.legalMoves (relPos p) ↔
      ((prelude p).allowed.getLsbD t = true ∧ PinOk p f t) := by
  have F := kingFacts hV
  have hfk : f ≠ lsb (p.p5 &&& p.c0) := by
    intro e
    rw [e, F.rel] at hB
    injection hB with hB
    injection hB with _ hB
    exact hkd hB.symm
  have htk : t ≠ lsb (p.p5 &&& p.c0) := by
    intro e
    rw [e, F.c0] at hto
    cases hto
  -- the mover's only king is where it was
  have hk := king_unique_setSq (king_unique_setSq (relKing_unique hV) hfk (v := none) nofun) htk hpk
  rw [mem_legal_normal, hb, relPos_turn, inCheck_unique _ true _ F.k64 hk, Bool.not_true,
    safe_after_move_rel hV hf ht (own_of_rel (valid_consistent hV) hf hB) hto pc hpc]
  exact and_iff_right ⟨hf, hps⟩

theorem legal_piece_iff {p : Position} (hV : ValidPos p = true) {f : Nat} (t : Nat) {kd : Kind}
    (hkd : kd ≠ .pawn ∧ kd ≠ .king) (hf : f < 64) (hB : relBoard p f = some ⟨true, kd⟩) :
    Move.normal f t none ∈ Spec.legalMoves (relPos p) ↔
      t < 64 ∧ pieceAttacks (relBoard p) f ⟨true, kd⟩ t = true ∧ p.c0.getLsbD t = false ∧
        (prelude p).allowed.getLsbD t = true ∧ PinOk p f t := by
  have hps := pseudo_piece_rel (valid_consistent hV) t hkd.1 hB
  have key := fun (h : t < 64 ∧ pieceAttacks (relBoard p) f ⟨true, kd⟩ t = true ∧ p.c0.getLsbD t = false) =>
    legal_plain_iff hV hf h.1 hB hkd.2 rfl (by simpa using hkd.2) h.2.2 (hps.mpr h)
      (apply_board_piece _ _ _ _ hB hkd.1)
  constructor
  · intro h
    have h3 := hps.mp ((mem_legal_normal _ _ _ _).mp h).1.2
    exact ⟨h3.1, h3.2.1, h3.2.2, (key h3).mp h⟩
  · rintro ⟨h1, h2, h3, h⟩
    exact (key ⟨h1, h2, h3⟩).mpr h

theorem rel_us_iff {p : Position} (hC : Consistent p = true) {f : Nat} (hf : f < 64) {pc : Nat} (hpc : pc < 6) :
    relBoard p f = some ⟨true, kindOf pc⟩ ↔ (p.piece pc).getLsbD f = true ∧ p.c0.getLsbD f = true := by
  have key : ∀ {kd : Kind} {X : BB}, Holds (relBoard p) ⟨true, kd⟩ (p.c0 &&& X) →
      (relBoard p f = some ⟨true, kd⟩ ↔ X.getLsbD f = true ∧ p.c0.getLsbD f = true) := by
    intro kd X h
    rw [← decide_eq_true_iff (p := relBoard p f = _), ← h f hf, BitVec.getLsbD_and, Bool.and_eq_true, and_comm]
  have R := rep_us hC
  obtain rfl | rfl | rfl | rfl | rfl | rfl : pc = 0 ∨ pc = 1 ∨ pc = 2 ∨ pc = 3 ∨ pc = 4 ∨ pc = 5 := by omega
  · exact key R.pawn
  · exact key R.knight
  · exact key R.bishop
  · exact key R.rook
  · exact key R.queen
  · exact key R.king

/-- the class theorem of the knights, bishops, rooks or queens (tag `pc`), once the generator's clause for a
piece on `f` has been put in the mover's frame. -/
theorem core_of_clause {p : Position} (hV : ValidPos p = true) {pc : Nat}
    (hpc : pc = 1 ∨ pc = 2 ∨ pc = 3 ∨ pc = 4) (f t : Nat) :
    ((f < 64 ∧ (p.piece pc).getLsbD f = true ∧ p.c0.getLsbD f = true) ∧ t < 64 ∧
        pieceAttacks (relBoard p) f ⟨true, kindOf pc⟩ t = true ∧ p.c0.getLsbD t = false ∧
        (prelude p).allowed.getLsbD t = true ∧ PinOk p f t) ↔
      (Move.normal f t none ∈ Spec.legalMoves (relPos p) ∧
        (p.piece pc).isSet f = true ∧ p.c0.isSet f = true) := by
  have hC := valid_consistent hV
  have hkd : kindOf pc ≠ .pawn ∧ kindOf pc ≠ .king := by rcases hpc with rfl | rfl | rfl | rfl <;> decide
  have hlt : pc < 6 := by omega
  constructor
  · rintro ⟨⟨hf, hp⟩, h⟩
    exact ⟨(legal_piece_iff hV t hkd hf ((rel_us_iff hC hf hlt).mpr hp)).mpr h, hp⟩
  · rintro ⟨hleg, hp⟩
    have hf : f < 64 := BitVec.lt_of_getLsbD hp.1
    exact ⟨⟨hf, hp⟩, (legal_piece_iff hV t hkd hf ((rel_us_iff hC hf hlt).mpr hp)).mp hleg⟩

theorem not_pinned_iff {p : Position} (f : Nat) (hf : f < 64) :
    (~~~(prelude p).pinned).getLsbD f = true ↔ (prelude p).pinned.getLsbD f = false := by
  rw [BitVec.getLsbD_not]; simp [hf]

/-- the generator's clause for the knights (own pieces in `X`): only an unpinned one moves. -/
theorem knight_clause {p : Position} (hV : ValidPos p = true) (X : BB) (f t : Nat) :
    (f ∈ toList (X &&& p.c0 &&& ~~~(prelude p).pinned) ∧
        t ∈ toList (knights (bit f) &&& (prelude p).allowed)) ↔
      ((f < 64 ∧ X.getLsbD f = true ∧ p.c0.getLsbD f = true) ∧ t < 64 ∧ knightStep f t = true ∧
        p.c0.getLsbD t = false ∧ (prelude p).allowed.getLsbD t = true ∧ PinOk p f t) := by
  simp only [mem_toList_lt, BitVec.getLsbD_and, Bool.and_eq_true]
  constructor
  · rintro ⟨⟨hf, ⟨hp, hc0⟩, hnp⟩, ht, hks, hal⟩
    rw [(C10_leapers_bit f hf).1, getLsbD_geomBB] at hks
    simp only [ht, decide_true, Bool.true_and] at hks
    exact ⟨⟨hf, hp, hc0⟩, ht, hks, ((allowed_iff hV t ht).mp hal).1, hal,
      pinOk_of_not_pinned hV hc0 ((not_pinned_iff f hf).mp hnp) t⟩
  · rintro ⟨⟨hf, hp, hc0⟩, ht, hks, _, hal, hok⟩
    refine ⟨⟨hf, ⟨hp, hc0⟩, (not_pinned_iff f hf).mpr ?_⟩, ht, ?_, hal⟩
    · cases hpin : (prelude p).pinned.getLsbD f
      · rfl
      · exact absurd hok (pinned_not_pinOk_knight hV hpin hks)
    · rw [(C10_leapers_bit f hf).1, getLsbD_geomBB, hks]; simp [ht]

theorem bishopMoves_mem {p : Position} (hC : Consistent p = true) {f : Nat} (hf : f < 64) (t : Nat) :
    (bishopMoves f p.occ).getLsbD t = true ↔ t < 64 ∧ diagAtt (relBoard p) f t = true := by
  rw [C10_bishop_mem f hf, Bool.and_eq_true, decide_eq_true_iff]
  constructor
  · rintro ⟨ht, h⟩; rw [walkSet4_diag _ _ (occRep_rel hC) f t hf ht] at h; exact ⟨ht, h⟩
  · rintro ⟨ht, h⟩; rw [walkSet4_diag _ _ (occRep_rel hC) f t hf ht]; exact ⟨ht, h⟩

theorem rookMoves_mem {p : Position} (hC : Consistent p = true) {f : Nat} (hf : f < 64) (t : Nat) :
    (rookMoves f p.occ).getLsbD t = true ↔ t < 64 ∧ orthAtt (relBoard p) f t = true := by
  rw [C10_rook_mem f hf, Bool.and_eq_true, decide_eq_true_iff]
  constructor
  · rintro ⟨ht, h⟩; rw [walkSet4_orth _ _ (occRep_rel hC) f t hf ht] at h; exact ⟨ht, h⟩
  · rintro ⟨ht, h⟩; rw [walkSet4_orth _ _ (occRep_rel hC) f t hf ht]; exact ⟨ht, h⟩

section
variable {p : Position} (hV : ValidPos p = true)
include hV

theorem hit_not_king {f t : Nat} {e : Int × Int} {m : Nat} (h : Hit (relBoard p) f e m t) :
    ∀ i' : Nat, 1 ≤ i' → i' < m → pt f e i' ≠ lsb (p.p5 &&& p.c0) := by
  intro i' a b e'
  have := h.2.2 i' a b
  rw [e', (kingFacts hV).rel] at this; cases this

theorem pinOk_diag_move {f t : Nat} (hus : p.c0.getLsbD f = true) (ht : t < 64)
    (hto : p.c0.getLsbD t = false) (hd : diagAtt (relBoard p) f t = true) :
    PinOk p f t ↔ ((prelude p).pinned.getLsbD f = false ∨
      ((prelude p).bpinned.getLsbD f = true ∧ (prelude p).bxrays.getLsbD t = true)) := by
  have htk : t ≠ lsb (p.p5 &&& p.c0) := by
    intro e; rw [e, (kingFacts hV).c0] at hto; cases hto
  obtain ⟨e, he, m, hh⟩ := (aligned_clear_hit _ diag goodDir_diag f t).mp ((diagAtt_iff _ f t).mp hd)
  have hnj := hit_not_king hV hh
  constructor
  · intro hok
    cases hpin : (prelude p).pinned.getLsbD f
    · exact Or.inl rfl
    · right
      rw [prelude_pinned_eq, BitVec.getLsbD_or, Bool.or_eq_true] at hpin
      rcases hpin with hb | hr
      · exact ⟨hb, (bpinned_pinOk_iff hV hb ht htk he hh.1 hh.2.1 hnj).mp hok⟩
      · exact absurd hok (rpinned_not_pinOk_diag hV hr he hh.1 hh.2.1)
  · rintro (h | ⟨hb, hx⟩)
    · exact pinOk_of_not_pinned hV hus h t
    · exact (bpinned_pinOk_iff hV hb ht htk he hh.1 hh.2.1 hnj).mpr hx

/-- an orthogonal slide (`rxrays`, unlike `bxrays`, does not hold the king square: no condition on `t`). -/
theorem pinOk_orth_move {f t : Nat} (hus : p.c0.getLsbD f = true) (ht : t < 64)
    (ho : orthAtt (relBoard p) f t = true) :
    PinOk p f t ↔ ((prelude p).pinned.getLsbD f = false ∨
      ((prelude p).rpinned.getLsbD f = true ∧ (prelude p).rxrays.getLsbD t = true)) := by
  obtain ⟨e, he, m, hh⟩ := (aligned_clear_hit _ orth goodDir_orth f t).mp ((orthAtt_iff _ f t).mp ho)
  have hnj := hit_not_king hV hh
  constructor
  · intro hok
    cases hpin : (prelude p).pinned.getLsbD f
    · exact Or.inl rfl
    · right
      rw [prelude_pinned_eq, BitVec.getLsbD_or, Bool.or_eq_true] at hpin
      rcases hpin with hb | hr
      · exact absurd hok (bpinned_not_pinOk_orth hV hb he hh.1 hh.2.1)
      · exact ⟨hr, (rpinned_pinOk_iff hV hr ht he hh.1 hh.2.1 hnj).mp hok⟩
  · rintro (h | ⟨hr, hx⟩)
    · exact pinOk_of_not_pinned hV hus h t
    · exact (rpinned_pinOk_iff hV hr ht he hh.1 hh.2.1 hnj).mpr hx

/-- the generator's two clauses for a slide of one kind (diagonal: `M = bishopMoves f occ`, `bp = bpinned`,
`xr = bxrays`, `A` = "`f` attacks `t` diagonally"; orthogonal likewise) of an own piece in `X`: the pinned
pieces within their x-rays, the unpinned ones freely. -/
theorem slide_clauses (X M bp xr : BB) (A : Bool) (f t : Nat)
    (hM : f < 64 → (M.getLsbD t = true ↔ t < 64 ∧ A = true))
    (hP : p.c0.getLsbD f = true → t < 64 → p.c0.getLsbD t = false → A = true →
      (PinOk p f t ↔ ((prelude p).pinned.getLsbD f = false ∨
        (bp.getLsbD f = true ∧ xr.getLsbD t = true)))) :
    ((f ∈ toList (X &&& p.c0 &&& bp) ∧ t ∈ toList (M &&& (prelude p).allowed &&& xr)) ∨
      (f ∈ toList (X &&& p.c0 &&& ~~~(prelude p).pinned) ∧ t ∈ toList (M &&& (prelude p).allowed))) ↔
    ((f < 64 ∧ X.getLsbD f = true ∧ p.c0.getLsbD f = true) ∧ t < 64 ∧ A = true ∧
      p.c0.getLsbD t = false ∧ (prelude p).allowed.getLsbD t = true ∧ PinOk p f t) := by
  simp only [mem_toList_lt, BitVec.getLsbD_and, Bool.and_eq_true]
  constructor
  · rintro (⟨⟨hf, ⟨hp, hc0⟩, hb⟩, ht, ⟨hm, hal⟩, hx⟩ | ⟨⟨hf, ⟨hp, hc0⟩, hnp⟩, ht, hm, hal⟩)
    · have hA := ((hM hf).mp hm).2
      have hto := ((allowed_iff hV t ht).mp hal).1
      exact ⟨⟨hf, hp, hc0⟩, ht, hA, hto, hal, (hP hc0 ht hto hA).mpr (Or.inr ⟨hb, hx⟩)⟩
    · have hA := ((hM hf).mp hm).2
      have hto := ((allowed_iff hV t ht).mp hal).1
      exact ⟨⟨hf, hp, hc0⟩, ht, hA, hto, hal,
        (hP hc0 ht hto hA).mpr (Or.inl ((not_pinned_iff f hf).mp hnp))⟩
  · rintro ⟨⟨hf, hp, hc0⟩, ht, hA, hto, hal, hok⟩
    have hm := (hM hf).mpr ⟨ht, hA⟩
    rcases (hP hc0 ht hto hA).mp hok with h | ⟨hb, hx⟩
    · exact Or.inr ⟨⟨hf, ⟨hp, hc0⟩, (not_pinned_iff f hf).mpr h⟩, ht, hm, hal⟩
    · exact Or.inl ⟨⟨hf, ⟨hp, hc0⟩, hb⟩, ht, ⟨hm, hal⟩, hx⟩

/-- C01, the classes of the knights (tag 1), bishops (2), rooks (3) and queens (4): the generated moves with
that tag are the legal moves of the mover's pieces of that kind. -/
theorem pieces_core {pc : Nat} (hpc : pc = 1 ∨ pc = 2 ∨ pc = 3 ∨ pc = 4) (f t : Nat) :
    gm pc f t 6 ∈ moveGenerator p ↔
      (Move.normal f t none ∈ Spec.legalMoves (relPos p) ∧
        (p.piece pc).isSet f = true ∧ p.c0.isSet f = true) := by
  have hC := valid_consistent hV
  have hdiag := fun X => slide_clauses hV X _ _ _ (diagAtt (relBoard p) f t) f t
    (fun hf => bishopMoves_mem hC hf t) (pinOk_diag_move hV)
  have horth := fun X => slide_clauses hV X _ _ _ (orthAtt (relBoard p) f t) f t
    (fun hf => rookMoves_mem hC hf t) (fun hus ht _ ho => pinOk_orth_move hV hus ht ho)
  rw [← core_of_clause hV hpc, mem_gen_slider hpc]
  -- the blocks of the table with this tag, in the form the clause lemmas read
  rcases hpc with rfl | rfl | rfl | rfl <;>
    conv =>
      lhs
      simp only [sliderBlocks, List.mem_cons, List.not_mem_nil, or_false, or_and_right, exists_or, exists_eq_left,
        SBlock.src, SBlock.tgt, Position.piece, ← Rawr.mem_toList, true_and, false_and, false_or, Nat.reduceEqDiff]
  · exact knight_clause hV _ f t
  · exact hdiag _
  · exact horth _
  · -- the unpinned queens: `queenMoves = bishopMoves ||| rookMoves`
    have hq : ∀ S : BB, (f ∈ toList S ∧ t ∈ toList (queenMoves f p.occ &&& (prelude p).allowed)) ↔
        ((f ∈ toList S ∧ t ∈ toList (bishopMoves f p.occ &&& (prelude p).allowed)) ∨
          (f ∈ toList S ∧ t ∈ toList (rookMoves f p.occ &&& (prelude p).allowed))) := by
      intro S
      unfold queenMoves
      simp only [mem_toList_lt, BitVec.getLsbD_and, BitVec.getLsbD_or, Bool.and_eq_true, Bool.or_eq_true,
        or_and_right, and_or_left]
    -- regroup as (diagonal: pinned ∨ free) ∨ (orthogonal: pinned ∨ free); the queen attacks either way
    rw [hq, ← or_assoc, or_or_or_comm, hdiag, horth, pieceAttacks_split, ← and_or_left, ← and_or_left,
      ← or_and_right, ← Bool.or_eq_true]
    exact Iff.rfl

end

end Rawr.Att
