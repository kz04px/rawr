import Rawr.Proofs.SpecApply
/-!
# `Spec.apply` touches at most four squares

For every position and every move, legal or not. Needs the specification only.
-/
namespace Rawr.SpecS
open Rawr.Spec Rawr.SV

/-- the en-passant test of `Spec.apply` for the man on `s` (false when `s` is empty). -/
def isEpMove (a : APos) (s t : Nat) : Bool :=
  match a.board s with
  | some pc => pc.kind == .pawn && file s != file t && !(a.board t).isSome
  | none => false

theorem isEpMove_eq {a : APos} {s t : Nat} {pc : Piece} (h : a.board s = some pc) :
    isEpMove a s t = isEpB a s t pc := by
  unfold isEpMove
  rw [h]
  rfl

/-- the squares `Spec.apply` may write. -/
def touched (a : APos) (m : Move) : List Nat :=
  match m with
  | .normal s t _ => if isEpMove a s t = true then [s, t, sq (file t) (rank s)] else [s, t]
  | .castle ks =>
    match right a a.whiteToMove ks, kingSquares a.board a.whiteToMove with
    | some rf, k :: _ =>
      [k, sq rf (homeRank a.whiteToMove), sq (if ks then 6 else 2) (homeRank a.whiteToMove),
        sq (if ks then 5 else 3) (homeRank a.whiteToMove)]
    | _, _ => []

theorem touched_length (a : APos) (m : Move) : (touched a m).length ≤ 4 := by
  unfold touched
  cases m with
  | normal s t pr => simp only; split <;> simp
  | castle ks => simp only; split <;> simp

theorem touched_length_normal (a : APos) (s t : Nat) (pr : Option Kind) :
    (touched a (.normal s t pr)).length = if isEpMove a s t = true then 3 else 2 := by
  unfold touched
  simp only; split <;> rfl

theorem apply_frame (a : APos) (m : Move) (x : Nat) (hx : x ∉ touched a m) :
    (apply a m).board x = a.board x := by
  cases m with
  | normal s t pr =>
    cases hb : a.board s with
    | none => rw [apply_normal_none hb]
    | some pc =>
      rw [apply_normal hb]
      simp only
      unfold touched isEpMove at hx
      simp only [hb] at hx
      by_cases hE : (pc.kind == .pawn && file s != file t && !(a.board t).isSome) = true
      · rw [if_pos hE] at hx ⊢
        simp only [List.mem_cons, List.not_mem_nil, or_false, not_or] at hx
        rw [setSq_ne hx.2.1, setSq_ne hx.2.2, setSq_ne hx.1]
      · rw [if_neg hE] at hx ⊢
        simp only [List.mem_cons, List.not_mem_nil, or_false, not_or] at hx
        rw [setSq_ne hx.2, setSq_ne hx.1]
  | castle ks =>
    unfold touched at hx
    simp only [apply]
    split
    · next rf k l hr hk =>
      simp only [hr, hk, List.mem_cons, List.not_mem_nil, or_false, not_or] at hx
      simp only
      rw [setSq_ne hx.2.2.2, setSq_ne hx.2.2.1, setSq_ne hx.2.1, setSq_ne hx.1]
    · rfl

theorem apply_changes_le_four (a : APos) (m : Move) :
    ∃ l : List Nat, l.length ≤ 4 ∧ ∀ x, x ∉ l → (apply a m).board x = a.board x :=
  ⟨touched a m, touched_length a m, apply_frame a m⟩

end Rawr.SpecS
