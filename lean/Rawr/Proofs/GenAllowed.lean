import Rawr.Proofs.PreludeGeom
/-!
# C01, the safety lemma — the prelude's `allAttackers` (the pieces giving check) and its `allowed` set

In the mover's frame `B := relBoard p`, `k := lsb (p.p5 &&& p.c0)`: `(prelude p).allAttackers` is exactly the set of enemy
pieces attacking the mover's king (`allAttackers_iff`); a square `t` is in `(prelude p).allowed` iff it does not hold an own
piece and every enemy piece other than the one on `t` that attacks the king is a slider whose line to the king passes over `t`
(`allowed_iff`, with `Chk`). Hence: no checker — everything but the own pieces; one checker — the checker's square and, for
a slider, the squares between; two checkers — nothing.
-/

namespace Rawr.Att
open Spec

/-- the enemy piece `q` on `s` attacks `k` on `B`. -/
def Attacks (B : Board) (k s : Nat) (q : Piece) : Prop :=
  Leap q s k ∨ ∃ d n, KindDir q.kind d ∧ Hit B k d n s

/-- `s` holds an enemy piece that attacks `k`. -/
def Checker (B : Board) (k s : Nat) : Prop :=
  s < 64 ∧ ∃ q : Piece, B s = some q ∧ q.white = false ∧ Attacks B k s q

theorem themBQ_iff {p : Position} (hC : Consistent p = true) (s : Nat) (hs : s < 64) :
    (themBQ p).getLsbD s = true ↔
      (relBoard p s = some ⟨false, .bishop⟩ ∨ relBoard p s = some ⟨false, .queen⟩) := by
  unfold themBQ
  rw [BitVec.and_or_distrib_left, BitVec.getLsbD_or, (rep_them hC).bishop s hs, (rep_them hC).queen s hs,
    Bool.or_eq_true, decide_eq_true_iff, decide_eq_true_iff]

theorem enemy_kind_iff (B : Board) (s : Nat) (k1 : Kind) :
    (B s = some ⟨false, k1⟩ ∨ B s = some ⟨false, .queen⟩) ↔
      ∃ q : Piece, B s = some q ∧ q.white = false ∧ (q.kind = k1 ∨ q.kind = .queen) := by
  constructor
  · rintro (e | e)
    · exact ⟨_, e, rfl, Or.inl rfl⟩
    · exact ⟨_, e, rfl, Or.inr rfl⟩
  · rintro ⟨⟨w, kd⟩, e, hw, hk⟩
    dsimp only at hw hk; subst hw
    rcases hk with rfl | rfl
    · exact Or.inl e
    · exact Or.inr e

theorem sliders_iff {p : Position} (hC : Consistent p = true) {d : Int × Int} (hd : d ∈ dirs8)
    (s : Nat) (hs : s < 64) :
    (sliders p d).getLsbD s = true ↔
      ∃ q : Piece, relBoard p s = some q ∧ q.white = false ∧ KindDir q.kind d := by
  unfold sliders KindDir
  by_cases h : d ∈ diag
  · have ho : d ∉ orth := fun h' => diag_orth_disj h h'
    rw [if_pos h, themBQ_iff hC s hs, enemy_kind_iff]
    simp only [h, ho, and_true, and_false, or_false]
  · have ho : d ∈ orth := (List.mem_append.mp hd).resolve_left h
    rw [if_neg h, themRQ_iff hC s hs, enemy_kind_iff]
    simp only [h, ho, and_true, and_false, false_or]

theorem rayGuard_of_slider {p : Position} {d : Int × Int} {s : Nat} (hs : s < 64)
    (h : (sliders p d).getLsbD s = true) : rayGuard p d = true := by
  unfold rayGuard; unfold sliders at h
  split
  · rw [if_pos ‹_›] at h; exact (isOcc_iff _).mpr ⟨s, hs, h⟩
  · rw [if_neg ‹_›] at h; exact (isOcc_iff _).mpr ⟨s, hs, h⟩

theorem rayAtt_iff {p : Position} (hV : ValidPos p = true) {d : Int × Int} (hd : d ∈ dirs8) (s : Nat) :
    (kingRay (prelude p) d &&& sliders p d).getLsbD s = true ↔
      s < 64 ∧ (∃ n, Hit (relBoard p) (lsb (p.p5 &&& p.c0)) d n s) ∧
        ∃ q : Piece, relBoard p s = some q ∧ q.white = false ∧ KindDir q.kind d := by
  have hC := valid_consistent hV
  rw [BitVec.getLsbD_and, Bool.and_eq_true, kingRay_mem hC (kingFacts hV).k64 hd, rayHit_iff_hit _ (goodDir_dirs8 d hd)]
  constructor
  · rintro ⟨⟨_, hs, hh⟩, hsl⟩
    exact ⟨hs, hh, (sliders_iff hC hd s hs).mp hsl⟩
  · rintro ⟨hs, hh, hq⟩
    have hsl := (sliders_iff hC hd s hs).mpr hq
    exact ⟨⟨rayGuard_of_slider hs hsl, hs, hh⟩, hsl⟩

def pawnAtt (p : Position) : BB :=
  (northEast (p.c0 &&& p.p5) ||| northWest (p.c0 &&& p.p5)) &&& p.c1 &&& p.p0
def knightAtt (p : Position) : BB := knights (bit (lsb (p.p5 &&& p.c0))) &&& p.p1 &&& p.c1
theorem prelude_all_eq (p : Position) :
    (prelude p).allAttackers = pawnAtt p ||| knightAtt p ||| bAtt p ||| rAtt p := rfl

theorem pawnAtt_iff {p : Position} (hV : ValidPos p = true) (s : Nat) :
    (pawnAtt p).getLsbD s = true ↔
      s < 64 ∧ relBoard p s = some ⟨false, .pawn⟩ ∧ pawnStep false s (lsb (p.p5 &&& p.c0)) = true := by
  have hC := valid_consistent hV
  have k64 := (kingFacts hV).k64
  unfold pawnAtt
  rw [king_bit hV]
  have e : northEast (bit (lsb (p.p5 &&& p.c0))) ||| northWest (bit (lsb (p.p5 &&& p.c0)))
      = pawnsAtt true (bit (lsb (p.p5 &&& p.c0))) := rfl
  rw [e, BitVec.and_assoc, BitVec.getLsbD_and, (C10_leapers_bit _ k64).2.2 true, getLsbD_geomBB,
    pawnStep_symm]
  by_cases hs : s < 64
  · rw [(rep_them hC).pawn s hs]
    simp only [hs, decide_true, Bool.true_and, Bool.not_true, Bool.and_eq_true, decide_eq_true_eq, true_and]
    exact ⟨fun h => ⟨h.2, h.1⟩, fun h => ⟨h.2, h.1⟩⟩
  · simp [hs]

theorem knightAtt_iff {p : Position} (hV : ValidPos p = true) (s : Nat) :
    (knightAtt p).getLsbD s = true ↔
      s < 64 ∧ relBoard p s = some ⟨false, .knight⟩ ∧ knightStep s (lsb (p.p5 &&& p.c0)) = true := by
  have hC := valid_consistent hV
  have k64 := (kingFacts hV).k64
  unfold knightAtt
  rw [BitVec.and_assoc, BitVec.and_comm p.p1, BitVec.getLsbD_and, (C10_leapers_bit _ k64).1, getLsbD_geomBB,
    knightStep_symm]
  by_cases hs : s < 64
  · rw [(rep_them hC).knight s hs]
    simp only [hs, decide_true, Bool.true_and, Bool.and_eq_true, decide_eq_true_eq, true_and]
    exact ⟨fun h => ⟨h.2, h.1⟩, fun h => ⟨h.2, h.1⟩⟩
  · simp [hs]

theorem sliderAtt_iff (p : Position) (s : Nat) :
    (bAtt p ||| rAtt p).getLsbD s = true ↔
      ∃ d ∈ dirs8, (kingRay (prelude p) d &&& sliders p d).getLsbD s = true := by
  rw [BitVec.getLsbD_or, Bool.or_eq_true]
  constructor
  · -- the ray of the union that holds `s`
    have key : ∀ d ∈ dirs8, (kingRay (prelude p) d).getLsbD s = true → (attAlong p d).getLsbD s = true →
        ∃ d ∈ dirs8, (kingRay (prelude p) d &&& sliders p d).getLsbD s = true := fun d hd h1 h2 =>
      ⟨d, hd, by rw [← kingRay_attAlong p hd, BitVec.getLsbD_and, h1, h2]; rfl⟩
    rintro (h | h)
    · have h' := h
      unfold bAtt at h'
      simp only [BitVec.getLsbD_and, BitVec.getLsbD_or, Bool.and_eq_true, Bool.or_eq_true] at h'
      rcases h'.1.1 with ((a | a) | a) | a
      · exact key dNE (by decide) a h
      · exact key dSW (by decide) a h
      · exact key dNW (by decide) a h
      · exact key dSE (by decide) a h
    · have h' := h
      unfold rAtt at h'
      simp only [BitVec.getLsbD_and, BitVec.getLsbD_or, Bool.and_eq_true, Bool.or_eq_true] at h'
      rcases h'.1.1 with ((a | a) | a) | a
      · exact key dN (by decide) a h
      · exact key dS (by decide) a h
      · exact key dE (by decide) a h
      · exact key dW (by decide) a h
  · rintro ⟨d, hd, h⟩
    rw [← kingRay_attAlong p hd, BitVec.getLsbD_and, Bool.and_eq_true] at h
    unfold attAlong at h
    split at h
    · exact Or.inl h.2
    · exact Or.inr h.2

theorem kindDir_dirs8 {kd : Kind} {d : Int × Int} (h : KindDir kd d) : d ∈ dirs8 := by
  rcases h with ⟨_, h⟩ | ⟨_, h⟩
  · exact List.mem_append.mpr (Or.inl h)
  · exact List.mem_append.mpr (Or.inr h)

theorem allAttackers_iff {p : Position} (hV : ValidPos p = true) (s : Nat) :
    (prelude p).allAttackers.getLsbD s = true ↔ Checker (relBoard p) (lsb (p.p5 &&& p.c0)) s := by
  have hC := valid_consistent hV
  rw [prelude_all_eq, BitVec.or_assoc, BitVec.getLsbD_or, BitVec.getLsbD_or, Bool.or_eq_true, Bool.or_eq_true,
    pawnAtt_iff hV, knightAtt_iff hV, sliderAtt_iff p]
  unfold Checker Attacks
  constructor
  · rintro ((⟨hs, hB, hst⟩ | ⟨hs, hB, hst⟩) | ⟨d, hd, h⟩)
    · exact ⟨hs, _, hB, rfl, Or.inl (Or.inl ⟨rfl, hst⟩)⟩
    · exact ⟨hs, _, hB, rfl, Or.inl (Or.inr (Or.inl ⟨rfl, hst⟩))⟩
    · obtain ⟨hs, ⟨n, hh⟩, q, hB, hw, hk⟩ := (rayAtt_iff hV hd s).mp h
      exact ⟨hs, q, hB, hw, Or.inr ⟨d, n, hk, hh⟩⟩
  · rintro ⟨hs, ⟨w, kd⟩, hB, hw, hatt⟩
    dsimp only at hw; subst hw
    rcases hatt with (⟨hk, hst⟩ | ⟨hk, hst⟩ | ⟨hk, hst⟩) | ⟨d, n, hk, hh⟩
    · dsimp only at hk hst; subst hk
      exact Or.inl (Or.inl ⟨hs, hB, hst⟩)
    · dsimp only at hk hst; subst hk
      exact Or.inl (Or.inr ⟨hs, hB, hst⟩)
    · exfalso
      dsimp only at hk hst; subst hk
      have := kings_apart hV
      have h2 : anyS (p.c1 &&& p.p5) (fun s => kingStep s (lsb (p.p5 &&& p.c0))) = true := by
        rw [anyS_iff]
        refine ⟨s, hs, ?_, hst⟩
        rw [(rep_them hC).king s hs, hB]; simp
      rw [this] at h2; cases h2
    · exact Or.inr ⟨d, kindDir_dirs8 hk, (rayAtt_iff hV (kindDir_dirs8 hk) s).mpr ⟨hs, ⟨n, hh⟩, _, hB, rfl, hk⟩⟩

/-- every enemy piece other than the one on `t` that attacks `k` is a slider whose line to `k` passes
over `t`. -/
def Chk (B : Board) (k t : Nat) : Prop :=
  ∀ s, s < 64 → ∀ q : Piece, B s = some q → q.white = false → s ≠ t →
    (¬ Leap q s k ∧ ∀ d n, KindDir q.kind d → Hit B k d n s → ∃ i : Nat, 1 ≤ i ∧ i < n ∧ pt k d i = t)

theorem chk_of_checkers {B : Board} {k t : Nat}
    (h : ∀ s, Checker B k s → s ≠ t → ∀ q : Piece, B s = some q → q.white = false →
      (¬ Leap q s k ∧ ∀ d n, KindDir q.kind d → Hit B k d n s → ∃ i : Nat, 1 ≤ i ∧ i < n ∧ pt k d i = t)) :
    Chk B k t := by
  intro s hs q hB hw hst
  by_cases hc : Checker B k s
  · exact h s hc hst q hB hw
  · constructor
    · intro hl; exact hc ⟨hs, q, hB, hw, Or.inl hl⟩
    · intro d n hk hh; exact absurd ⟨hs, q, hB, hw, Or.inr ⟨d, n, hk, hh⟩⟩ hc

theorem chk_cut {B : Board} {k t s : Nat} (h : Chk B k t) (hc : Checker B k s) (hst : s ≠ t) :
    ∃ (q : Piece) (d : Int × Int) (n i : Nat), B s = some q ∧ q.white = false ∧ KindDir q.kind d ∧
      Hit B k d n s ∧ 1 ≤ i ∧ i < n ∧ pt k d i = t := by
  obtain ⟨hs, q, hB, hw, hatt⟩ := hc
  obtain ⟨hnl, hsl⟩ := h s hs q hB hw hst
  rcases hatt with hl | ⟨d, n, hk, hh⟩
  · exact absurd hl hnl
  · obtain ⟨i, h1, h2, e⟩ := hsl d n hk hh
    exact ⟨q, d, n, i, hB, hw, hk, hh, h1, h2, e⟩

theorem chk_unique {B : Board} {k t s1 s2 : Nat} (hk : k < 64) (h : Chk B k t)
    (h1 : Checker B k s1) (h2 : Checker B k s2) : s1 = s2 := by
  apply Classical.byContradiction
  intro hne
  have occ1 : B s1 ≠ none := by obtain ⟨_, q, hB, _⟩ := h1; rw [hB]; exact fun e => by cases e
  have occ2 : B s2 ≠ none := by obtain ⟨_, q, hB, _⟩ := h2; rw [hB]; exact fun e => by cases e
  by_cases e1 : s1 = t
  · have e2 : s2 ≠ t := fun e => hne (e1.trans e.symm)
    obtain ⟨q, d, n, i, _, _, _, hh, hi1, hi2, hp⟩ := chk_cut h h2 e2
    have := hh.2.2 i hi1 hi2
    rw [hp, ← e1] at this
    exact occ1 this
  · by_cases e2 : s2 = t
    · obtain ⟨q, d, n, i, _, _, _, hh, hi1, hi2, hp⟩ := chk_cut h h1 e1
      have := hh.2.2 i hi1 hi2
      rw [hp, ← e2] at this
      exact occ2 this
    · obtain ⟨q1, d1, n1, i1, _, _, hk1, hh1, a1, b1, p1⟩ := chk_cut h h1 e1
      obtain ⟨q2, d2, n2, i2, _, _, hk2, hh2, a2, b2, p2⟩ := chk_cut h h2 e2
      exact hne (hit_through_unique hk (kindDir_goodDir hk1) (kindDir_goodDir hk2) h1.1 h2.1 hh1 hh2 a1 b1 a2 b2
        p1 p2 occ1 occ2)

theorem allowed_ray {p : Position} (hV : ValidPos p = true) {d : Int × Int} (hd : d ∈ dirs8)
    (ho : (kingRay (prelude p) d &&& sliders p d).isOcc = true)
    (hc : ¬ count (prelude p).allAttackers > 1) (t : Nat) (ht : t < 64) :
    (kingRay (prelude p) d).getLsbD t = true ↔
      p.c0.getLsbD t = false ∧ Chk (relBoard p) (lsb (p.p5 &&& p.c0)) t := by
  have hC := valid_consistent hV
  have k64 := (kingFacts hV).k64
  have gd := goodDir_dirs8 d hd
  obtain ⟨s, hs, hm'⟩ := (isOcc_iff _).mp ho
  obtain ⟨_, ⟨n, hh⟩, q, hB, hw, hkd⟩ := (rayAtt_iff hV hd s).mp hm'
  have hguard : rayGuard p d = true := by
    rw [BitVec.getLsbD_and, Bool.and_eq_true] at hm'
    exact ((kingRay_mem hC k64 hd s).mp hm'.1).1
  have hchk : Checker (relBoard p) (lsb (p.p5 &&& p.c0)) s := ⟨hs, q, hB, hw, Or.inr ⟨d, n, hkd, hh⟩⟩
  have hA := (allAttackers_iff hV s).mpr hchk
  have huniq : ∀ s', Checker (relBoard p) (lsb (p.p5 &&& p.c0)) s' → s' = s := fun s' h' =>
    (count_le_one_iff _).mp (Nat.le_of_not_lt hc) _ _ ((allAttackers_iff hV s').mpr h') hA
  have hnl : ¬ Leap q s (lsb (p.p5 &&& p.c0)) := by
    unfold Leap
    rcases hkd with ⟨hk | hk, _⟩ | ⟨hk | hk, _⟩ <;> rw [hk] <;> simp
  rw [kingRay_mem hC k64 hd, rayHit_iff_hit _ gd, hit_seen_iff gd k64 hs hh (by rw [hB]; nofun)]
  constructor
  · rintro ⟨_, _, rfl | ⟨i, hi1, hin, hp⟩⟩
    · exact ⟨own_not_enemy hC ht hB hw, chk_of_checkers fun s' hc' hst => absurd (huniq s' hc') hst⟩
    · -- an inner point of the checker's line: empty, and the one checker is cut off there
      refine ⟨own_of_none hC ht (hp ▸ hh.2.2 i hi1 hin), chk_of_checkers ?_⟩
      intro s' hc' hst q' hB' hw'
      obtain rfl := huniq s' hc'
      obtain rfl : q = q' := Option.some.inj (hB.symm.trans hB')
      refine ⟨hnl, fun d' n' hkd' hh' => ?_⟩
      obtain ⟨rfl, rfl⟩ := at_unique (kindDir_goodDir hkd') gd hh'.1 hh.1 hh'.2.1 hh.2.1
      exact ⟨i, hi1, hin, hp⟩
  · rintro ⟨_, hchkt⟩
    refine ⟨hguard, ht, ?_⟩
    by_cases e : s = t
    · exact Or.inl e.symm
    · exact Or.inr ((hchkt s hs q hB hw e).2 d n hkd hh)

/-- `allowed`: the squares a non-king move may go to when only the checks are considered. -/
theorem allowed_iff {p : Position} (hV : ValidPos p = true) (t : Nat) (ht : t < 64) :
    (prelude p).allowed.getLsbD t = true ↔
      p.c0.getLsbD t = false ∧ Chk (relBoard p) (lsb (p.p5 &&& p.c0)) t := by
  have hC := valid_consistent hV
  have k64 := (kingFacts hV).k64
  refine allowed_ind p (P := fun X => X.getLsbD t = true ↔ _) ?_ ?_ ?_
  · intro hc
    rw [BitVec.getLsbD_zero]
    constructor
    · intro h; cases h
    · rintro ⟨_, hchk⟩
      have : count (prelude p).allAttackers ≤ 1 := (count_le_one_iff _).mpr fun a b ha hb =>
        chk_unique k64 hchk ((allAttackers_iff hV a).mp ha) ((allAttackers_iff hV b).mp hb)
      omega
  · intro hc d hd ho
    exact allowed_ray hV (checkDirs_dirs8 hd) ho hc t ht
  · intro hc hno
    -- no enemy slider is seen from the king: a checker not on `t` cannot be cut off
    have hcut : Chk (relBoard p) (lsb (p.p5 &&& p.c0)) t → ∀ s, Checker (relBoard p) (lsb (p.p5 &&& p.c0)) s →
        s = t := by
      intro hchk s hsc
      apply Classical.byContradiction
      intro e
      obtain ⟨q, d, n, i, hB, hw, hkd, hh, _⟩ := chk_cut hchk hsc e
      have hd := kindDir_dirs8 hkd
      have := isOcc_of_bit ((rayAtt_iff hV hd s).mpr ⟨hsc.1, ⟨n, hh⟩, q, hB, hw, hkd⟩)
      rw [hno d (dirs8_checkDirs hd)] at this
      cases this
    split
    · rename_i hA
      obtain ⟨s, hs, hsA⟩ := (isOcc_iff _).mp hA
      constructor
      · intro htA
        obtain ⟨_, q, hB, hw, _⟩ := (allAttackers_iff hV t).mp htA
        refine ⟨own_not_enemy hC ht hB hw, ?_⟩
        apply chk_of_checkers
        intro s' hc' hst
        exact absurd ((count_le_one_iff _).mp (Nat.le_of_not_lt hc) _ _ ((allAttackers_iff hV s').mpr hc') htA) hst
      · rintro ⟨_, hchk⟩
        rw [← hcut hchk s ((allAttackers_iff hV s).mp hsA)]; exact hsA
    · rename_i hA
      rw [BitVec.getLsbD_not]
      simp only [ht, decide_true, Bool.true_and, Bool.not_eq_true']
      constructor
      · intro h
        refine ⟨h, ?_⟩
        apply chk_of_checkers
        intro s' hc' _
        exact absurd ((allAttackers_iff hV s').mpr hc') (fun h => hA ((isOcc_iff _).mpr ⟨s', hc'.1, h⟩))
      · exact fun h => h.1

theorem chk_of_not_inCheck {p : Position} (hV : ValidPos p = true)
    (h : (prelude p).inCheck = false) (t : Nat) : Chk (relBoard p) (lsb (p.p5 &&& p.c0)) t := by
  apply chk_of_checkers
  intro s' hc' _
  have h1 := (allAttackers_iff hV s').mpr hc'
  have h2 : (prelude p).allAttackers.isOcc = true := (isOcc_iff _).mpr ⟨s', hc'.1, h1⟩
  have e : (prelude p).inCheck = (prelude p).allAttackers.isOcc := rfl
  rw [e, h2] at h; cases h

end Rawr.Att
