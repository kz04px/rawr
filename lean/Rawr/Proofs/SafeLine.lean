import Rawr.Proofs.SpecMirror
/-!
# Attacks as open lines to the attacked square; what placing or lifting a piece does to them

Seen from a fixed square `k` (the king), a slider attack is a `Hit` along a direction of the slider's kind,
a leaper attack does not depend on the board (`pieceAttacks_hit`). Placing a piece on a square can only cut
lines (`hit_place`, `attacked_after_place`); lifting one opens the lines through it (`hit_lift`), each an open
line to the lifted square followed by one from it (`hit_lift_through`).
Specification only: no engine model below this file.
-/
namespace Rawr.Att
open Spec

def dirs8 : List (Int × Int) := diag ++ orth

theorem goodDir_dirs8 : ∀ d ∈ dirs8, GoodDir d := by
  intro d hd
  rcases List.mem_append.mp hd with h | h
  · exact goodDir_diag d h
  · exact goodDir_orth d h

/-- a slider of kind `kd` moves along `d`. -/
def KindDir (kd : Kind) (d : Int × Int) : Prop :=
  ((kd = .bishop ∨ kd = .queen) ∧ d ∈ diag) ∨ ((kd = .rook ∨ kd = .queen) ∧ d ∈ orth)

/-- the piece `q` on `s` attacks `k` as a leaper. -/
def Leap (q : Piece) (s k : Nat) : Prop :=
  (q.kind = .pawn ∧ pawnStep q.white s k = true) ∨ (q.kind = .knight ∧ knightStep s k = true) ∨
    (q.kind = .king ∧ kingStep s k = true)

theorem kindDir_goodDir {kd : Kind} {d : Int × Int} (h : KindDir kd d) : GoodDir d := by
  rcases h with ⟨_, h⟩ | ⟨_, h⟩
  · exact goodDir_diag d h
  · exact goodDir_orth d h

theorem pieceAttacks_hit (Y : Board) (s k : Nat) (q : Piece) :
    pieceAttacks Y s q k = true ↔ Leap q s k ∨ ∃ d n, KindDir q.kind d ∧ Hit Y k d n s := by
  rw [pieceAttacks_split]
  obtain ⟨w, kd⟩ := q
  unfold Leap KindDir
  cases kd <;> simp only [reduceCtorEq, false_and, false_or, or_false, true_and, or_self,
    exists_false, or_true]
  · rw [diagAtt_hit]
    constructor
    · rintro ⟨d, hd, n, h⟩; exact ⟨d, n, hd, h⟩
    · rintro ⟨d, n, hd, h⟩; exact ⟨d, hd, n, h⟩
  · rw [orthAtt_hit]
    constructor
    · rintro ⟨d, hd, n, h⟩; exact ⟨d, n, hd, h⟩
    · rintro ⟨d, n, hd, h⟩; exact ⟨d, hd, n, h⟩
  · rw [Bool.or_eq_true, diagAtt_hit, orthAtt_hit]
    constructor
    · rintro (⟨d, hd, n, h⟩ | ⟨d, hd, n, h⟩)
      · exact ⟨d, n, Or.inl hd, h⟩
      · exact ⟨d, n, Or.inr hd, h⟩
    · rintro ⟨d, n, hd | hd, h⟩
      · exact Or.inl ⟨d, hd, n, h⟩
      · exact Or.inr ⟨d, hd, n, h⟩

theorem setSq_some_none (Y : Board) (t x : Nat) (pc : Piece) :
    setSq Y t (some pc) x = none ↔ x ≠ t ∧ Y x = none := by
  unfold setSq
  by_cases e : x = t
  · simp [e]
  · simp [e]

theorem setSq_none_none (Y : Board) (x s : Nat) : setSq Y x none s = none ↔ s = x ∨ Y s = none := by
  unfold setSq
  by_cases e : s = x
  · simp [e]
  · simp [e]

theorem setSq_none_some (Y : Board) (x s : Nat) (q : Piece) :
    setSq Y x none s = some q ↔ s ≠ x ∧ Y s = some q := by
  unfold setSq
  by_cases e : s = x
  · simp [e]
  · simp [e]

theorem hit_place (Y : Board) (t : Nat) (pc : Piece) (k : Nat) (d : Int × Int) (n s : Nat) :
    Hit (setSq Y t (some pc)) k d n s ↔ Hit Y k d n s ∧ ∀ i : Nat, 1 ≤ i → i < n → pt k d i ≠ t := by
  unfold Hit
  simp only [setSq_some_none]
  constructor
  · rintro ⟨h1, h2, h3⟩
    exact ⟨⟨h1, h2, fun i a b => (h3 i a b).2⟩, fun i a b => (h3 i a b).1⟩
  · rintro ⟨⟨h1, h2, h3⟩, h4⟩
    exact ⟨h1, h2, fun i a b => ⟨h4 i a b, h3 i a b⟩⟩

/-- After a piece of the mover (`pc`, "white" in the mover's frame) has been put on `t`, the square `k`
is unattacked iff every enemy piece other than the one on `t` that attacked `k` before is a slider whose
line to `k` passes over `t`. -/
theorem attacked_after_place (X : Board) (t k : Nat) (pc : Piece) (hpc : pc.white = true) :
    attackedBy (setSq X t (some pc)) false k = false ↔
      ∀ s, s < 64 → ∀ q : Piece, X s = some q → q.white = false → s ≠ t →
        (¬ Leap q s k ∧ ∀ d n, KindDir q.kind d → Hit X k d n s →
          ∃ i : Nat, 1 ≤ i ∧ i < n ∧ pt k d i = t) := by
  rw [← Bool.not_eq_true, attackedBy_iff]
  constructor
  · intro h s hs q hX hw hst
    have hB' : setSq X t (some pc) s = some q := by unfold setSq; rw [if_neg hst]; exact hX
    have hna : ¬ pieceAttacks (setSq X t (some pc)) s q k = true :=
      fun ha => h ⟨s, hs, q, hB', hw, ha⟩
    rw [pieceAttacks_hit] at hna
    refine ⟨fun hl => hna (Or.inl hl), ?_⟩
    intro d n hkd hh
    apply Classical.byContradiction
    intro hno
    apply hna
    right
    refine ⟨d, n, hkd, (hit_place X t pc k d n s).mpr ⟨hh, ?_⟩⟩
    intro i h1 h2 e
    exact hno ⟨i, h1, h2, e⟩
  · rintro h ⟨s, hs, q, hB', hw, ha⟩
    have hst : s ≠ t := by
      intro e
      rw [e] at hB'
      unfold setSq at hB'
      rw [if_pos rfl] at hB'
      injection hB' with hB'
      rw [hB', hw] at hpc; cases hpc
    have hX : X s = some q := by unfold setSq at hB'; rw [if_neg hst] at hB'; exact hB'
    obtain ⟨hnl, hsl⟩ := h s hs q hX hw hst
    rw [pieceAttacks_hit] at ha
    rcases ha with ha | ⟨d, n, hkd, hh⟩
    · exact hnl ha
    · obtain ⟨hh', hcut⟩ := (hit_place X t pc k d n s).mp hh
      obtain ⟨i, h1, h2, e⟩ := hsl d n hkd hh'
      exact hcut i h1 h2 e

theorem hit_lift (B : Board) (f : Nat) (k : Nat) (d : Int × Int) (n s : Nat) :
    Hit (setSq B f none) k d n s ↔
      1 ≤ n ∧ At k d n s ∧ ∀ i : Nat, 1 ≤ i → i < n → (pt k d i = f ∨ B (pt k d i) = none) := by
  unfold Hit
  simp only [setSq_none_none]

theorem hit_lift_through (B : Board) {f k s : Nat} {d : Int × Int} {n : Nat} (hd : GoodDir d) (hk : k < 64)
    (hs : s < 64) :
    (Hit (setSq B f none) k d n s ∧ ∃ j : Nat, 1 ≤ j ∧ j < n ∧ pt k d j = f) ↔
      ∃ j : Nat, j < n ∧ Hit B k d j f ∧ Hit B f d (n - j) s := by
  have hup : ∀ x, B x = none → setSq B f none x = none := fun x h => (setSq_none_none B f x).mpr (Or.inr h)
  constructor
  · rintro ⟨hh, j, hj1, hjn, hpj⟩
    have atf : At k d j f := hpj ▸ (at_le hd hk hs hh.2.1 (Nat.le_of_lt hjn)).1
    -- `f` is no other point of the line, and off `f` the two boards agree
    have hne : ∀ i : Nat, i ≤ n → i ≠ j → pt k d i ≠ f := fun i hi hij e =>
      hij (at_inj hd (e ▸ (at_le hd hk hs hh.2.1 hi).1) atf)
    have hdown : ∀ x, x ≠ f → setSq B f none x = none → B x = none := fun x hx h =>
      ((setSq_none_none B f x).mp h).resolve_left hx
    refine ⟨j, hjn, hit_keep (hit_prefix hh hj1 (Nat.le_of_lt hjn) atf) hdown fun i a b =>
      hne i (by omega) (by omega), hit_keep (hit_suffix hh atf hjn) hdown fun i a b => ?_⟩
    rw [pt_add atf i]
    exact hne (j + i) (by omega) (by omega)
  · rintro ⟨j, hjn, h1, h2⟩
    have hh := hit_append (hit_mono h1 hup) ((setSq_none_none B f f).mpr (Or.inl rfl)) (hit_mono h2 hup)
    rw [show j + (n - j) = n by omega] at hh
    exact ⟨hh, j, h1.1, hjn, at_pt h1.2.1⟩

end Rawr.Att
