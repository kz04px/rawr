import Rawr.Proofs.GenKing
import Rawr.Proofs.SafeLine
/-!
# The generator's prelude in geometric terms: the eight rays from the king, the pin sets

`B := relBoard p` (mover's frame), `k := lsb (p.p5 &&& p.c0)` the mover's king.
* `RayHit B k d s`: `s` is `j ≥ 1` steps of `d` away from `k` and every square strictly between is empty
  (the membership predicate of the ray walked from `k` in direction `d`, first blocker included); it is
  `∃ n, Hit B k d n s` (`rayHit_iff_hit`);
* `kingRay q d`: the guarded ray of the prelude in direction `d`, a walk (`kingRay_walk`, `kingRay_mem`);
  `allowed_ind`: the cases of `allowed` (two checkers / the first ray `checkDirs` finds holding an enemy slider of
  its class / no such ray);
* `PinAlong B us chk k d f`: the own piece `f` is the first blocker on ray `d` from `k` and the next blocker
  behind it is in `chk`; one `pinStep` adds the pin along its ray (`pinStep_mem`), the chains of `pinStep`s in `prelude`
  are folds over lists of rays (`pinSteps_mem`), and so the pin sets and x-rays of the prelude are read with `PinAlong`
  and `PinLine` (`prelude_bpinned` … `prelude_rxrays`).
-/
namespace Rawr.Att
open Spec

def RayHit (B : Board) (k : Nat) (d : Int × Int) (s : Nat) : Prop :=
  ∃ j : Nat, 1 ≤ j ∧ file s = file k + d.1 * j ∧ rank s = rank k + d.2 * j ∧ clearBetween B k s = true

theorem rayHit_iff_hit (Y : Board) {d : Int × Int} (hd : GoodDir d) (k s : Nat) :
    RayHit Y k d s ↔ ∃ n, Hit Y k d n s := by
  unfold RayHit Hit
  constructor
  · rintro ⟨n, hn, hf, hr, hc⟩
    exact ⟨n, hn, ⟨hf, hr⟩, (hit_iff_clear Y hd k s n hn ⟨hf, hr⟩).mp hc⟩
  · rintro ⟨n, hn, hat, hc⟩
    exact ⟨n, hn, hat.1, hat.2, (hit_iff_clear Y hd k s n hn hat).mpr hc⟩

theorem ray_mem {B : Board} {occ : BB} (ho : OccRep B occ) {d : Int × Int} (hd : GoodDir d)
    {k : Nat} (hk : k < 64) (s : Nat) :
    (setBB (walk d.1 d.2 k occ.getLsbD)).getLsbD s = true ↔ s < 64 ∧ RayHit B k d s := by
  obtain ⟨h1, h2, h3⟩ := hd
  rw [getLsbD_setBB, Bool.and_eq_true, decide_eq_true_iff, List.contains_iff_mem]
  constructor
  · rintro ⟨hs, hm⟩
    exact ⟨hs, (mem_walk_iff B _ ho h1 h2 h3 k s hk hs).mp hm⟩
  · rintro ⟨hs, hm⟩
    exact ⟨hs, (mem_walk_iff B _ ho h1 h2 h3 k s hk hs).mpr hm⟩

def dNE : Int × Int := (1, 1)
def dNW : Int × Int := (-1, 1)
def dSE : Int × Int := (1, -1)
def dSW : Int × Int := (-1, -1)
def dN : Int × Int := (0, 1)
def dS : Int × Int := (0, -1)
def dE : Int × Int := (1, 0)
def dW : Int × Int := (-1, 0)

theorem diag_eq : diag = [dNE, dNW, dSE, dSW] := rfl
theorem orth_eq : orth = [dE, dW, dN, dS] := rfl

theorem mem_dirs8 (d : Int × Int) :
    d ∈ dirs8 ↔ d = dNE ∨ d = dNW ∨ d = dSE ∨ d = dSW ∨ d = dE ∨ d = dW ∨ d = dN ∨ d = dS := by
  unfold dirs8
  rw [diag_eq, orth_eq]
  simp only [List.cons_append, List.nil_append, List.mem_cons, List.not_mem_nil, or_false]

/-! The two fills that `epOk` walks itself, along the king's rank; the other six are met only through `kingRay`. -/
section fills
variable {B : Board} {occ : BB} (ho : OccRep B occ) {k : Nat} (hk : k < 64) (s : Nat)
include ho hk

theorem rayE_mem : (rayE k occ).getLsbD s = true ↔ s < 64 ∧ RayHit B k dE s := by
  rw [rayE_eq_walk k hk occ]; exact ray_mem ho (goodDir_dirs8 dE (by decide)) hk s
theorem rayW_mem : (rayW k occ).getLsbD s = true ↔ s < 64 ∧ RayHit B k dW s := by
  rw [rayW_eq_walk k hk occ]; exact ray_mem ho (goodDir_dirs8 dW (by decide)) hk s

end fills

/-- the enemy bishops and queens (`themRQ` is in `GenKing`). -/
def themBQ (p : Position) : BB := p.c1 &&& (p.p2 ||| p.p4)

def kingRay (q : Prelude) (d : Int × Int) : BB :=
  if d = dNE then q.rayNE else if d = dNW then q.rayNW else if d = dSE then q.raySE
  else if d = dSW then q.raySW else if d = dN then q.rayN else if d = dS then q.rayS
  else if d = dE then q.rayE else if d = dW then q.rayW else 0#64

def rayGuard (p : Position) (d : Int × Int) : Bool :=
  if d ∈ diag then (themBQ p).isOcc else (themRQ p).isOcc

theorem kingRay_walk (p : Position) (hk : lsb (p.p5 &&& p.c0) < 64) {d : Int × Int} (hd : d ∈ dirs8) :
    kingRay (prelude p) d =
      if rayGuard p d = true then setBB (walk d.1 d.2 (lsb (p.p5 &&& p.c0)) p.occ.getLsbD) else 0#64 := by
  rcases (mem_dirs8 d).mp hd with rfl | rfl | rfl | rfl | rfl | rfl | rfl | rfl
  · exact congrArg (if (themBQ p).isOcc = true then · else 0#64) (rayNE_eq_walk _ hk _)
  · exact congrArg (if (themBQ p).isOcc = true then · else 0#64) (rayNW_eq_walk _ hk _)
  · exact congrArg (if (themBQ p).isOcc = true then · else 0#64) (raySE_eq_walk _ hk _)
  · exact congrArg (if (themBQ p).isOcc = true then · else 0#64) (raySW_eq_walk _ hk _)
  · exact congrArg (if (themRQ p).isOcc = true then · else 0#64) (rayE_eq_walk _ hk _)
  · exact congrArg (if (themRQ p).isOcc = true then · else 0#64) (rayW_eq_walk _ hk _)
  · exact congrArg (if (themRQ p).isOcc = true then · else 0#64) (rayN_eq_walk _ hk _)
  · exact congrArg (if (themRQ p).isOcc = true then · else 0#64) (rayS_eq_walk _ hk _)

theorem guarded_mem (g : Bool) (X : BB) (s : Nat) :
    (if g = true then X else 0#64).getLsbD s = true ↔ g = true ∧ X.getLsbD s = true := by
  cases g <;> simp

theorem kingRay_mem {p : Position} (hC : Consistent p = true) (hk : lsb (p.p5 &&& p.c0) < 64) {d : Int × Int}
    (hd : d ∈ dirs8) (s : Nat) :
    (kingRay (prelude p) d).getLsbD s = true ↔
      rayGuard p d = true ∧ s < 64 ∧ RayHit (relBoard p) (lsb (p.p5 &&& p.c0)) d s := by
  rw [kingRay_walk p hk hd, guarded_mem, ray_mem (occRep_rel hC) (goodDir_dirs8 d hd) hk]

/-- the first ray `r` (paired with the set `a` of pieces that can give check along it) holding such a
piece, else `dflt`. -/
def firstRay : List (BB × BB) → BB → BB
  | [], dflt => dflt
  | (r, a) :: l, dflt => if (r &&& a).isOcc then r else firstRay l dflt

theorem firstRay_ind {P : BB → Prop} {dflt : BB} : ∀ {l : List (BB × BB)},
    (∀ ra ∈ l, (ra.1 &&& ra.2).isOcc = true → P ra.1) →
    ((∀ ra ∈ l, (ra.1 &&& ra.2).isOcc = false) → P dflt) → P (firstRay l dflt)
  | [], _, h => h fun _ hm => nomatch hm
  | (r, a) :: l, h1, h2 => by
    unfold firstRay
    by_cases ho : (r &&& a).isOcc = true
    · rw [if_pos ho]; exact h1 _ List.mem_cons_self ho
    · rw [if_neg ho]
      refine firstRay_ind (fun ra hm => h1 ra (List.mem_cons_of_mem _ hm)) fun hn => h2 fun ra hm => ?_
      rcases List.mem_cons.mp hm with rfl | hm
      · exact Bool.eq_false_iff.mpr ho
      · exact hn ra hm

def bAtt (p : Position) : BB :=
  ((prelude p).rayNE ||| (prelude p).raySW ||| (prelude p).rayNW ||| (prelude p).raySE) &&& p.c1 &&&
    (p.p2 ||| p.p4)
def rAtt (p : Position) : BB :=
  ((prelude p).rayN ||| (prelude p).rayS ||| (prelude p).rayE ||| (prelude p).rayW) &&& p.c1 &&&
    (p.p3 ||| p.p4)

/-- the slider checks `prelude` looks for on the ray `d`. -/
def attAlong (p : Position) (d : Int × Int) : BB := if d ∈ diag then bAtt p else rAtt p

def sliders (p : Position) (d : Int × Int) : BB := if d ∈ diag then themBQ p else themRQ p

theorem and_absorb (x u a b : BB) (h : ∀ i, x.getLsbD i = true → u.getLsbD i = true) :
    x &&& (u &&& a &&& b) = x &&& (a &&& b) := by
  apply BitVec.eq_of_getLsbD_eq
  intro i _
  simp only [BitVec.getLsbD_and]
  cases hx : x.getLsbD i
  · rfl
  · rw [h i hx]; rfl

theorem kingRay_attAlong (p : Position) {d : Int × Int} (hd : d ∈ dirs8) :
    kingRay (prelude p) d &&& attAlong p d = kingRay (prelude p) d &&& sliders p d := by
  rcases (mem_dirs8 d).mp hd with rfl | rfl | rfl | rfl | rfl | rfl | rfl | rfl
  all_goals
    refine and_absorb _ _ _ _ fun i h => ?_
    simp only [BitVec.getLsbD_or, Bool.or_eq_true]
  · exact Or.inl (Or.inl (Or.inl h))
  · exact Or.inl (Or.inr h)
  · exact Or.inr h
  · exact Or.inl (Or.inl (Or.inr h))
  · exact Or.inl (Or.inr h)
  · exact Or.inr h
  · exact Or.inl (Or.inl (Or.inl h))
  · exact Or.inl (Or.inl (Or.inr h))

/-- the order in which `prelude` tries the rays. -/
def checkDirs : List (Int × Int) := [dNE, dNW, dSE, dSW, dN, dE, dS, dW]

theorem checkDirs_dirs8 {d : Int × Int} (h : d ∈ checkDirs) : d ∈ dirs8 := by
  revert d; decide

theorem dirs8_checkDirs {d : Int × Int} (h : d ∈ dirs8) : d ∈ checkDirs := by
  revert d; decide

theorem checkRays_eq (q : Prelude) (p : Position) :
    checkDirs.map (fun d => (kingRay q d, attAlong p d)) =
      [(q.rayNE, bAtt p), (q.rayNW, bAtt p), (q.raySE, bAtt p), (q.raySW, bAtt p),
        (q.rayN, rAtt p), (q.rayE, rAtt p), (q.rayS, rAtt p), (q.rayW, rAtt p)] := rfl

theorem prelude_allowed_eq (p : Position) :
    (prelude p).allowed =
      if count (prelude p).allAttackers > 1 then 0#64
      else firstRay (checkDirs.map fun d => (kingRay (prelude p) d, attAlong p d))
        (if (prelude p).allAttackers.isOcc then (prelude p).allAttackers else ~~~p.c0) := by
  -- the tests `d = dNE …` of `kingRay` are decided beforehand, in `checkRays_eq`: `rfl` alone takes twenty times as long
  rw [checkRays_eq]; rfl

theorem allowed_ind (p : Position) {P : BB → Prop} (h2 : count (prelude p).allAttackers > 1 → P 0#64)
    (hray : ¬ count (prelude p).allAttackers > 1 → ∀ d ∈ checkDirs,
      (kingRay (prelude p) d &&& sliders p d).isOcc = true → P (kingRay (prelude p) d))
    (hnone : ¬ count (prelude p).allAttackers > 1 →
      (∀ d ∈ checkDirs, (kingRay (prelude p) d &&& sliders p d).isOcc = false) →
      P (if (prelude p).allAttackers.isOcc then (prelude p).allAttackers else ~~~p.c0)) :
    P (prelude p).allowed := by
  rw [prelude_allowed_eq]
  by_cases hc : count (prelude p).allAttackers > 1
  · rw [if_pos hc]; exact h2 hc
  · rw [if_neg hc]
    apply firstRay_ind
    · intro ra hm
      obtain ⟨d, hd, rfl⟩ := List.mem_map.mp hm
      rw [kingRay_attAlong p (checkDirs_dirs8 hd)]
      exact hray hc d hd
    · intro hn
      refine hnone hc fun d hd => ?_
      rw [← kingRay_attAlong p (checkDirs_dirs8 hd)]
      exact hn (kingRay (prelude p) d, attAlong p d) (List.mem_map.mpr ⟨d, hd, rfl⟩)

theorem sliders_sub_them (p : Position) (d : Int × Int) (i : Nat) (h : (sliders p d).getLsbD i = true) :
    p.c1.getLsbD i = true := by
  unfold sliders themBQ themRQ at h
  split at h <;> exact (Bool.and_eq_true_iff.mp (BitVec.getLsbD_and .. ▸ h)).1

/-- `allowed` never holds an own piece (board consistency and a king suffice). -/
theorem allowed_not_own {p : Position} (hC : Consistent p = true) (hk : lsb (p.p5 &&& p.c0) < 64) {i : Nat} :
    (prelude p).allowed.getLsbD i = true → p.c0.getLsbD i = false := by
  refine allowed_ind p (P := fun X => X.getLsbD i = true → p.c0.getLsbD i = false)
    (fun _ h => by simp only [BitVec.getLsbD_zero, Bool.false_eq_true] at h) ?_ ?_
  · -- on a ray from the king to an enemy slider `s`, a square is `s` itself or comes before it and is empty
    intro _ d hd ho hi
    have hd8 := checkDirs_dirs8 hd
    have gd := goodDir_dirs8 d hd8
    obtain ⟨s, hs, hm⟩ := (isOcc_iff _).mp ho
    rw [BitVec.getLsbD_and, Bool.and_eq_true] at hm
    have hc1 := sliders_sub_them p d s hm.2
    obtain ⟨n, hn⟩ := (rayHit_iff_hit _ gd _ _).mp ((kingRay_mem hC hk hd8 s).mp hm.1).2.2
    obtain ⟨_, hi64, hri⟩ := (kingRay_mem hC hk hd8 i).mp hi
    obtain ⟨j, hj⟩ := (rayHit_iff_hit _ gd _ _).mp hri
    have hso : relBoard p s ≠ none :=
      occ_occupied hC hs (by unfold Position.occ; rw [BitVec.getLsbD_or, hc1, Bool.or_true])
    rcases Nat.lt_or_eq_of_le (hit_le hj hn.1 hn.2.1 hso) with hlt | rfl
    · cases h0 : p.c0.getLsbD i
      · rfl
      · exact absurd (hit_blocked hn hj.2.1 hj.1 hlt) (own_occupied hC hi64 h0)
    · rw [at_eq hj.2.1 hn.2.1]
      exact ZH.c0_of_c1 hC hc1
  · intro _ _ h
    cases h0 : p.c0.getLsbD i
    · rfl
    · have := ZH.disj_bit hC i
      rw [h0, Bool.true_and] at this
      split at h
      · simp [prelude, this] at h
      · simp [h0] at h

/-- the first occupied square on a ray is unique: the nearer of two would block the farther. -/
theorem rayHit_unique {B : Board} {k : Nat} {d : Int × Int} (hd : GoodDir d) {a b : Nat}
    (ha : RayHit B k d a) (hb : RayHit B k d b) (oa : B a ≠ none) (ob : B b ≠ none) : a = b := by
  obtain ⟨ja, ha⟩ := (rayHit_iff_hit B hd k a).mp ha
  obtain ⟨jb, hb⟩ := (rayHit_iff_hit B hd k b).mp hb
  exact hit_unique ha hb oa ob

def PinAlong (B : Board) (us chk : BB) (k : Nat) (d : Int × Int) (f : Nat) : Prop :=
  RayHit B k d f ∧ us.getLsbD f = true ∧ ∃ s, RayHit B f d s ∧ chk.getLsbD s = true

/-- `PinAlong` on the bitboards: the two tests of `pinStep`, with `f` the own piece the first one finds. -/
theorem pinAlong_iff {B : Board} {occ : BB} (ho : OccRep B occ) {d : Int × Int} (hd : GoodDir d)
    {us chk : BB} (hus : ∀ x, us.getLsbD x = true → B x ≠ none) {k : Nat} (hk : k < 64)
    {rayFn : Nat → BB → BB} (hfn : ∀ s, s < 64 → rayFn s occ = setBB (walk d.1 d.2 s occ.getLsbD)) (f : Nat) :
    PinAlong B us chk k d f ↔
      (rayFn k occ &&& us).isOcc = true ∧ f = lsb (rayFn k occ &&& us) ∧ (rayFn f occ &&& chk).isOcc = true := by
  -- membership in `ray &&& X`, the ray walked from a square `a` of the board
  have mem : ∀ (X : BB) {a : Nat}, a < 64 → ∀ x, (rayFn a occ &&& X).getLsbD x = true ↔
      (x < 64 ∧ RayHit B a d x) ∧ X.getLsbD x = true := fun X a ha x => by
    rw [BitVec.getLsbD_and, Bool.and_eq_true, hfn a ha, ray_mem ho hd ha]
  constructor
  · rintro ⟨hr, hu, s, hs, hc⟩
    have f64 := BitVec.lt_of_getLsbD hu
    have s64 := BitVec.lt_of_getLsbD hc
    -- `f` is the only own piece on the ray
    obtain ⟨h1, h2⟩ := lsb_eq_of_unique ((mem us hk f).mpr ⟨⟨f64, hr⟩, hu⟩) fun t _ ht =>
      rayHit_unique hd ((mem us hk t).mp ht).1.2 hr (hus t ((mem us hk t).mp ht).2) (hus f hu)
    exact ⟨h1, h2.symm, (isOcc_iff _).mpr ⟨s, s64, (mem chk f64 s).mpr ⟨⟨s64, hs⟩, hc⟩⟩⟩
  · rintro ⟨h1, rfl, h2⟩
    obtain ⟨q64, hq⟩ := lsb_mem_of_isOcc h1
    obtain ⟨s, _, hs⟩ := (isOcc_iff _).mp h2
    exact ⟨((mem us hk _).mp hq).1.2, ((mem us hk _).mp hq).2, s, ((mem chk q64 s).mp hs).1.2, ((mem chk q64 s).mp hs).2⟩

/-- the guard on the first ray changes nothing: without a piece in `chk` the second test fails. -/
theorem pinStep_guard (rayFn : Nat → BB → BB) (ray us occ chk : BB) (acc : BB × BB) :
    pinStep rayFn (if chk.isOcc then ray else 0#64) us occ chk acc = pinStep rayFn ray us occ chk acc := by
  cases hg : chk.isOcc
  · have h0 : ∀ X : BB, (X &&& chk).isOcc = false := fun X => Bool.eq_false_iff.mpr fun h => by
      obtain ⟨s, hs, hb⟩ := (isOcc_iff _).mp h
      rw [BitVec.getLsbD_and, Bool.and_eq_true] at hb
      rw [(isOcc_iff chk).mpr ⟨s, hs, hb.2⟩] at hg; cases hg
    unfold pinStep
    simp only [h0, Bool.false_eq_true, if_false, BitVec.zero_and, isOcc_zero, ite_self]
  · rfl

theorem pinStep_eq (rayFn : Nat → BB → BB) (ray us occ chk : BB) (acc : BB × BB) :
    pinStep rayFn ray us occ chk acc =
      if (ray &&& us).isOcc = true ∧ (rayFn (lsb (ray &&& us)) occ &&& chk).isOcc = true then
        (acc.1 ||| bit (lsb (ray &&& us)), acc.2 ||| (rayFn (lsb (ray &&& us)) occ ||| ray))
      else acc := by
  unfold pinStep
  dsimp only
  cases (ray &&& us).isOcc <;> cases (rayFn (lsb (ray &&& us)) occ &&& chk).isOcc <;> rfl

/-- the squares of one pin line: from the king (exclusive) to the pinner (inclusive). -/
def PinLine (B : Board) (us chk : BB) (k : Nat) (d : Int × Int) (x : Nat) : Prop :=
  ∃ f, PinAlong B us chk k d f ∧ x < 64 ∧ (RayHit B k d x ∨ RayHit B f d x)

theorem pinStep_mem {B : Board} {occ : BB} (ho : OccRep B occ) {d : Int × Int} (hd : GoodDir d)
    {us chk : BB} (hus : ∀ x, us.getLsbD x = true → B x ≠ none) {k : Nat} (hk : k < 64)
    {rayFn : Nat → BB → BB} (hfn : ∀ s, s < 64 → rayFn s occ = setBB (walk d.1 d.2 s occ.getLsbD))
    (acc : BB × BB) (x : Nat) :
    ((pinStep rayFn (if chk.isOcc then rayFn k occ else 0#64) us occ chk acc).1.getLsbD x = true ↔
        acc.1.getLsbD x = true ∨ PinAlong B us chk k d x) ∧
    ((pinStep rayFn (if chk.isOcc then rayFn k occ else 0#64) us occ chk acc).2.getLsbD x = true ↔
        acc.2.getLsbD x = true ∨ PinLine B us chk k d x) := by
  have hpin := pinAlong_iff ho hd (chk := chk) hus hk hfn
  rw [pinStep_guard, pinStep_eq]
  by_cases h : (rayFn k occ &&& us).isOcc = true ∧ (rayFn (lsb (rayFn k occ &&& us)) occ &&& chk).isOcc = true
  · -- the one pinned piece is the own piece found on the ray
    have q64 := (lsb_mem_of_isOcc h.1).1
    have hq : ∀ f, PinAlong B us chk k d f ↔ f = lsb (rayFn k occ &&& us) := fun f => by
      rw [hpin]
      exact ⟨fun h' => h'.2.1, fun e => ⟨h.1, e, e ▸ h.2⟩⟩
    simp only [if_pos h, PinLine, hq, exists_eq_left]
    generalize lsb (rayFn k occ &&& us) = q at q64
    constructor
    · rw [BitVec.getLsbD_or, Bool.or_eq_true, getLsbD_bit, Bool.and_eq_true, decide_eq_true_iff, decide_eq_true_iff]
      exact or_congr_right ⟨fun h' => h'.2, fun e => ⟨e ▸ q64, e⟩⟩
    · rw [BitVec.getLsbD_or, BitVec.getLsbD_or, Bool.or_eq_true, Bool.or_eq_true, hfn _ q64, hfn k hk,
        ray_mem ho hd q64, ray_mem ho hd hk, ← and_or_left, or_comm (a := RayHit B _ d x)]
  · -- no pin: the accumulators stay
    have hno : ∀ f, ¬ PinAlong B us chk k d f := fun f hf =>
      h ⟨((hpin f).mp hf).1, ((hpin f).mp hf).2.1 ▸ ((hpin f).mp hf).2.2⟩
    rw [if_neg h]
    exact ⟨⟨Or.inl, fun h => h.elim id fun h => (hno _ h).elim⟩,
      ⟨Or.inl, fun h => h.elim id fun ⟨f, h, _⟩ => (hno f h).elim⟩⟩

theorem king_bit {p : Position} (hV : ValidPos p = true) : p.c0 &&& p.p5 = bit (lsb (p.p5 &&& p.c0)) := by
  have hk := valid_kings hV false
  simp only [Position.side, Bool.false_eq_true, if_false] at hk
  rw [bit_lsb_of_count_le_one _ (Nat.le_of_eq hk), BitVec.and_comm]

/-- a fill of rays.rs with the direction it walks. -/
structure RayFn (occ : BB) where
  d : Int × Int
  fn : Nat → BB → BB
  good : GoodDir d
  walks : ∀ s, s < 64 → fn s occ = setBB (walk d.1 d.2 s occ.getLsbD)

def fillNE (occ : BB) : RayFn occ := ⟨dNE, rayNE, goodDir_dirs8 dNE (by decide), fun s hs => rayNE_eq_walk s hs occ⟩
def fillNW (occ : BB) : RayFn occ := ⟨dNW, rayNW, goodDir_dirs8 dNW (by decide), fun s hs => rayNW_eq_walk s hs occ⟩
def fillSE (occ : BB) : RayFn occ := ⟨dSE, raySE, goodDir_dirs8 dSE (by decide), fun s hs => raySE_eq_walk s hs occ⟩
def fillSW (occ : BB) : RayFn occ := ⟨dSW, raySW, goodDir_dirs8 dSW (by decide), fun s hs => raySW_eq_walk s hs occ⟩
def fillN (occ : BB) : RayFn occ := ⟨dN, rayN, goodDir_dirs8 dN (by decide), fun s hs => rayN_eq_walk s hs occ⟩
def fillS (occ : BB) : RayFn occ := ⟨dS, rayS, goodDir_dirs8 dS (by decide), fun s hs => rayS_eq_walk s hs occ⟩
def fillE (occ : BB) : RayFn occ := ⟨dE, rayE, goodDir_dirs8 dE (by decide), fun s hs => rayE_eq_walk s hs occ⟩
def fillW (occ : BB) : RayFn occ := ⟨dW, rayW, goodDir_dirs8 dW (by decide), fun s hs => rayW_eq_walk s hs occ⟩

/-- the chain of `pinStep`s that `prelude` runs over some of the rays: a fold. -/
def pinSteps {occ : BB} (us chk : BB) (k : Nat) (L : List (RayFn occ)) (acc : BB × BB) : BB × BB :=
  L.foldl (fun a e => pinStep e.fn (if chk.isOcc then e.fn k occ else 0#64) us occ chk a) acc

/-- the pinned pieces and the pin lines of the rays add up. -/
theorem pinSteps_mem {B : Board} {occ : BB} (ho : OccRep B occ) {us chk : BB}
    (hus : ∀ x, us.getLsbD x = true → B x ≠ none) {k : Nat} (hk : k < 64) (x : Nat) :
    ∀ (L : List (RayFn occ)) (acc : BB × BB),
      ((pinSteps us chk k L acc).1.getLsbD x = true ↔
        acc.1.getLsbD x = true ∨ ∃ d ∈ L.map (·.d), PinAlong B us chk k d x) ∧
      ((pinSteps us chk k L acc).2.getLsbD x = true ↔
        acc.2.getLsbD x = true ∨ ∃ d ∈ L.map (·.d), PinLine B us chk k d x)
  | [], acc => by simp [pinSteps]
  | e :: L, acc => by
    have h1 := pinStep_mem ho e.good (chk := chk) hus hk e.walks acc x
    have h2 := pinSteps_mem ho (chk := chk) hus hk x L
      (pinStep e.fn (if chk.isOcc then e.fn k occ else 0#64) us occ chk acc)
    unfold pinSteps at h2 ⊢
    rw [List.foldl_cons, h2.1, h2.2, h1.1, h1.2]
    simp only [List.map_cons, List.mem_cons, exists_eq_or_imp, or_assoc, and_self]

section pins
variable {p : Position} (hV : ValidPos p = true)
include hV

theorem own_ne_none (x : Nat) (h : p.c0.getLsbD x = true) : relBoard p x ≠ none :=
  own_occupied (valid_consistent hV) (BitVec.lt_of_getLsbD h) h

/-- `pinSteps_mem` from the mover's king, for the mover's pieces, with empty accumulators. -/
theorem pins_mem (chk : BB) (L : List (RayFn p.occ)) (x : Nat) :
    ((pinSteps p.c0 chk (lsb (p.p5 &&& p.c0)) L (0#64, 0#64)).1.getLsbD x = true ↔
      ∃ d ∈ L.map (·.d), PinAlong (relBoard p) p.c0 chk (lsb (p.p5 &&& p.c0)) d x) ∧
    ((pinSteps p.c0 chk (lsb (p.p5 &&& p.c0)) L (0#64, 0#64)).2.getLsbD x = true ↔
      ∃ d ∈ L.map (·.d), PinLine (relBoard p) p.c0 chk (lsb (p.p5 &&& p.c0)) d x) := by
  have h := pinSteps_mem (occRep_rel (valid_consistent hV)) (chk := chk) (own_ne_none hV) (kingFacts hV).k64 x L (0#64, 0#64)
  simp only [BitVec.getLsbD_zero, Bool.false_eq_true, false_or] at h
  exact h

theorem prelude_bpinned (x : Nat) : (prelude p).bpinned.getLsbD x = true ↔
    ∃ d ∈ diag, PinAlong (relBoard p) p.c0 (themBQ p) (lsb (p.p5 &&& p.c0)) d x :=
  (pins_mem hV (themBQ p) [fillNE _, fillNW _, fillSE _, fillSW _] x).1

theorem prelude_hpinned (x : Nat) : (prelude p).hpinned.getLsbD x = true ↔
    ∃ d ∈ [dE, dW], PinAlong (relBoard p) p.c0 (themRQ p) (lsb (p.p5 &&& p.c0)) d x :=
  (pins_mem hV (themRQ p) [fillE _, fillW _] x).1

omit hV in
theorem prelude_pinned_eq (p : Position) : (prelude p).pinned = (prelude p).bpinned ||| (prelude p).rpinned := rfl

theorem prelude_rpinned (x : Nat) : (prelude p).rpinned.getLsbD x = true ↔
    ∃ d ∈ orth, PinAlong (relBoard p) p.c0 (themRQ p) (lsb (p.p5 &&& p.c0)) d x := by
  show ((pinSteps _ (themRQ p) _ [fillN _, fillS _] _).1 ||| (prelude p).hpinned).getLsbD x = true ↔ _
  rw [BitVec.getLsbD_or, Bool.or_eq_true, (pins_mem hV (themRQ p) _ x).1, prelude_hpinned hV, or_comm]
  simp only [orth_eq, List.map_cons, List.map_nil, List.mem_cons, List.not_mem_nil, or_false, exists_eq_or_imp,
    exists_eq_left, or_assoc]
  exact Iff.rfl

theorem prelude_bxrays (x : Nat) : (prelude p).bxrays.getLsbD x = true ↔
    x = lsb (p.p5 &&& p.c0) ∨
      ∃ d ∈ diag, PinLine (relBoard p) p.c0 (themBQ p) (lsb (p.p5 &&& p.c0)) d x := by
  have hbit : p.p5 &&& p.c0 = bit (lsb (p.p5 &&& p.c0)) := (BitVec.and_comm _ _).trans (king_bit hV)
  have hk := (kingFacts hV).k64
  show ((pinSteps _ (themBQ p) _ [fillNE _, fillNW _, fillSE _, fillSW _] _).2 ||| _).getLsbD x = true ↔ _
  rw [BitVec.getLsbD_or, Bool.or_eq_true, (pins_mem hV (themBQ p) _ x).2]
  have e : (p.p5 &&& p.c0).getLsbD x = true ↔ x = lsb (p.p5 &&& p.c0) := by
    constructor
    · intro h; rw [hbit, getLsbD_bit] at h
      simp only [Bool.and_eq_true, decide_eq_true_eq] at h; exact h.2
    · intro h; rw [hbit, getLsbD_bit, ← h]; simp only [Bool.and_eq_true, decide_eq_true_eq]
      exact ⟨h ▸ hk, trivial⟩
  rw [e]
  exact or_comm

theorem prelude_rxrays (x : Nat) : (prelude p).rxrays.getLsbD x = true ↔
    ∃ d ∈ orth, PinLine (relBoard p) p.c0 (themRQ p) (lsb (p.p5 &&& p.c0)) d x := by
  show ((pinSteps _ (themRQ p) _ [fillE _, fillW _] _).2 |||
    (pinSteps _ (themRQ p) _ [fillN _, fillS _] _).2).getLsbD x = true ↔ _
  rw [BitVec.getLsbD_or, Bool.or_eq_true, (pins_mem hV (themRQ p) _ x).2, (pins_mem hV (themRQ p) _ x).2]
  simp only [orth_eq, List.map_cons, List.map_nil, List.mem_cons, List.not_mem_nil, or_false, exists_eq_or_imp,
    exists_eq_left, or_assoc]
  exact Iff.rfl

theorem prelude_pinned (x : Nat) : (prelude p).pinned.getLsbD x = true ↔
    (∃ d ∈ diag, PinAlong (relBoard p) p.c0 (themBQ p) (lsb (p.p5 &&& p.c0)) d x) ∨
    (∃ d ∈ orth, PinAlong (relBoard p) p.c0 (themRQ p) (lsb (p.p5 &&& p.c0)) d x) := by
  rw [prelude_pinned_eq, BitVec.getLsbD_or, Bool.or_eq_true, prelude_bpinned hV, prelude_rpinned hV]

end pins

end Rawr.Att
