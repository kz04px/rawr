import Rawr.Proofs.UciCount
/-! The panic sources of the UCI model, made explicit: a predicate `Safe` on (state, script), defined by
recursion over the run, that names exactly the partial components (`setFen`, `root`, `perft`, `makemove`), and
the proof that the `Safe` scripts are exactly those that do not panic. Everything else (`parseGo`, `doSetoption`, the dispatch, `split`
with depth 0 = saturating subtraction, `movestogo 0`) is total. -/
namespace Rawr

/-- a `go` line is safe: the search / perft calls it makes return. -/
def GoSafe (clock : Nat → Bool) (s : UState) (toks : List (List Char)) : Prop :=
  match parseGo toks with
  | none => True
  | some (.perft d) => ∀ i, i < d → (perft (i + 1) s.pos).isSome = true
  | some (.split d) =>
    ∀ m ∈ legalMoves s.pos, ∃ np, s.pos.makemove m false = some np ∧ (perft (d - 1) np).isSome = true
  | some k => (root (k.limit clock) 1000 s.pos s.hist s.tt).isSome = true

/-- a token list is safe: every `makemove` on a selected move returns. -/
def MovesSafe (ts : List (List Char)) (pos : Position) : Prop := (trace ts pos).isSome = true

/-- a `position` line is safe: the FEN is accepted by `setFen` and the moves are safe. -/
def PositionSafe (ar : Arith) (s : UState) (toks : List (List Char)) : Prop :=
  ∃ p, setFen ar s.pos.frc (positionArgs toks).1 = some p ∧
    MovesSafe (positionArgs toks).2 { p with frc := s.pos.frc }

/-- one line is safe in state `s`. Only `go`, `position` and `moves` lines carry a condition. -/
def StepSafe (ar : Arith) (clock : Nat → Bool) (s : UState) (l : List Char) : Prop :=
  (cmdOf l = str "go" → GoSafe clock s (argsOf l)) ∧
  (cmdOf l = str "position" → PositionSafe ar s (argsOf l)) ∧
  (cmdOf l = str "moves" → MovesSafe (argsOf l) s.pos)

def Safe (ar : Arith) (clock : Nat → Bool) : UState → List (List Char) → Prop
  | _, [] => True
  | s, l :: ls =>
    StepSafe ar clock s l ∧ ∀ s' o, stepSecond ar clock s l = some (s', o, false) → Safe ar clock s' ls

variable {ar : Arith} {clock : Nat → Bool} {s : UState}

theorem moves_safe_iff {ts : List (List Char)} {pos : Position} (hist : List BB) (out : List String) :
    (applyTokens ts pos hist out).isSome = true ↔ MovesSafe ts pos := by
  rw [applyTokens_eq, Option.isSome_map]
  rfl

theorem positionRun_safe_iff {toks : List (List Char)} :
    (positionRun ar s.pos.frc toks).isSome = true ↔ PositionSafe ar s toks := by
  rw [positionRun, PositionSafe]
  cases setFen ar s.pos.frc (positionArgs toks).1 with
  | none => simp
  | some p => simp only [Option.bind_some, Option.some.injEq, exists_eq_left', moves_safe_iff]

theorem position_safe_iff {toks : List (List Char)} :
    (doPosition ar s toks).isSome = true ↔ PositionSafe ar s toks := by
  rw [doPosition_eq, Option.isSome_map]
  exact positionRun_safe_iff

open Sess in
theorem perftLines_isSome (p : Position) (d : Nat) :
    (perftLines p d).isSome = true ↔ ∀ i, i < d → (perft (i + 1) p).isSome = true := by
  unfold perftLines
  rw [foldl_opt_isSome_iff (G := fun i => (perft i p).isSome = true) _ (fun _ => rfl)
    (fun i c => by unfold perftStep; cases perft i p <;> simp)]
  simp only [List.mem_range'_1]
  exact ⟨fun h i hi => h (i + 1) ⟨by omega, by omega⟩, fun h i hi => by
    obtain ⟨j, rfl⟩ : ∃ j, i = j + 1 := ⟨i - 1, by omega⟩
    exact h j (by omega)⟩

open Sess in
theorem splitLines_isSome (p : Position) (d : Nat) :
    (splitLines p d).isSome = true ↔
      ∀ m ∈ legalMoves p, ∃ np, p.makemove m false = some np ∧ (perft (d - 1) np).isSome = true := by
  unfold splitLines
  rw [Option.isSome_map]
  refine foldl_opt_isSome_iff _ (fun _ => rfl) (fun m c => ?_) _ _
  unfold splitStep
  cases p.makemove m false with
  | none => simp
  | some np => cases perft (d - 1) np <;> simp

theorem goRun_safe_iff {toks : List (List Char)} :
    (goRun clock s (parseGo toks)).isSome = true ↔ GoSafe clock s toks := by
  rw [GoSafe]
  cases parseGo toks with
  | none => exact ⟨fun _ => trivial, fun _ => rfl⟩
  | some k =>
    cases k with
    | perft d =>
      simp only [goRun, Option.isSome_map]
      exact perftLines_isSome _ _
    | split d =>
      simp only [goRun, Option.isSome_map]
      exact splitLines_isSome _ _
    | _ => simp only [goRun, goSearch_isSome]

theorem go_safe_iff {toks : List (List Char)} :
    (doGo ar clock s toks).isSome = true ↔ GoSafe clock s toks := by
  rw [doGo_eq]
  exact goRun_safe_iff

theorem step_safe_iff {l : List Char} :
    (stepSecond ar clock s l).isSome = true ↔ StepSafe ar clock s l := by
  constructor
  · intro h
    refine ⟨fun c => ?_, fun c => ?_, fun c => ?_⟩
    · rwa [stepSecond_go ar clock s l c, Option.isSome_map, go_safe_iff] at h
    · rwa [stepSecond_position ar clock s l c, Option.isSome_map, position_safe_iff] at h
    · rwa [stepSecond_moves ar clock s l c, Option.isSome_map, moves_safe_iff] at h
  · rintro ⟨hg, hp, hm⟩
    apply stepSecond_cases ar clock s l (P := fun r => r.isSome = true)
    case go => intro c; rw [Option.isSome_map]; exact goRun_safe_iff.2 (hg c)
    case position => intro c; rw [Option.isSome_map]; exact positionRun_safe_iff.2 (hp c)
    case moves => intro c; rw [Option.isSome_map]; exact (moves_safe_iff _ _).2 (hm c)
    all_goals exact fun _ => rfl

theorem steps_safe_iff {ls : List (List Char)} :
    (steps ar clock s ls).isSome = true ↔ Safe ar clock s ls := by
  induction ls generalizing s with
  | nil => exact ⟨fun _ => trivial, fun _ => rfl⟩
  | cons l ls ih =>
    rw [Safe, ← step_safe_iff, steps]
    cases stepSecond ar clock s l with
    | none => simp
    | some r =>
      obtain ⟨s', o, q⟩ := r
      cases q with
      | true => simp
      | false =>
        have e : (∀ s1 o1, some (s', o, false) = some (s1, o1, false) → Safe ar clock s1 ls) ↔ Safe ar clock s' ls :=
          ⟨fun h => h _ _ rfl, fun h _ _ e => by cases e; exact h⟩
        rw [e, ← ih]
        dsimp only
        cases steps ar clock s' ls <;> simp

def ListenSafe (ar : Arith) (clock : Nat → Bool) (lines : List (List Char)) : Prop :=
  match afterFirst lines with
  | none => True
  | some (s, _, rest) => Safe ar clock s rest

theorem listen_safe_iff {lines : List (List Char)} :
    (listen ar clock lines).isSome = true ↔ ListenSafe ar clock lines := by
  rw [listen_eq, ListenSafe]
  cases afterFirst lines with
  | none => exact ⟨fun _ => trivial, fun _ => rfl⟩
  | some r =>
    simp only [Option.isSome_map]
    exact steps_safe_iff

end Rawr
