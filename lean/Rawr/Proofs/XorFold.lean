import Rawr.Model.Basic
/-! XOR folds over lists of squares: `foldl xor` is linear, invariant under permutation, and can be
re-indexed. Used by the position-key proofs (C04); `ZH` is the namespace of the Zobrist-hash lemmas. -/
namespace Rawr.ZH

def xorSum (f : Nat → BB) (l : List Nat) : BB := l.foldl (fun h i => h ^^^ f i) 0#64

theorem foldl_xor_perm {α} (k : α → BB) {l₁ l₂ : List α} (h : l₁.Perm l₂) (init : BB) :
    l₁.foldl (fun h a => h ^^^ k a) init = l₂.foldl (fun h a => h ^^^ k a) init := by
  apply h.foldl_eq'
  intro x _ y _ z
  simp only [BitVec.xor_assoc, BitVec.xor_comm (k x) (k y)]

theorem foldl_xor_init {α} (k : α → BB) (l : List α) (init : BB) :
    l.foldl (fun h a => h ^^^ k a) init = init ^^^ l.foldl (fun h a => h ^^^ k a) 0#64 := by
  induction l generalizing init with
  | nil => simp
  | cons a l ih =>
    simp only [List.foldl_cons]
    rw [ih (init ^^^ k a), ih (0#64 ^^^ k a), BitVec.zero_xor, BitVec.xor_assoc]

theorem foldl_eq_xorSum (f : Nat → BB) (l : List Nat) (init : BB) :
    l.foldl (fun h i => h ^^^ f i) init = init ^^^ xorSum f l := foldl_xor_init f l init

@[simp] theorem xorSum_nil (f : Nat → BB) : xorSum f [] = 0#64 := rfl

theorem xorSum_cons (f : Nat → BB) (a : Nat) (l : List Nat) : xorSum f (a :: l) = f a ^^^ xorSum f l := by
  unfold xorSum
  rw [List.foldl_cons, foldl_xor_init, BitVec.zero_xor]

theorem xorSum_append (f : Nat → BB) (l₁ l₂ : List Nat) :
    xorSum f (l₁ ++ l₂) = xorSum f l₁ ^^^ xorSum f l₂ := by
  unfold xorSum
  rw [List.foldl_append, foldl_xor_init]

theorem xorSum_perm (f : Nat → BB) {l₁ l₂ : List Nat} (h : l₁.Perm l₂) : xorSum f l₁ = xorSum f l₂ :=
  foldl_xor_perm f h 0#64

theorem xorSum_congr {f g : Nat → BB} {l : List Nat} (h : ∀ i ∈ l, f i = g i) : xorSum f l = xorSum g l := by
  induction l with
  | nil => rfl
  | cons a l ih =>
    rw [xorSum_cons, xorSum_cons, h a (List.mem_cons_self), ih (fun i hi => h i (List.mem_cons_of_mem _ hi))]

theorem xorSum_zero (l : List Nat) : xorSum (fun _ => 0#64) l = 0#64 := by
  induction l with
  | nil => rfl
  | cons a l ih => rw [xorSum_cons, ih, BitVec.xor_zero]

theorem xorSum_xor (f g : Nat → BB) (l : List Nat) :
    xorSum (fun i => f i ^^^ g i) l = xorSum f l ^^^ xorSum g l := by
  induction l with
  | nil => simp
  | cons a l ih =>
    simp only [xorSum_cons, ih]
    ac_rfl

theorem xorSum_map (f : Nat → BB) (g : Nat → Nat) (l : List Nat) :
    xorSum f (l.map g) = xorSum (fun i => f (g i)) l := by
  induction l with
  | nil => rfl
  | cons a l ih => rw [List.map_cons, xorSum_cons, xorSum_cons, ih]

theorem xorSum_filter (f : Nat → BB) (p : Nat → Bool) (l : List Nat) :
    xorSum f (l.filter p) = xorSum (fun i => if p i then f i else 0#64) l := by
  induction l with
  | nil => rfl
  | cons a l ih =>
    rw [List.filter_cons, xorSum_cons]
    cases hp : p a
    · simp only [Bool.false_eq_true, if_false, BitVec.zero_xor, ih]
    · simp only [if_true, xorSum_cons, ih]

theorem xorSum_reindex (f : Nat → BB) (g : Nat → Nat) {l : List Nat} (h : (l.map g).Perm l) :
    xorSum f l = xorSum (fun i => f (g i)) l := by
  rw [← xorSum_map f g l, xorSum_perm f h]

theorem xorSum_single (v : BB) (s : Nat) {l : List Nat} (hn : l.Nodup) (hs : s ∈ l) :
    xorSum (fun i => if i = s then v else 0#64) l = v := by
  induction l with
  | nil => cases hs
  | cons a l ih =>
    rw [xorSum_cons]
    have ⟨ha, hl⟩ := List.nodup_cons.mp hn
    by_cases h : a = s
    · subst h
      have h0 : ∀ i ∈ l, (if i = a then v else 0#64) = 0#64 := fun i hi => if_neg fun (e : i = a) => ha (e ▸ hi)
      rw [if_pos rfl, xorSum_congr h0, xorSum_zero, BitVec.xor_zero]
    · rw [if_neg h, ih hl ((List.mem_cons.mp hs).resolve_left (Ne.symm h)), BitVec.zero_xor]

theorem xorSum_single_range (v : BB) {s n : Nat} (hs : s < n) :
    xorSum (fun i => if i = s then v else 0#64) (List.range n) = v :=
  xorSum_single v s List.nodup_range (List.mem_range.mpr hs)

end Rawr.ZH
