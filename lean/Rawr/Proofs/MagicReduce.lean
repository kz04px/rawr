import Rawr.Model.Magic
import Rawr.Spec.Walk
/-!
# C10, reduction part: only the relevant-occupancy mask matters (all 2^64 occupancies)

`walkBB dirs sq occ = walkBB dirs sq (occ &&& mask sq)`: a blocker on the last square of a ray is
included either way and has nothing behind it. The generic lemma is `walkFrom_mask`; the model's
masks (`bishopMask`, `rookMask`, the Lean model of `calculate_*_masks` in magic.rs) are related to
coordinates by two 64-row kernel-evaluated tables (`bishopMask_covers`, `rookMask_covers`).
-/
namespace Rawr
open Spec

/-- `m` contains every square of the ray from `(f, r)` in direction `(df, dr)` that has a further
on-board square behind it (the "inner" squares of the ray). -/
def innerCovered (df dr : Int) (m : Nat → Bool) : Nat → Int → Int → Bool
  | 0, _, _ => true
  | n + 1, f, r =>
    if onBoard (f + df) (r + dr) then
      (!onBoard (f + df + df) (r + dr + dr) || m (sq (f + df) (r + dr)))
        && innerCovered df dr m n (f + df) (r + dr)
    else true

theorem walkFrom_off (df dr : Int) (occ : Nat → Bool) (n : Nat) (f r : Int)
    (h : onBoard (f + df) (r + dr) = false) : walkFrom df dr occ n f r = [] := by
  cases n with
  | zero => rfl
  | succ n => simp [walkFrom, h]

theorem walkFrom_mask (df dr : Int) (occ m : Nat → Bool) : ∀ (n : Nat) (f r : Int),
    innerCovered df dr m n f r = true →
    walkFrom df dr (fun t => occ t && m t) n f r = walkFrom df dr occ n f r := by
  intro n
  induction n with
  | zero => intros; rfl
  | succ n ih =>
    intro f r h
    simp only [walkFrom]
    split
    · rename_i hb
      simp only [innerCovered, hb, if_true, Bool.and_eq_true, Bool.or_eq_true,
        Bool.not_eq_true'] at h
      obtain ⟨h1, h2⟩ := h
      rcases h1 with h1 | h1
      · -- the square is the last one of the ray: it is included whether occupied or not
        rw [walkFrom_off df dr _ n _ _ h1, walkFrom_off df dr _ n _ _ h1]
        split <;> split <;> rfl
      · simp only [h1, Bool.and_true, ih _ _ h2]
    · rfl

def maskCovers (dirs : List (Int × Int)) (m : BB) (sq : Nat) : Bool :=
  dirs.all fun d => innerCovered d.1 d.2 m.getLsbD 7 (file sq) (rank sq)

theorem walkList_mask (dirs : List (Int × Int)) (sq : Nat) (occ m : Nat → Bool)
    (h : (dirs.all fun d => innerCovered d.1 d.2 m 7 (file sq) (rank sq)) = true) :
    walkList dirs sq (fun t => occ t && m t) = walkList dirs sq occ := by
  induction dirs with
  | nil => rfl
  | cons d ds ih =>
    simp only [List.all_cons, Bool.and_eq_true] at h
    simp only [walkList, List.flatMap_cons] at ih ⊢
    rw [ih h.2]
    congr 1
    exact walkFrom_mask d.1 d.2 occ m 7 _ _ h.1

theorem walkBB_mask (dirs : List (Int × Int)) (sq : Nat) (m : BB) (h : maskCovers dirs m sq = true)
    (occ : BB) : walkBB dirs sq (occ &&& m) = walkBB dirs sq occ := by
  unfold walkBB
  have : (occ &&& m).getLsbD = fun t => occ.getLsbD t && m.getLsbD t := by
    funext t; exact BitVec.getLsbD_and
  rw [this, walkList_mask dirs sq _ _ h]

theorem bishopMask_covers : ∀ sq : Fin 64, maskCovers diag (bishopMask sq) sq = true := by
  decide +kernel

theorem rookMask_covers : ∀ sq : Fin 64, maskCovers orth (rookMask sq) sq = true := by
  decide +kernel

theorem walkBB_bishopMask (sq : Nat) (h : sq < 64) (occ : BB) :
    walkBB diag sq (occ &&& bishopMask sq) = walkBB diag sq occ :=
  walkBB_mask diag sq _ (bishopMask_covers ⟨sq, h⟩) occ

theorem walkBB_rookMask (sq : Nat) (h : sq < 64) (occ : BB) :
    walkBB orth sq (occ &&& rookMask sq) = walkBB orth sq occ :=
  walkBB_mask orth sq _ (rookMask_covers ⟨sq, h⟩) occ

/-! ### the masks are exactly the inner squares (not needed for C10, recorded for completeness) -/

/-- the inner squares of the rays from `s`: reached by a walk on the empty board, without the last
square of each ray. -/
def innerSquares (dirs : List (Int × Int)) (s : Nat) : List Nat :=
  dirs.flatMap fun d => (walk d.1 d.2 s (fun _ => false)).dropLast

theorem bishopMask_exact : ∀ s : Fin 64, bishopMask s = setBB (innerSquares diag s) := by
  decide +kernel

theorem rookMask_exact : ∀ s : Fin 64, rookMask s = setBB (innerSquares orth s) := by
  decide +kernel

end Rawr
