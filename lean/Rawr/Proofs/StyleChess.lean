import Rawr.Proofs.BridgeM
import Rawr.Proofs.StyleWF
/-!
# Annotated games of legal chess games are well-formed

`WFGame` (the hypothesis of the C20 theorems) is derived from the rules of chess (`Rawr.Spec`): for every legal
move sequence from the standard starting position of fewer than 1024 half-moves, every annotated game that agrees
with it on what the facts in `WFGame` talk about (side to move, type of the moved piece, target square; final piece
counts) is well-formed, for both sides.

Along the game the position stays in `Spec.Valid` (`SV.valid_apply`) and `Spec.LegalMaterial`
(`Br.legalMaterial_apply`); the material bound is read off the latter, the pawn-rank fact off the former, and the
chain of early pawn arrivals off the census (`Term.wsum`) of the pawns of one side on one rank.
-/
namespace Rawr.Style.Chess
open Rawr.Spec Rawr.SV Rawr.Term

/-- python-chess piece type numbers. -/
def pyKind : Kind → Nat
  | .pawn => 1 | .knight => 2 | .bishop => 3 | .rook => 4 | .queen => 5 | .king => 6

/-- the annotation `y` states the side to move, the moved piece's type and (for non-castling moves) the
target square of move `m` in position `p` correctly.  (For castling python-chess reports the king's
target; `WFGame` does not look at it.) -/
def PlyAgrees (p : APos) (m : Move) (y : Ply) : Prop :=
  y.turn = p.whiteToMove ∧
  match m with
  | .normal s t _ =>
    y.piece = (match p.board s with | some pc => pyKind pc.kind | none => 0) ∧ y.to.val = t
  | .castle _ => y.piece = KING

/-! `PlyAgrees`, `Agrees` and `LegalSeq` are decidable so that a concrete game can be shown to be a chess game by
evaluation (the witnesses in `Props/C20.lean`); no proof below uses the instances. -/

instance (p : APos) (m : Move) (y : Ply) : Decidable (PlyAgrees p m y) := by
  unfold PlyAgrees
  cases m <;> infer_instance

def Agrees : APos → List Move → List Ply → Prop
  | _, [], [] => True
  | p, m :: ms, y :: ys => PlyAgrees p m y ∧ Agrees (apply p m) ms ys
  | _, _, _ => False

def LegalSeq : APos → List Move → Prop
  | _, [] => True
  | p, m :: ms => m ∈ legalMoves p ∧ LegalSeq (apply p m) ms

instance decAgrees : ∀ (p : APos) (ms : List Move) (ys : List Ply), Decidable (Agrees p ms ys)
  | _, [], [] => isTrue trivial
  | _, [], _ :: _ => isFalse (by simp [Agrees])
  | _, _ :: _, [] => isFalse (by simp [Agrees])
  | p, m :: ms, y :: ys =>
    have := decAgrees (apply p m) ms ys
    (inferInstance : Decidable (PlyAgrees p m y ∧ Agrees (apply p m) ms ys))

instance decLegalSeq : ∀ (p : APos) (ms : List Move), Decidable (LegalSeq p ms)
  | _, [] => isTrue trivial
  | p, m :: ms =>
    have := decLegalSeq (apply p m) ms
    (inferInstance : Decidable (m ∈ legalMoves p ∧ LegalSeq (apply p m) ms))

def play : APos → List Move → APos
  | p, [] => p
  | p, m :: ms => play (apply p m) ms

def relRankSq (side : Bool) (x : Nat) : Nat := if side then x / 8 else 7 - x / 8

/-- indicator of "a pawn of `side` on relative rank index `r`". -/
def nW (side : Bool) (r : Nat) : Piece → Nat → Nat :=
  fun pc x => if pc = ⟨side, .pawn⟩ ∧ relRankSq side x = r then 1 else 0

theorem relRank_eq (side : Bool) (to : Square) : Stats.relRank side to = relRankSq side to.val := by
  unfold Stats.relRank relRankSq squareRank WHITE
  cases side <;> simp

theorem earlyPushesFrom_late (side : Color) (r : Nat) : ∀ (ys : List Ply) (i : Nat), 40 ≤ i →
    earlyPushesFrom side r i ys = 0
  | [], _, _ => rfl
  | y :: ys, i, h => by
    have : isEarlyPush side r i y = false := by
      unfold isEarlyPush
      have : ¬ i < 40 := by omega
      simp [this]
    simp only [earlyPushesFrom, this, b2n, Bool.false_eq_true, if_false, Nat.zero_add]
    exact earlyPushesFrom_late side r ys (i + 1) (by omega)

theorem not_push {side : Color} {y : Ply} (h : ¬ (y.turn = side ∧ y.piece = PAWN)) :
    pawnRankOk side y = true ∧ ∀ r i, b2n (isEarlyPush side r i y) = 0 := by
  have hb : (y.turn == side && y.piece == PAWN) = false := by simpa using h
  refine ⟨by simp [pawnRankOk, hb], fun r i => ?_⟩
  have : isEarlyPush side r i y = false := by simp [isEarlyPush, Bool.and_assoc, hb]
  rw [this]; rfl

section normal
variable {a : APos} {s t : Nat} {pr : Option Kind} {pc : Piece}

theorem newPiece_pawn (nl : NormalLegal a s t pr pc) {c : Bool} (h : newPiece pr pc = ⟨c, .pawn⟩) :
    pc = ⟨c, .pawn⟩ := by
  cases pr with
  | none => exact h
  | some k =>
    obtain ⟨_, hm, _⟩ := nl.prK k rfl
    cases congrArg Piece.kind h
    simp [promoKinds] at hm

/-- a pawn stands on its second rank or beyond and moves one rank up, or two from the second. -/
theorem pawn_ranks (v : ValidFacts a) (nl : NormalLegal a s t pr pc) (hk : pc.kind = .pawn) :
    1 ≤ relRankSq pc.white s ∧ (relRankSq pc.white t = relRankSq pc.white s + 1 ∨
      (relRankSq pc.white t = relRankSq pc.white s + 2 ∧ relRankSq pc.white s = 1)) := by
  have hp := v.pawns s nl.hs pc nl.hpc hk
  have hr := nl.pawnRank hk
  have hs := nl.hs
  have ht := nl.ht
  unfold rank at hp hr
  unfold relRankSq
  generalize pc.white = w at hr ⊢
  cases w <;> simp only [pdir, pstart, Bool.false_eq_true, ↓reduceIte] at hr ⊢ <;> omega

theorem pyKind_pawn {k : Kind} : pyKind k = PAWN ↔ k = .pawn := by
  cases k <;> decide

theorem nW_newPiece_le (nl : NormalLegal a s t pr pc) (side : Bool) (r : Nat) :
    nW side r (newPiece pr pc) t ≤ nW side r pc t := by
  unfold nW
  split
  · rename_i h
    rw [if_pos ⟨newPiece_pawn nl h.1, h.2⟩]
    exact Nat.le_refl _
  · exact Nat.zero_le _

/-- a pawn that arrives on rank `r + 1 ≥ 4` has left rank `r`. -/
theorem nW_advance (v : ValidFacts a) (nl : NormalLegal a s t pr pc) (side : Bool) {r : Nat} (h3 : 3 ≤ r) :
    nW side (r + 1) pc t ≤ nW side r pc s := by
  unfold nW
  split
  · rename_i h
    obtain ⟨_, hgeo⟩ := pawn_ranks v nl (by rw [h.1])
    rw [show pc.white = side by rw [h.1]] at hgeo
    rw [if_pos ⟨h.1, by omega⟩]
    exact Nat.le_refl _
  · exact Nat.zero_le _

end normal

/-- what an annotation that names the moved man `pc` and the target `t` counts as an early arrival on rank `x`
is the weight of `pc` on `t`. -/
theorem isEarlyPush_eq {y : Ply} {pc : Piece} {t : Nat} (hturn : y.turn = pc.white)
    (hpk : y.piece = pyKind pc.kind) (hto : y.to.val = t) (side : Color) (x : Nat) {i : Nat} (hi : i < 40) :
    b2n (isEarlyPush side x i y) = nW side x pc t := by
  obtain ⟨w, k⟩ := pc
  unfold isEarlyPush b2n nW
  simp only [hi, hturn, hpk, relRank_eq, hto, decide_true, Bool.true_and, Bool.and_eq_true, beq_iff_eq, pyKind_pawn,
    Piece.mk.injEq, and_assoc]
  by_cases hw : w = side
  · rw [hw]
  · simp only [hw, false_and]

theorem step_chain {p : APos} {m : Move} {y : Ply} (hv : ValidFacts p) (hm : m ∈ legalMoves p)
    (hy : PlyAgrees p m y) (side : Color) (i : Nat) (hi : i < 40) :
    pawnRankOk side y = true ∧
    ∀ r, 3 ≤ r → r ≤ 6 →
      b2n (isEarlyPush side (r + 1) i y) + wsum (nW side r) (apply p m).board ≤
        b2n (isEarlyPush side r i y) + wsum (nW side r) p.board := by
  obtain ⟨hturn, hrest⟩ := hy
  rcases legal_cases hm with ⟨s, t, pr, pc, rfl, nl, _⟩ | ⟨ks, rfl, hc⟩
  · simp only [nl.hpc] at hrest
    obtain ⟨hpk, hto⟩ := hrest
    rw [← nl.hw] at hturn
    refine ⟨?_, fun r h3 _ => ?_⟩
    · by_cases hsp : y.turn = side ∧ y.piece = PAWN
      · have hk : pc.kind = .pawn := pyKind_pawn.mp (hpk ▸ hsp.2)
        obtain ⟨h1, hgeo⟩ := pawn_ranks hv nl hk
        unfold pawnRankOk
        rw [relRank_eq, hto, hturn]
        simp only [Bool.or_eq_true, decide_eq_true_eq]
        exact Or.inr (by omega)
      · exact (not_push hsp).1
    · -- the census loses the weight of the moved man at the source and gains that of the arriving man at the target
      have hcen := wsum_newBoard (nW side r) hv nl
      rw [← apply_board nl.hpc] at hcen
      have hpro := nW_newPiece_le nl side r
      have hadv := nW_advance hv nl side h3
      rw [isEarlyPush_eq hturn hpk hto side (r + 1) hi, isEarlyPush_eq hturn hpk hto side r hi]
      omega
  · have hnot : ¬ (y.turn = side ∧ y.piece = PAWN) := fun h => by
      have : y.piece = KING := hrest
      rw [this] at h; exact absurd h.2 (by decide)
    refine ⟨(not_push hnot).1, fun r _ _ => ?_⟩
    obtain ⟨rf, k, cf⟩ := castle_facts hc
    have := wsum_castle (nW side r) hv cf
    simp only [nW, Piece.mk.injEq, reduceCtorEq, and_false, false_and, if_false, Nat.add_zero] at this
    rw [(not_push hnot).2, (not_push hnot).2, this]
    exact Nat.le_refl _

/-- `len(board.pieces(kind, colour))` for the five kinds that count as material. -/
def countsOf (b : Board) (c : Bool) : PieceCounts :=
  { pawns := countPieces b (fun pc => pc == ⟨c, .pawn⟩),
    knights := countPieces b (fun pc => pc == ⟨c, .knight⟩),
    bishops := countPieces b (fun pc => pc == ⟨c, .bishop⟩),
    rooks := countPieces b (fun pc => pc == ⟨c, .rook⟩),
    queens := countPieces b (fun pc => pc == ⟨c, .queen⟩) }

theorem material_le {b : Board} {c : Bool} (h : Br.MatOK b c) : (countsOf b c).material ≤ 103 := by
  obtain ⟨_, h2, h3⟩ := h
  unfold Br.excess Br.cnt at h3
  unfold Br.cnt at h2
  unfold PieceCounts.material countsOf
  dsimp only
  omega

theorem legal_facts (side : Color) : ∀ (ms : List Move) (p : APos) (ys : List Ply) (i : Nat),
    Valid p = true → LegalMaterial p = true → LegalSeq p ms → Agrees p ms ys →
    ys.length = ms.length ∧ (∀ y ∈ ys, pawnRankOk side y = true) ∧
    (∀ r, 3 ≤ r → r ≤ 6 →
      earlyPushesFrom side (r + 1) i ys ≤ earlyPushesFrom side r i ys + wsum (nW side r) p.board) ∧
    LegalMaterial (play p ms) = true
  | [], p, [], i, _, hM, _, _ =>
    ⟨rfl, fun y hy => by simp at hy, fun r _ _ => by simp [earlyPushesFrom], hM⟩
  | [], _, _ :: _, _, _, _, _, ha => by simp [Agrees] at ha
  | _ :: _, _, [], _, _, _, _, ha => by simp [Agrees] at ha
  | m :: ms, p, y :: ys, i, hV, hM, hl, ha => by
    obtain ⟨hm, hl'⟩ := hl
    obtain ⟨hy, ha'⟩ := ha
    have hv := (valid_iff p).mp hV
    obtain ⟨ih1, ih2, ih3, ih4⟩ := legal_facts side ms (apply p m) ys (i + 1) (valid_apply hV hm)
      (Br.legalMaterial_apply hV hM hm) hl' ha'
    refine ⟨by simp [ih1], ?_, ?_, ih4⟩
    · intro z hz
      rcases List.mem_cons.mp hz with rfl | hz
      · -- the pawn-rank fact does not depend on the ply number
        exact (step_chain hv hm hy side 0 (by omega)).1
      · exact ih2 z hz
    · intro r h3 h6
      by_cases hi : i < 40
      · have hs := (step_chain hv hm hy side i hi).2 r h3 h6
        have := ih3 r h3 h6
        simp only [earlyPushesFrom]
        omega
      · rw [earlyPushesFrom_late side (r + 1) (y :: ys) i (by omega)]
        exact Nat.zero_le _

def backRank : Nat → Kind
  | 0 => .rook | 1 => .knight | 2 => .bishop | 3 => .queen | 4 => .king | 5 => .bishop | 6 => .knight
  | _ => .rook

def stdBoard : Board := fun s =>
  if s < 8 then some ⟨true, backRank s⟩
  else if s < 16 then some ⟨true, .pawn⟩
  else if 48 ≤ s ∧ s < 56 then some ⟨false, .pawn⟩
  else if 56 ≤ s ∧ s < 64 then some ⟨false, backRank (s - 56)⟩
  else none

/-- the standard starting position (castling with the a- and h-rooks). -/
def stdStart : APos :=
  { board := stdBoard, whiteToMove := true, wK := some 7, wQ := some 0, bK := some 7, bQ := some 0,
    ep := none, half := 0, full := 1 }

theorem std_valid : Valid stdStart = true ∧ LegalMaterial stdStart = true := by decide +kernel

theorem std_nW (side : Bool) (r : Nat) (h3 : 3 ≤ r) (h6 : r ≤ 6) : wsum (nW side r) stdStart.board = 0 := by
  have : r = 3 ∨ r = 4 ∨ r = 5 ∨ r = 6 := by omega
  rcases this with rfl | rfl | rfl | rfl <;> cases side <;> decide

theorem wfGame_of_legal (ms : List Move) (g : Game) (hl : LegalSeq stdStart ms) (hlen : ms.length < 1024)
    (ha : Agrees stdStart ms g.plies)
    (hfw : g.finalWhite = countsOf (play stdStart ms).board true)
    (hfb : g.finalBlack = countsOf (play stdStart ms).board false) (side : Color) : WFGame side g := by
  obtain ⟨h1, h2, h3, h4⟩ := legal_facts side ms stdStart g.plies 0 std_valid.1 std_valid.2 hl ha
  refine ⟨by omega, h2, ?_, fun r hr3 hr6 => ?_⟩
  · rw [hfw, hfb]
    obtain ⟨m1, m2⟩ := (Br.legalMaterial_iff _).mp h4
    have := material_le m1
    have := material_le m2
    omega
  · have := h3 r hr3 hr6
    rw [std_nW side r hr3 hr6] at this
    simpa [earlyPushes] using this

end Rawr.Style.Chess
