import Rawr.Proofs.HashFacts
import Rawr.Proofs.HashLemmas
/-! C04(a): the hypotheses `KeyHyps` (on the position) and `MoveShape` (on the move), the change `metaDelta` of the
en-passant / castling-right part of the key, and the facts `RFacts` under which the rights update of `makemove`
agrees with the toggles of `predict_hash`. -/
namespace Rawr.ZH
open Rawr Rawr.Position

theorem onehot_disj (o : Option Nat) (j k : Nat) (h : j ≠ k) : ((o == some j) && (o == some k)) = false := by
  cases o with
  | none => rfl
  | some i =>
    rw [Option.some_beq_some, Option.some_beq_some]
    by_cases h1 : i = j
    · rw [← h1] at h
      rw [beq_eq_false_iff_ne.mpr h, Bool.and_false]
    · rw [beq_eq_false_iff_ne.mpr h1, Bool.false_and]

/-- what C04(a) needs of the position: board consistency (V.1), at most one king of the side to move,
and every castling right backed by a rook of the right colour on its square (as `validate` demands). -/
def KeyHyps (p : Position) : Bool :=
  Consistent p && decide (count (p.c0 &&& p.p5) ≤ 1) &&
  (!p.usK || (p.c0 &&& p.p3).isSet (fromCoords p.cf0 0)) &&
  (!p.usQ || (p.c0 &&& p.p3).isSet (fromCoords p.cf1 0)) &&
  (!p.themK || (p.c1 &&& p.p3).isSet (fromCoords p.cf2 7)) &&
  (!p.themQ || (p.c1 &&& p.p3).isSet (fromCoords p.cf3 7))

def emptyOr (p : Position) (x : Nat) (m : Mv) : Bool :=
  x == m.src || x == m.dst || !(p.c0 ||| p.c1).isSet x

/-- the shape every generated move has: an own piece on `src`; `dst` is empty, holds an enemy piece,
or holds the own castling rook (castling is "king takes own rook", towards the right side, with the
king's and rook's target squares free); a pawn leaves its file to an empty square only onto the
en-passant square, with the enemy pawn behind it; promotion pieces only for pawns. -/
def MoveShape (p : Position) (m : Mv) : Bool :=
  decide (m.src < 64) && decide (m.dst < 64) && p.c0.isSet m.src &&
  match p.pieceOn m.src with
  | none => false
  | some i =>
    if p.c0.isSet m.dst then
      i == 5 && m.promo == 6 &&
      (if p.usK && m.dst == fromCoords p.cf0 0 then decide (m.src < m.dst) && emptyOr p 6 m && emptyOr p 5 m
       else p.usQ && m.dst == fromCoords p.cf1 0 && decide (m.dst < m.src) && emptyOr p 2 m && emptyOr p 3 m)
    else
      (!(i == 0 && fileOf m.src != fileOf m.dst && (p.pieceOn m.dst).isNone) ||
        (p.ep == some m.dst && decide (8 ≤ m.dst) && (p.c1 &&& p.p0).isSet (m.dst - 8) && m.promo == 6)) &&
      (m.promo == 6 || (i == 0 && decide (m.promo < 6)))

/-- the key change caused by en-passant state and castling rights (the same expression for every move). -/
def metaDelta (K : ZKeys) (p : Position) (m : Mv) (i : Nat) : BB :=
  epKey K p.ep ^^^ cnd (i == 0 && m.dst - m.src == 16) (K.ep (fileOf m.dst)) ^^^
  cnd (p.usK && m.src == fromCoords p.cf0 0) (K.castling (2 * col p.black)) ^^^
  cnd (p.usQ && m.src == fromCoords p.cf1 0) (K.castling (2 * col p.black + 1)) ^^^
  cnd (p.usK && i == 5) (K.castling (2 * col p.black)) ^^^
  cnd (p.usQ && i == 5) (K.castling (2 * col p.black + 1)) ^^^
  cnd (p.themK && m.dst == fromCoords p.cf2 7) (K.castling (2 * col (!p.black))) ^^^
  cnd (p.themQ && m.dst == fromCoords p.cf3 7) (K.castling (2 * col (!p.black) + 1))

/-- facts that make the rights update of `makemove` agree with the toggles of `predict_hash`. -/
structure RFacts (p : Position) (m : Mv) (i : Nat) : Prop where
  a1 : (m.src == lsb (p.c0 &&& p.p5)) = (i == 5)
  a2K : p.usK = true → (i == 5 && m.src == fromCoords p.cf0 0) = false
  a3K : p.usK = true → (m.dst == fromCoords p.cf0 0) = true → (i == 5) = true
  a2Q : p.usQ = true → (i == 5 && m.src == fromCoords p.cf1 0) = false
  a3Q : p.usQ = true → (m.dst == fromCoords p.cf1 0) = true → (i == 5) = true
  b1 : (m.src == lsb (p.c1 &&& p.p5)) = false
  b2K : p.themK = true → (m.src == fromCoords p.cf2 7) = false
  b2Q : p.themQ = true → (m.src == fromCoords p.cf3 7) = false

theorem rightU (c : BB) (r k5 a b : Bool) (h1 : r = true → (k5 && a) = false)
    (h2 : r = true → b = true → k5 = true) :
    cnd (r && (!k5 && !a && !b)) c = cnd r c ^^^ cnd (r && a) c ^^^ cnd (r && k5) c := by
  cases r <;> cases k5 <;> cases a <;> cases b <;> simp_all [cnd]

theorem rightT (c : BB) (r a b : Bool) (h : r = true → a = false) :
    cnd (r && (!a && !b)) c = cnd r c ^^^ cnd (r && b) c := by
  cases r <;> cases a <;> cases b <;> simp_all [cnd]

theorem fileOf_sub8 {d : Nat} (h : 8 ≤ d) : fileOf (d - 8) = fileOf d := by
  unfold fileOf
  omega

theorem keyHyps_unfold {p : Position} (kh : KeyHyps p = true) :
    Consistent p = true ∧ count (p.c0 &&& p.p5) ≤ 1 ∧
    (p.usK = true → p.c0.getLsbD (fromCoords p.cf0 0) = true ∧ p.p3.getLsbD (fromCoords p.cf0 0) = true) ∧
    (p.usQ = true → p.c0.getLsbD (fromCoords p.cf1 0) = true ∧ p.p3.getLsbD (fromCoords p.cf1 0) = true) ∧
    (p.themK = true → p.c1.getLsbD (fromCoords p.cf2 7) = true ∧ p.p3.getLsbD (fromCoords p.cf2 7) = true) ∧
    (p.themQ = true → p.c1.getLsbD (fromCoords p.cf3 7) = true ∧ p.p3.getLsbD (fromCoords p.cf3 7) = true) := by
  simp only [KeyHyps, Bool.and_eq_true, Bool.or_eq_true, Bool.not_eq_true', decide_eq_true_eq, BB.isSet,
    BitVec.getLsbD_and] at kh
  obtain ⟨⟨⟨⟨⟨hC, hk1⟩, bK⟩, bQ⟩, tK⟩, tQ⟩ := kh
  have imp : ∀ {r : Bool} {P : Prop}, r = false ∨ P → r = true → P :=
    fun h hr => h.resolve_left (by rw [hr]; exact Bool.noConfusion)
  exact ⟨hC, hk1, imp bK, imp bQ, imp tK, imp tQ⟩

theorem lsb_ne_of_unset {b : BB} {x : Nat} (hx : x < 64) (h : b.getLsbD x = false) : (x == lsb b) = false := by
  rcases lsb_cases b with e | e
  · rw [e]; simp; omega
  · cases hh : (x == lsb b)
    · rfl
    · rw [← eq_of_beq hh, h] at e
      cases e

theorem rfacts_of {p : Position} {m : Mv} {i : Nat} (kh : KeyHyps p = true) (hs : m.src < 64)
    (h0s : p.c0.getLsbD m.src = true) (hpo : p.pieceOn m.src = some i)
    (h3K : p.usK = true → (m.dst == fromCoords p.cf0 0) = true → (i == 5) = true)
    (h3Q : p.usQ = true → (m.dst == fromCoords p.cf1 0) = true → (i == 5) = true) : RFacts p m i := by
  obtain ⟨hC, hk1, bK, bQ, tK, tQ⟩ := keyHyps_unfold kh
  have h1s := c1_of_c0 hC h0s
  have hp5 : (p.c0 &&& p.p5).getLsbD m.src = (i == 5) := by
    rw [BitVec.getLsbD_and, h0s, Bool.true_and, show p.p5 = p.piece 5 from rfl, piece_bit hC, hpo, Option.some_beq_some]
  -- the mover's piece is not a king standing on a rook square, nor does it stand on an opponent's square
  have notRook : ∀ x, p.p3.getLsbD x = true → (i == 5 && m.src == x) = false := by
    intro x hx
    cases hh : (m.src == x)
    · exact Bool.and_false _
    · have := pieceOn_of_bit hC (k := 3) hx
      rw [← eq_of_beq hh, hpo] at this
      cases this
      rfl
  have notThem : ∀ x, p.c1.getLsbD x = true → (m.src == x) = false := by
    intro x hx
    cases hh : (m.src == x)
    · rfl
    · rw [← eq_of_beq hh, h1s] at hx
      cases hx
  refine ⟨?_, fun hu => notRook _ (bK hu).2, h3K, fun hu => notRook _ (bQ hu).2, h3Q, ?_,
    fun hu => notThem _ (tK hu).1, fun hu => notThem _ (tQ hu).1⟩
  · cases h5 : (i == 5)
    · exact lsb_ne_of_unset hs (hp5.trans h5)
    · rw [lsb_unique hk1 (hp5.trans h5)]
      exact beq_self_eq_true _
  · apply lsb_ne_of_unset hs
    rw [BitVec.getLsbD_and, h1s, Bool.false_and]

end Rawr.ZH
