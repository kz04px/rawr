import Rawr.Proofs.AttackGeom
/-!
# Mirror symmetry of the attack relation of `Spec/Chess.lean`

Reversing the ranks and swapping the colours (`mirrorB`) leaves `pieceAttacks`, `attackedBy` and `inCheck` as they are;
the symmetry of the rules built on them is in `SpecSanityMirrorA` to `D`.
-/
namespace Rawr.Att
open Spec

theorem sq_mirror {f r : Int} (h : onBoard f r = true) : sq f (7 - r) = sq f r ^^^ 56 := by
  have h' : onBoard f (7 - r) = true := by rw [onBoard_iff] at *; omega
  have hl := onBoard_lt h
  apply eq_of_file_rank
  · rw [file_sq h', file_x56 _, file_sq h]
  · rw [rank_sq h', rank_x56 hl, rank_sq h]

def flipPiece (pc : Piece) : Piece := ⟨!pc.white, pc.kind⟩

def mirrorB (B : Board) : Board := fun a => (B (a ^^^ 56)).map flipPiece

theorem mirrorB_x56 (B : Board) (s : Nat) : mirrorB B (s ^^^ 56) = (B s).map flipPiece := by
  unfold mirrorB; rw [x56_x56]

theorem mirrorB_mirrorB (B : Board) : mirrorB (mirrorB B) = B := by
  funext a
  unfold mirrorB
  rw [x56_x56]
  cases B a with
  | none => rfl
  | some pc => cases pc; simp [flipPiece]

theorem mirrorB_setSq (b : Board) (s : Nat) (v : Option Piece) :
    mirrorB (setSq b s v) = setSq (mirrorB b) (s ^^^ 56) (v.map flipPiece) := by
  funext x
  unfold mirrorB setSq
  by_cases h : x = s ^^^ 56
  · rw [if_pos h, if_pos ((x56_eq_iff x s).mpr h)]
  · rw [if_neg h, if_neg (fun e => h ((x56_eq_iff x s).mp e))]

theorem at_mirror {k s : Nat} {d : Int × Int} {n : Nat} (hk : k < 64) (hs : s < 64) (h : At k d n s) :
    At (k ^^^ 56) (d.1, -d.2) n (s ^^^ 56) := by
  unfold At at *
  rw [file_x56 _, file_x56 _, rank_x56 hk, rank_x56 hs, h.1, h.2, Int.neg_mul]
  exact ⟨rfl, by omega⟩

theorem hit_mirror {Y : Board} {k s : Nat} {d : Int × Int} {n : Nat} (hd : GoodDir d) (hk : k < 64)
    (hs : s < 64) (h : Hit Y k d n s) : Hit (mirrorB Y) (k ^^^ 56) (d.1, -d.2) n (s ^^^ 56) := by
  refine ⟨h.1, at_mirror hk hs h.2.1, fun i h1 h2 => ?_⟩
  obtain ⟨hat, hlt⟩ := at_le hd hk hs h.2.1 (Nat.le_of_lt h2)
  rw [at_pt (at_mirror hk hlt hat), mirrorB_x56, h.2.2 i h1 h2]
  rfl

theorem diag_sym : ∀ d ∈ diag, (d.1, -d.2) ∈ diag := by decide
theorem orth_sym : ∀ d ∈ orth, (d.1, -d.2) ∈ orth := by decide

theorem x56_ne {s t : Nat} (h : s ≠ t) : s ^^^ 56 ≠ t ^^^ 56 :=
  fun e => h (x56_inj e)

theorem lineAtt_mirror {dirs : List (Int × Int)} (hd : ∀ d ∈ dirs, GoodDir d)
    (hsym : ∀ d ∈ dirs, (d.1, -d.2) ∈ dirs) (B : Board) {s t : Nat} (hs : s < 64) (ht : t < 64) :
    (Aligned dirs (s ^^^ 56) (t ^^^ 56) ∧ clearBetween (mirrorB B) (s ^^^ 56) (t ^^^ 56) = true) ↔
      (Aligned dirs s t ∧ clearBetween B s t = true) := by
  rw [aligned_clear_hit _ dirs hd, aligned_clear_hit _ dirs hd]
  constructor
  · rintro ⟨d, hdm, n, hh⟩
    have := hit_mirror (hd d hdm) (x56_lt hs) (x56_lt ht) hh
    rw [mirrorB_mirrorB, x56_x56, x56_x56] at this
    exact ⟨_, hsym d hdm, n, this⟩
  · rintro ⟨d, hdm, n, hh⟩
    exact ⟨_, hsym d hdm, n, hit_mirror (hd d hdm) hs ht hh⟩

theorem diagAtt_mirror (B : Board) (s t : Nat) (hs : s < 64) (ht : t < 64) :
    diagAtt (mirrorB B) (s ^^^ 56) (t ^^^ 56) = diagAtt B s t := by
  rw [Bool.eq_iff_iff, diagAtt_iff, diagAtt_iff]
  exact lineAtt_mirror goodDir_diag diag_sym B hs ht

theorem orthAtt_mirror (B : Board) (s t : Nat) (hs : s < 64) (ht : t < 64) :
    orthAtt (mirrorB B) (s ^^^ 56) (t ^^^ 56) = orthAtt B s t := by
  rw [Bool.eq_iff_iff, orthAtt_iff, orthAtt_iff]
  exact lineAtt_mirror goodDir_orth orth_sym B hs ht

theorem pieceAttacks_mirror (B : Board) (s t : Nat) (hs : s < 64) (ht : t < 64) (pc : Piece) :
    pieceAttacks (mirrorB B) (s ^^^ 56) (flipPiece pc) (t ^^^ 56) = pieceAttacks B s pc t := by
  rw [pieceAttacks_split, pieceAttacks_split]
  obtain ⟨w, kd⟩ := pc
  have fs := file_x56 s
  have ft := file_x56 t
  have rs := rank_x56 hs
  have rt := rank_x56 ht
  have e2 : (rank (t ^^^ 56) - rank (s ^^^ 56)).natAbs = (rank t - rank s).natAbs := by omega
  cases kd <;> simp only [flipPiece]
  · simp only [pawnStep, fs, ft]
    congr 1
    rw [Bool.eq_iff_iff]
    cases w <;> simp <;> omega
  · simp only [knightStep, fs, ft, e2]
  · exact diagAtt_mirror B s t hs ht
  · exact orthAtt_mirror B s t hs ht
  · rw [diagAtt_mirror B s t hs ht, orthAtt_mirror B s t hs ht]
  · simp only [kingStep, fs, ft, e2]

theorem attackedBy_mirror (B : Board) (w : Bool) (t : Nat) (ht : t < 64) :
    attackedBy (mirrorB B) (!w) (t ^^^ 56) = attackedBy B w t := by
  unfold attackedBy squares
  rw [← x56_perm.any_eq, List.any_map]
  apply any_range_congr
  intro s hs
  simp only [Function.comp, mirrorB_x56]
  cases hB : B s with
  | none => rfl
  | some pc =>
    simp only [Option.map_some]
    rw [pieceAttacks_mirror B s t hs ht pc]
    cases pc with
    | mk w' kd => cases w' <;> cases w <;> rfl

theorem flipPiece_eq_iff (pc : Piece) (w : Bool) (kd : Kind) :
    flipPiece pc = ⟨!w, kd⟩ ↔ pc = ⟨w, kd⟩ := by
  obtain ⟨w', kd'⟩ := pc
  cases w' <;> cases w <;> simp [flipPiece]

theorem mirror_holds_iff (B : Board) (s : Nat) (w : Bool) (kd : Kind) :
    mirrorB B (s ^^^ 56) = some ⟨!w, kd⟩ ↔ B s = some ⟨w, kd⟩ := by
  rw [mirrorB_x56]
  cases B s with
  | none => simp
  | some pc => simp only [Option.map_some, Option.some.injEq]; exact flipPiece_eq_iff pc w kd

theorem mirror_holds (B : Board) (s : Nat) (w : Bool) (kd : Kind) :
    (mirrorB B (s ^^^ 56) == some ⟨!w, kd⟩) = (B s == some ⟨w, kd⟩) := by
  rw [Bool.eq_iff_iff, beq_iff_eq, beq_iff_eq]
  exact mirror_holds_iff B s w kd

theorem kingSquares_length_mirror (B : Board) (w : Bool) :
    (kingSquares (mirrorB B) (!w)).length = (kingSquares B w).length := by
  unfold kingSquares squares
  rw [← List.countP_eq_length_filter, ← List.countP_eq_length_filter, ← x56_perm.countP_eq,
    List.countP_map]
  apply List.countP_congr
  intro s _
  simp only [Function.comp]
  rw [mirror_holds]

theorem any_filter' {α : Type} (l : List α) (p f : α → Bool) :
    (l.filter p).any f = l.any (fun x => p x && f x) := by
  rw [List.any_filter]

theorem inCheck_mirror (B : Board) (w : Bool) :
    Spec.inCheck (mirrorB B) (!w) = Spec.inCheck B w := by
  unfold Spec.inCheck kingSquares squares
  rw [List.any_filter, List.any_filter, ← x56_perm.any_eq, List.any_map]
  apply any_range_congr
  intro s hs
  simp only [Function.comp]
  rw [mirror_holds, attackedBy_mirror B (!w) s hs]

end Rawr.Att
