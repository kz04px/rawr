import Rawr.Proofs.PseudoFrom
/-! Below `C02_spec_valid_preserved`, specification alone: the facts a pseudo-legal non-castling move carries (`NormalLegal`),
read off `Spec.pseudoFrom`; a legal move is such a move or a legal castling (`legal_cases`); every move of `pseudoFrom a s` starts on `s`
(`Att.pseudoFrom_src`). -/
namespace Rawr.SV
open Rawr.Spec

/-- facts that `Move.normal s t pr ∈ pseudoFrom a s` implies (`pseudo_legal`). No converse is claimed: for a pawn the
file of `t` is not pinned down. King safety is not among them; `legal_cases` adds it. -/
structure NormalLegal (a : APos) (s t : Nat) (pr : Option Kind) (pc : Piece) : Prop where
  hs : s < 64
  ht : t < 64
  hne : s ≠ t
  hpc : a.board s = some pc
  hw : pc.white = a.whiteToMove
  tgt : ∀ q, a.board t = some q → q.white ≠ pc.white ∧ pieceAttacks a.board s pc t = true
  prK : ∀ k, pr = some k → pc.kind = .pawn ∧ k ∈ promoKinds ∧ rank t = plast pc.white
  prN : pr = none → pc.kind = .pawn → a.ep ≠ some t → rank t ≠ plast pc.white
  pawnRank : pc.kind = .pawn →
    (rank t = rank s + pdir pc.white ∨
      (rank t = rank s + 2 * pdir pc.white ∧ file t = file s ∧ rank s = pstart pc.white ∧
        a.board (sq (file s) (rank s + pdir pc.white)) = none ∧ a.board t = none ∧ pr = none))
  epT : pc.kind = .pawn → a.board t = none → file t ≠ file s → a.ep = some t ∧ rank t = rank s + pdir pc.white

theorem NormalLegal.pc_eq {a : APos} {s t : Nat} {pr : Option Kind} {pc : Piece} (nl : NormalLegal a s t pr pc) :
    pc = ⟨a.whiteToMove, pc.kind⟩ := by
  rw [← nl.hw]

theorem NormalLegal.pr_none {a : APos} {s t : Nat} {pr : Option Kind} {pc : Piece} (nl : NormalLegal a s t pr pc)
    (hk : pc.kind ≠ .pawn) : pr = none := by
  cases pr with
  | none => rfl
  | some k => exact absurd (nl.prK k rfl).1 hk

theorem pieceAttacks_ne {B : Board} {s t : Nat} {pc : Piece} (h : pieceAttacks B s pc t = true) : s ≠ t := by
  intro e
  subst e
  unfold pieceAttacks at h
  cases hk : pc.kind <;> simp [hk] at h

theorem pdir_cases (w : Bool) :
    (pdir w = 1 ∧ plast w = 7 ∧ pstart w = 1) ∨ (pdir w = -1 ∧ plast w = 0 ∧ pstart w = 6) := by
  cases w
  · right; exact ⟨rfl, rfl, rfl⟩
  · left; exact ⟨rfl, rfl, rfl⟩

theorem promoA_facts {w : Bool} {t : Nat} {pr : Option Kind} (h : Att.PromoA w t pr) :
    (∀ k, pr = some k → k ∈ promoKinds ∧ rank t = plast w) ∧ (pr = none → rank t ≠ plast w) := by
  unfold Att.PromoA at h
  split at h
  · next hr =>
    obtain ⟨k, hk, rfl⟩ := h
    refine ⟨fun k' e => ?_, fun e => (nomatch e)⟩
    cases e
    exact ⟨hk, hr⟩
  · next hr =>
    subst h
    exact ⟨fun _ e => (nomatch e), fun _ => hr⟩

theorem pawn_legal {a : APos} {s t : Nat} {pr : Option Kind} (hs : s < 64)
    (hpc : a.board s = some ⟨a.whiteToMove, .pawn⟩) (h : Move.normal s t pr ∈ pseudoFrom a s) :
    NormalLegal a s t pr ⟨a.whiteToMove, .pawn⟩ := by
  have h := (Att.normal_mem_pseudoFrom_pawn a s hpc t pr).mp h
  unfold Att.PawnA at h
  have hne : ∀ {t : Nat} {k : Int}, rank t = rank s + k → k ≠ 0 → s ≠ t := fun ht hk e => by subst e; omega
  have hd1 : pdir a.whiteToMove ≠ 0 := by cases a.whiteToMove <;> decide
  have hd2 : 2 * pdir a.whiteToMove ≠ 0 := by cases a.whiteToMove <;> decide
  have hb := Att.file_bounds s
  have hbr := Att.rank_bounds hs
  have hdc := pdir_cases a.whiteToMove
  have cap : ∀ df : Int, df.natAbs = 1 → Att.CapA a a.whiteToMove s df t pr →
      NormalLegal a s t pr ⟨a.whiteToMove, .pawn⟩ := by
    rintro df hdf ⟨hon, rfl, h⟩
    have cf := file_sq hon
    have cr := rank_sq hon
    have hatt : pieceAttacks a.board s ⟨a.whiteToMove, .pawn⟩ (sq (file s + df) (rank s + pdir a.whiteToMove)) = true := by
      simp only [pieceAttacks, cf, cr, Bool.and_eq_true, beq_iff_eq]
      constructor
      · rw [← hdf]
        congr 1
        omega
      · unfold pdir
        omega
    -- an ordinary capture, with the promotion field of its target, or en passant
    cases hq : a.board (sq (file s + df) (rank s + pdir a.whiteToMove)) with
    | some q =>
      rw [hq] at h
      refine ⟨hs, onBoard_lt hon, hne cr hd1, hpc, rfl, fun q' e => ?_, fun k hk => ⟨rfl, (promoA_facts h.2).1 k hk⟩,
        fun hn _ _ => (promoA_facts h.2).2 hn, fun _ => .inl cr, fun _ hn => (by cases hq.symm.trans hn)⟩
      cases hq.symm.trans e
      exact ⟨h.1, hatt⟩
    | none =>
      rw [hq] at h
      obtain ⟨hep, rfl⟩ := h
      exact ⟨hs, onBoard_lt hon, hne cr hd1, hpc, rfl, fun _ e => (by cases hq.symm.trans e), nofun,
        fun _ _ hn => absurd hep hn, fun _ => .inl cr, fun _ _ _ => ⟨hep, cr⟩⟩
  rcases h with ⟨hon, hemp, ⟨rfl, hp⟩ | ⟨hst, hemp2, rfl, rfl⟩⟩ | h | h
  · have cf := file_sq hon
    have cr := rank_sq hon
    have clt := onBoard_lt hon
    exact ⟨hs, clt, hne cr hd1, hpc, rfl, fun _ e => (by cases hemp.symm.trans e),
      fun k hk => ⟨rfl, (promoA_facts hp).1 k hk⟩, fun e _ _ => (promoA_facts hp).2 e, fun _ => .inl cr,
      fun _ _ hf => absurd cf hf⟩
  · have hon2 : onBoard (file s) (rank s + 2 * pdir a.whiteToMove) = true := by
      simp only [onBoard, Bool.and_eq_true, decide_eq_true_eq]
      omega
    have cf2 := file_sq hon2
    have cr2 := rank_sq hon2
    have clt2 := onBoard_lt hon2
    refine ⟨hs, clt2, hne cr2 hd2, hpc, rfl, fun _ e => (by cases hemp2.symm.trans e), nofun,
      fun _ _ _ => ?_, fun _ => .inr ⟨cr2, cf2, hst, hemp, hemp2, rfl⟩, fun _ _ hf => absurd cf2 hf⟩
    show rank _ ≠ plast a.whiteToMove
    rw [cr2]
    omega
  · exact cap (-1) rfl h
  · exact cap 1 rfl h

theorem pseudo_legal {a : APos} {s0 : Nat} {mv : Move} (hs0 : s0 < 64) (h : mv ∈ pseudoFrom a s0) :
    ∃ t pr pc, mv = .normal s0 t pr ∧ NormalLegal a s0 t pr pc := by
  rcases SpecS.pseudoFrom_cases a s0 with e | ⟨hpc, e⟩ | ⟨kd, hk, hpc, _⟩
  · rw [e] at h
    cases h
  · obtain ⟨t, pr, rfl, _⟩ := (Att.mem_pseudoFrom_pawn a s0 hpc mv).mp h
    exact ⟨t, pr, _, rfl, pawn_legal hs0 hpc h⟩
  · obtain ⟨t, ht, hatt, hcol, rfl⟩ := (Att.mem_pseudoFrom_piece a s0 _ hpc rfl hk mv).mp h
    refine ⟨t, none, _, rfl, hs0, ht, pieceAttacks_ne hatt, hpc, rfl, ?_, fun k hk' => (nomatch hk'),
      fun _ h2 => absurd h2 hk, fun h2 => absurd h2 hk, fun h2 => absurd h2 hk⟩
    intro q hq
    rw [hq] at hcol
    exact ⟨by simpa using hcol, hatt⟩

theorem legal_cases {a : APos} {mv : Move} (h : mv ∈ legalMoves a) :
    (∃ s t pr pc, mv = .normal s t pr ∧ NormalLegal a s t pr pc ∧
      inCheck (apply a mv).board a.whiteToMove = false) ∨
    (∃ ks, mv = .castle ks ∧ castleLegal a ks = true) := by
  unfold legalMoves at h
  rw [List.mem_append] at h
  rcases h with h | h
  · left
    rw [List.mem_filter] at h
    obtain ⟨hm, hc⟩ := h
    rw [List.mem_flatMap] at hm
    obtain ⟨s0, hs0, hm⟩ := hm
    have hs0' : s0 < 64 := List.mem_range.mp hs0
    obtain ⟨t, pr, pc, e, nl⟩ := pseudo_legal hs0' hm
    exact ⟨s0, t, pr, pc, e, nl, by simpa using hc⟩
  · right
    rw [List.mem_map] at h
    obtain ⟨ks, hk, e⟩ := h
    rw [List.mem_filter] at hk
    exact ⟨ks, e.symm, hk.2⟩

end Rawr.SV

namespace Rawr.Att
open Spec

def srcIs (s : Nat) : Move → Prop
  | .normal a _ _ => a = s
  | .castle _ => False

theorem pseudoFrom_src (P : APos) {s : Nat} (hs : s < 64) : ∀ m ∈ pseudoFrom P s, srcIs s m := by
  intro m hm
  obtain ⟨t, pr, pc, rfl, _⟩ := SV.pseudo_legal hs hm
  rfl

end Rawr.Att
