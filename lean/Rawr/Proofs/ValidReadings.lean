import Rawr.Proofs.HashMeta
import Rawr.Proofs.ValidBits
/-! Two readings of `BitValid` (Proofs/ValidBits.lean) on the whole domain: `ValidPos p → KeyHyps p` (the hypotheses of C04(a) on the
position) and `ValidPos p → VFacts p` (king, castling rooks and en-passant square in mover-relative bitboard terms, as the
generator, text and agreement proofs use them). -/
namespace Rawr.ZH
open Rawr Rawr.Position Rawr.Spec

/-- `KeyHyps` is board consistency, the mover's king count and the rook clause of each set right. -/
theorem keyHyps_of_valid {p : Position} (hv : ValidPos p = true) : KeyHyps p = true := by
  obtain ⟨hC, b, _⟩ := VB.of_validPos hv
  have hk : count (p.c0 &&& p.p5) ≤ 1 := Nat.le_of_eq (b.kings false)
  simp only [KeyHyps, Bool.and_eq_true, Bool.or_eq_true, Bool.not_eq_true', decide_eq_true_eq, hC, hk, true_and]
  refine ⟨⟨⟨?_, ?_⟩, ?_⟩, ?_⟩
  · cases h : p.usK
    · exact Or.inl rfl
    · exact Or.inr (b.rights false true h).2.1
  · cases h : p.usQ
    · exact Or.inl rfl
    · exact Or.inr (b.rights false false h).2.1
  · cases h : p.themK
    · exact Or.inl rfl
    · exact Or.inr (b.rights true true h).2.1
  · cases h : p.themQ
    · exact Or.inl rfl
    · exact Or.inr (b.rights true false h).2.1

end Rawr.ZH

namespace Rawr
open Rawr.Position Rawr.Spec Rawr.ZH

structure VFacts (p : Position) : Prop where
  cons : Consistent p = true
  king1 : count (p.c0 &&& p.p5) = 1
  rK : p.usK = true → p.cf0 < 8 ∧ (p.c0 &&& p.p3).getLsbD p.cf0 = true ∧ lsb (p.c0 &&& p.p5) < p.cf0
  rQ : p.usQ = true → p.cf1 < 8 ∧ (p.c0 &&& p.p3).getLsbD p.cf1 = true ∧ p.cf1 < lsb (p.c0 &&& p.p5) ∧
        lsb (p.c0 &&& p.p5) < 8
  ep : ∀ e, p.ep = some e → e < 64 ∧ rankOf e = 5 ∧ p.c0.getLsbD e = false ∧ p.c1.getLsbD e = false ∧
        (p.c1 &&& p.p0).getLsbD (e - 8) = true

theorem vfacts_of_valid {p : Position} (hv : ValidPos p = true) : VFacts p := by
  obtain ⟨hC, b, _⟩ := VB.of_validPos hv
  refine ⟨hC, b.kings false, fun h => ?_, fun h => ?_, fun e he => ?_⟩
  · -- on rank 0 a square is its file
    obtain ⟨h1, h2, h3, h4⟩ : VB.RightBits p false true p.cf0 := b.rights false true h
    simp only [Position.side, BB.isSet, fromCoords, rankOf, fileOf, Bool.false_eq_true, if_false, if_true] at h1 h2 h4
    exact ⟨h3, by simpa using h2, by omega⟩
  · obtain ⟨h1, h2, h3, h4⟩ : VB.RightBits p false false p.cf1 := b.rights false false h
    simp only [Position.side, BB.isSet, fromCoords, rankOf, fileOf, Bool.false_eq_true, if_false] at h1 h2 h4
    exact ⟨h3, by simpa using h2, by omega, by omega⟩
  · obtain ⟨h5, hocc, hp⟩ := b.ep e he
    rw [BB.isSet, Position.occ, BitVec.getLsbD_or, Bool.or_eq_false_iff] at hocc
    exact ⟨by unfold rankOf at h5; omega, h5, hocc.1, hocc.2, hp⟩

end Rawr
