import Rawr.Proofs.RustTextAgree_SetFen
import Rawr.Proofs.RustImpAgree_MakeMove
import Rawr.Proofs.RustImpAgree_MoveGen
import Rawr.Proofs.UciMoves
import Rawr.Proofs.FenValid
/-!
# uci/moves.rs, uci/position.rs regenerated from the Rust source agree with the model (`applyToken`, `applyTokens`,
`doPosition` of Rawr/Model/Uci.lean)
-/
namespace Rawr

/-- every legal move of `p` is between on-board squares (true for every valid position: `gen_shape`).
`Mv::to_uci` panics in `Square::fmt` otherwise, the model's `toUciChars` is total. -/
def MovesOnBoard (p : Position) : Prop := ∀ m ∈ legalMoves p, m.src < 64 ∧ m.dst < 64

theorem findM_to_uci (pos : Position) (t : List Char) :
    ∀ l : List Mv, (∀ m ∈ l, m.src < 64 ∧ m.dst < 64) →
      l.findM? (fun x => do let u ← R.to_uci x pos; pure (u == t)) = some (l.find? fun m => toUciChars pos m == t) := by
  intro l
  induction l with
  | nil => intro _; rfl
  | cons a l ih =>
    intro h
    have ha := h a (by simp)
    have ih' := ih (fun m hm => h m (by simp [hm]))
    simp only [List.findM?, agree_to_uci a pos ha.1 ha.2, bind, pure, Option.bind_some, List.find?_cons]
    cases toUciChars pos a == t
    · simpa using ih'
    · rfl

theorem moves_castling_eq (pos : Position) (w : Bool) (file : Nat) :
    R.moves_castling pos (legalMoves pos) w file =
      (let mv : Mv := ⟨4, fromCoords file 0, 6⟩
       if w == !pos.black && pos.c0.isSet mv.dst && (legalMoves pos).contains mv then some mv else none) := rfl

/-- one token of `moves` (uci/moves.rs) is the model's `applyToken`; the Rust history vector grows at the end, the
model's list at the front. -/
theorem moves_loop1_step_eq (t : List Char) (pos : Position) (hist : List BB) (out : List String)
    (hB : MovesOnBoard pos) :
    R.moves_loop1_step t pos hist out =
      (applyToken pos hist.reverse t).map fun r => ForInStep.yield (r.1, r.2.1.reverse, out ++ r.2.2) := by
  unfold R.moves_loop1_step applyToken
  simp only [agree_legal_moves, agree_makemove]
  rw [findM_to_uci pos t _ hB]
  simp only [moves_castling_eq, bind, pure, Option.bind_some, str, String.reduceToList]
  -- whichever move `o` the token designates, the two sides do the same with it
  have key : ∀ o : Option Mv,
      (match o with
        | some found => (pos.makemove found true).bind fun r => some (ForInStep.yield (r, hist ++ [r.hash], out))
        | _ => some (ForInStep.yield (pos, hist, out ++ ["info string unknown move " ++ String.ofList t]))) =
      Option.map (fun r => ForInStep.yield (r.fst, r.snd.fst.reverse, out ++ r.snd.snd))
        (match o with
          | none => some (pos, hist.reverse, ["info string unknown move " ++ String.ofList t])
          | some m => match pos.makemove m true with
            | none => none
            | some np => some (np, np.hash :: hist.reverse, [])) := by
    intro o
    cases o with
    | none => simp
    | some m => cases h : pos.makemove m true <;> simp [h]
  cases (legalMoves pos).find? (fun m => toUciChars pos m == t) with
  | some m => exact key (some m)
  | none =>
    -- the conventional castling strings, tested in the same order
    simp only []
    by_cases h1 : (t == ['e', '1', 'g', '1']) = true
    · simp only [h1, if_true]; exact key _
    simp only [h1, Bool.false_eq_true, if_false]
    by_cases h2 : (t == ['e', '1', 'c', '1']) = true
    · simp only [h2, if_true]; exact key _
    simp only [h2, Bool.false_eq_true, if_false]
    by_cases h3 : (t == ['e', '8', 'g', '8']) = true
    · simp only [h3, if_true]; exact key _
    simp only [h3, Bool.false_eq_true, if_false]
    by_cases h4 : (t == ['e', '8', 'c', '8']) = true
    · simp only [h4, if_true]; exact key _
    simp only [h4, Bool.false_eq_true, if_false]; exact key none

theorem applyToken_pos (pos : Position) (hist : List BB) (t : List Char) (r : Position × List BB × List String)
    (h : applyToken pos hist t = some r) :
    r.1 = pos ∨ ∃ m ∈ legalMoves pos, pos.makemove m true = some r.1 := by
  rcases applyToken_cases pos hist t with ⟨m, np, hm, hmk, e⟩ | ⟨m, _, _, e⟩ | ⟨_, e⟩
  · rw [e] at h
    cases h
    exact .inr ⟨m, hm.mem, hmk⟩
  · rw [e] at h
    cases h
  · rw [e] at h
    cases h
    exact .inl rfl

/-- the loop of `moves` against `applyTokens`, for a family `G n` of invariants indexed by the number of tokens still to
be applied (`G (n+1) p` gives `G n` of the position after a legal move and of `p` itself).  Indexed, because the
invariant the valid positions offer (`VE n`: room for `n + 64` more plies in the move counters) loses one with every
move made. -/
theorem moves_loop1_ix (G : Nat → Position → Prop) (hI : ∀ n p, G (n + 1) p → MovesOnBoard p)
    (hM : ∀ n p, G (n + 1) p → G n p)
    (hS : ∀ n p m np, G (n + 1) p → m ∈ legalMoves p → p.makemove m true = some np → G n np) :
    ∀ (toks : List (List Char)) (pos : Position) (hist : List BB) (out : List String), G toks.length pos →
      R.moves_loop1 toks pos hist out =
        (applyTokens toks pos hist.reverse out).map fun r => (r.1, r.2.1.reverse, r.2.2) := by
  intro toks
  induction toks with
  | nil => intro pos hist out _; simp [R.moves_loop1, applyTokens]
  | cons t ts ih =>
    intro pos hist out hinv
    unfold applyTokens
    simp only [R.moves_loop1, List.forIn_cons] at ih ⊢
    rw [moves_loop1_step_eq t pos hist out (hI _ pos hinv)]
    cases ha : applyToken pos hist.reverse t with
    | none => rfl
    | some r =>
      obtain ⟨p', h', o⟩ := r
      have hinv' : G ts.length p' := by
        rcases applyToken_pos pos hist.reverse t _ ha with h | ⟨m, hm, hmk⟩
        · simp only at h; rw [h]; exact hM _ _ hinv
        · exact hS _ pos m p' hinv hm hmk
      simp only [Option.map_some, bind, Option.bind_some]
      have := ih p' h'.reverse (out ++ o) hinv'
      rw [List.reverse_reverse] at this
      exact this

/-- **`uci::moves::moves`** for an indexed family of invariants (see `moves_loop1_ix`). -/
theorem agree_moves_ix (G : Nat → Position → Prop) (hI : ∀ n p, G (n + 1) p → MovesOnBoard p)
    (hM : ∀ n p, G (n + 1) p → G n p)
    (hS : ∀ n p m np, G (n + 1) p → m ∈ legalMoves p → p.makemove m true = some np → G n np)
    (toks : List (List Char)) (pos : Position) (hist : List BB) (hinv : G toks.length pos) :
    R.moves toks pos hist =
      (applyTokens toks pos hist.reverse []).map fun r => (([] : List (List Char)), r.1, r.2.1.reverse, r.2.2) := by
  unfold R.moves
  simp only [moves_loop1_ix G hI hM hS toks pos hist [] hinv, bind, pure]
  cases applyTokens toks pos hist.reverse [] <;> rfl

/-- **`uci::moves::moves`** (applying the tokens of `position .. moves ..` / `moves ..`), for every invariant of
positions that makes the legal moves on-board and is preserved by legal moves: `agree_moves_ix` for a constant family.
The invariant of valid positions is not of this kind (see `moves_loop1_ix`); `agree_position` and the session layer
take the indexed form. -/
theorem agree_moves (Inv : Position → Prop) (hI : ∀ p, Inv p → MovesOnBoard p)
    (hS : ∀ p m np, Inv p → m ∈ legalMoves p → p.makemove m true = some np → Inv np)
    (toks : List (List Char)) (pos : Position) (hist : List BB) (hinv : Inv pos) :
    R.moves toks pos hist =
      (applyTokens toks pos hist.reverse []).map fun r => (([] : List (List Char)), r.1, r.2.1.reverse, r.2.2) :=
  agree_moves_ix (fun _ => Inv) (fun _ => hI) (fun _ _ h => h) (fun _ => hS) toks pos hist hinv

theorem setFen_nil (ar : Arith) (frc : Bool) : setFen ar frc [] = none := by
  cases ar <;> cases frc <;> decide

/-- **`uci::position::position`** against the model's `doPosition` (which also contains the `pos.is_frc = is_frc` of the
caller in listen.rs), for a family `G n` of invariants as in `agree_moves_ix` that holds, with the number of move
tokens, of the position `set_fen` accepts. -/
theorem agree_position (G : Nat → Position → Prop) (hI : ∀ n p, G (n + 1) p → MovesOnBoard p)
    (hM : ∀ n p, G (n + 1) p → G n p)
    (hS : ∀ n p m np, G (n + 1) p → m ∈ legalMoves p → p.makemove m true = some np → G n np)
    (ar : Arith) (n : Nat) (s : UState) (hist0 : List BB) (toks : List (List Char))
    (hfen : ∀ p, setFen ar s.pos.frc (positionArgs toks).1 = some p → G (positionArgs toks).2.length p) :
    (R.position (n + 2) ar toks s.pos hist0).map
        (fun r => (({ s with pos := { r.2.1 with frc := s.frc }, hist := r.2.2.1.reverse } : UState), r.2.2.2))
      = doPosition ar s toks := by
  rw [doPosition_eq, positionRun]
  -- the common tail: set_fen on the trimmed string, then the moves
  have tail : ∀ (fen : List Char) (rest : List (List Char)),
      (∀ p, setFen ar s.pos.frc (rustTrim fen) = some p → G rest.length p) →
      ((R.set_fen (n + 2) ar s.pos (rustTrim fen)).bind fun r =>
        (R.moves rest r ([] ++ [r.hash])).bind fun r2 => some (r2.1, r2.2.1, r2.2.2.1, ([] : List String) ++ r2.2.2.2)).map
        (fun r => (({ s with pos := { r.2.1 with frc := s.frc }, hist := r.2.2.1.reverse } : UState), r.2.2.2))
      = ((setFen ar s.pos.frc (rustTrim fen)).bind fun p => applyTokens rest { p with frc := s.pos.frc } [p.hash] []).map
          fun r => ({ s with pos := { r.1 with frc := s.frc }, hist := r.2.1 }, r.2.2) := by
    intro fen rest hf
    rw [agree_set_fen]
    cases hsf : setFen ar s.pos.frc (rustTrim fen) with
    | none => rfl
    | some p =>
      have hfr : p.frc = s.pos.frc := (FenValid.setFen_cfNorm hsf).2
      have hp : ({ p with frc := s.pos.frc } : Position) = p := by rw [← hfr]
      simp only [Option.bind_some, hp]
      rw [agree_moves_ix G hI hM hS rest p _ (hf p hsf)]
      simp only [List.nil_append, List.reverse_cons, List.reverse_nil]
      cases applyTokens rest p [p.hash] [] with
      | none => rfl
      | some r => obtain ⟨p', h', o⟩ := r; simp
  unfold R.position
  unfold positionArgs at hfen ⊢
  simp only [str, String.reduceToList, bind, pure] at hfen ⊢
  simp only [] at tail
  cases toks with
  | nil => exact tail [] [] hfen
  | cons t rest =>
    -- `position.rs` compares `Option`s (`nx == Some("startpos")`), the model the token itself
    simp only [List.head?_cons, List.tail_cons, Option.some_beq_some] at hfen ⊢
    by_cases h1 : (t == ['s', 't', 'a', 'r', 't', 'p', 'o', 's']) = true
    · simp only [h1, if_true, Option.bind_some, ← List.drop_one] at hfen ⊢
      have := tail _ _ hfen
      -- the two `match`es are distinct auxiliary functions; with the scrutinee a variable, comparing them does not
      -- evaluate `setFen` on the start position
      generalize setFen ar s.pos.frc _ = o at this ⊢
      exact this
    simp only [h1, Bool.false_eq_true, if_false] at hfen ⊢
    by_cases h2 : (t == ['f', 'e', 'n']) = true
    · simp only [h2, if_true, Option.bind_some] at hfen ⊢
      exact tail _ _ hfen
    -- neither: `set_fen` is called on the empty string and fails
    simp only [h2, Bool.false_eq_true, if_false, Option.bind_some, agree_set_fen, show rustTrim [] = [] from rfl,
      setFen_nil, Option.bind_none, Option.map_none]

example : ((R.moves ["e2e4".toList, "zzzz".toList] Gen.startpos [Gen.startpos.hash]).map fun r => (r.2.2.1.length, r.2.2.2))
    = some (2, ["info string unknown move zzzz"]) := by decide +kernel
example : ((R.position 2 .trap ["startpos".toList, "moves".toList, "e2e4".toList] Gen.startpos []).map
    fun r => (r.2.1.black, r.2.2.1.length)) = some (true, 2) := by decide +kernel
end Rawr

#print axioms Rawr.agree_moves
#print axioms Rawr.agree_position
