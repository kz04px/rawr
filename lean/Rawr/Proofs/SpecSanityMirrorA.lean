import Rawr.Proofs.SpecMirror
import Rawr.Proofs.SpecValidApply
/-!
# Sanity of the specification, part 1 (a): colour symmetry of `Spec.apply`

`mirrorA` swaps the colours, reverses the ranks and passes the turn (and carries rights and the
en-passant square along); `mirrorMove` reverses the ranks of a move's squares. `Spec.apply` commutes
with the two — except for the full-move counter, which by its nature advances after Black's move only.
`EqModFull` is equality of positions up to that counter; the move rules do not read it
(`legalMoves_setFull`, `apply_setFull`, `leaves_congr`).

The statements concern `Rawr/Spec/Chess.lean` only; of `· ^^^ 56` nothing is used but facts about numbers.
-/
namespace Rawr.SpecS
open Rawr.Spec Rawr.Att Rawr.SV

/-- The colour-swapped mirror image of an absolute position (the mover changes colour as well).
Definitionally the `Spec.mirrorA` of `Rawr/Props/C17.lean`. -/
def mirrorA (a : APos) : APos :=
  { board := mirrorB a.board, whiteToMove := !a.whiteToMove,
    wK := a.bK, wQ := a.bQ, bK := a.wK, bQ := a.wQ,
    ep := a.ep.map (· ^^^ 56), half := a.half, full := a.full }

theorem mirrorA_board (a : APos) : (mirrorA a).board = mirrorB a.board := rfl
theorem mirrorA_toMove (a : APos) : (mirrorA a).whiteToMove = !a.whiteToMove := rfl
theorem mirrorA_ep (a : APos) : (mirrorA a).ep = a.ep.map (· ^^^ 56) := rfl

theorem mirrorA_at (a : APos) (s : Nat) : (mirrorA a).board (s ^^^ 56) = (a.board s).map flipPiece :=
  mirrorB_x56 a.board s

def mirrorMove : Move → Move
  | .normal s t pr => .normal (s ^^^ 56) (t ^^^ 56) pr
  | .castle ks => .castle ks

theorem mirrorMove_mirrorMove (m : Move) : mirrorMove (mirrorMove m) = m := by
  cases m with
  | normal s t pr => simp only [mirrorMove, x56_x56]
  | castle ks => rfl

theorem mirrorA_mirrorA (a : APos) : mirrorA (mirrorA a) = a := by
  cases a with
  | mk b w wK wQ bK bQ ep half full =>
    simp only [mirrorA, mirrorB_mirrorB, Bool.not_not, Option.map_map]
    congr 1
    cases ep with
    | none => rfl
    | some e => simp only [Option.map_some, Function.comp, x56_x56]

def RightsOK (a : APos) : Prop := ∀ w ks f, right a w ks = some f → f < 8

theorem rightsOK_of_valid {a : APos} (h : Valid a = true) : RightsOK a :=
  fun w ks f hr => (((valid_iff a).mp h).rights w ks f hr).1

theorem right_mirror (a : APos) (w ks : Bool) : right (mirrorA a) w ks = right a (!w) ks := by
  cases w <;> cases ks <;> rfl

/-- the mover's right: the mover of the mirror image has the colour opposite to the mover's. -/
theorem right_mirror_mover (a : APos) (ks : Bool) :
    right (mirrorA a) (mirrorA a).whiteToMove ks = right a a.whiteToMove ks := by
  rw [right_mirror, mirrorA_toMove, Bool.not_not]

theorem rightsOK_mirror {a : APos} (h : RightsOK a) : RightsOK (mirrorA a) := by
  intro w ks f hr
  rw [right_mirror] at hr
  exact h _ _ _ hr

theorem homeRank_not (w : Bool) : homeRank (!w) = 7 - homeRank w := by cases w <;> rfl

/-- a square of file `f` whose rank is `x` for one colour and `7 - x` for the other. -/
theorem sq_ite_mirror {f x y : Int} (hf : 0 ≤ f ∧ f < 8) (hx : 0 ≤ x ∧ x < 8) (hxy : x + y = 7) (w : Bool) :
    sq f (if (!w) = true then x else y) = sq f (if w = true then x else y) ^^^ 56 := by
  have e : (if (!w) = true then x else y) = 7 - (if w = true then x else y) := by
    cases w <;> simp <;> omega
  rw [e]
  apply sq_mirror
  rw [onBoard_iff]
  split <;> omega

theorem sq_home_mirror' (f : Int) (hf0 : 0 ≤ f) (hf : f < 8) (w : Bool) :
    sq f (homeRank (!w)) = sq f (homeRank w) ^^^ 56 :=
  sq_ite_mirror (x := 0) (y := 7) ⟨hf0, hf⟩ (by omega) rfl w

theorem sq_home_mirror {f : Nat} (hf : f < 8) (w : Bool) :
    sq f (homeRank (!w)) = sq f (homeRank w) ^^^ 56 :=
  sq_home_mirror' f (by omega) (by omega) w

def setFull (a : APos) (n : Int) : APos := { a with full := n }

def EqModFull (a b : APos) : Prop := setFull a 0 = setFull b 0

theorem EqModFull.refl (a : APos) : EqModFull a a := rfl
theorem EqModFull.symm {a b : APos} (h : EqModFull a b) : EqModFull b a := Eq.symm h
theorem EqModFull.trans {a b c : APos} (h : EqModFull a b) (h' : EqModFull b c) : EqModFull a c :=
  Eq.trans h h'

theorem eqModFull_iff (a b : APos) : EqModFull a b ↔
    a.board = b.board ∧ a.whiteToMove = b.whiteToMove ∧ a.wK = b.wK ∧ a.wQ = b.wQ ∧ a.bK = b.bK ∧
    a.bQ = b.bQ ∧ a.ep = b.ep ∧ a.half = b.half := by
  cases a; cases b
  simp only [EqModFull, setFull, APos.mk.injEq, and_true]

theorem setFull_setFull (a : APos) (m n : Int) : setFull (setFull a m) n = setFull a n := rfl
theorem eqModFull_setFull (a : APos) (n : Int) : EqModFull (setFull a n) a := rfl

theorem right_setFull (a : APos) (n : Int) (w ks : Bool) : right (setFull a n) w ks = right a w ks := by
  cases w <;> cases ks <;> rfl

/-- `Spec.apply` does not read the full-move counter. -/
theorem apply_setFull (a : APos) (n : Int) (m : Move) :
    ∃ n', apply (setFull a n) m = setFull (apply a m) n' := by
  cases m with
  | normal s t pr =>
    cases hb : a.board s with
    | none => exact ⟨n, by rw [apply_normal_none hb, apply_normal_none (a := setFull a n) hb]⟩
    | some pc => exact ⟨_, by rw [apply_normal hb, apply_normal (a := setFull a n) hb]; rfl⟩
  | castle ks =>
    have hr' := right_setFull a n a.whiteToMove ks
    cases hr : right a a.whiteToMove ks with
    | none => exact ⟨n, by rw [apply_castle_none (.inl hr), apply_castle_none (a := setFull a n) (.inl (hr'.trans hr))]⟩
    | some rf =>
      cases hk : kingSquares a.board a.whiteToMove with
      | nil => exact ⟨n, by rw [apply_castle_none (.inr hk), apply_castle_none (a := setFull a n) (.inr hk)]⟩
      | cons k l => exact ⟨_, by rw [apply_castle hr hk, apply_castle (a := setFull a n) (hr'.trans hr) hk]; rfl⟩

theorem apply_board_setFull (a : APos) (n : Int) (m : Move) :
    (apply (setFull a n) m).board = (apply a m).board := by
  obtain ⟨n', e⟩ := apply_setFull a n m
  rw [e]; rfl

theorem pseudoFrom_setFull (a : APos) (n : Int) (s : Nat) : pseudoFrom (setFull a n) s = pseudoFrom a s := rfl

theorem castleLegal_setFull (a : APos) (n : Int) (ks : Bool) :
    castleLegal (setFull a n) ks = castleLegal a ks := by
  unfold castleLegal
  simp only [apply_board_setFull, right_setFull]
  rfl

theorem legalMoves_setFull (a : APos) (n : Int) : legalMoves (setFull a n) = legalMoves a := by
  unfold legalMoves
  have e : (fun ks => castleLegal (setFull a n) ks) = fun ks => castleLegal a ks :=
    funext (castleLegal_setFull a n)
  simp only [apply_board_setFull, e]
  rfl

theorem legalMoves_congr {a b : APos} (h : EqModFull a b) : legalMoves a = legalMoves b := by
  rw [← legalMoves_setFull a 0, ← legalMoves_setFull b 0, h]

theorem apply_congr {a b : APos} (h : EqModFull a b) (m : Move) : EqModFull (apply a m) (apply b m) := by
  obtain ⟨n1, e1⟩ := apply_setFull a 0 m
  obtain ⟨n2, e2⟩ := apply_setFull b 0 m
  unfold EqModFull at h ⊢
  rw [h, e2] at e1
  have := congrArg (fun x => setFull x 0) e1
  simpa only [setFull_setFull] using this.symm

theorem leaves_congr {a b : APos} (h : EqModFull a b) (d : Nat) : leaves a d = leaves b d := by
  induction d generalizing a b with
  | zero => rfl
  | succ d ih =>
    simp only [leaves]
    rw [legalMoves_congr h]
    congr 1
    apply List.map_congr_left
    intro m _
    exact ih (apply_congr h m)

theorem mirrorB_isSome (b : Board) (x : Nat) : (mirrorB b (x ^^^ 56)).isSome = (b x).isSome := by
  rw [mirrorB_x56]; cases b x <;> rfl

theorem uniqueKing_mirror {B : Board} {c : Bool} {k : Nat} (h : UniqueKing B c k) :
    UniqueKing (mirrorB B) (!c) (k ^^^ 56) := by
  refine ⟨x56_lt h.1, ?_, ?_⟩
  · exact (mirror_holds_iff B k c .king).mpr h.2.1
  · intro j hj hb
    have := mirror_holds_iff B (j ^^^ 56) c .king
    rw [x56_x56] at this
    have := h.2.2 _ (x56_lt hj) (this.mp hb)
    exact (x56_eq_iff j k).mp this

theorem kingSquares_mirror_singleton {B : Board} {c : Bool} {k : Nat} (h : kingSquares B c = [k]) :
    kingSquares (mirrorB B) (!c) = [k ^^^ 56] :=
  kingSquares_of_unique (uniqueKing_mirror (unique_of_kingSquares h))

end Rawr.SpecS
