import Rawr.Model.Search
/-! The selection sort of qsearch.rs / negamax.rs (`selSort`) returns a permutation of its input, and so do the two `sort`s
built on it (`sortQs_perm`, `sortNm_perm`), which fail only when the moves do not fit the ordering buffer (`sortQs_isSome`,
`sortNm_isSome`).

Every outer step exchanges the entries `i` and `best` of the two parallel arrays with two `Array.set!`;
both indices are in range as long as the two arrays have the same size, and the sizes never change. -/
namespace Rawr

theorem setIfInBounds_eq_set {α : Type} (a : Array α) (i : Nat) (v : α) (h : i < a.size) :
    a.setIfInBounds i v = a.set i v h := by
  rw [Array.setIfInBounds, dif_pos h]

theorem set!_set!_eq_swap {α : Type} [Inhabited α] (a : Array α) (i j : Nat)
    (hi : i < a.size) (hj : j < a.size) :
    (a.set! i a[j]!).set! j a[i]! = a.swap i j hi hj := by
  rw [Array.swap_def]
  simp only [Array.set!_eq_setIfInBounds, getElem!_pos a i hi, getElem!_pos a j hj]
  rw [setIfInBounds_eq_set a i _ hi, setIfInBounds_eq_set _ j _ (by simpa using hj)]

theorem set!_set!_perm {α : Type} [Inhabited α] (a : Array α) (i j : Nat)
    (hi : i < a.size) (hj : j < a.size) :
    ((a.set! i a[j]!).set! j a[i]!).Perm a := by
  rw [set!_set!_eq_swap a i j hi hj]; exact Array.swap_perm hi hj

theorem size_set!_set! {α : Type} (a : Array α) (i j : Nat) (x y : α) :
    ((a.set! i x).set! j y).size = a.size := by
  simp only [Array.set!_eq_setIfInBounds, Array.size_setIfInBounds]

theorem selInner_lt (sc : Array Int) : ∀ (f best j : Nat), best < sc.size → selInner sc best j f < sc.size
  | 0, best, j, h => by simpa [selInner] using h
  | f + 1, best, j, h => by
    unfold selInner
    split
    · rename_i hj
      apply selInner_lt sc f
      split
      · exact hj
      · exact h
    · exact h

theorem selOuter_perm (n : Nat) : ∀ (fuel i : Nat) (sc : Array Int) (mv : Array Mv),
    sc.size = mv.size → n ≤ mv.size → (selOuter n i fuel sc mv).Perm mv
  | 0, i, sc, mv, _, _ => by simp [selOuter, Array.Perm.refl]
  | fuel + 1, i, sc, mv, hs, hn => by
    unfold selOuter
    split
    · rename_i hi
      have hi' : i < mv.size := by omega
      have hb : selInner sc i (i + 1) n < mv.size := by
        rw [← hs]; exact selInner_lt sc n i (i + 1) (by omega)
      refine Array.Perm.trans (selOuter_perm n fuel (i + 1) _ _ ?_ ?_) (set!_set!_perm mv i _ hi' hb)
      · simp only [size_set!_set!, hs]
      · simp only [size_set!_set!]; exact hn
    · exact Array.Perm.refl _

theorem selSort_perm (sc : Array Int) (mv : Array Mv) (hs : sc.size = mv.size) :
    (selSort sc mv).Perm mv :=
  selOuter_perm mv.size mv.size 0 sc mv hs (Nat.le_refl _)

theorem selSort_toList_perm (sc : Array Int) (mv : Array Mv) (hs : sc.size = mv.size) :
    (selSort sc mv).toList.Perm mv.toList :=
  Array.perm_iff_toList_perm.mp (selSort_perm sc mv hs)

theorem selSort_size (sc : Array Int) (mv : Array Mv) (hs : sc.size = mv.size) :
    (selSort sc mv).size = mv.size :=
  (selSort_perm sc mv hs).size_eq

theorem sortQs_perm (p : Position) (ms l : List Mv) (h : sortQs p ms = some l) : l.Perm ms := by
  unfold sortQs at h
  split at h
  · cases h; exact List.Perm.refl _
  · split at h
    · cases h
    · cases h
      simpa using selSort_toList_perm (ms.map (captureScore Gen.orderValsQsearch p)).toArray ms.toArray
        (by simp)

theorem sortNm_perm (p : Position) (ms l : List Mv) (tt : Option Mv) (h : sortNm p ms tt = some l) :
    l.Perm ms := by
  unfold sortNm at h
  split at h
  · cases h; exact List.Perm.refl _
  · split at h
    · cases h
    · cases h
      simpa using selSort_toList_perm (ms.map fun m =>
        if tt == some m then Gen.ttMoveOrderScore else captureScore Gen.orderValsNegamax p m).toArray
          ms.toArray (by simp)

theorem sortQs_isSome (p : Position) (ms : List Mv) (h : ms.length ≤ Gen.orderBufQsearch) :
    ∃ l, sortQs p ms = some l := by
  unfold sortQs
  split
  · exact ⟨_, rfl⟩
  · rw [if_neg (by omega)]; exact ⟨_, rfl⟩

theorem sortNm_isSome (p : Position) (ms : List Mv) (tt : Option Mv) (h : ms.length ≤ Gen.orderBufNegamax) :
    ∃ l, sortNm p ms tt = some l := by
  unfold sortNm
  split
  · exact ⟨_, rfl⟩
  · rw [if_neg (by omega)]; exact ⟨_, rfl⟩

end Rawr
