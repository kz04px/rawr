import Rawr.Proofs.SearchPolls
/-! Termination: the fuel parameter of `qsearch`, `negamax`, `rootIter`, `root` is not an observable.
Once the model answers on some fuel it gives the same answer on every larger fuel (no hypotheses at all);
for `negamax` this is `negamax_sim` with equal poll counters. -/
namespace Rawr.Term

def OLe {α : Type} (a b : Option α) : Prop := ∀ r, a = some r → b = some r

theorem OLe.refl {α : Type} (a : Option α) : OLe a a := fun _ h => h

theorem OLe.bot {α : Type} (b : Option α) : OLe (none : Option α) b := fun _ h => by cases h

theorem OLe.cases {α : Type} {a b : Option α} (h : OLe a b) : a = none ∨ ∃ r, a = some r ∧ b = some r := by
  cases a with
  | none => exact Or.inl rfl
  | some r => exact Or.inr ⟨r, rfl, h r rfl⟩

def QRecLe (rec rec' : Position → QState → Int → Int → Int → Option (Int × QState)) : Prop :=
  ∀ np st a b pl, OLe (rec np st a b pl) (rec' np st a b pl)

theorem qloop_mono {rec rec'} (h : QRecLe rec rec') (p : Position) (beta ply : Int) (ms : List Mv) :
    ∀ (st : QState) (alpha best : Int),
      OLe (qloop rec p beta ply ms st alpha best) (qloop rec' p beta ply ms st alpha best) := by
  induction ms with
  | nil => intro st alpha best; exact OLe.refl _
  | cons m ms ih =>
    intro st alpha best
    simp only [qloop]
    cases p.makemove m false with
    | none => exact OLe.bot _
    | some np =>
      simp only []
      generalize hr1 : rec np _ _ _ _ = r1
      generalize hr2 : rec' np _ _ _ _ = r2
      have hr : OLe r1 r2 := by rw [← hr1, ← hr2]; exact h _ _ _ _ _
      clear hr1 hr2
      rcases hr.cases with e | ⟨⟨sc, s1⟩, e1, e2⟩
      · subst e; exact OLe.bot _
      · subst e1 e2
        simp only []
        exact ite_rel (fun _ => OLe.refl _) (fun _ => ih _ _ _)

theorem qsearch_mono (f : Nat) : ∀ f', f ≤ f' → QRecLe (qsearch f) (qsearch f') := by
  induction f with
  | zero => intro f' _ np st a b pl; simp only [qsearch]; exact OLe.bot _
  | succ f ih =>
    intro f' hle p st α β ply
    obtain ⟨g, rfl⟩ : ∃ g, f' = g + 1 := ⟨f' - 1, by omega⟩
    simp only [qsearch]
    refine ite_rel (fun _ => OLe.refl _) (fun _ => ?_)
    cases sortQs p (legalCaptures p) with
    | none => exact OLe.bot _
    | some moves => exact qloop_mono (ih g (by omega)) _ _ _ _ _ _ _

theorem qsearch_fuel_mono {f f' : Nat} {p : Position} {st : QState} {α β ply : Int} {r : Int × QState}
    (h : qsearch f p st α β ply = some r) (hle : f ≤ f') : qsearch f' p st α β ply = some r :=
  qsearch_mono f f' hle _ _ _ _ _ _ h

theorem negamax_fuel_mono {lim : Limit} {f f' : Nat} {p : Position} {st : SState} {α β ply depth : Int}
    {cn : Bool} {r : Int × SState}
    (h : negamax lim f p st α β ply depth cn = some r) (hle : f ≤ f') :
    negamax lim f' p st α β ply depth cn = some r := by
  rcases negamax_sim lim true (Or.inl rfl) f f' hle (fun h => by cases h) p st α β ply depth cn st.polls
    (fun _ => rfl) with ⟨e, _⟩ | ⟨x, k, e1, e2, hk⟩
  · rw [h] at e; cases e
  · rw [h] at e1; cases e1
    rw [hk rfl] at e2; exact e2

theorem rootIter_mono {lim : Limit} {f f' : Nat} (hle : f ≤ f') (p : Position) (k : Nat) :
    ∀ (depth : Int) (st : SState) (bm : Option Mv) (infos : List InfoRec),
      OLe (rootIter lim f p k depth st bm infos) (rootIter lim f' p k depth st bm infos) := by
  induction k with
  | zero => intro depth st bm infos; exact OLe.refl _
  | succ k ih =>
    intro depth st bm infos
    simp only [rootIter]
    refine ite_rel (fun _ => OLe.refl _) (fun _ => ?_)
    generalize hr1 : negamax lim f _ _ _ _ _ _ _ = r1
    generalize hr2 : negamax lim f' _ _ _ _ _ _ _ = r2
    have hr : OLe r1 r2 := by
      rw [← hr1, ← hr2]; exact fun r h => negamax_fuel_mono h hle
    clear hr1 hr2
    rcases hr.cases with e | ⟨⟨v, s1⟩, e1, e2⟩
    · subst e; exact OLe.bot _
    subst e1 e2
    simp only []
    cases s1.best with
    | none => exact OLe.refl _
    | some b =>
      simp only []
      generalize (if depth > 1 then shouldStop lim s1 else (false, s1)) = pr
      obtain ⟨stop, s2⟩ := pr
      simp only []
      exact ite_rel (fun _ => OLe.refl _) (fun _ => ih _ _ _ _)

theorem root_fuel_mono {lim : Limit} {f f' : Nat} {p : Position} {hist : List BB} {tt : Table TTEntry}
    {r : RootResult} (h : root lim f p hist tt = some r) (hle : f ≤ f') : root lim f' p hist tt = some r :=
  rootIter_mono hle p _ _ _ _ _ _ h

end Rawr.Term
