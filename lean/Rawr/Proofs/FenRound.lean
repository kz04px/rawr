import Rawr.Proofs.FenComplete
import Rawr.Proofs.FenGet
import Rawr.Proofs.FenCastle
/-! Print, then parse: `setFen (printFen a st) = rel a` for the three castling styles (`setFen_printFen`), `rel a` is in the
domain (`validPos_rel`), and for `p` of the domain the result is `normCf p`: the castle files of absent rights come back
as the defaults (`setFen_printFen_abs`). The standard start FEN as an instance. -/
namespace Rawr
open Spec FenC

namespace FenC

theorem printFen_ne_startpos (a : APos) (st : CastleStyle) : (printFen a st == "startpos".toList) = false := by
  cases h : printFen a st == "startpos".toList
  · rfl
  · exfalso
    have hm : ' ' ∈ printFen a st := by
      rw [printFen_shape]
      exact List.mem_append_right _ List.mem_cons_self
    rw [beq_iff_eq.mp h] at hm
    revert hm; decide

/-- every right's rook is the outermost rook of its colour on its wing (needed for the `KQkq` spelling). -/
def AllOutermost (a : APos) : Prop :=
  ∀ w ks f, Spec.right a w ks = some f → Spec.outermost a.board w ks f = true

theorem setFen_printFen (a : APos) (frc : Bool) (ar : Arith) (st : CastleStyle)
    (hV : Valid a = true) (hb : ∀ s, 64 ≤ s → a.board s = none)
    (hh : a.half < 2147483648) (hf : a.full < 2147483648)
    (hst : st = .kqkq → AllOutermost a)
    (hatt : (rel a frc).isSqAttacked (lsb ((rel a frc).c1 &&& (rel a frc).p5)) false = false) :
    setFen ar frc (printFen a st) = some (rel a frc) := by
  unfold setFen
  rw [printFen_ne_startpos]
  simp only [Bool.false_eq_true, if_false]
  exact accepts_core a frc ar st hV hb hh hf hatt
    (fenCastling_castleField a hV st hst (preCastle a frc) ⟨rfl, rfl, rfl, rfl⟩ ⟨rfl, rfl, rfl, rfl⟩)
    (castleField_no_space a hV st)

theorem validPos_rel (a : APos) (frc : Bool) (hV : Valid a = true) (hb : ∀ s, 64 ≤ s → a.board s = none)
    (hh : a.half < 2147483648) (hf : a.full < 2147483648) : ValidPos (rel a frc) = true := by
  have r8 : ∀ w ks, (Spec.right a w ks).getD 0 < 8 ∧ (Spec.right a w ks).getD 7 < 8 := by
    intro w ks
    cases hr : Spec.right a w ks with
    | none => exact ⟨by decide, by decide⟩
    | some f => have := (((SV.valid_iff a).mp hV).rights w ks f hr).1; exact ⟨this, this⟩
  refine (validPos_iff _).mpr
    ⟨rel_consistent a frc, by rw [abs_rel a frc hb]; exact hV, hh, hf, ?_, ?_, ?_, ?_, rel_hash a frc⟩
  · rw [rel_cf0]; cases a.whiteToMove
    · exact (r8 false true).2
    · exact (r8 true true).2
  · rw [rel_cf1]; cases a.whiteToMove
    · exact (r8 false false).1
    · exact (r8 true false).1
  · rw [rel_cf2]; cases a.whiteToMove
    · exact (r8 true true).2
    · exact (r8 false true).2
  · rw [rel_cf3]; cases a.whiteToMove
    · exact (r8 true false).1
    · exact (r8 false false).1

/-- every FEN of a position of the domain is read back to it, the castle files of absent rights reset. -/
theorem setFen_printFen_abs (ar : Arith) (p : Position) (st : CastleStyle) (hV : ValidPos p = true)
    (hst : st = .kqkq → AllOutermost (abs p))
    (hatt : p.isSqAttacked (lsb (p.c1 &&& p.p5)) false = false) :
    setFen ar p.frc (printFen (abs p) st) = some (normCf p) := by
  obtain ⟨hC, hVa, hh, hf, _, _, _, _, hk⟩ := validPos_parts hV
  have hrel := rel_abs' p hC hk
  rw [← hrel]
  apply setFen_printFen (abs p) p.frc ar st hVa (absBoard_ge p) hh hf hst
  rw [hrel]
  exact hatt

end FenC

theorem startpos_notInCheck :
    Gen.startpos.isSqAttacked (lsb (Gen.startpos.c1 &&& Gen.startpos.p5)) false = false := by decide +kernel

/-- the standard start FEN is the printed form of the built-in start position (`printFen_startpos`), so it is read back
to it, in either arithmetic. -/
theorem setFen_startFen_ar (ar : Arith) : setFen ar false startFen = some Gen.startpos := by
  have h := setFen_printFen_abs ar Gen.startpos .xfen startpos_valid nofun startpos_notInCheck
  rwa [printFen_startpos, show normCf Gen.startpos = Gen.startpos from by decide] at h

theorem setFen_startFen :
    setFen .wrap false startFen = some Gen.startpos ∧ setFen .trap false startFen = some Gen.startpos :=
  ⟨setFen_startFen_ar .wrap, setFen_startFen_ar .trap⟩

end Rawr
