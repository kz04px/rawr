import Rawr.Proofs.SearchNode
/-! What a call of the search does to the state it threads, and the principles for its two loops.

* The move loop: `ChildDepth` (the depths it hands to a child), `nmLoop_invariant` (invariant rule) with its readings
  `nmLoop_best` ("a best move is found iff there is a move") and `nmLoop_rel` (state relations); `nmLoop_total` ("the loop
  answers").
* `StateRel R`, `negamax_rel`: one induction over `negamax` for every relation `R` between the state a call receives
  and the state it hands back that the elementary state updates respect; `SState.Inv` (C13: history and number of table
  slots are handed back unchanged) is such a relation.
* The driver: `rootIter_step` and `root_first`, what one iteration of `rootIter` that returns has done, in terms of `endPoll`
  (the poll at the end of an iteration) and `mkInfo` (the record it reports); `root_inv`, `SState.Inv` for the driver. -/
namespace Rawr

def SState.Inv (s s' : SState) : Prop := s'.hist = s.hist ∧ s'.tt.len = s.tt.len

theorem SState.Inv.refl (s : SState) : SState.Inv s s := ⟨rfl, rfl⟩

theorem SState.Inv.trans {a b c : SState} (h1 : SState.Inv a b) (h2 : SState.Inv b c) : SState.Inv a c :=
  ⟨h2.1.trans h1.1, h2.2.trans h1.2⟩

theorem shouldStop_inv (lim : Limit) (s : SState) : SState.Inv s (shouldStop lim s).2 := ⟨rfl, rfl⟩

theorem shouldStop_snd (lim : Limit) (s : SState) :
    (shouldStop lim s).2 = { s with polls := s.polls + 1 } := rfl

theorem shouldStop_fst_seldepth (lim : Limit) (s : SState) (x : Int) :
    (shouldStop lim { s with seldepth := x }).1 = (shouldStop lim s).1 := by
  cases lim <;> rfl

theorem shouldStop_depth (D : Int) (s : SState) : (shouldStop (.depth D) s).1 = decide (s.depth > D) := rfl
theorem shouldStop_nodes (N : Nat) (s : SState) : (shouldStop (.nodes N) s).1 = decide (s.nodes ≥ N) := rfl
theorem shouldStop_clock (o : Nat → Bool) (s : SState) : (shouldStop (.clock o) s).1 = o s.polls := rfl

/-- pop after push: if the callee preserved the pushed state `b` (which is `a` with one more entry). -/
theorem SState.Inv.pop {a b s : SState} {x : BB} (h : SState.Inv b s)
    (hb : b.hist = x :: a.hist) (hbt : b.tt.len = a.tt.len) : SState.Inv a { s with hist := s.hist.tail } :=
  ⟨by show s.hist.tail = a.hist; rw [h.1, hb]; rfl, h.2.trans hbt⟩

/-- remaining depth handed to a child by the move loop: `depth - 1`, or one less under late-move reduction
(which needs `depth ≥ 3`). -/
def ChildDepth (depth d : Int) : Prop := d = depth - 1 ∨ (d = depth - 2 ∧ 3 ≤ depth)

theorem childDepth_lmr (depth : Int) (b : Bool) (hb : b = false → 3 ≤ depth) :
    ChildDepth depth (depth - 1 - (if b = true then 0 else 1)) := by
  cases b with
  | true => left; simp only [↓reduceIte]; omega
  | false => right; have := hb rfl; simp only [Bool.false_eq_true, ↓reduceIte]; omega

/-- Loop-invariant principle for the move loop of `negamax`.
`S` holds of the state between two moves, `Sp c` of the state while child `c` is being searched (its key
pushed); `Q m score` is what one learns about the score of move `m`; `R done alpha best bm` is the invariant
of the loop variables after the moves `done` have been tried. -/
theorem nmLoop_invariant (rec : Rec)
    (p : Position) (beta ply depth : Int) (inCheck : Bool)
    (S : SState → Prop) (Sp : Position → SState → Prop) (Q : Mv → Int → Prop)
    (R : List Mv → Int → Int → Option Mv → Prop) (all : List Mv)
    (hpush : ∀ st c, S st → Sp c ⟨c.hash :: st.hist, st.tt, st.depth, st.seldepth, st.nodes + 1, st.best, st.polls⟩)
    (hpop : ∀ c s, Sp c s → S { s with hist := s.hist.tail })
    (hcall : ∀ m ∈ all, ∀ c, p.makemove m true = some c → ∀ s a b d v s', Sp c s → ChildDepth depth d →
      rec c s a b (ply + 1) d true = some (v, s') → Sp c s' ∧ Q m (-v))
    (hstep : ∀ done m alpha best bm score, m ∈ all → R done alpha best bm → Q m score →
      R (done ++ [m]) (if score > alpha then score else alpha) (if score > best then score else best)
        (if score > best then some m else bm)) :
    ∀ (ms done : List Mv) (idx : Nat) (st : SState) (alpha best : Int) (bm : Option Mv)
      (st' : SState) (a' b' : Int) (bm' : Option Mv),
      (∀ m ∈ ms, m ∈ all) → S st → R done alpha best bm →
      nmLoop rec p beta ply depth inCheck ms idx st alpha best bm = some (st', a', b', bm') →
      ∃ done' rest, ms = done' ++ rest ∧ S st' ∧ R (done ++ done') a' b' bm' ∧ (rest = [] ∨ a' ≥ beta) ∧
        (ms ≠ [] → done' ≠ []) := by
  intro ms
  induction ms with
  | nil =>
    intro done idx st alpha best bm st' a' b' bm' _ hS hR h
    simp only [nmLoop, Option.some.injEq, Prod.mk.injEq] at h
    obtain ⟨rfl, rfl, rfl, rfl⟩ := h
    exact ⟨[], [], rfl, hS, by rwa [List.append_nil], Or.inl rfl, fun h => absurd rfl h⟩
  | cons m ms ih =>
    intro done idx st alpha best bm st' a' b' bm' hall hS hR h
    have hm : m ∈ all := hall m List.mem_cons_self
    simp only [nmLoop] at h
    split at h
    · simp at h
    rename_i c hmk
    have hp0 := hpush st c hS
    generalize hres : (ite (_ = true) _ _ : Option (Int × SState)) = res at h
    have hresP : ∀ score s1, res = some (score, s1) → Sp c s1 ∧ Q m score := by
      intro score s1 h1
      rw [h1] at hres
      rcases ite_cases hres with ⟨_, hr⟩ | ⟨_, hr⟩
      · split at hr
        · simp at hr
        · rename_i sc s2 hcall1
          have h2 := hcall m hm c hmk _ _ _ _ _ _ hp0 (Or.inl rfl) hcall1
          simp only [Option.some.injEq, Prod.mk.injEq] at hr
          rw [← hr.1, ← hr.2]; exact h2
      · split at hr
        · simp at hr
        · rename_i sc s2 hcall1
          have h2 := hcall m hm c hmk _ _ _ _ _ _ hp0 (childDepth_lmr depth _ (by
            intro hbf
            simp only [Bool.or_eq_false_iff, decide_eq_false_iff_not] at hbf
            omega)) hcall1
          ite_split hr
          · split at hr
            · simp at hr
            · rename_i sc3 s3 hcall3
              have h3 := hcall m hm c hmk _ _ _ _ _ _ h2.1 (Or.inl rfl) hcall3
              simp only [Option.some.injEq, Prod.mk.injEq] at hr
              rw [← hr.1, ← hr.2]; exact h3
          · simp only [Option.some.injEq, Prod.mk.injEq] at hr
            rw [← hr.1, ← hr.2]; exact h2
    clear hres
    split at h
    · simp at h
    rename_i score s1
    obtain ⟨hs1, hq⟩ := hresP _ _ rfl
    have hS1 := hpop c s1 hs1
    have hR1 := hstep done m alpha best bm score hm hR hq
    -- the pair `(best, bestMv)` is updated componentwise
    rw [show (if score > best then (score, some m) else (best, bm)) =
      (if score > best then score else best, if score > best then some m else bm) by split <;> rfl] at h
    simp only [] at h
    ite_split h
    · rename_i hcut
      simp only [Option.some.injEq, Prod.mk.injEq] at h
      obtain ⟨rfl, rfl, rfl, rfl⟩ := h
      exact ⟨[m], ms, rfl, hS1, hR1, Or.inr hcut, fun _ => List.cons_ne_nil _ _⟩
    · obtain ⟨done', rest, rfl, h1, h2, h3, _⟩ := ih (done ++ [m]) _ _ _ _ _ _ _ _ _
        (fun m' hm' => hall m' (List.mem_cons_of_mem _ hm')) hS1 hR1 h
      exact ⟨m :: done', rest, rfl, h1, by simpa using h2, h3, fun _ => List.cons_ne_nil _ _⟩

/-- `nmLoop_invariant` for a loop entered with `best = -INF` and no best move, all scores above `-INF`: the first move
tried is recorded, so a best move is found iff there is a move. -/
theorem nmLoop_best (rec : Rec) (p : Position) (beta ply depth : Int) (inCheck : Bool)
    (S : SState → Prop) (Sp : Position → SState → Prop) (W : Int → Prop) (ms : List Mv)
    (hW : ∀ v, W v → -Gen.INF < v)
    (hpush : ∀ st c, S st → Sp c ⟨c.hash :: st.hist, st.tt, st.depth, st.seldepth, st.nodes + 1, st.best, st.polls⟩)
    (hpop : ∀ c s, Sp c s → S { s with hist := s.hist.tail })
    (hcall : ∀ m ∈ ms, ∀ c, p.makemove m true = some c → ∀ s a b d v s', Sp c s → ChildDepth depth d →
      rec c s a b (ply + 1) d true = some (v, s') → Sp c s' ∧ W (-v))
    {st st' : SState} {alpha a' b' : Int} {bm' : Option Mv} (hS : S st)
    (h : nmLoop rec p beta ply depth inCheck ms 0 st alpha (-Gen.INF) none = some (st', a', b', bm')) :
    S st' ∧ ((ms = [] ∧ st' = st ∧ bm' = none) ∨ (W b' ∧ ∃ m ∈ ms, bm' = some m)) := by
  obtain ⟨done', rest, rfl, hS', hR, _, hne⟩ := nmLoop_invariant rec p beta ply depth inCheck S Sp (fun _ v => W v)
    (fun done _ b bm => (done = [] ∧ b = -Gen.INF ∧ bm = none) ∨ (W b ∧ ∃ m ∈ done, bm = some m)) ms hpush hpop hcall
    (by
      intro done m _ b bm score _ hR hQ
      right
      rcases hR with ⟨_, rfl, rfl⟩ | ⟨hb, m', hm', e⟩
      · rw [if_pos (hW _ hQ), if_pos (hW _ hQ)]
        exact ⟨hQ, m, by simp, rfl⟩
      · by_cases hsb : score > b
        · rw [if_pos hsb, if_pos hsb]; exact ⟨hQ, m, by simp, rfl⟩
        · rw [if_neg hsb, if_neg hsb]; exact ⟨hb, m', by simp [hm'], e⟩)
    ms [] 0 st alpha (-Gen.INF) none st' a' b' bm' (fun _ h => h) hS (Or.inl ⟨rfl, rfl, rfl⟩) h
  rw [List.nil_append] at hR
  refine ⟨hS', ?_⟩
  rcases hR with ⟨hd, _, hbm⟩ | ⟨hb, m, hm, e⟩
  · have hnil : done' ++ rest = [] := Classical.byContradiction fun hm => hne hm hd
    rw [hnil] at h ⊢
    exact Or.inl ⟨rfl, by simp only [nmLoop, Option.some.injEq, Prod.mk.injEq] at h; exact h.1.symm, hbm⟩
  · exact Or.inr ⟨hb, m, List.mem_append_left _ hm, e⟩

theorem ex_ite {α : Type} {c : Prop} [Decidable c] {a b : Option α}
    (h1 : c → ∃ r, a = some r) (h2 : ¬c → ∃ r, b = some r) : ∃ r, (if c then a else b) = some r :=
  ite_run (R := fun x => ∃ r, x = some r) h1 h2

theorem ne_none_of_ex {α : Type} {a : Option α} (h : ∃ r, a = some r) : a ≠ none := by
  obtain ⟨r, hr⟩ := h; rw [hr]; exact fun e => by cases e

/-- `S`, `Sp` thread a state invariant as in `nmLoop_invariant`, so that the calls need only answer from the states and
with the depths that occur. -/
theorem nmLoop_total (rec : Rec) (p : Position) (beta ply depth : Int) (inCheck : Bool)
    (S : SState → Prop) (Sp : Position → SState → Prop) (ms : List Mv)
    (hpush : ∀ st c, S st → Sp c ⟨c.hash :: st.hist, st.tt, st.depth, st.seldepth, st.nodes + 1, st.best, st.polls⟩)
    (hpop : ∀ c s, Sp c s → S { s with hist := s.hist.tail })
    (hcall : ∀ m ∈ ms, ∃ c, p.makemove m true = some c ∧ ∀ s a b d, Sp c s → ChildDepth depth d →
      ∃ v s', rec c s a b (ply + 1) d true = some (v, s') ∧ Sp c s') :
    ∀ (idx : Nat) (st : SState) (alpha best : Int) (bestMv : Option Mv), S st →
      ∃ r, nmLoop rec p beta ply depth inCheck ms idx st alpha best bestMv = some r := by
  induction ms with
  | nil => intro idx st alpha best bestMv _; exact ⟨_, rfl⟩
  | cons m ms ih =>
    intro idx st alpha best bestMv hS
    obtain ⟨c, hmk, hrec⟩ := hcall m List.mem_cons_self
    have ih := ih (fun m' hm' => hcall m' (List.mem_cons_of_mem _ hm'))
    have hp0 := hpush st c hS
    simp only [nmLoop, hmk]
    generalize hres : (ite ((idx == 0) = true) _ _ : Option (Int × SState)) = res
    have hres' : ∃ score s1, res = some (score, s1) ∧ Sp c s1 := by
      subst hres
      by_cases h0 : (idx == 0) = true
      · rw [if_pos h0]
        obtain ⟨v, s1, e, h1⟩ := hrec _ (-beta) (-alpha) _ hp0 (Or.inl rfl)
        exact ⟨-v, s1, by rw [e], h1⟩
      · rw [if_neg h0]
        obtain ⟨v, s1, e, h1⟩ := hrec _ (-alpha - 1) (-alpha) _ hp0 (childDepth_lmr depth
          (decide (idx < 4) || decide (depth < 3) || inCheck || p.isCapture m || m.promo == 4) (by
          intro hbf
          simp only [Bool.or_eq_false_iff, decide_eq_false_iff_not] at hbf
          omega))
        rw [e]
        simp only []
        by_cases hre : (decide (alpha < -v) && decide (-v < beta)) = true
        · rw [if_pos hre]
          obtain ⟨v2, s2, e2, h2⟩ := hrec s1 (-beta) (-alpha) _ h1 (Or.inl rfl)
          exact ⟨-v2, s2, by rw [e2], h2⟩
        · rw [if_neg hre]
          exact ⟨-v, s1, rfl, h1⟩
    clear hres
    obtain ⟨score, s1, rfl, hs1⟩ := hres'
    simp only []
    exact ex_ite (fun _ => ⟨_, rfl⟩) (fun _ => ih _ _ _ _ _ (hpop c s1 hs1))

/-- A relation between the state a search call receives and the state it hands back that every elementary state
update of `negamax` respects: the two counters, the stop poll, the push of a key that is popped again after the
callee has returned, and the table store that also records the best move. -/
structure StateRel (R : SState → SState → Prop) : Prop where
  refl : ∀ s, R s s
  trans : ∀ {a b c}, R a b → R b c → R a c
  counters : ∀ s (sd : Int) (n : Nat), R s { s with seldepth := sd, nodes := n }
  poll : ∀ s, R s { s with polls := s.polls + 1 }
  pushPop : ∀ {a s} (x : BB), R { a with hist := x :: a.hist } s → R a { s with hist := s.hist.tail }
  store : ∀ s key e tt (bm : Mv), s.tt.add key e = some tt → R s { s with tt := tt, best := some bm }

def RecRel (R : SState → SState → Prop) (rec : Rec) : Prop :=
  ∀ np s a b pl d c v s', rec np s a b pl d c = some (v, s') → R s s'

theorem StateRel.pollIf {R} (hR : StateRel R) {c : Prop} [Decidable c] (lim : Limit) (s : SState) :
    R s (if c then shouldStop lim s else (false, s)).2 := by
  split
  · exact hR.poll s
  · exact hR.refl s

theorem nmLoop_rel {R} (hR : StateRel R) (rec) (hrec : RecRel R rec) (p : Position) (beta ply depth : Int)
    (inCheck : Bool) (ms : List Mv) (idx : Nat) (st : SState) (alpha best : Int) (bestMv : Option Mv)
    (st' : SState) (a' b' : Int) (bm' : Option Mv)
    (h : nmLoop rec p beta ply depth inCheck ms idx st alpha best bestMv = some (st', a', b', bm')) : R st st' := by
  -- while a child is searched the state is related to the pushed form of some state `a` that `st` is related to
  obtain ⟨_, _, _, hS, _⟩ := nmLoop_invariant rec p beta ply depth inCheck
    (fun s => R st s) (fun c s => ∃ a, R st a ∧ R { a with hist := c.hash :: a.hist } s)
    (fun _ _ => True) (fun _ _ _ _ => True) ms
    (fun s c hs => ⟨{ s with nodes := s.nodes + 1 }, hR.trans hs (hR.counters s s.seldepth _), hR.refl _⟩)
    (fun c s ⟨a, h1, h2⟩ => hR.trans h1 (hR.pushPop _ h2))
    (fun m _ c _ s a b d v s' ⟨x, h1, h2⟩ _ hc => ⟨⟨x, h1, hR.trans h2 (hrec _ _ _ _ _ _ _ _ _ hc)⟩, trivial⟩)
    (fun _ _ _ _ _ _ _ _ _ => trivial)
    ms [] idx st alpha best bestMv st' a' b' bm' (fun _ h => h) (hR.refl st) trivial h
  exact hS

theorem NullPass.rel {R} (hR : StateRel R) {rec : Rec} (hrec : RecRel R rec) {p : Position} {s s2 : SState}
    {b ply d : Int} {cn : Bool} (h : NullPass rec p s b ply d cn s2) : R s s2 := by
  cases h with
  | skip _ => exact hR.refl _
  | low _ hn _ => exact hR.pushPop _ (hrec _ _ _ _ _ _ _ _ _ hn)

theorem negamax_rel {R} (hR : StateRel R) (lim : Limit) (fuel : Nat) : RecRel R (negamax lim fuel) := by
  induction fuel with
  | zero => intro np s a b pl d c v s' h; simp [negamax] at h
  | succ fuel ih =>
    intro p st α β ply depth cn v st' h
    have hrun := negamax_succ_run lim fuel p st α β ply depth cn
    rw [h] at hrun
    have h0 : R st (st.enter ply) := hR.counters st _ st.nodes
    cases hrun with
    | ttCut => exact h0
    | quiesce => exact hR.trans h0 (hR.counters _ _ _)
    | inner _ _ _ hin =>
      have hp : R st (nodePoll lim ply (st.enter ply)).2 := hR.trans h0 (hR.pollIf lim _)
      cases hin with
      | stopped | draw | futility => exact hp
      | nullCut _ _ _ hn => exact hR.trans hp (hR.pushPop _ (ih _ _ _ _ _ _ _ _ _ hn))
      | noMove _ _ hpass _ hloop =>
        exact hR.trans hp (hR.trans (hpass.rel hR ih) (nmLoop_rel hR _ ih _ _ _ _ _ _ _ _ _ _ _ _ _ _ _ hloop))
      | store _ _ hpass _ hloop hadd =>
        exact hR.trans (hR.trans hp (hR.trans (hpass.rel hR ih) (nmLoop_rel hR _ ih _ _ _ _ _ _ _ _ _ _ _ _ _ _ _ hloop)))
          (hR.store _ _ _ _ _ hadd)

theorem SState.Inv.stateRel : StateRel SState.Inv :=
  ⟨SState.Inv.refl, SState.Inv.trans, fun _ _ _ => ⟨rfl, rfl⟩, fun _ => ⟨rfl, rfl⟩,
   fun _ h => h.pop rfl rfl, fun _ _ _ _ _ h => ⟨rfl, Table.len_add h⟩⟩

/-- `RecRel SState.Inv rec`, written out. -/
def RecInv (rec : Position → SState → Int → Int → Int → Int → Bool → Option (Int × SState)) : Prop :=
  ∀ np s a b pl d c v s', rec np s a b pl d c = some (v, s') → SState.Inv s s'

theorem negamax_inv (lim : Limit) (fuel : Nat) : RecInv (negamax lim fuel) :=
  negamax_rel SState.Inv.stateRel lim fuel

/-- the end-of-iteration poll `depth > 1 && should_stop(&stats)`. -/
def endPoll (lim : Limit) (depth : Int) (s : SState) : Bool × SState :=
  if depth > 1 then shouldStop lim s else (false, s)

theorem endPoll_snd (lim : Limit) (d : Int) (s : SState) :
    (endPoll lim d s).2 = { s with polls := (endPoll lim d s).2.polls } := by
  unfold endPoll; split <;> rfl

theorem endPoll_polls_le (lim : Limit) (d : Int) (s : SState) : s.polls ≤ (endPoll lim d s).2.polls := by
  unfold endPoll; split
  · exact Nat.le_succ _
  · exact Nat.le_refl _

theorem endPoll_fst_of_le (lim : Limit) (d : Int) (s : SState) (h : d ≤ 1) : (endPoll lim d s).1 = false := by
  unfold endPoll; rw [if_neg (by omega)]
theorem endPoll_fst_of_gt (lim : Limit) (d : Int) (s : SState) (h : 1 < d) :
    (endPoll lim d s).1 = (shouldStop lim s).1 := by
  unfold endPoll; rw [if_pos (by omega)]

def mkInfo (s : SState) (score : Int) (bm : Mv) : InfoRec :=
  ⟨s.depth, s.seldepth, s.nodes, score, s.tt.hashfull, [bm]⟩

theorem rootIter_step {lim : Limit} {fuel : Nat} {p : Position} {k : Nat} {depth : Int} {st : SState}
    {bm : Option Mv} {infos : List InfoRec} {res : RootResult}
    (h : rootIter lim fuel p (k + 1) depth st bm infos = some res) :
    (depth ≥ Gen.MAX_DEPTH ∧ res = ⟨bm, infos.reverse, st.hist, st.tt⟩) ∨
    (depth < Gen.MAX_DEPTH ∧ ∃ score s1,
      negamax lim fuel p { st with depth := depth } (-Gen.INF) Gen.INF 0 depth false = some (score, s1) ∧
      ((s1.best = none ∧ res = ⟨none, infos.reverse, s1.hist, s1.tt⟩) ∨
       ∃ m, s1.best = some m ∧
        (((endPoll lim depth s1).1 = true ∧ res = ⟨bm, infos.reverse, s1.hist, s1.tt⟩) ∨
         ((endPoll lim depth s1).1 = false ∧
          rootIter lim fuel p k (depth + 1) (endPoll lim depth s1).2 (some m) (mkInfo s1 score m :: infos)
            = some res)))) := by
  simp only [rootIter] at h
  ite_split h
  · left
    simp only [Option.some.injEq] at h
    exact ⟨by assumption, h.symm⟩
  right
  refine ⟨by omega, ?_⟩
  split at h
  · simp at h
  rename_i score s1 hnm
  refine ⟨score, s1, hnm, ?_⟩
  split at h
  · left
    simp only [Option.some.injEq] at h
    exact ⟨by assumption, h.symm⟩
  rename_i m hm
  right
  refine ⟨m, hm, ?_⟩
  change (if (endPoll lim depth s1).1 = true then _ else _) = some res at h
  ite_split h
  · left
    simp only [Option.some.injEq] at h
    refine ⟨by assumption, ?_⟩
    rw [← h]
    show RootResult.mk bm infos.reverse (endPoll lim depth s1).2.hist (endPoll lim depth s1).2.tt = _
    rw [endPoll_snd]
  · right
    refine ⟨by simpa using (by assumption : ¬ (endPoll lim depth s1).1 = true), ?_⟩
    rw [← h]
    have : mkInfo s1 score m = ⟨(endPoll lim depth s1).2.depth, (endPoll lim depth s1).2.seldepth,
        (endPoll lim depth s1).2.nodes, score, (endPoll lim depth s1).2.tt.hashfull, [m]⟩ := by
      rw [endPoll_snd]; rfl
    rw [this]; rfl

theorem rootIter_inv (lim : Limit) (fuel : Nat) (p : Position) (k : Nat) :
    ∀ (depth : Int) (st : SState) (bestMove : Option Mv) (infos : List InfoRec) (res : RootResult),
      rootIter lim fuel p k depth st bestMove infos = some res →
      res.hist = st.hist ∧ res.tt.len = st.tt.len := by
  induction k with
  | zero =>
    intro depth st bestMove infos res h
    simp only [rootIter, Option.some.injEq] at h
    subst h; exact ⟨rfl, rfl⟩
  | succ k ih =>
    intro depth st bestMove infos res h
    rcases rootIter_step h with ⟨_, rfl⟩ | ⟨_, score, s1, hnm, hrest⟩
    · exact ⟨rfl, rfl⟩
    · have h0 := negamax_inv lim fuel _ _ _ _ _ _ _ _ _ hnm
      have h1 : SState.Inv st s1 := h0
      rcases hrest with ⟨_, rfl⟩ | ⟨m, _, ⟨_, rfl⟩ | ⟨_, hrec⟩⟩
      · exact h1
      · exact h1
      · have h3 := ih _ _ _ _ _ hrec
        rw [endPoll_snd] at h3
        exact ⟨h3.1.trans h1.1, h3.2.trans h1.2⟩

theorem root_inv (lim : Limit) (fuel : Nat) (p : Position) (hist : List BB) (tt : Table TTEntry)
    (res : RootResult) (h : root lim fuel p hist tt = some res) :
    res.hist = hist ∧ res.tt.len = tt.len :=
  rootIter_inv lim fuel p _ _ _ _ _ _ h

/-- the first iteration of the driver: it has no end-of-iteration poll. -/
theorem root_first {lim : Limit} {fuel : Nat} {p : Position} {hist : List BB} {tt : Table TTEntry} {res : RootResult}
    (h : root lim fuel p hist tt = some res) :
    ∃ score s1, negamax lim fuel p ⟨hist, tt, 1, 0, 0, none, 0⟩ (-Gen.INF) Gen.INF 0 1 false = some (score, s1) ∧
      ((s1.best = none ∧ res = ⟨none, [], s1.hist, s1.tt⟩) ∨
       ∃ m, s1.best = some m ∧
        rootIter lim fuel p (Gen.MAX_DEPTH.toNat - 1) 2 s1 (some m) [mkInfo s1 score m] = some res) := by
  rcases rootIter_step (k := Gen.MAX_DEPTH.toNat - 1) h with ⟨hcap, _⟩ | ⟨_, score, s1, hnm, hrest⟩
  · exact absurd hcap (by decide)
  · refine ⟨score, s1, hnm, ?_⟩
    rcases hrest with h1 | ⟨m, hm, ⟨hpoll, _⟩ | ⟨_, hrec⟩⟩
    · exact Or.inl h1
    · cases hpoll
    · exact Or.inr ⟨m, hm, hrec⟩

end Rawr
