import Rawr.Proofs.Census
/-! Bridge (domain closure, clause M), specification level: `Spec.LegalMaterial` is preserved by every legal
move of a valid position. Counting is the census of `Proofs/Census.lean` with weights 0 and 1 (`count_newBoard`): a
non-castling move removes the moving man from its square, possibly an enemy man (on the target or, en passant,
beside it), and puts the moving man — or the piece it promotes to — on the target; castling moves two men. For the
side that did not move every count can only fall; for the mover every count is unchanged except that a promotion
trades one pawn for one piece, which keeps `excess pieces ≤ 8 − pawns`. -/
namespace Rawr.Br
open Rawr.Spec Rawr.SV Rawr.Term

def ind (o : Option Piece) (f : Piece → Bool) : Nat :=
  match o with
  | some pc => if f pc = true then 1 else 0
  | none => 0

theorem cellW_ind (f : Piece → Bool) (b : Board) (s : Nat) :
    cellW (fun pc _ => if f pc = true then 1 else 0) b s = ind (b s) f := by
  unfold cellW ind; cases b s <;> rfl

def cnt (b : Board) (w : Bool) (k : Kind) : Nat := countPieces b (fun pc => pc == ⟨w, k⟩)
def cntCol (b : Board) (w : Bool) : Nat := countPieces b (fun pc => pc.white == w)

/-- the pieces beyond those of the initial set: each of them is a promoted pawn. -/
def excess (b : Board) (w : Bool) : Nat :=
  (cnt b w .knight - 2) + (cnt b w .bishop - 2) + (cnt b w .rook - 2) + (cnt b w .queen - 1)

def MatOK (b : Board) (w : Bool) : Prop :=
  cntCol b w ≤ 16 ∧ cnt b w .pawn ≤ 8 ∧ excess b w ≤ 8 - cnt b w .pawn

theorem legalMaterial_iff (a : APos) : LegalMaterial a = true ↔ MatOK a.board true ∧ MatOK a.board false := by
  unfold LegalMaterial MatOK excess cnt cntCol
  simp only [List.all_cons, List.all_nil, Bool.and_true, Bool.and_eq_true, decide_eq_true_eq, and_assoc]

theorem matOK_of_trade {b b' : Board} {w : Bool} (d : Nat) (h : MatOK b w) (hc : cntCol b' w ≤ cntCol b w)
    (hp : cnt b' w .pawn + d ≤ cnt b w .pawn) (he : excess b' w ≤ excess b w + d) : MatOK b' w := by
  obtain ⟨h1, h2, h3⟩ := h
  exact ⟨Nat.le_trans hc h1, by omega, by omega⟩

theorem sub_le_sub_add {x y d : Nat} (c : Nat) (h : x ≤ y + d) : x - c ≤ y - c + d := by omega

theorem excess_le {b b' : Board} {w : Bool} {δ : Kind → Nat} (hk : ∀ k, cnt b' w k ≤ cnt b w k + δ k) :
    excess b' w ≤ excess b w + (δ .knight + δ .bishop + δ .rook + δ .queen) := by
  have e1 := sub_le_sub_add 2 (hk .knight)
  have e2 := sub_le_sub_add 2 (hk .bishop)
  have e3 := sub_le_sub_add 2 (hk .rook)
  have e4 := sub_le_sub_add 1 (hk .queen)
  unfold excess
  omega

theorem matOK_of_le {b b' : Board} {w : Bool} (h : MatOK b w)
    (hc : cntCol b' w ≤ cntCol b w) (hk : ∀ k, cnt b' w k ≤ cnt b w k) : MatOK b' w :=
  matOK_of_trade 0 h hc (hk .pawn) (excess_le (δ := fun _ => 0) hk)

section normal
variable {a : APos} {s t : Nat} {pr : Option Kind} {pc : Piece}

theorem count_newBoard (v : ValidFacts a) (nl : NormalLegal a s t pr pc) (f : Piece → Bool) :
    countPieces (newBoard a s t pr pc) f + ind (some pc) f + ind (a.board t) f +
        (if isEpB a s t pc = true then ind (some ⟨!a.whiteToMove, .pawn⟩) f else 0) =
      countPieces a.board f + ind (some (newPiece pr pc)) f := by
  rw [countPieces_eq_wsum, countPieces_eq_wsum, ← cellW_ind]
  exact wsum_newBoard _ v nl

def OnlyCol (f : Piece → Bool) (c : Bool) : Prop := ∀ x, f x = true → x.white = c

theorem ind_zero_of_col {f : Piece → Bool} {c : Bool} (hf : OnlyCol f c) {x : Piece} (hx : x.white ≠ c) :
    ind (some x) f = 0 := by
  unfold ind
  simp only []
  split
  · next h => exact absurd (hf x h) hx
  · rfl

theorem count_opp_le (v : ValidFacts a) (nl : NormalLegal a s t pr pc) (f : Piece → Bool)
    (hf : OnlyCol f (!a.whiteToMove)) : countPieces (newBoard a s t pr pc) f ≤ countPieces a.board f := by
  have h := count_newBoard v nl f
  have hw := nl.hw
  have e1 : ind (some (newPiece pr pc)) f = 0 :=
    ind_zero_of_col hf (by rw [newPiece_white, hw]; cases a.whiteToMove <;> simp)
  rw [e1] at h
  omega

/-- the mover: what stood on the target, and the en-passant victim, are not the mover's. -/
theorem count_own (v : ValidFacts a) (nl : NormalLegal a s t pr pc) (f : Piece → Bool)
    (hf : OnlyCol f a.whiteToMove) :
    countPieces (newBoard a s t pr pc) f + ind (some pc) f = countPieces a.board f + ind (some (newPiece pr pc)) f := by
  have h := count_newBoard v nl f
  have e1 : ind (a.board t) f = 0 := by
    cases hq : a.board t with
    | none => rfl
    | some q =>
      obtain ⟨hne, _⟩ := nl.tgt q hq
      exact ind_zero_of_col hf (by rw [← nl.hw]; exact hne)
  have e2 : ind (some (⟨!a.whiteToMove, .pawn⟩ : Piece)) f = 0 :=
    ind_zero_of_col hf (by cases a.whiteToMove <;> simp)
  rw [e1, e2] at h
  split at h <;> omega

theorem onlyCol_cnt (w : Bool) (k : Kind) : OnlyCol (fun pc => pc == ⟨w, k⟩) w := by
  intro x hx
  have : x = ⟨w, k⟩ := by simpa using hx
  rw [this]

theorem onlyCol_col (w : Bool) : OnlyCol (fun pc => pc.white == w) w := by
  intro x hx
  simpa using hx

theorem ind_eq (x : Piece) (w : Bool) (k : Kind) :
    ind (some x) (fun pc => pc == ⟨w, k⟩) = if x = ⟨w, k⟩ then 1 else 0 := by
  unfold ind
  simp only [beq_iff_eq]

theorem ind_col (x : Piece) (w : Bool) :
    ind (some x) (fun pc => pc.white == w) = if x.white = w then 1 else 0 := by
  unfold ind
  simp only [beq_iff_eq]

theorem ind_kind (w : Bool) (j k : Kind) :
    ind (some ⟨w, j⟩) (fun pc => pc == ⟨w, k⟩) = if j = k then 1 else 0 := by
  rw [ind_eq]
  simp only [Piece.mk.injEq, true_and]

theorem matOK_normal (v : ValidFacts a) (nl : NormalLegal a s t pr pc) (w : Bool)
    (h : MatOK a.board w) : MatOK (newBoard a s t pr pc) w := by
  by_cases hw : w = a.whiteToMove
  · subst hw
    have hcol := count_own v nl _ (onlyCol_col a.whiteToMove)
    rw [ind_col, ind_col, newPiece_white] at hcol
    have hcol : cntCol (newBoard a s t pr pc) a.whiteToMove ≤ cntCol a.board a.whiteToMove :=
      Nat.le_of_eq (Nat.add_right_cancel hcol)
    have hk := fun k => count_own v nl _ (onlyCol_cnt a.whiteToMove k)
    cases pr with
    | none => exact matOK_of_le h hcol (fun k => Nat.le_of_eq (Nat.add_right_cancel (hk k)))
    | some k' =>
      -- a promotion trades the pawn for a piece of kind `k'`
      obtain ⟨hkp, hmem, _⟩ := nl.prK k' rfl
      have hpc := nl.pc_eq
      rw [hkp] at hpc
      subst hpc
      have hδ : ∀ k, cnt (newBoard a s t (some k') ⟨a.whiteToMove, .pawn⟩) a.whiteToMove k +
          (if Kind.pawn = k then 1 else 0) = cnt a.board a.whiteToMove k + (if k' = k then 1 else 0) := by
        intro k
        have := hk k
        rw [ind_kind, show newPiece (some k') ⟨a.whiteToMove, .pawn⟩ = ⟨a.whiteToMove, k'⟩ from rfl, ind_kind] at this
        exact this
      have hne : k' ≠ .pawn := fun e => absurd (e ▸ hmem) (by decide)
      have hp := hδ .pawn
      rw [if_pos rfl, if_neg hne] at hp
      have he := excess_le (δ := fun k => if k' = k then 1 else 0) (fun k => Nat.le.intro (hδ k))
      have h1 : ∀ k' ∈ promoKinds, ((if k' = Kind.knight then 1 else 0) + (if k' = Kind.bishop then 1 else 0) +
          (if k' = Kind.rook then 1 else 0) + (if k' = Kind.queen then 1 else 0) : Nat) = 1 := by decide
      rw [h1 k' hmem] at he
      exact matOK_of_trade 1 h hcol (Nat.le_of_eq hp) he
  · have hw' : w = !a.whiteToMove := Bool.eq_not_of_ne hw
    subst hw'
    exact matOK_of_le h (count_opp_le v nl _ (onlyCol_col _)) (fun k => count_opp_le v nl _ (onlyCol_cnt _ k))

end normal

theorem count_castle {a : APos} (v : ValidFacts a) {ks : Bool} (hc : castleLegal a ks = true)
    (f : Piece → Bool) : countPieces (apply a (.castle ks)).board f = countPieces a.board f := by
  obtain ⟨rf, k, cf⟩ := castle_facts hc
  have := wsum_castle (fun pc _ => if f pc = true then 1 else 0) v cf
  rw [countPieces_eq_wsum, countPieces_eq_wsum]
  omega

theorem legalMaterial_apply {a : APos} {mv : Move} (hv : Valid a = true) (hM : LegalMaterial a = true)
    (hl : mv ∈ legalMoves a) : LegalMaterial (apply a mv) = true := by
  rw [valid_iff] at hv
  rw [legalMaterial_iff] at hM ⊢
  rcases legal_cases hl with ⟨s, t, pr, pc, e, nl, _⟩ | ⟨ks, e, hc⟩
  · subst e
    rw [apply_board nl.hpc]
    exact ⟨matOK_normal hv nl true hM.1, matOK_normal hv nl false hM.2⟩
  · subst e
    have hc := count_castle hv hc
    exact ⟨matOK_of_le hM.1 (Nat.le_of_eq (hc _)) (fun _ => Nat.le_of_eq (hc _)),
      matOK_of_le hM.2 (Nat.le_of_eq (hc _)) (fun _ => Nat.le_of_eq (hc _))⟩

theorem legalMaterial_pass (a : APos) (hM : LegalMaterial a = true) :
    LegalMaterial { a with whiteToMove := !a.whiteToMove, ep := none, half := 0 } = true := hM

end Rawr.Br
