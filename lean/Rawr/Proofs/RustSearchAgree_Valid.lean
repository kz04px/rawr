import Rawr.Proofs.RustSearchAgree_QSearch
import Rawr.Proofs.GenShape
import Rawr.Proofs.MakeMoveMain
/-!
# The side condition of the search agreement theorems holds on well-formed positions

`SrcOk p (legalMoves p)` (no generated move starts from an empty square, so `piece.unwrap()` in the ordering code
cannot panic) follows from the generator shape lemmas for every position with the board facts `VFacts`
(consistent boards, one own king, castling rights backed by rooks, a well-formed en-passant square);
`ValidPos p` implies `VFacts p` (`vfacts_of_valid`); `RustSearchAgree_Rules.lean` carries this along the search tree.
-/
namespace Rawr

theorem srcOk_of_vfacts {p : Position} (F : VFacts p) : SrcOk p (legalMoves p) := by
  intro m hm _
  unfold legalMoves at hm
  obtain ⟨g, hg, rfl⟩ := List.mem_map.mp hm
  obtain ⟨i, hi⟩ := ZH.shape_piece (moveShape_of_genOk F (gen_shape_of p F g hg))
  simp [hi]

end Rawr

#print axioms Rawr.srcOk_of_vfacts
