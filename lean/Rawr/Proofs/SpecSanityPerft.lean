import Rawr.Proofs.SpecEval
import Rawr.Proofs.SpecSanityPerftDefs
/-!
# Sanity of the specification, part 5: published perft counts, evaluated by the kernel through `leavesE` (Proofs/SpecEval.lean)

The standard start position, "Kiwipete", position 3 of the chessprogramming perft page, two Chess960 positions.
-/
namespace Rawr.SpecS
open Rawr.Spec

theorem leaves_succ_of {a : APos} {l : List Move} (h : legalMoves a = l) (d : Nat) :
    leaves a (d + 1) = (l.map fun m => leaves (apply a m) d).sum := by
  rw [← h]; rfl

/-! The standard start position at depth 3 is counted in three parts: below the first seven, the next seven and the
last six of the twenty first moves. -/

def startA : List Move :=
  [.normal 1 16 none, .normal 1 18 none, .normal 6 21 none, .normal 6 23 none,
    .normal 8 16 none, .normal 8 24 none, .normal 9 17 none]

def startB : List Move :=
  [.normal 9 25 none, .normal 10 18 none, .normal 10 26 none, .normal 11 19 none,
    .normal 11 27 none, .normal 12 20 none, .normal 12 28 none]

def startC : List Move :=
  [.normal 13 21 none, .normal 13 29 none, .normal 14 22 none, .normal 14 30 none,
    .normal 15 23 none, .normal 15 31 none]

/-- the twenty first moves, in the order of `Spec.legalMoves`. -/
theorem start_moves : legalMoves stdStart = startA ++ (startB ++ startC) := by
  rw [← legalMovesE_eq]; decide +kernel

theorem leaves_start_1 : leaves stdStart 1 = 20 := by rw [leaves_succ_of start_moves 0]; rfl

theorem leaves_start_2 : leaves stdStart 2 = 400 := by rw [leaves_eval]; decide +kernel

theorem start3_a : (startA.map fun m => leaves (apply stdStart m) 2).sum = 2900 := by
  simp only [leaves_eval]; decide +kernel

theorem start3_b : (startB.map fun m => leaves (apply stdStart m) 2).sum = 3580 := by
  simp only [leaves_eval]; decide +kernel

theorem start3_c : (startC.map fun m => leaves (apply stdStart m) 2).sum = 2422 := by
  simp only [leaves_eval]; decide +kernel

theorem leaves_start_3 : leaves stdStart 3 = 8902 := by
  rw [leaves_succ_of start_moves 2, List.map_append, List.map_append, List.sum_append, List.sum_append,
    start3_a, start3_b, start3_c]

/-- the first moves, in the order of `Spec.legalMoves`. -/
theorem kiwi_moves : legalMoves kiwipete =
    [.normal 0 1 none, .normal 0 2 none, .normal 0 3 none, .normal 4 3 none, .normal 4 5 none,
      .normal 7 5 none, .normal 7 6 none, .normal 8 16 none, .normal 8 24 none,
      .normal 9 17 none, .normal 11 2 none, .normal 11 20 none, .normal 11 29 none,
      .normal 11 38 none, .normal 11 47 none, .normal 12 3 none, .normal 12 5 none,
      .normal 12 19 none, .normal 12 26 none, .normal 12 33 none, .normal 12 40 none,
      .normal 14 22 none, .normal 14 30 none, .normal 14 23 none, .normal 18 1 none,
      .normal 18 3 none, .normal 18 24 none, .normal 18 33 none, .normal 21 19 none,
      .normal 21 20 none, .normal 21 22 none, .normal 21 23 none, .normal 21 29 none,
      .normal 21 30 none, .normal 21 37 none, .normal 21 39 none, .normal 21 45 none,
      .normal 35 43 none, .normal 35 44 none, .normal 36 19 none, .normal 36 26 none,
      .normal 36 30 none, .normal 36 42 none, .normal 36 46 none, .normal 36 51 none,
      .normal 36 53 none, .castle true, .castle false] := by
  rw [← legalMovesE_eq]; decide +kernel

theorem leaves_kiwi_1 : leaves kiwipete 1 = 48 := by rw [leaves_succ_of kiwi_moves 0]; rfl

theorem leaves_kiwi_2 : leaves kiwipete 2 = 2039 := by rw [leaves_eval]; decide +kernel

theorem leaves_pos3_1 : leaves cpwPos3 1 = 14 := by rw [leaves_eval]; decide +kernel

theorem leaves_pos3_2 : leaves cpwPos3 2 = 191 := by rw [leaves_eval]; decide +kernel

theorem leaves_pos3_3 : leaves cpwPos3 3 = 2812 := by rw [leaves_eval]; decide +kernel

theorem leaves_frcPos1_1 : leaves frcPos1 1 = 21 := by rw [leaves_eval]; decide +kernel

theorem leaves_frcPos1_2 : leaves frcPos1 2 = 528 := by rw [leaves_eval]; decide +kernel

theorem frcCastle_moves : legalMoves frcCastle =
    [.normal 1 2 none, .normal 6 2 none, .normal 6 3 none, .normal 6 4 none, .normal 6 5 none,
     .normal 6 7 none, .normal 6 14 none, .normal 6 22 none, .normal 6 30 none, .normal 6 38 none,
     .normal 6 46 none, .normal 6 54 none, .normal 8 16 none, .normal 8 24 none, .normal 9 17 none,
     .normal 9 25 none, .normal 10 18 none, .normal 10 26 none, .normal 15 23 none, .normal 15 31 none,
     .castle true, .castle false] := by
  rw [← legalMovesE_eq]; decide +kernel

theorem leaves_frcCastle_1 : leaves frcCastle 1 = 22 := by rw [leaves_succ_of frcCastle_moves 0]; rfl

theorem leaves_frcCastle_2 : leaves frcCastle 2 = 429 := by rw [leaves_eval]; decide +kernel

/-- White O-O: king b1 → g1, rook g1 → f1; b1 is left empty, the a1 rook is untouched, both white rights go. -/
theorem frcCastle_white_OO :
    castleLegal frcCastle true = true ∧
    (let p := apply frcCastle (.castle true)
     p.board 6 = wK ∧ p.board 5 = wR ∧ p.board 1 = none ∧ p.board 0 = wR ∧
     p.wK = none ∧ p.wQ = none ∧ p.bK = some 7 ∧ p.bQ = some 1 ∧ p.whiteToMove = false) := by
  decide +kernel

/-- White O-O-O: king b1 → c1, rook a1 → d1; a1 and b1 are left empty, the g1 rook is untouched. -/
theorem frcCastle_white_OOO :
    castleLegal frcCastle false = true ∧
    (let p := apply frcCastle (.castle false)
     p.board 2 = wK ∧ p.board 3 = wR ∧ p.board 0 = none ∧ p.board 1 = none ∧ p.board 6 = wR ∧
     p.wK = none ∧ p.wQ = none) := by
  decide +kernel

/-- after 1. a3 Black may castle both ways: O-O leaves the king on g8 and brings the h8 rook to f8;
O-O-O brings the king to c8 and the b8 rook to d8. -/
theorem frcCastle_black :
    (let q := apply frcCastle (.normal 8 16 none)
     castleLegal q true = true ∧ castleLegal q false = true ∧
     (let p := apply q (.castle true)
      p.board 62 = bK ∧ p.board 61 = bR ∧ p.board 63 = none ∧ p.board 57 = bR ∧ p.bK = none ∧ p.bQ = none) ∧
     (let p := apply q (.castle false)
      p.board 58 = bK ∧ p.board 59 = bR ∧ p.board 57 = none ∧ p.board 62 = none ∧ p.board 63 = bR)) := by
  decide +kernel

/-- castling through an attacked square is refused, but only the *king's* walk matters: with the black rook
on d8 instead of b8 the d-file is covered, so White may not castle O-O (the king would cross d1), yet O-O-O
(king b1 → c1, rook a1 → d1) stays legal — d1 is only the rook's destination. -/
def frcCastleD : APos :=
  { frcCastle with
    board := board8
      (row8 wR wK __ __ __ __ wR __)
      (row8 wP wP wP __ __ __ __ wP)
      (row8 __ __ __ __ __ __ __ __)
      (row8 __ __ __ __ __ __ __ __)
      (row8 __ __ __ __ __ __ __ __)
      (row8 __ __ __ __ __ __ __ __)
      (row8 bP __ __ __ __ __ bP bP)
      (row8 __ __ __ bR __ __ bK bR),
    bQ := none }

theorem frcCastleD_castles : castleLegal frcCastleD true = false ∧ castleLegal frcCastleD false = true := by
  decide +kernel

end Rawr.SpecS
