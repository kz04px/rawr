import Rawr.Proofs.RustSessionAgree_Perft
/-!
# uci/go.rs `go` regenerated from the Rust source agrees with the model's `doGo`

`R.go fuel ar sfuel clock toks pos history tt` returns the rest of the token stream, the position, the history (oldest
first, as RustText.lean keeps it), the table and the printed byte stream; the model's `doGo ar o s toks` returns the new
session state and the printed lines.  The agreement (`agree_go`) is stated with `GoRel`: the model panics iff the
regenerated code does, the states agree, and the printed stream consists of complete lines whose canonical form
(`Sess.canonLine`: `time <t>` ↦ `time ?`, `nps <n>` removed) is the model's output.

Side conditions (`GoOk`), by the kind of the parsed command:
* search: `OrderOkN 1000 pos` (as `agree_root`); the model's stop oracle `o` is the one the clock implements for the
  parsed time control (`toLimit`); the moves the model reports (principal variations, best move) are between on-board
  squares (`Mv::to_uci` panics otherwise);
* `perft d`: `d < fuel`;  `split d`: `d - 1 < fuel`, the legal moves are between on-board squares.
`RustSessionAgree_GoRules.lean` discharges them for valid positions.

The search fuel `1000`, here and in the files that follow, is the literal the model's `doGo` passes to `root`
(Rawr/Model/Uci.lean; `goSearch` of Proofs/UciGo.lean).
-/
namespace Rawr.Sess

/-- what `root.rs` puts into an `Info` (all but the principal variation). -/
structure InfoShape (p : Position) (i : R.Info) : Prop where
  pos : i.pos = p
  depth : i.depth.isSome = true
  seldepth : i.seldepth.isSome = true
  score : i.score.isSome = true
  nodes : i.nodes.isSome = true
  mate : i.mate = none
  elapsed : i.elapsed.isSome = true
  hashfull : ∀ h, i.hashfull = some h → 0 ≤ h

theorem infoShape_rootInfo (p : Position) (el : Nat) (s : SState) (score : Int) (b : Mv) :
    InfoShape p (rootInfo p el s score b) := by
  refine ⟨rfl, rfl, rfl, rfl, rfl, rfl, rfl, fun h he => ?_⟩
  obtain ⟨k, _, rfl⟩ := Option.map_eq_some_iff.1 he
  exact Int.natCast_nonneg k

theorem printAll_infos : ∀ (infos : List R.Info) (out : List Char), (∀ i ∈ infos, InfoOk i) →
    ∃ s, T.printAll (fun i => R.info_printer i) infos out = some (out ++ s) ∧
      Out s (infos.map fun i => infoLine i.pos (infoToModel i)) := by
  intro infos
  induction infos with
  | nil => intro out _; exact ⟨[], by simp [T.printAll], Out.nil⟩
  | cons i infos ih =>
    intro out h
    obtain ⟨s1, e1, o1⟩ := agree_info_printer i (h i (by simp))
    obtain ⟨s2, e2, o2⟩ := ih (out ++ s1) (fun x hx => h x (by simp [hx]))
    refine ⟨s1 ++ s2, ?_, ?_⟩
    · simp only [T.printAll, e1, e2, List.append_assoc]
    · exact Out.append (m := [_]) o1 o2

/-- the `Limit` the model's `doGo` searches with. -/
def goLimit (o : Nat → Bool) : GoKind → Option Limit
  | .depth d => some (.depth d)
  | .nodes n => some (.nodes n)
  | .infinite => some .infinite
  | .movetime _ => some (.clock o)
  | .time _ _ _ => some (.clock o)
  | .perft _ => none
  | .split _ => none

/-- the moves `root` reports, which `go` prints with `Mv::to_uci`, are between on-board squares. -/
def ResOnBoard (res : RootResult) : Prop :=
  (∀ r ∈ res.infos, ∀ m ∈ r.pv, m.src < 64 ∧ m.dst < 64) ∧ (∀ m, res.best = some m → m.src < 64 ∧ m.dst < 64)

/-- the side conditions of `agree_go`, by the parsed command (`u` as go.rs parses it). -/
def GoOk (fuel : Nat) (clk : Nat → Nat) (o : Nat → Bool) (s : UState) (u : T.GoType) : Prop :=
  match u with
  | .perft d => d < fuel
  | .splitPerft d => d - 1 < fuel ∧ MovesOnBoard s.pos
  | u => OrderOkN 1000 s.pos ∧ toLimit (fun k => clk k / 1000000) s.pos (T.toSettings u) = goLimit o (goToModel u) ∧
      ∀ lim res, goLimit o (goToModel u) = some lim → root lim 1000 s.pos s.hist s.tt = some res → ResOnBoard res

/-- relation between the model's result and the regenerated one (`hist` is kept oldest first by go.rs). -/
@[irreducible] def GoRel (s : UState) (m : Option (UState × List String))
    (x : Option (List (List Char) × Position × List BB × Table TTEntry × List Char)) : Prop :=
  match m with
  | none => x = none
  | some (s', L) => ∃ st out, x = some (st, s'.pos, s'.hist.reverse, s'.tt, out) ∧ Out out L ∧
      s'.hashMb = s.hashMb ∧ s'.frc = s.frc

theorem bestmove_out (p : Position) (m : Mv) (h1 : m.src < 64) (h2 : m.dst < 64) :
    Out (T.line ("bestmove " ++ String.ofList (toUciChars p m))) ["bestmove " ++ mvStr p m] :=
  Out.two_words _ _ ['b', 'e', 's', 't', 'm', 'o', 'v', 'e'] (toUciChars p m) (by simp [String.toList_append]) (word_lit _ rfl)
    (toUciChars_facts p m h1 h2).1
    (by rw [List.cons_append, canonLine_head 'b' _ (by decide) (by decide) (by decide)]
        simp [String.toList_append, mvStr, toUci])

theorem bestmove0_out : Out (T.line "bestmove 0000") ["bestmove 0000"] :=
  Out.line1 _ _ (by decide +kernel) (by decide +kernel)

/-- the search block of `go` (as it appears in the regenerated `R.go`). -/
def goSearchR (clk : Nat → Nat) (pos : Position) (hist : List BB) (tt : Table TTEntry) (u : T.GoType) (sfuel : Nat)
    (st : List (List Char)) : Option (List (List Char) × Position × List BB × Table TTEntry × List Char) := do
  let rr ← R.root (fun k => clk k / 1000000) pos hist.reverse tt (T.toSettings u) sfuel
  let out ← T.printAll (fun info => R.info_printer info) rr.2.2.2 []
  match Except.toOption rr.1 with
  | some mv => do
    let to_uci_r ← R.to_uci mv pos
    pure (st, pos, rr.2.1.reverse, rr.2.2.1, out ++ T.line ("bestmove " ++ String.ofList to_uci_r))
  | none => pure (st, pos, rr.2.1.reverse, rr.2.2.1, out ++ T.line "bestmove 0000")

theorem go_search (clk : Nat → Nat) (s : UState) (u : T.GoType) (lim : Limit)
    (hok : OrderOkN 1000 s.pos) (hlim : toLimit (fun k => clk k / 1000000) s.pos (T.toSettings u) = some lim)
    (hres : ∀ res, root lim 1000 s.pos s.hist s.tt = some res → ResOnBoard res) (st : List (List Char)) :
    GoRel s (goSearch s lim) (goSearchR clk s.pos s.hist.reverse s.tt u 1000 st) := by
  unfold goSearchR
  have hr := agree_root (fun k => clk k / 1000000) s.pos (T.toSettings u) lim 1000 hlim hok s.hist s.tt
  rw [List.reverse_reverse]
  unfold goSearch GoRel
  rw [← hr]
  cases hR : R.root (fun k => clk k / 1000000) s.pos s.hist s.tt (T.toSettings u) 1000 with
  | none => rfl
  | some rr =>
    rw [hR] at hr
    simp only [Option.map_some] at hr ⊢
    have hshape := root_infos hlim hok _ (infoShape_rootInfo s.pos) hR
    have hob := hres _ hr.symm
    have hok' : ∀ i ∈ rr.2.2.2, InfoOk i := by
      intro i hi
      have sh := hshape i hi
      exact ⟨sh.depth, sh.seldepth, sh.score, sh.nodes, sh.mate, sh.elapsed, sh.hashfull,
        hob.1 (infoToModel i) (List.mem_map.2 ⟨i, hi, rfl⟩)⟩
    obtain ⟨ps, pe, po⟩ := printAll_infos rr.2.2.2 [] hok'
    have hpos : (rr.2.2.2.map fun i => infoLine i.pos (infoToModel i)) = (rr.2.2.2.map infoToModel).map (infoLine s.pos) := by
      rw [List.map_map]
      apply List.map_congr_left
      intro i hi
      simp only [Function.comp, (hshape i hi).pos]
    simp only [bind, pure, Option.bind_some, pe, List.nil_append]
    cases hb : Except.toOption rr.1 with
    | none =>
      simp only []
      refine ⟨st, _, rfl, ?_, by trivial, by trivial⟩
      rw [← hpos]
      exact po.append bestmove0_out
    | some mv =>
      have hm := hob.2 mv hb
      simp only [agree_to_uci mv s.pos hm.1 hm.2, Option.bind_some]
      refine ⟨st, _, rfl, ?_, by trivial, by trivial⟩
      rw [← hpos]
      exact po.append (bestmove_out s.pos mv hm.1 hm.2)

theorem goLimit_some {o : Nat → Bool} {s : UState} {k : GoKind} {lim : Limit} (h : goLimit o k = some lim) :
    goRun o s (some k) = goSearch s lim := by
  cases k <;> simp only [goLimit, Option.some.injEq, reduceCtorEq] at h <;> subst h <;> rfl

theorem go_unparsed (fuel : Nat) (ar : Arith) (sfuel : Nat) (clk : Nat → Nat) (toks : List (List Char)) (pos : Position)
    (hist : List BB) (tt : Table TTEntry) (st : List (List Char)) (h : R.parse_go fuel toks = some (none, st)) :
    R.go fuel ar sfuel clk toks pos hist tt = some (st, pos, hist, tt, []) := by
  unfold R.go
  simp only [bind, pure, h, Option.bind_some, Option.isNone_none, if_true]

theorem go_perft (fuel : Nat) (ar : Arith) (sfuel : Nat) (clk : Nat → Nat) (toks : List (List Char)) (pos : Position)
    (hist : List BB) (tt : Table TTEntry) (st : List (List Char)) (d : Nat)
    (h : R.parse_go fuel toks = some (some (.perft d), st)) :
    R.go fuel ar sfuel clk toks pos hist tt =
      (R.uci_perft fuel ar clk pos d).bind fun r2 => some (st, r2.1, hist, tt, r2.2) := by
  unfold R.go
  simp only [bind, pure, h, Option.bind_some, Option.isNone_some, Bool.false_eq_true, if_false, List.nil_append]

theorem go_split (fuel : Nat) (ar : Arith) (sfuel : Nat) (clk : Nat → Nat) (toks : List (List Char)) (pos : Position)
    (hist : List BB) (tt : Table TTEntry) (st : List (List Char)) (d : Nat)
    (h : R.parse_go fuel toks = some (some (.splitPerft d), st)) :
    R.go fuel ar sfuel clk toks pos hist tt =
      (R.uci_split fuel ar clk pos d).bind fun r2 => some (st, r2.1, hist, tt, r2.2) := by
  unfold R.go
  simp only [bind, pure, h, Option.bind_some, Option.isNone_some, Bool.false_eq_true, if_false, List.nil_append]

theorem go_searching (fuel : Nat) (ar : Arith) (sfuel : Nat) (clk : Nat → Nat) (toks : List (List Char)) (pos : Position)
    (hist : List BB) (tt : Table TTEntry) (st : List (List Char)) (u : T.GoType)
    (hu : ∀ d, u ≠ .perft d ∧ u ≠ .splitPerft d)
    (h : R.parse_go fuel toks = some (some u, st)) :
    R.go fuel ar sfuel clk toks pos hist tt = goSearchR clk pos hist tt u sfuel st := by
  unfold R.go goSearchR
  simp only [bind, pure, h, Option.bind_some, Option.isNone_some, Bool.false_eq_true, if_false]
  cases u with
  | perft d => exact absurd rfl (hu d).1
  | splitPerft d => exact absurd rfl (hu d).2
  | _ => rfl

/-- **`uci::go::go`**. -/
theorem _root_.Rawr.agree_go (fuel : Nat) (ar : Arith) (clk : Nat → Nat) (o : Nat → Bool) (s : UState) (toks : List (List Char))
    (hfuel : toks.length + 1 ≤ fuel)
    (hok : ∀ u st, R.parse_go fuel toks = some (some u, st) → GoOk fuel clk o s u) :
    GoRel s (doGo ar o s toks) (R.go fuel ar 1000 clk toks s.pos s.hist.reverse s.tt) := by
  have hp := agree_parse_go fuel toks hfuel
  rw [doGo_eq]
  cases hpg : R.parse_go fuel toks with
  | none => rw [hpg] at hp; cases hp
  | some r =>
    obtain ⟨ou, st⟩ := r
    rw [hpg] at hp
    simp only [Option.map_some, Option.some.injEq] at hp
    rw [← hp]
    cases ou with
    | none =>
      rw [go_unparsed _ _ _ _ _ _ _ _ _ hpg]
      unfold GoRel
      exact ⟨st, [], rfl, Out.nil, rfl, rfl⟩
    | some u =>
      have hk := hok u st hpg
      have search : ∀ (hu : ∀ d, u ≠ .perft d ∧ u ≠ .splitPerft d) (lim : Limit), goLimit o (goToModel u) = some lim →
          OrderOkN 1000 s.pos → toLimit (fun k => clk k / 1000000) s.pos (T.toSettings u) = goLimit o (goToModel u) →
          (∀ lim res, goLimit o (goToModel u) = some lim → root lim 1000 s.pos s.hist s.tt = some res → ResOnBoard res) →
          GoRel s (goRun o s (some (goToModel u))) (R.go fuel ar 1000 clk toks s.pos s.hist.reverse s.tt) := by
        intro hu lim hl h1 h2 h3
        rw [goLimit_some hl, go_searching _ _ _ _ _ _ _ _ _ u hu hpg]
        exact go_search clk s u lim h1 (h2.trans hl) (fun res => h3 lim res hl) st
      -- a command that prints and leaves the state alone
      have cmd : ∀ (m : Option (List String)) (x : Option (Position × List Char)), CmdRel s.pos m x →
          GoRel s (m.map fun l => (s, l)) (x.bind fun r2 => some (st, r2.1, s.hist.reverse, s.tt, r2.2)) := by
        intro m x this
        cases m with
        | none => simp only [CmdRel] at this; simp [this, GoRel]
        | some L =>
          simp only [CmdRel] at this
          obtain ⟨x, e, ho⟩ := this
          simp only [e, Option.bind_some, Option.map_some, GoRel]
          exact ⟨st, x, rfl, ho, by trivial, by trivial⟩
      cases u with
      | perft d =>
        rw [go_perft _ _ _ _ _ _ _ _ _ d hpg]
        exact cmd (perftLines s.pos d) _ (agree_uci_perft fuel ar clk s.pos d hk)
      | splitPerft d =>
        rw [go_split _ _ _ _ _ _ _ _ _ d hpg]
        have hk' : d - 1 < fuel ∧ MovesOnBoard s.pos := hk
        exact cmd (splitLines s.pos d) _ (agree_uci_split fuel ar clk s.pos d hk'.1 hk'.2)
      | _ => exact search (fun d => ⟨nofun, nofun⟩) _ rfl hk.1 hk.2.1 hk.2.2

end Rawr.Sess

#print axioms Rawr.agree_go
