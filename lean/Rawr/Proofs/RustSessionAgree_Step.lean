import Rawr.Proofs.RustImpAgree_Eval
import Rawr.Proofs.RustSessionAgree_Lines
/-!
# One iteration of the second command loop of uci/listen.rs (`R.listen_loop5_step`) against the model's `stepSecond`

The loop-carried variables of the regenerated loop are `(exited, input, stdin, got_isready, pos, history, tt, out, hash,
is_frc)`; the model's `UState` is `(hashMb, frc, pos, hist, tt)` with the history most recent first.
`agree_listen_loop5_step` covers every arm of the `match` in listen.rs: `ucinewgame`, `isready`, `print | display | board`,
`go`, `position`, `moves`, `setoption` (with the callback of the second loop, `R.listen_loop3`), `history`, `eval`,
`quit`, and the catch-all. The two results are related by `StepRel`, which is irreducible and read through `stepRel_none`,
`stepRel_quit`, `stepRel_cont` and `stepRel_some`.
-/
namespace Rawr.Sess

theorem str_Hash : str "Hash" = ['H', 'a', 's', 'h'] := by decide
theorem str_hash : str "hash" = ['h', 'a', 's', 'h'] := by decide
theorem str_UCI_Chess960 : str "UCI_Chess960" = ['U', 'C', 'I', '_', 'C', 'h', 'e', 's', 's', '9', '6', '0'] := by decide
theorem str_true : str "true" = ['t', 'r', 'u', 'e'] := by decide

/-- the callback of the FIRST loop (`R.listen_loop1`): `hash`, `is_frc`, `pos.is_frc`. -/
theorem listen_loop1_step_eq (nv : List Char × List Char) (s : UState) :
    R.listen_loop1_step nv s.hashMb s.frc s.pos =
      some (ForInStep.yield ((cbF false s nv).hashMb, (cbF false s nv).frc, (cbF false s nv).pos)) := by
  unfold R.listen_loop1_step cbF
  simp only [str_Hash, str_hash, str_UCI_Chess960, str_true, pure]
  split
  · cases parseUnsigned (2 ^ 64) nv.2 <;> rfl
  · split <;> rfl

theorem _root_.Rawr.agree_listen_loop1 : ∀ (calls : List (List Char × List Char)) (s : UState),
    R.listen_loop1 calls s.hashMb s.frc s.pos =
      some ((calls.foldl (cbF false) s).hashMb, (calls.foldl (cbF false) s).frc, (calls.foldl (cbF false) s).pos) := by
  intro calls
  induction calls with
  | nil => intro s; rfl
  | cons nv calls ih =>
    intro s
    have e := listen_loop1_step_eq nv s
    have e' := ih (cbF false s nv)
    simp only [R.listen_loop1, List.forIn_cons, e, bind, Option.bind_some, List.foldl_cons] at e' ⊢
    exact e'

theorem ttsize_ne : Gen.ttEntrySize ≠ 0 := by decide

/-- the callback of the SECOND loop (`R.listen_loop3`): as the first, and `Hash` resizes the table at once. -/
theorem listen_loop3_step_eq (nv : List Char × List Char) (s : UState) :
    R.listen_loop3_step nv s.hashMb s.tt s.frc s.pos =
      some (ForInStep.yield ((cbF true s nv).hashMb, (cbF true s nv).tt, (cbF true s nv).frc, (cbF true s nv).pos)) := by
  unfold R.listen_loop3_step cbF
  simp only [str_Hash, str_hash, str_UCI_Chess960, str_true, bind, pure, Table.agree_tt_resize _ _ _ ttsize_ne]
  split
  · cases parseUnsigned (2 ^ 64) nv.2 <;> rfl
  · split <;> rfl

theorem _root_.Rawr.agree_listen_loop3 : ∀ (calls : List (List Char × List Char)) (s : UState),
    R.listen_loop3 calls s.hashMb s.tt s.frc s.pos =
      some ((calls.foldl (cbF true) s).hashMb, (calls.foldl (cbF true) s).tt, (calls.foldl (cbF true) s).frc,
        (calls.foldl (cbF true) s).pos) := by
  intro calls
  induction calls with
  | nil => intro s; rfl
  | cons nv calls ih =>
    intro s
    have e := listen_loop3_step_eq nv s
    have e' := ih (cbF true s nv)
    simp only [R.listen_loop3, List.forIn_cons, e, bind, Option.bind_some, List.foldl_cons] at e' ⊢
    exact e'

/-- the model's `stepSecond` on the tokens of the line (`stepSecond_toks`, by `rfl`): the body of `stepSecond` with the
tokens a variable, since a line read in the loop and the line that ended the first loop reach the dispatch with
different texts (`l ++ ['\n']`, `input`) and the same tokens. -/
def stepToks (ar : Arith) (o : Nat → Bool) (s : UState) (toks : List (List Char)) : Option (UState × List String × Bool) :=
  let cmd := toks.headD []
  let rest := toks.drop 1
  if cmd == str "ucinewgame" then
    let p := { Gen.startpos with frc := s.frc }
    some ({ s with pos := p, hist := [p.hash], tt := s.tt.clear }, [], false)
  else if cmd == str "isready" then some (s, ["readyok"], false)
  else if cmd == str "print" || cmd == str "display" || cmd == str "board" then some (s, displayPos s.pos, false)
  else if cmd == str "go" then (doGo ar o s rest).map fun (s, o) => (s, o, false)
  else if cmd == str "position" then (doPosition ar s rest).map fun (s, o) => (s, o, false)
  else if cmd == str "moves" then
    (applyTokens rest s.pos s.hist []).map fun (p, h, o) => ({ s with pos := p, hist := h }, o, false)
  else if cmd == str "setoption" then some (doSetoption s rest true, [], false)
  else if cmd == str "history" then some (s, s.hist.reverse.map hexLine, false)
  else if cmd == str "eval" then some (s, [toString (eval s.pos)], false)
  else if cmd == str "quit" then some (s, [], true)
  else some (s, [], false)

theorem stepSecond_toks (ar : Arith) (o : Nat → Bool) (s : UState) (line : List Char) :
    stepSecond ar o s line = stepToks ar o s (splitWs line) := rfl

/-- the side conditions of one command (on its tokens), for a family `G n` of position invariants as in `agree_moves_ix`
/ `agree_position` (`RustSessionAgree_GoRules.lean` instantiates it with `VE`). -/
def StepOk (G : Nat → Position → Prop) (fuel : Nat) (ar : Arith) (clk : Nat → Nat) (o : Nat → Bool) (s : UState)
    (toks : List (List Char)) : Prop :=
  (toks.headD [] = str "go" → (toks.drop 1).length + 1 ≤ fuel ∧
      ∀ u st, R.parse_go fuel (toks.drop 1) = some (some u, st) → GoOk fuel clk o s u) ∧
  (toks.headD [] = str "position" → 2 ≤ fuel ∧
      ∀ p, setFen ar s.pos.frc (positionArgs (toks.drop 1)).1 = some p → G (positionArgs (toks.drop 1)).2.length p) ∧
  (toks.headD [] = str "moves" → G (toks.drop 1).length s.pos) ∧
  (toks.headD [] = str "print" ∨ toks.headD [] = str "display" ∨ toks.headD [] = str "board" → DisplayOk s.pos)

theorem ne_str {x : List Char} {c d : String} (hc : x = str c) (hne : c ≠ d) : x ≠ str d :=
  fun e => hne (String.toList_inj.1 (hc.symm.trans e))

/-- a line whose command word `c` is none of `go position moves print display board` carries no side condition. -/
theorem stepOk_plain (G : Nat → Position → Prop) (fuel : Nat) (ar : Arith) (clk : Nat → Nat) (o : Nat → Bool) (s : UState)
    {toks : List (List Char)} {c : String} (hc : toks.headD [] = str c)
    (hne : c ∉ ["go", "position", "moves", "print", "display", "board"]) : StepOk G fuel ar clk o s toks := by
  simp only [List.mem_cons, List.not_mem_nil, or_false, not_or] at hne
  obtain ⟨h1, h2, h3, h4, h5, h6⟩ := hne
  exact ⟨fun e => absurd e (ne_str hc h1), fun e => absurd e (ne_str hc h2), fun e => absurd e (ne_str hc h3),
    fun e => e.elim (fun e => absurd e (ne_str hc h4)) fun e => e.elim (fun e => absurd e (ne_str hc h5))
      fun e => absurd e (ne_str hc h6)⟩

/-- the loop-carried variables of the second loop (in the order of the module head). -/
abbrev St5 := Bool × List Char × List (List Char) × Bool × Position × List BB × Table TTEntry × List Char × Nat × Bool

/-- the loop-carried variables for a model state: the history is reversed. -/
def st5 (ex : Bool) (input : List Char) (stdin : List (List Char)) (got : Bool) (s : UState) (out : List Char) : St5 :=
  (ex, input, stdin, got, s.pos, s.hist.reverse, s.tt, out, s.hashMb, s.frc)

/-- relation between the model's step and the regenerated one (`out`: the stream printed so far). -/
@[irreducible] def StepRel (out : List Char) (ex : Bool) (input : List Char) (stdin : List (List Char))
    (m : Option (UState × List String × Bool)) (x : Option (ForInStep St5)) : Prop :=
  match m with
  | none => x = none
  | some (s', L, true) => x = some (ForInStep.done (st5 true input stdin true s' out)) ∧ L = []
  | some (s', L, false) => ∃ y, x = some (ForInStep.yield (st5 ex input stdin true s' (out ++ y))) ∧ Out y L

theorem _root_.Rawr.stepRel_none {out : List Char} {ex : Bool} {input : List Char} {stdin : List (List Char)}
    {x : Option (ForInStep St5)} (h : StepRel out ex input stdin none x) : x = none := by
  unfold StepRel at h; exact h

theorem _root_.Rawr.stepRel_quit {out : List Char} {ex : Bool} {input : List Char} {stdin : List (List Char)} {s' : UState}
    {L : List String} {x : Option (ForInStep St5)} (h : StepRel out ex input stdin (some (s', L, true)) x) :
    x = some (ForInStep.done (st5 true input stdin true s' out)) ∧ L = [] := by
  unfold StepRel at h; exact h

theorem _root_.Rawr.stepRel_cont {out : List Char} {ex : Bool} {input : List Char} {stdin : List (List Char)} {s' : UState}
    {L : List String} {x : Option (ForInStep St5)} (h : StepRel out ex input stdin (some (s', L, false)) x) :
    ∃ y, x = some (ForInStep.yield (st5 ex input stdin true s' (out ++ y))) ∧ Out y L := by
  unfold StepRel at h; exact h

/-- `StepRel` read from the code to the model: a returning iteration is a returning model step, with the same new
state; a `quit` ends the loop (`done`, nothing printed), every other line continues it (`yield`) having printed `y` with
canonical form `L`. -/
theorem _root_.Rawr.stepRel_some {out : List Char} {ex : Bool} {input : List Char} {stdin : List (List Char)}
    {m : Option (UState × List String × Bool)} {x : Option (ForInStep St5)} {r : ForInStep St5}
    (h : StepRel out ex input stdin m x) (hx : x = some r) :
    ∃ s' L q, m = some (s', L, q) ∧
      ((q = true ∧ r = ForInStep.done (st5 true input stdin true s' out) ∧ L = []) ∨
       (q = false ∧ ∃ y, r = ForInStep.yield (st5 ex input stdin true s' (out ++ y)) ∧ Out y L)) := by
  rcases m with _ | ⟨s', L, q⟩
  · rw [stepRel_none h] at hx; cases hx
  · refine ⟨s', L, q, rfl, ?_⟩
    cases q with
    | true =>
      obtain ⟨e, hL⟩ := stepRel_quit h
      rw [e] at hx; injection hx with hx
      exact Or.inl ⟨rfl, hx.symm, hL⟩
    | false =>
      obtain ⟨y, e, hy⟩ := stepRel_cont h
      rw [e] at hx; injection hx with hx
      exact Or.inr ⟨rfl, y, hx.symm, hy⟩


theorem readyok_out : Out (T.line "readyok") ["readyok"] := Out.line1 _ _ (by decide) (by decide)

theorem headD_getD (l : List (List Char)) : l.headD [] = l.head?.getD [] := by cases l <;> rfl

/-- **one iteration of the second loop of `listen`** whose line is already in `input` (`got_isready = false`: the line
that ended the first loop; the other case is `loop5_step_read`). -/
theorem _root_.Rawr.agree_listen_loop5_step (G : Nat → Position → Prop) (hI : ∀ n p, G (n + 1) p → MovesOnBoard p)
    (hM : ∀ n p, G (n + 1) p → G n p)
    (hS : ∀ n p m np, G (n + 1) p → m ∈ legalMoves p → p.makemove m true = some np → G n np)
    (fuel : Nat) (ar : Arith) (clk : Nat → Nat) (o : Nat → Bool) (x : Nat) (ex : Bool) (input : List Char)
    (stdin : List (List Char)) (s : UState) (out : List Char) (hok : StepOk G fuel ar clk o s (splitWs input)) :
    StepRel out ex input stdin (stepToks ar o s (splitWs input))
      (R.listen_loop5_step fuel ar 1000 clk x ex input stdin false s.pos s.hist.reverse s.tt out s.hashMb s.frc) := by
  have hw := splitWs_word input
  unfold R.listen_loop5_step stepToks
  simp only [Bool.false_eq_true, if_false, bind, pure]
  generalize splitWs input = toks at hok hw ⊢
  obtain ⟨okGo, okPos, okMoves, okPrint⟩ := hok
  simp only [← headD_getD, ← List.drop_one, str, String.reduceToList] at okGo okPos okMoves okPrint ⊢
  generalize toks.headD [] = cmd at okGo okPos okMoves okPrint ⊢
  generalize htl : toks.drop 1 = rest at okGo okPos okMoves ⊢
  have hwr : ∀ t ∈ rest, Word t := by
    intro t ht; rw [← htl] at ht; exact hw t (List.mem_of_mem_drop ht)
  -- an arm that continues the loop, having printed `y`
  have cont : ∀ {s' : UState} {L : List String} {x : Option (ForInStep St5)} (y : List Char),
      x = some (ForInStep.yield (st5 ex input stdin true s' (out ++ y))) → Out y L →
      StepRel out ex input stdin (some (s', L, false)) x := by
    intro s' L x y e ho
    unfold StepRel
    exact ⟨y, e, ho⟩
  unfold st5 at cont
  -- the model and the regenerated code dispatch on the same comparisons, in the same order
  refine ite_rel (fun _ => cont [] ?_ Out.nil) fun _ => ?_
  · simp only [agree_startpos, Table.agree_tt_clear, List.append_nil, List.nil_append, List.reverse_cons, List.reverse_nil]
  refine ite_rel (fun _ => cont _ rfl readyok_out) fun _ => ?_
  refine ite_rel (fun h3 => ?_) fun _ => ?_
  · have hd : DisplayOk s.pos := okPrint (by simpa only [Bool.or_eq_true, beq_iff_eq, or_assoc] using h3)
    rw [agree_position_fmt ar s.pos [] hd, List.nil_append]
    exact cont _ (by simp only [Option.bind_some, T.chars, String.toList_ofList]) (displayPos_out s.pos hd)
  refine ite_rel (fun h4 => ?_) fun _ => ?_
  · have hg := okGo (by simpa using h4)
    have := agree_go fuel ar clk o s rest hg.1 hg.2
    generalize doGo ar o s rest = m at this ⊢
    unfold GoRel at this
    rcases m with _ | ⟨s', L⟩
    · simp only [] at this
      simp only [this, Option.bind_none, Option.map_none, StepRel]
    · simp only [] at this
      obtain ⟨st, y, e, ho, e1, e2⟩ := this
      exact cont y (by simp only [e, Option.bind_some, e1, e2]) ho
  refine ite_rel (fun h5 => ?_) fun _ => ?_
  · have hp := okPos (by simpa using h5)
    obtain ⟨n, hn⟩ : ∃ n, fuel = n + 2 := ⟨fuel - 2, by omega⟩
    subst hn
    have hpos := agree_position G hI hM hS ar n s s.hist.reverse rest hp.2
    rw [← hpos]
    cases hR : R.position (n + 2) ar rest s.pos s.hist.reverse with
    | none => simp only [Option.bind_none, Option.map_none, StepRel]
    | some r =>
      rw [hR] at hpos
      simp only [Option.bind_some, Option.map_some]
      exact cont _ (by rw [List.reverse_reverse]) (unknown_lines_out rest hwr _ (doPosition_lines hpos.symm))
  refine ite_rel (fun h6 => ?_) fun _ => ?_
  · have hm := okMoves (by simpa using h6)
    rw [agree_moves_ix G hI hM hS rest s.pos s.hist.reverse hm, List.reverse_reverse]
    cases hat : applyTokens rest s.pos s.hist [] with
    | none => simp only [Option.map_none, Option.bind_none, StepRel]
    | some r =>
      obtain ⟨p2, h2', o2⟩ := r
      simp only [Option.map_some, Option.bind_some]
      exact cont _ rfl (unknown_lines_out rest hwr _ (applyTokens_lines _ _ _ _ hat))
  refine ite_rel (fun _ => ?_) fun _ => ?_
  · have e := agree_listen_loop3 (R.setoption rest).2 s
    simp only [e, Option.bind_some, ← doSetoption_eq]
    exact cont [] (by rw [doSetoption_hist, List.append_nil]) Out.nil
  refine ite_rel (fun _ => ?_) fun _ => ?_
  · obtain ⟨y, e, ho⟩ := agree_listen_loop4 s.hist.reverse out
    simp only [e, Option.bind_some]
    exact cont y rfl ho
  refine ite_rel (fun _ => ?_) fun _ => ?_
  · rw [agree_eval]
    exact cont _ rfl (eval_out _)
  refine ite_rel (fun _ => ?_) fun _ => cont [] (by rw [List.append_nil]) Out.nil
  unfold StepRel
  exact ⟨by trivial, by trivial⟩

end Rawr.Sess

#print axioms Rawr.agree_listen_loop1
#print axioms Rawr.agree_listen_loop3
#print axioms Rawr.agree_listen_loop5_step
