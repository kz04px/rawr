import Rawr.Proofs.GenSafety
/-!
# C01: `PinOk` (the pin condition of the safety lemma) in terms of the generator's pin sets

* `pinOk_of_not_pinned`: an unpinned piece may go anywhere;
* `pinOk_iff_line`: for a piece pinned along `d0`, `PinOk` says that `t` is on that line (king..pinner);
* `pinOk_move_dir`: then the move `f → t` runs along the line (`e = d0 ∨ e = -d0`), so a piece pinned on a
  diagonal cannot move orthogonally, and conversely; a pinned knight cannot move (`pinned_not_pinOk_knight`);
* `line_slide`: a slide along the pin line itself, either way, stays on it (pawn pushes on a file pin, a pawn
  capture along a diagonal pin);
* `bpinned_pinOk_iff` / `rpinned_pinOk_iff`: for a diagonally pinned piece moving diagonally without jumping
  over the king, `PinOk ↔ bxrays.isSet t` — the union of all diagonal pin lines is harmless because a
  piece on one diagonal king line cannot reach another one by a diagonal move (`same_dir`); likewise
  for `rpinned`/`rxrays` and orthogonal moves;
* `capSrc_mem`, `pinOk_cap`: the source mask and the pin condition of a pawn capture, ordinary or en passant.
-/
namespace Rawr.Att
open Spec

theorem sliders_diag (p : Position) {d : Int × Int} (hd : d ∈ diag) : sliders p d = themBQ p := by
  unfold sliders; rw [if_pos hd]

theorem sliders_orth (p : Position) {d : Int × Int} (hd : d ∈ orth) : sliders p d = themRQ p := by
  unfold sliders; rw [if_neg (fun h => diag_orth_disj h hd)]

theorem mem_dirs8_diag {d : Int × Int} (h : d ∈ diag) : d ∈ dirs8 := List.mem_append.mpr (Or.inl h)
theorem mem_dirs8_orth {d : Int × Int} (h : d ∈ orth) : d ∈ dirs8 := List.mem_append.mpr (Or.inr h)

section
variable {p : Position} (hV : ValidPos p = true)
include hV

theorem pinOk_of_not_pinned {f : Nat} (hus : p.c0.getLsbD f = true)
    (hnp : (prelude p).pinned.getLsbD f = false) (t : Nat) : PinOk p f t := by
  intro d hd s h1 h2 hsl
  exfalso
  have : (prelude p).pinned.getLsbD f = true := by
    rw [prelude_pinned hV]
    rcases List.mem_append.mp hd with h | h
    · exact Or.inl ⟨d, h, h1, hus, s, h2, by rw [← sliders_diag p h]; exact hsl⟩
    · exact Or.inr ⟨d, h, h1, hus, s, h2, by rw [← sliders_orth p h]; exact hsl⟩
  rw [hnp] at this; cases this

omit hV in
theorem pinOk_iff_line {d0 : Int × Int} (hd0 : d0 ∈ dirs8) {f s0 : Nat} (t : Nat)
    (h1 : RayHit (relBoard p) (lsb (p.p5 &&& p.c0)) d0 f) (h2 : RayHit (relBoard p) f d0 s0)
    (h3 : (sliders p d0).getLsbD s0 = true) :
    PinOk p f t ↔
      (RayHit (relBoard p) (lsb (p.p5 &&& p.c0)) d0 t ∨ RayHit (relBoard p) f d0 t) := by
  constructor
  · intro h; exact h d0 hd0 s0 h1 h2 h3
  · intro h d hd s g1 _ _
    have gd := goodDir_dirs8 d hd
    have gd0 := goodDir_dirs8 d0 hd0
    obtain ⟨j, hj⟩ := (rayHit_iff_hit _ gd _ _).mp g1
    obtain ⟨j0, hj0⟩ := (rayHit_iff_hit _ gd0 _ _).mp h1
    obtain ⟨e, _⟩ := at_unique gd gd0 hj.1 hj0.1 hj.2.1 hj0.2.1
    subst e
    exact h

omit hV in
theorem pinLine_at {B : Board} {k : Nat} {d : Int × Int} (gd : GoodDir d) {f' t : Nat}
    (g1 : RayHit B k d f') (hline : RayHit B k d t ∨ RayHit B f' d t) : ∃ i : Nat, 1 ≤ i ∧ At k d i t := by
  obtain ⟨j, hj⟩ := (rayHit_iff_hit _ gd _ _).mp g1
  rcases hline with h | h
  · obtain ⟨i, hi⟩ := (rayHit_iff_hit _ gd _ _).mp h
    exact ⟨i, hi.1, hi.2.1⟩
  · obtain ⟨i, hi⟩ := (rayHit_iff_hit _ gd _ _).mp h
    exact ⟨j + i, by have := hj.1; omega, at_add hj.2.1 hi.2.1⟩

omit hV in
theorem pinOk_on_line {d0 : Int × Int} (hd0 : d0 ∈ dirs8) {f s0 t : Nat}
    (h1 : RayHit (relBoard p) (lsb (p.p5 &&& p.c0)) d0 f) (h2 : RayHit (relBoard p) f d0 s0)
    (h3 : (sliders p d0).getLsbD s0 = true) (hok : PinOk p f t) :
    ∃ j i : Nat, 1 ≤ j ∧ 1 ≤ i ∧ At (lsb (p.p5 &&& p.c0)) d0 j f ∧ At (lsb (p.p5 &&& p.c0)) d0 i t := by
  have gd0 := goodDir_dirs8 d0 hd0
  obtain ⟨j, hj⟩ := (rayHit_iff_hit _ gd0 _ _).mp h1
  obtain ⟨i, hi1, hti⟩ := pinLine_at gd0 h1 ((pinOk_iff_line hd0 t h1 h2 h3).mp hok)
  exact ⟨j, i, hj.1, hi1, hj.2.1, hti⟩

end

theorem line_move_dir {k f t : Nat} {d0 e : Int × Int} {j i m : Nat} (gd0 : GoodDir d0) (ge : GoodDir e)
    (hf : At k d0 j f) (ht : At k d0 i t) (hm : At f e m t) (hm1 : 1 ≤ m) :
    e = d0 ∨ e = (-d0.1, -d0.2) := by
  rcases Nat.lt_trichotomy j i with h | h | h
  · exact Or.inl (at_unique ge gd0 hm1 (Nat.sub_pos_of_lt h) hm (at_sub hf ht (Nat.le_of_lt h))).1
  · subst h
    rw [at_eq ht hf] at hm
    exact absurd (at_inj ge hm (at_zero f e)) (Nat.ne_of_gt hm1)
  · exact Or.inr (at_unique ge (neg_goodDir gd0) hm1 (Nat.sub_pos_of_lt h) hm
      (at_rev (at_sub ht hf (Nat.le_of_lt h)))).1

/-- one coordinate of `d * i = d0 * j + e * m` when all three directions have `±1` there. -/
theorem pm_comp {a a' x : Int} (ha : a = 1 ∨ a = -1) (ha' : a' = 1 ∨ a' = -1) (hx : x = 1 ∨ x = -1)
    {i j m : Nat} (hi : 1 ≤ i) (hj : 1 ≤ j) (hm : 1 ≤ m) (h : a' * i = a * j + x * m) :
    (a' = a ∧ ((m : Int) = i - j ∨ (m : Int) = j - i)) ∨ (a' = -a ∧ x = -a ∧ m = i + j) := by
  rcases ha with rfl | rfl <;> rcases ha' with rfl | rfl <;> rcases hx with rfl | rfl <;> omega

theorem pm_mul_ne {a : Int} (ha : a = 1 ∨ a = -1) {n : Nat} (hn : 1 ≤ n) : a * n ≠ 0 := by
  rcases ha with rfl | rfl <;> omega

theorem same_dir (dirs : List (Int × Int)) (hdirs : dirs = diag ∨ dirs = orth)
    {k f t : Nat} {d0 d e : Int × Int} {j i m : Nat} (hd0 : d0 ∈ dirs) (hd : d ∈ dirs) (he : e ∈ dirs)
    (hj : 1 ≤ j) (hi : 1 ≤ i) (hm1 : 1 ≤ m)
    (hf : At k d0 j f) (ht : At k d i t) (hm : At f e m t)
    (hnj : ∀ i' : Nat, 1 ≤ i' → i' < m → pt f e i' ≠ k) : d = d0 := by
  -- a move along `-d0` longer than `j` passes over the king
  have hno : ¬ (e.1 = -d0.1 ∧ e.2 = -d0.2 ∧ j < m) := by
    rintro ⟨e1, e2, hlt⟩
    apply hnj j hj hlt
    have ee : e = (-d0.1, -d0.2) := Prod.ext e1 e2
    rw [ee]
    exact at_pt (at_rev hf)
  have c1 : d.1 * i = d0.1 * j + e.1 * m := by have := hf.1; have := ht.1; have := hm.1; omega
  have c2 : d.2 * i = d0.2 * j + e.2 * m := by have := hf.2; have := ht.2; have := hm.2; omega
  rcases hdirs with rfl | rfl
  · obtain ⟨p1, p2⟩ := mem_diag_iff.mp hd0
    obtain ⟨q1, q2⟩ := mem_diag_iff.mp hd
    obtain ⟨r1, r2⟩ := mem_diag_iff.mp he
    rcases pm_comp p1 q1 r1 hi hj hm1 c1 with ⟨e1, g1⟩ | ⟨_, x1, g1⟩ <;> rcases pm_comp p2 q2 r2 hi hj hm1 c2 with ⟨e2, g2⟩ | ⟨_, x2, g2⟩
    · exact Prod.ext e1 e2
    · omega
    · omega
    · exact absurd ⟨x1, x2, by omega⟩ hno
  · -- an orthogonal move keeps the file or the rank, so `f` and `t` are on the same axis through `k`
    rcases mem_orth_iff.mp hd0 with ⟨p, z⟩ | ⟨z, p⟩ <;> rcases mem_orth_iff.mp hd with ⟨q, z'⟩ | ⟨z', q⟩ <;>
      rcases mem_orth_iff.mp he with ⟨r, z''⟩ | ⟨z'', r⟩ <;>
      simp only [z, z', z'', Int.zero_mul, Int.add_zero, Int.zero_add] at c1 c2
    · rcases pm_comp p q r hi hj hm1 c1 with ⟨e1, _⟩ | ⟨_, x1, g1⟩
      · exact Prod.ext e1 (z'.trans z.symm)
      · exact absurd ⟨x1, by rw [z'', z]; rfl, by omega⟩ hno
    · exact absurd c2.symm (pm_mul_ne r hm1)
    · exact absurd c2 (pm_mul_ne q hi)
    · exact absurd c1.symm (pm_mul_ne p hj)
    · exact absurd c2.symm (pm_mul_ne p hj)
    · exact absurd c1 (pm_mul_ne q hi)
    · exact absurd c1.symm (pm_mul_ne r hm1)
    · rcases pm_comp p q r hi hj hm1 c2 with ⟨e2, _⟩ | ⟨_, x2, g2⟩
      · exact Prod.ext (z'.trans z.symm) e2
      · exact absurd ⟨by rw [z'', z]; rfl, x2, by omega⟩ hno

section
variable {p : Position} (hV : ValidPos p = true)
include hV

omit hV in
theorem pinOk_move_dir {d0 : Int × Int} (hd0 : d0 ∈ dirs8) {f s0 t : Nat}
    (h1 : RayHit (relBoard p) (lsb (p.p5 &&& p.c0)) d0 f) (h2 : RayHit (relBoard p) f d0 s0)
    (h3 : (sliders p d0).getLsbD s0 = true) (hok : PinOk p f t)
    {e : Int × Int} {m : Nat} (ge : GoodDir e) (hm1 : 1 ≤ m) (hm : At f e m t) :
    e = d0 ∨ e = (-d0.1, -d0.2) := by
  obtain ⟨j, i, _, _, hf, ht⟩ := pinOk_on_line hd0 h1 h2 h3 hok
  exact line_move_dir (goodDir_dirs8 d0 hd0) ge hf ht hm hm1

theorem pinned_not_pinOk_knight {f t : Nat} (hpin : (prelude p).pinned.getLsbD f = true)
    (hks : knightStep f t = true) : ¬ PinOk p f t := by
  intro hok
  rw [prelude_pinned hV] at hpin
  rcases hpin with ⟨d0, hd0, h1, _, s0, h2, hch⟩ | ⟨d0, hd0, h1, _, s0, h2, hch⟩
  · rw [← sliders_diag p hd0] at hch
    obtain ⟨j, i, _, _, hf, ht⟩ := pinOk_on_line (mem_dirs8_diag hd0) h1 h2 hch hok
    rw [line_no_knight (goodDir_diag d0 hd0) hf ht] at hks; cases hks
  · rw [← sliders_orth p hd0] at hch
    obtain ⟨j, i, _, _, hf, ht⟩ := pinOk_on_line (mem_dirs8_orth hd0) h1 h2 hch hok
    rw [line_no_knight (goodDir_orth d0 hd0) hf ht] at hks; cases hks

theorem bpinned_not_pinOk_orth {f t : Nat} (hb : (prelude p).bpinned.getLsbD f = true)
    {e : Int × Int} {m : Nat} (he : e ∈ orth) (hm1 : 1 ≤ m) (hm : At f e m t) : ¬ PinOk p f t := by
  intro hok
  rw [prelude_bpinned hV] at hb
  obtain ⟨d0, hd0, h1, _, s0, h2, hch⟩ := hb
  rw [← sliders_diag p hd0] at hch
  rcases pinOk_move_dir (mem_dirs8_diag hd0) h1 h2 hch hok (goodDir_orth e he) hm1 hm with h | h
  · rw [h] at he; exact diag_orth_disj hd0 he
  · rw [h] at he; exact diag_orth_disj (diag_neg d0 hd0) he

theorem rpinned_not_pinOk_diag {f t : Nat} (hb : (prelude p).rpinned.getLsbD f = true)
    {e : Int × Int} {m : Nat} (he : e ∈ diag) (hm1 : 1 ≤ m) (hm : At f e m t) : ¬ PinOk p f t := by
  intro hok
  rw [prelude_rpinned hV] at hb
  obtain ⟨d0, hd0, h1, _, s0, h2, hch⟩ := hb
  rw [← sliders_orth p hd0] at hch
  rcases pinOk_move_dir (mem_dirs8_orth hd0) h1 h2 hch hok (goodDir_diag e he) hm1 hm with h | h
  · rw [h] at he; exact diag_orth_disj he hd0
  · rw [h] at he; exact diag_orth_disj he (orth_neg d0 hd0)

omit hV in
theorem line_slide {B : Board} {k f t : Nat} {d0 e : Int × Int} {j m : Nat} (gd0 : GoodDir d0)
    (h1 : Hit B k d0 j f) (hm : Hit B f e m t) (he : e = d0 ∨ e = (-d0.1, -d0.2)) (hk : B k ≠ none)
    (htk : t ≠ k) : RayHit B k d0 t ∨ RayHit B f d0 t := by
  rcases he with rfl | rfl
  · exact Or.inr ((rayHit_iff_hit _ gd0 _ _).mpr ⟨m, hm⟩)
  · -- towards the king: the king's square stops the slide
    have hkf := at_rev h1.2.1
    have hle := hit_le hm h1.1 hkf hk
    have hlt : m < j := Nat.lt_of_le_of_ne hle fun e => htk (at_eq (e ▸ hm.2.1) hkf)
    exact Or.inl ((rayHit_iff_hit _ gd0 _ _).mpr ⟨j - m, hit_prefix h1 (by omega) (Nat.sub_le j m)
      (at_rev_iff.mp (at_sub hm.2.1 hkf hle))⟩)

theorem pinned_pinOk_iff (dirs : List (Int × Int)) (hdirs : dirs = diag ∨ dirs = orth) {chk : BB}
    (hchk : ∀ d ∈ dirs, sliders p d = chk) {f t : Nat}
    (hpin : ∃ d0 ∈ dirs, PinAlong (relBoard p) p.c0 chk (lsb (p.p5 &&& p.c0)) d0 f) (ht : t < 64)
    {e : Int × Int} {m : Nat} (he : e ∈ dirs) (hm1 : 1 ≤ m) (hm : At f e m t)
    (hnj : ∀ i' : Nat, 1 ≤ i' → i' < m → pt f e i' ≠ lsb (p.p5 &&& p.c0)) :
    PinOk p f t ↔ ∃ d ∈ dirs, PinLine (relBoard p) p.c0 chk (lsb (p.p5 &&& p.c0)) d t := by
  have h8 : ∀ d ∈ dirs, d ∈ dirs8 := by
    rcases hdirs with rfl | rfl
    · exact fun d => mem_dirs8_diag
    · exact fun d => mem_dirs8_orth
  obtain ⟨d0, hd0, h1, hus, s0, h2, hch⟩ := hpin
  rw [pinOk_iff_line (h8 d0 hd0) t h1 h2 (by rw [hchk d0 hd0]; exact hch)]
  constructor
  · intro h
    exact ⟨d0, hd0, f, ⟨h1, hus, s0, h2, hch⟩, ht, h⟩
  · rintro ⟨d, hd, f', ⟨g1, gus, s', g2, gch⟩, _, hline⟩
    have gd := goodDir_dirs8 d (h8 d hd)
    obtain ⟨i, hi1, hti⟩ := pinLine_at gd g1 hline
    obtain ⟨j, hj⟩ := (rayHit_iff_hit _ (goodDir_dirs8 d0 (h8 d0 hd0)) _ _).mp h1
    have e1 : d = d0 := same_dir dirs hdirs hd0 hd he hj.1 hi1 hm1 hj.2.1 hti hm hnj
    subst e1
    have e2 : f' = f := rayHit_unique gd g1 h1 (own_ne_none hV f' gus) (own_ne_none hV f hus)
    subst e2
    exact hline

/-- diagonal pins: the target is in `bxrays` (the union of all diagonal pin lines plus the king square). -/
theorem bpinned_pinOk_iff {f t : Nat} (hb : (prelude p).bpinned.getLsbD f = true) (ht : t < 64)
    (htk : t ≠ lsb (p.p5 &&& p.c0)) {e : Int × Int} {m : Nat} (he : e ∈ diag) (hm1 : 1 ≤ m)
    (hm : At f e m t) (hnj : ∀ i' : Nat, 1 ≤ i' → i' < m → pt f e i' ≠ lsb (p.p5 &&& p.c0)) :
    PinOk p f t ↔ (prelude p).bxrays.getLsbD t = true := by
  rw [prelude_bxrays hV, pinned_pinOk_iff hV diag (Or.inl rfl) (fun d hd => sliders_diag p hd)
    ((prelude_bpinned hV f).mp hb) ht he hm1 hm hnj]
  exact ⟨Or.inr, fun h => h.resolve_left htk⟩

theorem rpinned_pinOk_iff {f t : Nat} (hb : (prelude p).rpinned.getLsbD f = true) (ht : t < 64)
    {e : Int × Int} {m : Nat} (he : e ∈ orth) (hm1 : 1 ≤ m)
    (hm : At f e m t) (hnj : ∀ i' : Nat, 1 ≤ i' → i' < m → pt f e i' ≠ lsb (p.p5 &&& p.c0)) :
    PinOk p f t ↔ (prelude p).rxrays.getLsbD t = true := by
  rw [prelude_rxrays hV]
  exact pinned_pinOk_iff hV orth (Or.inr rfl) (fun d hd => sliders_orth p hd)
    ((prelude_rpinned hV f).mp hb) ht he hm1 hm hnj

end

theorem own_pawn_iff {p : Position} (hC : Consistent p = true) {F : Nat} (hF : F < 64) :
    (p.p0 &&& p.c0).getLsbD F = true ↔ relBoard p F = some ⟨true, .pawn⟩ := by
  rw [BitVec.and_comm, (rep_us hC).pawn F hF, decide_eq_true_iff]

theorem lt_of_relBoard {p : Position} {f : Nat} {q : Piece} (h : relBoard p f = some q) : f < 64 := by
  apply Classical.byContradiction
  intro hn
  rw [relBoard_ge p f (Nat.le_of_not_lt hn)] at h
  cases h

/-- the pawns that may capture: not pinned on a rank or file and, if pinned on a diagonal, in `Y`. -/
theorem capSrc_mem {p : Position} (hC : Consistent p = true) (Y : BB) {f : Nat} (hf : f < 64) :
    (p.p0 &&& p.c0 &&& ~~~(prelude p).rpinned &&& (~~~(prelude p).bpinned ||| Y)).getLsbD f = true ↔
      (relBoard p f = some ⟨true, .pawn⟩ ∧ (prelude p).rpinned.getLsbD f = false ∧
        ((prelude p).bpinned.getLsbD f = false ∨ Y.getLsbD f = true)) := by
  rw [BitVec.getLsbD_and, BitVec.getLsbD_and, Bool.and_eq_true, Bool.and_eq_true, own_pawn_iff hC hf]
  simp only [BitVec.getLsbD_or, BitVec.getLsbD_not, hf, decide_true, Bool.true_and, Bool.or_eq_true,
    Bool.not_eq_true', and_assoc]

/-- a pawn capture respects the pins iff the pawn is not pinned along a rank or file and, if pinned on a
diagonal, captures along that diagonal (the target is in `bxrays`). -/
theorem pinOk_cap {p : Position} (hV : ValidPos p = true) {f t : Nat} (ht : t < 64)
    (hus : p.c0.getLsbD f = true) {e : Int × Int} (he : e ∈ diag) (hAt : At f e 1 t)
    (htk : t ≠ lsb (p.p5 &&& p.c0)) :
    PinOk p f t ↔ ((prelude p).rpinned.getLsbD f = false ∧
      ((prelude p).bpinned.getLsbD f = false ∨ (prelude p).bxrays.getLsbD t = true)) := by
  have hnj : ∀ i' : Nat, 1 ≤ i' → i' < 1 → pt f e i' ≠ lsb (p.p5 &&& p.c0) := fun i' a b => by omega
  constructor
  · intro hok
    constructor
    · cases hr : (prelude p).rpinned.getLsbD f
      · rfl
      · exact absurd hok (rpinned_not_pinOk_diag hV hr he (Nat.le_refl 1) hAt)
    · cases hb : (prelude p).bpinned.getLsbD f
      · exact Or.inl rfl
      · exact Or.inr ((bpinned_pinOk_iff hV hb ht htk he (Nat.le_refl 1) hAt hnj).mp hok)
  · rintro ⟨hr, hb⟩
    cases hbp : (prelude p).bpinned.getLsbD f
    · apply pinOk_of_not_pinned hV hus
      rw [prelude_pinned_eq, BitVec.getLsbD_or, hbp, hr]; rfl
    · rcases hb with hb | hb
      · rw [hbp] at hb; cases hb
      · exact (bpinned_pinOk_iff hV hbp ht htk he (Nat.le_refl 1) hAt hnj).mpr hb

end Rawr.Att
