import Rawr.Proofs.GenSafety
/-!
# C01, en passant: the core, in the mover's frame

`B` the relative board, `k` the mover's king, `e` the en-passant square (relative rank 5), the captured
pawn on `e - 8`, the capturing pawn on `F` (`F + 9 = e` or `F + 7 = e`).
`epBoard B F e` is the board after the capture; `prePush B e` the board before the double push.
`ep_core`: the king is not attacked on `epBoard` iff the capturer stays on its pin line (`PinCut B k F e`, as for
any capture), every check is given by the captured pawn or blocked on `e` (`Chk B k e ∨ Chk B k (e - 8)`), and no
rook or queen sees the king along its rank once both pawns have left (`EpC3`) — under the retro-consistency
hypothesis (`prePush` has the king unattacked), which is used for exactly one case: a diagonal opened by the
disappearance of the captured pawn. In front of it: attacks as leaps and hits (`attacked_iff_hit`, which `ep_core`
uses). `OnRay`, `leaperAtt`, `SliderOn` say `At`, `Leap`, `KindDir` again; no proof uses them.
-/

namespace Rawr.Att
open Spec

/-- `x` is the `i`-th square of the ray from `k` in direction `d` (the same as `At`). -/
def OnRay (k : Nat) (d : Int × Int) (i : Nat) (x : Nat) : Prop :=
  file x = file k + d.1 * i ∧ rank x = rank k + d.2 * i

/-- the attack of a pawn, knight or king: board independent. -/
def leaperAtt (pc : Piece) (s k : Nat) : Bool :=
  match pc.kind with
  | .pawn => pawnStep pc.white s k
  | .knight => knightStep s k
  | .king => kingStep s k
  | _ => false

/-- the piece slides along direction `d`. -/
def SliderOn (pc : Piece) (d : Int × Int) : Prop :=
  (d ∈ diag ∧ (pc.kind = .bishop ∨ pc.kind = .queen)) ∨ (d ∈ orth ∧ (pc.kind = .rook ∨ pc.kind = .queen))

theorem attacked_iff_hit (X : Board) (k : Nat) :
    attackedBy X false k = true ↔ ∃ s, s < 64 ∧ ∃ q : Piece, X s = some q ∧ q.white = false ∧
      (Leap q s k ∨ ∃ d n, KindDir q.kind d ∧ Hit X k d n s) := by
  simp only [attackedBy_iff, pieceAttacks_hit]

theorem kindDir_not_pawn {kd : Kind} {d : Int × Int} (h : KindDir kd d) : kd ≠ .pawn := by
  rintro rfl; rcases h with ⟨h | h, _⟩ | ⟨h | h, _⟩ <;> cases h

theorem kindDir_row {kd : Kind} {d : Int × Int} (h : KindDir kd d) (h0 : d.2 = 0) :
    (kd = .rook ∨ kd = .queen) ∧ (d = dE ∨ d = dW) := by
  rcases h with ⟨_, hd⟩ | ⟨hk, hd⟩
  · rw [mem_diag_iff] at hd; omega
  · refine ⟨hk, ?_⟩
    rw [mem_orth_iff] at hd
    obtain ⟨a, b⟩ := d
    simp only [dE, dW, Prod.mk.injEq] at *
    omega

def epBoard (B : Board) (F e : Nat) : Board :=
  setSq (setSq (setSq B F none) (e - 8) none) e (some ⟨true, .pawn⟩)

def prePush (B : Board) (e : Nat) : Board :=
  setSq (setSq B (e - 8) none) (e + 8) (some ⟨false, .pawn⟩)

theorem epBoard_at (B : Board) (F e x : Nat) :
    epBoard B F e x = if x = e then some ⟨true, .pawn⟩ else if x = e - 8 then none
      else if x = F then none else B x := rfl

theorem prePush_at (B : Board) (e x : Nat) :
    prePush B e x = if x = e + 8 then some ⟨false, .pawn⟩ else if x = e - 8 then none else B x := rfl

/-- the capture direction and the geometry of capturer and target. -/
def CapGeo (cap : Int × Int) (F e : Nat) : Prop :=
  (cap = dNE ∧ F + 9 = e ∧ e % 8 ≠ 0) ∨ (cap = dNW ∧ F + 7 = e ∧ e % 8 ≠ 7)

structure EpCtx (B : Board) (k e F : Nat) (cap : Int × Int) : Prop where
  k64 : k < 64
  e64 : e < 64
  erank : e / 8 = 5
  Bk : B k = some ⟨true, .king⟩
  Be : B e = none
  BP : B (e - 8) = some ⟨false, .pawn⟩
  BF : B F = some ⟨true, .pawn⟩
  geo : CapGeo cap F e

/-- no rook or queen sees the king along its rank on the board after the capture. -/
def EpC3 (B : Board) (k e F : Nat) : Prop :=
  ∀ s pc, s < 64 → B s = some pc → pc.white = false → (pc.kind = .rook ∨ pc.kind = .queen) →
    ¬ RayHit (epBoard B F e) k dE s ∧ ¬ RayHit (epBoard B F e) k dW s

theorem leaper_not_slider {pc : Piece} {s k : Nat} {d : Int × Int} (h : leaperAtt pc s k = true)
    (h' : SliderOn pc d) : False := by
  obtain ⟨w, kd⟩ := pc
  unfold leaperAtt at h
  unfold SliderOn at h'
  cases kd <;> simp at h h'

structure EpCoords (e F : Nat) (cap : Int × Int) : Prop where
  cap2 : cap.2 = 1
  cap1 : cap.1 = 1 ∨ cap.1 = -1
  fe : file e = file F + cap.1
  re : rank e = rank F + 1
  fP : file (e - 8) = file e
  rP : rank (e - 8) + 1 = rank e
  r5 : rank e = 5
  F64 : F < 64
  P64 : e - 8 < 64
  fO : file (e + 8) = file e
  rO : rank (e + 8) = 6

theorem EpCtx.coords {B : Board} {k e F : Nat} {cap : Int × Int} (C : EpCtx B k e F cap) :
    EpCoords e F cap := by
  have h5 := C.erank
  have h64 := C.e64
  have he : file (e - 8) = file e ∧ rank (e - 8) + 1 = rank e ∧ rank e = 5 ∧ e - 8 < 64 ∧
      file (e + 8) = file e ∧ rank (e + 8) = 6 := by
    unfold file rank; omega
  obtain ⟨fP, rP, r5, P64, fO, rO⟩ := he
  rcases C.geo with ⟨rfl, h1, h2⟩ | ⟨rfl, h1, h2⟩
  · have hF : file e = file F + 1 ∧ rank e = rank F + 1 ∧ F < 64 := by unfold file rank; omega
    exact ⟨rfl, Or.inl rfl, hF.1, hF.2.1, fP, rP, r5, hF.2.2, P64, fO, rO⟩
  · have hF : file e = file F + -1 ∧ rank e = rank F + 1 ∧ F < 64 := by unfold file rank; omega
    exact ⟨rfl, Or.inr rfl, hF.1, hF.2.1, fP, rP, r5, hF.2.2, P64, fO, rO⟩

/-! Two squares of one ray in the same rank (file) make the ray horizontal (vertical). -/

theorem at_same_rank {k x y : Nat} {d : Int × Int} {i j : Nat} (hx : At k d i x) (hy : At k d j y)
    (hr : rank x = rank y) (hne : x ≠ y) : d.2 = 0 := by
  apply Classical.byContradiction
  intro h
  rw [hx.2, hy.2] at hr
  have hij : i = j := Int.ofNat_inj.mp (Int.eq_of_mul_eq_mul_left h (Int.add_left_cancel hr))
  subst hij
  exact hne (at_eq hx hy)

theorem at_same_file {k x y : Nat} {d : Int × Int} {i j : Nat} (hx : At k d i x) (hy : At k d j y)
    (hf : file x = file y) (hne : x ≠ y) : d.1 = 0 := by
  apply Classical.byContradiction
  intro h
  rw [hx.1, hy.1] at hf
  have hij : i = j := Int.ofNat_inj.mp (Int.eq_of_mul_eq_mul_left h (Int.add_left_cancel hf))
  subst hij
  exact hne (at_eq hx hy)

theorem at_back {k f x : Nat} {d : Int × Int} {i j : Nat} (h1 : At k d i f) (h2 : At x d j f) (hji : j ≤ i) :
    At k d (i - j) x := by
  unfold At at *
  have e : ((i - j : Nat) : Int) = (i : Int) - (j : Int) := by omega
  rw [e, Int.mul_sub, Int.mul_sub]
  omega

namespace EpCoords
variable {k e F : Nat} {cap d : Int × Int} (G : EpCoords e F cap)
include G

theorem at_e : At F cap 1 e := by
  unfold At
  rw [G.cap2, G.fe, G.re]
  simp only [Int.natCast_one, Int.mul_one, and_self]

theorem at_north : At (e - 8) dN 1 e := by
  have h1 := G.fP
  have h2 := G.rP
  unfold At dN
  simp only [Int.natCast_one, Int.mul_one, Int.add_zero]
  omega

/-- the two pawns stand side by side: no ray with a vertical component meets both. -/
theorem horizontal {i j : Nat} (hF : At k d i F) (hP : At k d j (e - 8)) : d.2 = 0 := by
  have h1 := G.fe
  have h2 := G.re
  have h3 := G.fP
  have h4 := G.rP
  refine at_same_rank hF hP (by omega) fun h => ?_
  rw [← h] at h3
  rcases G.cap1 with h | h <;> omega

/-- the captured pawn and the square it came from are in one file. -/
theorem vertical {i j : Nat} (hP : At k d i (e - 8)) (hO : At k d j (e + 8)) : d.1 = 0 := by
  have h1 := G.fP
  have h2 := G.rP
  have h3 := G.fO
  have h4 := G.rO
  have h5 := G.r5
  refine at_same_file hP hO (by omega) fun h => ?_
  rw [← h] at h4
  omega

/-- a vertical ray through the captured pawn passes over the target next to it. -/
theorem file_line (hd : GoodDir d) {i : Nat} (hP : At k d i (e - 8)) (h1 : d.1 = 0) (hi : 1 ≤ i) :
    At k d (i + 1) e ∨ At k d (i - 1) e := by
  obtain ⟨a, b⟩ := d
  dsimp only at h1
  subst h1
  rcases hd.2.1 with hb | hb | hb <;> dsimp only at hb <;> subst hb
  · exact Or.inr (at_back hP (at_rev G.at_north) hi)
  · exact absurd hd.2.2 (by simp)
  · exact Or.inl (at_add hP G.at_north)

end EpCoords

/-- a pawn on `e - 8` attacking the king, and a ray from the king through `e`: impossible. -/
theorem ep_G3 {k e F : Nat} {cap d : Int × Int} (G : EpCoords e F cap) (hd : GoodDir d) {i : Nat}
    (hP : pawnStep false (e - 8) k = true) (he : At k d i e) : False := by
  obtain ⟨_, hb, _⟩ := hd
  obtain ⟨a, b⟩ := d
  have g5 := G.fP
  have g6 := G.rP
  unfold pawnStep at hP
  simp only [Bool.and_eq_true, beq_iff_eq, Bool.false_eq_true, if_false] at hP
  obtain ⟨hf, hr⟩ := he
  dsimp only at hb hf hr
  -- the target is two ranks above the king and one file aside
  rcases hb with rfl | rfl | rfl
  · omega
  · omega
  · obtain rfl : i = 2 := by omega
    omega

theorem ep_core {B : Board} {k e F : Nat} {cap : Int × Int} (C : EpCtx B k e F cap)
    (hBn : B (e + 8) = none) (hEb : attackedBy (prePush B e) false k = false) :
    attackedBy (epBoard B F e) false k = false ↔
      PinCut B k F e ∧ (Chk B k e ∨ Chk B k (e - 8)) ∧ EpC3 B k e F := by
  have G := C.coords
  -- with both pawns lifted: the enemy pieces of `B` but the captured pawn; empty where `B` is, and on the two squares
  have hen : ∀ {s q}, q.white = false →
      (setSq (setSq B F none) (e - 8) none s = some q ↔ B s = some q ∧ s ≠ e - 8) := by
    intro s q hw
    rw [setSq_none_some, setSq_none_some]
    refine ⟨fun h => ⟨h.2.2, h.1⟩, fun h => ⟨h.2, fun hF => ?_, h.1⟩⟩
    rw [hF, C.BF] at h; injection h.1 with h'; rw [← h'] at hw; cases hw
  have hnone : ∀ x, setSq (setSq B F none) (e - 8) none x = none ↔ (x = F ∨ x = e - 8 ∨ B x = none) := by
    intro x
    rw [setSq_none_none, setSq_none_none]
    exact or_left_comm
  have hslP : ∀ {s q d}, B s = some q → KindDir q.kind d → s ≠ e - 8 := by
    intro s q d hB hk h
    rw [h, C.BP] at hB; injection hB with hB
    exact kindDir_not_pawn hk (by rw [← hB])
  unfold epBoard
  rw [attacked_after_place _ e k _ rfl]
  constructor
  · intro hL
    have hL' : ∀ {s q}, s < 64 → B s = some q → q.white = false → s ≠ e - 8 →
        (¬ Leap q s k ∧ ∀ d n, KindDir q.kind d → Hit (setSq (setSq B F none) (e - 8) none) k d n s →
          ∃ i : Nat, 1 ≤ i ∧ i < n ∧ pt k d i = e) := fun hs hB hw hsP =>
      hL _ hs _ ((hen hw).mpr ⟨hB, hsP⟩) hw (fun h => by rw [h, C.Be] at hB; cases hB)
    refine ⟨?_, ?_, ?_⟩
    · intro s hs q hB hw hse d n hkd hn hat hcond _
      exact (hL' hs hB hw (hslP hB hkd)).2 d n hkd
        ⟨hn, hat, fun i a b => (hnone _).mpr ((hcond i a b).imp_right Or.inr)⟩
    · -- a slider check is cut on `e`
      have hcut : ∀ {s q d n}, s < 64 → B s = some q → q.white = false → KindDir q.kind d → Hit B k d n s →
          ∃ i : Nat, 1 ≤ i ∧ i < n ∧ pt k d i = e := fun hs hB hw hkd hh =>
        (hL' hs hB hw (hslP hB hkd)).2 _ _ hkd (hit_mono hh fun x hx => (hnone x).mpr (Or.inr (Or.inr hx)))
      by_cases hP : pawnStep false (e - 8) k = true
      · right
        intro s hs q hB hw hsP
        refine ⟨(hL' hs hB hw hsP).1, fun d n hkd hh => ?_⟩
        obtain ⟨i, _, hin, hp⟩ := hcut hs hB hw hkd hh
        have := (at_le (kindDir_goodDir hkd) C.k64 hs hh.2.1 (Nat.le_of_lt hin)).1
        rw [hp] at this
        exact (ep_G3 G (kindDir_goodDir hkd) hP this).elim
      · left
        intro s hs q hB hw hse
        refine ⟨fun hl => ?_, fun d n hkd hh => hcut hs hB hw hkd hh⟩
        by_cases hsP : s = e - 8
        · subst hsP
          rw [C.BP] at hB; injection hB with hB; subst hB
          rcases hl with ⟨_, h⟩ | ⟨h, _⟩ | ⟨h, _⟩
          · exact hP h
          · cases h
          · cases h
        · exact (hL' hs hB hw hsP).1 hl
    · intro s pc hs hBs hw hk
      have hsP : s ≠ e - 8 := by
        intro h; rw [h, C.BP] at hBs; injection hBs with h'
        rcases hk with hk | hk <;> rw [← h'] at hk <;> cases hk
      have key : ∀ d, d ∈ orth → ¬ RayHit (epBoard B F e) k d s := by
        intro d hd hr
        obtain ⟨n, hh⟩ := (rayHit_iff_hit _ (goodDir_orth d hd) _ _).mp hr
        obtain ⟨hh', hoff⟩ := (hit_place _ e _ k d n s).mp hh
        obtain ⟨i, h1, h2, hp⟩ := (hL' hs hBs hw hsP).2 d n (Or.inr ⟨hk, hd⟩) hh'
        exact hoff i h1 h2 hp
      exact ⟨key dE (by simp [orth_eq]), key dW (by simp [orth_eq])⟩
  · rintro ⟨c1, c2, c3⟩ s hs q hB2 hw hse
    obtain ⟨hB, hsP⟩ := (hen hw).mp hB2
    refine ⟨fun hl => ?_, fun d n hkd hh => ?_⟩
    · rcases c2 with c2 | c2
      · exact (c2 s hs q hB hw hse).1 hl
      · exact (c2 s hs q hB hw hsP).1 hl
    -- a line to `s` that is open with both pawns lifted and misses `e`: by its direction and the pawns it passes
    apply Classical.byContradiction
    intro hoff
    have hgd := kindDir_goodDir hkd
    have hpt : ∀ {i}, i ≤ n → At k d i (pt k d i) := fun hi => (at_le hgd C.k64 hs hh.2.1 hi).1
    have hb : ∀ i, 1 ≤ i → i < n → (pt k d i = F ∨ pt k d i = e - 8 ∨ B (pt k d i) = none) :=
      fun i h1 h2 => (hnone _).mp (hh.2.2 i h1 h2)
    by_cases hrow : d.2 = 0
    · obtain ⟨hk, hd⟩ := kindDir_row hkd hrow
      have hr : RayHit (epBoard B F e) k d s := (rayHit_iff_hit _ hgd _ _).mpr
        ⟨n, (hit_place _ e _ k d n s).mpr ⟨hh, fun i a b h => hoff ⟨i, a, b, h⟩⟩⟩
      rcases hd with rfl | rfl
      · exact (c3 s q hs hB hw hk).1 hr
      · exact (c3 s q hs hB hw hk).2 hr
    by_cases hFon : ∃ i, 1 ≤ i ∧ i < n ∧ pt k d i = F
    · obtain ⟨i0, h01, h0n, hF⟩ := hFon
      have hFat : At k d i0 F := hF ▸ hpt (Nat.le_of_lt h0n)
      refine hoff (c1 s hs q hB hw hse d n hkd hh.1 hh.2.1 (fun i a b => ?_) ⟨i0, h01, h0n, hF⟩)
      rcases hb i a b with h | h | h
      · exact Or.inl h
      · exact absurd (G.horizontal hFat (h ▸ hpt (Nat.le_of_lt b))) hrow
      · exact Or.inr h
    · by_cases hPon : ∃ i, 1 ≤ i ∧ i < n ∧ pt k d i = e - 8
      · obtain ⟨i0, h01, h0n, hPp⟩ := hPon
        have hP : At k d i0 (e - 8) := hPp ▸ hpt (Nat.le_of_lt h0n)
        by_cases hd1 : d.1 = 0
        · -- a file through the captured pawn passes over `e`, which is neither the king's square nor `s`
          have hin : ∀ {i}, At k d i e → 1 ≤ i ∧ i ≠ n := by
            intro i hx
            refine ⟨Nat.pos_of_ne_zero fun h0 => ?_, fun h => hse (at_eq hh.2.1 (h ▸ hx))⟩
            have hBe := C.Be
            rw [at_eq hx (h0 ▸ at_zero k d), C.Bk] at hBe; cases hBe
          rcases G.file_line hgd hP hd1 h01 with h | h
          · exact hoff ⟨i0 + 1, (hin h).1, by have := (hin h).2; omega, at_pt h⟩
          · exact hoff ⟨i0 - 1, (hin h).1, by omega, at_pt h⟩
        · -- a diagonal through the captured pawn's square was open before the double push
          have : attackedBy (prePush B e) false k = true := by
            refine (attacked_iff_hit _ _).mpr ⟨s, hs, q, ?_, hw, Or.inr ⟨d, n, hkd, ?_⟩⟩
            · rw [prePush_at, if_neg (fun h => by rw [h, hBn] at hB; cases hB), if_neg hsP]; exact hB
            · refine (hit_place _ (e + 8) _ k d n s).mpr ⟨hit_keep hh (t := F) (fun x hx h => ?_)
                (fun i a b h => hFon ⟨i, a, b, h⟩), fun i a b h => hd1 (G.vertical hP (h ▸ hpt (Nat.le_of_lt b)))⟩
              exact (setSq_none_none B _ x).mpr (((hnone x).mp h).resolve_left hx)
          rw [this] at hEb; cases hEb
      · have hh' : Hit B k d n s := ⟨hh.1, hh.2.1, fun i a b =>
          ((hb i a b).resolve_left fun h => hFon ⟨i, a, b, h⟩).resolve_left fun h => hPon ⟨i, a, b, h⟩⟩
        rcases c2 with c2 | c2
        · exact hoff ((c2 s hs q hB hw hse).2 d n hkd hh')
        · exact hPon ((c2 s hs q hB hw hsP).2 d n hkd hh')

end Rawr.Att
