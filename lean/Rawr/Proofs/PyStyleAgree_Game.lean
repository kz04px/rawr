import Rawr.Proofs.PyStyleAgree
import Rawr.Proofs.StyleStep
/-!
# `analyse_game` regenerated from style.py equals the model's `analyseGame`
-/
namespace Rawr.PyStyleAgree
open Rawr Rawr.Style Rawr.PyStyle

theorem agree_get_material_score (w b : PieceCounts) (side : Color) :
    PyStyle.get_material_score (w, b) side = (if side == WHITE then w else b).material := rfl

/-- `us_castled` / `them_castled` are the ints 0, 1, 2 in the script. -/
def Castled.toNat : Castled → Nat
  | .no => 0
  | .king => 1
  | .queen => 2

/-- the model's loop record as the tuple of loop-carried variables of the generated loop body
(`stats, us_castled, them_castled, queens_gone, ply, has_QvRR, has_RRvQ, has_Qv3minor, has_3minorvQ`). -/
def ofLoop (L : Loop) : Stats × Nat × Nat × Bool × Nat × Bool × Bool × Bool × Bool :=
  (L.stats, Castled.toNat L.usCastled, Castled.toNat L.themCastled, L.queensGone, L.ply,
   L.hasQvRR, L.hasRRvQ, L.hasQv3minor, L.has3minorvQ)

theorem ww : (WHITE == WHITE) = true := rfl
theorem bw : (BLACK == WHITE) = false := rfl

theorem lift_ok {α : Type} (a : α) : Py.lift (Except.ok a : Except PyErr α) = .ok a := rfl
theorem lift_err {α : Type} (e : PyErr) : Py.lift (Except.error e : Except PyErr α) = .error (.base e) := rfl

theorem castleUs_stats (L : Loop) (p : Ply) :
    (markCastleUs L p).stats =
      (if p.ksCastle = true then (PyStyle.Stats.aug_castleKing L.stats 1, 1)
       else if p.qsCastle = true then (PyStyle.Stats.aug_castleQueen L.stats 1, 2)
       else (L.stats, Castled.toNat L.usCastled)).fst := by
  unfold markCastleUs; cases p.ksCastle <;> cases p.qsCastle <;> rfl

theorem castleUs_us (L : Loop) (p : Ply) :
    Castled.toNat (markCastleUs L p).usCastled =
      (if p.ksCastle = true then (PyStyle.Stats.aug_castleKing L.stats 1, 1)
       else if p.qsCastle = true then (PyStyle.Stats.aug_castleQueen L.stats 1, 2)
       else (L.stats, Castled.toNat L.usCastled)).snd := by
  unfold markCastleUs; cases p.ksCastle <;> cases p.qsCastle <;> rfl

theorem castleUs_rest (L : Loop) (p : Ply) :
    (markCastleUs L p).themCastled = L.themCastled ∧ (markCastleUs L p).queensGone = L.queensGone ∧
    (markCastleUs L p).hasQvRR = L.hasQvRR ∧ (markCastleUs L p).hasRRvQ = L.hasRRvQ ∧
    (markCastleUs L p).hasQv3minor = L.hasQv3minor ∧ (markCastleUs L p).has3minorvQ = L.has3minorvQ := by
  unfold markCastleUs; cases p.ksCastle <;> cases p.qsCastle <;> exact ⟨rfl, rfl, rfl, rfl, rfl, rfl⟩

/-- `len(board.pieces(K, not side))` as generated, and as the model spells it. -/
theorem them_eq (side : Color) (a b : Nat) :
    (if ((!side) == WHITE) = true then a else b) = (if (side == WHITE) = true then b else a) := by
  cases side <;> rfl

theorem ite_add (c : Prop) [Decidable c] (a b a' b' : Nat) :
    ((if c then a else b) + (if c then a' else b')) = (if c then a + a' else b + b') := by
  split <;> rfl

/-- `markImbalance` field by field: the three it leaves alone, and the four flags in the shape of the generated
`if … : has_… = True` statements. -/
theorem imb_fields (side : Color) (L : Loop) (p : Ply) :
    (markImbalance side L p).usCastled = L.usCastled ∧ (markImbalance side L p).themCastled = L.themCastled ∧
    (markImbalance side L p).queensGone = L.queensGone ∧
    (markImbalance side L p).hasQvRR =
      (if ((if (side == WHITE) = true then p.queensW else p.queensB) == 1 &&
           (if (side == WHITE) = true then p.queensB else p.queensW) == 0 &&
           (if (side == WHITE) = true then p.rooksW else p.rooksB) == 0 &&
           (if (side == WHITE) = true then p.rooksB else p.rooksW) == 2) = true then true else L.hasQvRR) ∧
    (markImbalance side L p).hasRRvQ =
      (if ((if (side == WHITE) = true then p.queensW else p.queensB) == 0 &&
           (if (side == WHITE) = true then p.queensB else p.queensW) == 1 &&
           (if (side == WHITE) = true then p.rooksW else p.rooksB) == 2 &&
           (if (side == WHITE) = true then p.rooksB else p.rooksW) == 0) = true then true else L.hasRRvQ) ∧
    (markImbalance side L p).hasQv3minor =
      (if ((if (side == WHITE) = true then p.queensW else p.queensB) == 1 &&
           (if (side == WHITE) = true then p.queensB else p.queensW) == 0 &&
           (if (side == WHITE) = true then p.knightsW + p.bishopsW else p.knightsB + p.bishopsB) == 0 &&
           (if (side == WHITE) = true then p.knightsB + p.bishopsB else p.knightsW + p.bishopsW) == 3) = true
         then true else L.hasQv3minor) ∧
    (markImbalance side L p).has3minorvQ =
      (if ((if (side == WHITE) = true then p.queensW else p.queensB) == 0 &&
           (if (side == WHITE) = true then p.queensB else p.queensW) == 1 &&
           (if (side == WHITE) = true then p.knightsW + p.bishopsW else p.knightsB + p.bishopsB) == 3 &&
           (if (side == WHITE) = true then p.knightsB + p.bishopsB else p.knightsW + p.bishopsW) == 0) = true
         then true else L.has3minorvQ) := by
  simp only [markImbalance, apply_ite Loop.usCastled, apply_ite Loop.themCastled, apply_ite Loop.queensGone,
    apply_ite Loop.hasQvRR, apply_ite Loop.hasRRvQ, apply_ite Loop.hasQv3minor, apply_ite Loop.has3minorvQ, ite_self,
    and_self]

/-- `# Threats` in the shape of the generated statements. -/
theorem threats_flat (s : Stats) (p : Ply) : markThreats s p =
    (let dx : Int := (squareFile p.enemyKing : Int) - (squareFile p.to : Int)
     let dy : Int := (squareRank p.enemyKing : Int) - (squareRank p.to : Int)
     let stats := s
     let stats := if (p.piece == ROOK || p.piece == QUEEN) = true then
         (if (decide (Int.natAbs dx ≤ 1) || decide (Int.natAbs dy ≤ 1)) = true then
            PyStyle.Stats.aug_numRookThreats stats 1 else stats) else stats
     if (p.piece == BISHOP || p.piece == QUEEN) = true then
       (if Int.natAbs ((Int.natAbs dx : Int) - (Int.natAbs dy : Int)) ≤ 1 then
          PyStyle.Stats.aug_numBishopThreats stats 1 else stats) else stats) := by
  unfold markThreats rookThreat bishopThreat absDiff
  dsimp only
  cases (p.piece == ROOK || p.piece == QUEEN) <;> cases (p.piece == BISHOP || p.piece == QUEEN) <;>
    simp only [Bool.false_and, Bool.true_and, Bool.false_eq_true, ↓reduceIte, decide_eq_true_eq] <;>
    (repeat' split) <;> rfl

theorem body_eq_noq (side : Color) (L : Loop) (p : Ply)
    (hq : ¬ (L.queensGone == false && p.queensW == 0 && p.queensB == 0) = true) :
    PyStyle.analyse_game.loop1_body side (ofLoop L) (L.ply, p) = Py.lift ((step side L p).map ofLoop) := by
  unfold PyStyle.analyse_game.loop1_body step markQueens
  simp only [ofLoop, ww, bw, ↓reduceIte, Bool.false_eq_true, hq, bind_ok, pure_eq]
  by_cases ht : (p.turn == side) = true
  · have hT := fun s => threats_flat s p
    simp only at hT
    have hU := castleUs_us (markImbalance side L p) p
    rw [markImbalance_stats, (imb_fields side L p).1] at hU
    simp only [ht, ↓reduceIte, stepUs, castleUs_stats, castleUs_rest, markCastleUs_ply,
      markImbalance_stats, markImbalance_ply, imb_fields, them_eq, ite_add]
    simp only [← hT, ← hU]
    generalize markThreats _ p = sT
    simp only [markMoveType, markPawn, agree_add_capture, agree_add_noncapture, agree_add_pawn_push, augAdd_one]
    cases p.isCapture <;> simp only [Bool.false_eq_true, ↓reduceIte] <;>
      (generalize incAt _ _ = r
       cases r with
       | error e => rfl
       | ok l =>
         simp only [lift_ok, bind_ok, map_ok, PyStyle.Stats.set_noncaptureDistance, PyStyle.Stats.set_captureDistance]
         cases (p.piece == PAWN) <;> simp only [Bool.false_eq_true, ↓reduceIte]
         · rfl
         · generalize Stats.addPawnPush _ _ _ _ _ = r2
           cases r2 with
           | error e => rfl
           | ok s2 => rfl)
  · simp only [ht, ↓reduceIte, Bool.false_eq_true, stepThem, map_ok, lift_ok]
    cases p.ksCastle <;> cases p.qsCastle <;> rfl

theorem body_eq (side : Color) (L : Loop) (p : Ply) :
    PyStyle.analyse_game.loop1_body side (ofLoop L) (L.ply, p) = Py.lift ((step side L p).map ofLoop) := by
  by_cases hq : (L.queensGone == false && p.queensW == 0 && p.queensB == 0) = true
  · cases hqo : L.stats.queensOff L.ply with
    | error e =>
      unfold PyStyle.analyse_game.loop1_body step markQueens
      simp only [ofLoop, ww, bw, ↓reduceIte, Bool.false_eq_true, hq, agree_queens_off, hqo, lift_err, bind_err,
        map_err]
    | ok s1 =>
      have hL1 : ¬ (({ L with stats := s1, queensGone := true } : Loop).queensGone == false && p.queensW == 0 &&
          p.queensB == 0) = true := by simp
      have h1 : PyStyle.analyse_game.loop1_body side (ofLoop L) (L.ply, p) =
          PyStyle.analyse_game.loop1_body side (ofLoop { L with stats := s1, queensGone := true }) (L.ply, p) := by
        unfold PyStyle.analyse_game.loop1_body
        simp only [ofLoop, ww, bw, ↓reduceIte, Bool.false_eq_true, hq, agree_queens_off, hqo, lift_ok, bind_ok,
          pure_eq, show (true == false) = false from rfl, Bool.false_and]
      have h2 : step side L p = step side { L with stats := s1, queensGone := true } p := by
        unfold step markQueens
        simp only [hq, hqo, ↓reduceIte, Bool.false_eq_true, show (true == false) = false from rfl, Bool.false_and]
      rw [h1, h2]
      exact body_eq_noq side _ p hL1
  · exact body_eq_noq side L p hq

theorem loop_eq (side : Color) (ps : List Ply) (L : Loop) :
    List.foldlM (PyStyle.analyse_game.loop1_body side) (ofLoop L) (Py.enumerateFrom L.ply ps)
      = Py.lift ((runLoop side L ps).map ofLoop) := by
  induction ps generalizing L with
  | nil => rfl
  | cons p ps ih =>
    unfold Py.enumerateFrom runLoop
    rw [List.foldlM_cons, body_eq]
    cases h : step side L p with
    | error e => rfl
    | ok L' =>
      simp only [map_ok, lift_ok, bind_ok]
      rw [← step_ply h]
      exact ih L'

theorem result_in (r : Result) :
    (!(r == Result.whiteWins || r == Result.blackWins || r == Result.draw)) = false := by
  cases r <;> rfl

/-- a raising callee followed by a continuation, in the generated form and in the model's. -/
theorem lift_bind {α β : Type} (x y : Except PyErr α) (K : α → Except Py.Exc β) (K' : α → Except PyErr β)
    (hxy : x = y) (hK : ∀ a, K a = Py.lift (K' a)) :
    (Py.lift x >>= K) = Py.lift (y >>= K') := by
  subst hxy
  cases x with
  | error e => rfl
  | ok a => exact hK a

/-- the model's spelling of a bind in `Except` (its two `match`es in `finishAnalysis`). -/
theorem match_bind_stats {β : Type} (x : Except PyErr Stats) (F : Stats → Except PyErr β) :
    Rawr.Style.stepUs.match_1 (fun _ => Except PyErr β) x (fun e => .error e) F = x >>= F := by
  cases x <;> rfl

theorem match_bind_list {β : Type} (x : Except PyErr (List Nat)) (F : List Nat → Except PyErr β) :
    Rawr.Style.finishAnalysis.match_1 (fun _ => Except PyErr β) x (fun e => .error e) F = x >>= F := by
  cases x <;> rfl

/-- `# Material imbalance` after the loop, in the shape of the generated statements. -/
theorem imbsum_flat (s : Stats) (L : Loop) : imbalanceSummary s L =
    (let stats := s
     let stats := if L.hasQvRR = true then PyStyle.Stats.aug_numQvRR stats 1 else stats
     let stats := if L.hasRRvQ = true then PyStyle.Stats.aug_numRRvQ stats 1 else stats
     let stats := if L.hasQv3minor = true then PyStyle.Stats.aug_numQv3minor stats 1 else stats
     if L.has3minorvQ = true then PyStyle.Stats.aug_num3minorvQ stats 1 else stats) := rfl

/-- the castling summary: the generated `if / elif` chain over the ints 0, 1, 2 (whose `else: raise RuntimeError`
is never reached) is the model's match on `Castled`. -/
theorem castle_chain (s : Stats) (us them : Castled) :
    (if (Castled.toNat us == 0 && Castled.toNat them == 0) = true then (pure s : Except Py.Exc Stats)
     else if (Castled.toNat us == 0 && Castled.toNat them != 0) = true then pure s
     else if (Castled.toNat us != 0 && Castled.toNat them == 0) = true then pure s
     else if (Castled.toNat us == 1 && Castled.toNat them == 1) = true then pure (PyStyle.Stats.aug_castleSame s 1)
     else if (Castled.toNat us == 2 && Castled.toNat them == 2) = true then pure (PyStyle.Stats.aug_castleSame s 1)
     else if (Castled.toNat us == 1 && Castled.toNat them == 2) = true then
       pure (PyStyle.Stats.aug_castleOpposite s 1)
     else if (Castled.toNat us == 2 && Castled.toNat them == 1) = true then
       pure (PyStyle.Stats.aug_castleOpposite s 1)
     else throw Py.Exc.runtime) = pure (castleSummary s us them) := by
  cases us <;> cases them <;> rfl

theorem agree_analyse_game (g : Game) (side : Color) (s : Stats) :
    PyStyle.analyse_game g side s = Py.lift (analyseGame g side s) := by
  unfold PyStyle.analyse_game analyseGame
  simp only [result_in, Bool.false_eq_true, ↓reduceIte]
  have h0 : (s, 0, 0, false, 0, false, false, false, false) = ofLoop { stats := s } := rfl
  have hl := loop_eq side g.plies { stats := s }
  unfold Py.enumerate
  rw [h0, hl]
  cases hr : runLoop side { stats := s } g.plies with
  | error e => rfl
  | ok L =>
    have hI := fun s => imbsum_flat s L
    simp only at hI
    simp only [map_ok, lift_ok, bind_ok, ofLoop]
    simp only [← hI, castle_chain]
    rw [pure_eq, bind_ok]
    unfold finishAnalysis
    dsimp only
    simp only [match_bind_stats, match_bind_list]
    refine lift_bind _ _ _ _ ?_ ?_
    · rw [agree_finish_game]
    intro s2
    refine lift_bind _ _ _ _ ?_ ?_
    · cases side <;> cases g.result <;> rfl
    · intro fm; cases side <;> cases g.result <;> rfl

/-- `analyse_game(game, side, stats); count += 1; assert(is_valid(stats))`. -/
theorem agree_analyse_pgn_job (g : Game) (side : Color) (s : Stats) (count : Nat) :
    PyStyle.analyse_pgn.job g side s count =
      Py.lift (do
        let s' ← analyseGame g side s
        let ok ← isValid s'
        if ok then pure (s', count + 1) else throw PyErr.assertion) := by
  unfold PyStyle.analyse_pgn.job
  rw [agree_analyse_game, agree_is_valid]
  cases analyseGame g side s with
  | error e => rfl
  | ok s' =>
    simp only [lift_ok, bind_ok]
    cases isValid s' with
    | error e => rfl
    | ok b => cases b <;> rfl

/-- running the generated job statements over the jobs of ONE filter is the model's `analysePgn`
(`count` only counts). -/
theorem agree_analyse_pgn (jobs : List (Game × Color)) (s : Stats) (count : Nat) :
    List.foldlM (fun (st : Stats × Nat) (j : Game × Color) => PyStyle.analyse_pgn.job j.1 j.2 st.1 st.2) (s, count) jobs
      = Py.lift ((analysePgn jobs s).map (fun s' => (s', count + jobs.length))) := by
  induction jobs generalizing s count with
  | nil => rfl
  | cons j js ih =>
    obtain ⟨g, side⟩ := j
    rw [List.foldlM_cons, agree_analyse_pgn_job]
    unfold analysePgn
    cases analyseGame g side s with
    | error e => rfl
    | ok s' =>
      simp only [bind_ok]
      cases isValid s' with
      | error e => rfl
      | ok b =>
        cases b with
        | false => rfl
        | true =>
          simp only [bind_ok, ↓reduceIte, pure_eq, lift_ok]
          rw [ih, List.length_cons, Nat.add_assoc, Nat.add_comm 1]

theorem agree_main_styles : PyStyle.main.styles.map (·.2) =
    [fun s (_ : Bool) => getAggressionScore .guarded s, fun s _ => getPositionalScore .guarded s,
     fun s _ => getPawnPusherScore s] := by
  unfold PyStyle.main.styles
  simp only [List.map]
  congr 1
  · funext s v; exact agree_get_aggression_score s v
  · congr 1
    · funext s v; exact agree_get_positional_score s v
    · congr 1
      funext s v; exact agree_get_pawn_pusher_score s v

theorem div_nat_ok (a : Q) (n : Nat) (h : n ≠ 0) : ∃ r, Q.div a (Q.nat n) = .ok r := by
  unfold Q.div Q.nat
  have h1 : ((n : Nat) : Int) ≠ 0 := by omega
  have h2 : (0 : Int) < (n : Int) := by omega
  simp only [h1, h2, ↓reduceIte]
  exact ⟨_, rfl⟩

/-- the report of one filter raises exactly when the model's `mainScores` does (the printed percentages divide by
`num_games`, which is positive there). -/
theorem agree_main_report (s : Stats) (verbose : Bool) :
    PyStyle.main.report s verbose = (mainScores .guarded s).map (fun _ => ()) := by
  unfold PyStyle.main.report mainScores
  dsimp only
  split
  · rfl
  · rename_i h
    have hn : s.numGames ≠ 0 := by omega
    obtain ⟨r1, h1⟩ := div_nat_ok (Q.nat (100 * s.numWins)) s.numGames hn
    obtain ⟨r2, h2⟩ := div_nat_ok (Q.nat (100 * s.numDraws)) s.numGames hn
    obtain ⟨r3, h3⟩ := div_nat_ok (Q.nat (100 * s.numLosses)) s.numGames hn
    simp only [h1, h2, h3, bind_ok, List.foldlM_cons, List.foldlM_nil, agree_get_aggression_score,
      agree_get_positional_score, agree_get_pawn_pusher_score]
    cases getAggressionScore .guarded s with
    | error e => rfl
    | ok a =>
      cases getPositionalScore .guarded s with
      | error e => cases a <;> rfl
      | ok b =>
        cases getPawnPusherScore s with
        | error e => cases a <;> cases b <;> rfl
        | ok c => cases a <;> cases b <;> cases c <;> rfl

/-! ## sanity: the regenerated functions compute (1. e4 d5 2. exd5 as an annotated game, won by White); the
expected numbers are those of the real script on this game (run through `pystub/chess`) -/

def demoPly (turn : Color) (piece : Nat) (frm to : Square) (cap : Bool) (ek : Square) : Ply :=
  { turn := turn, piece := piece, frm := frm, to := to, isCapture := cap, ksCastle := false, qsCastle := false,
    checkAfter := false, queensW := 1, queensB := 1, rooksW := 2, rooksB := 2, knightsW := 2, knightsB := 2,
    bishopsW := 2, bishopsB := 2, enemyKing := ek }

def demoGame : Game :=
  { result := .whiteWins
    plies := [demoPly WHITE PAWN 12 28 false 60, demoPly BLACK PAWN 51 35 false 4, demoPly WHITE PAWN 28 35 true 60]
    finalWhite := ⟨8, 2, 2, 2, 1⟩, finalBlack := ⟨7, 2, 2, 2, 1⟩ }

example : (match PyStyle.analyse_pgn.job demoGame WHITE PyStyle.Stats.default 0 with
    | .ok (s, c) => c == 1 && s.numGames == 1 && s.numWins == 1 && s.numWinAhead == 1 && s.totalMoves == 2 &&
        s.totalCaptures == 1 && s.totalPawnPushes == 2 && s.shortGames == 1 && s.nonchecks == 2 &&
        s.gameLength.getD 3 0 == 1 && s.finalMaterial.getD 77 0 == 1 && s.captureDistance.getD 3 0 == 1 &&
        (match PyStyle.get_positional_score s true with   -- the real script prints 0.25 here
         | .ok (some q) => q.num * 4 == (q.den : Int)
         | _ => false)
    | .error _ => false) = true := by decide +kernel

example : (match PyStyle.analyse_game demoGame BLACK PyStyle.Stats.default with
    | .ok s => (match PyStyle.main.report s true, PyStyle.get_positional_score s false with
        | .ok (), .ok (some q) => s.numLosses == 1 && q.num * 6 == (q.den : Int)   -- the real script: 0.1666..
        | _, _ => false)
    | .error _ => false) = true := by decide +kernel

end Rawr.PyStyleAgree

#print axioms Rawr.PyStyleAgree.agree_get_material_score
#print axioms Rawr.PyStyleAgree.agree_analyse_game
#print axioms Rawr.PyStyleAgree.agree_analyse_pgn_job
#print axioms Rawr.PyStyleAgree.agree_analyse_pgn
#print axioms Rawr.PyStyleAgree.agree_main_styles
#print axioms Rawr.PyStyleAgree.agree_main_report
