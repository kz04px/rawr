import Rawr.Proofs.GenKing
/-!
# C01, pawns, specification side: the pseudo-legal pawn moves of `Spec.pseudoFrom (relPos p)` on the relative board
(`pseudo_pawn_rel`), and the board after a pawn move of `relPos p` (`apply_pawn_board`)
-/
namespace Rawr.Att
open Spec

def pawnDir (w : Bool) : Int := if w then 1 else -1
theorem pawnDir2_not (bl : Bool) : 2 * pawnDir (!bl) = if bl then -2 else 2 := by cases bl <;> rfl

open SV SpecS

def PromoR (t : Nat) (pr : Option Kind) : Prop :=
  if t / 8 = 7 then ∃ k ∈ promoKinds, pr = some k else pr = none

theorem promoA_rel (t : Nat) (pr : Option Kind) : PromoA true t pr ↔ PromoR t pr := by
  unfold PromoA PromoR plast rank
  have e : ((t / 8 : Nat) : Int) = (if true = true then 7 else 0) ↔ t / 8 = 7 := by simp; omega
  by_cases h : t / 8 = 7
  · rw [if_pos (e.mpr h), if_pos h]
  · rw [if_neg (fun h' => h (e.mp h')), if_neg h]

/-- pseudo-legal pawn moves on the relative board (the mover's pawns move up). -/
def PawnPseudo (B : Board) (ep : Option Nat) (f t : Nat) (pr : Option Kind) : Prop :=
  (t = f + 8 ∧ B t = none ∧ PromoR t pr) ∨
  (f / 8 = 1 ∧ t = f + 16 ∧ B (f + 8) = none ∧ B t = none ∧ pr = none) ∨
  (((t = f + 7 ∧ f % 8 ≠ 0) ∨ (t = f + 9 ∧ f % 8 ≠ 7)) ∧
    ((∃ q, B t = some q ∧ q.white = false ∧ PromoR t pr) ∨ (B t = none ∧ ep = some t ∧ pr = none)))

theorem rel_step {x : Nat} (hx : x < 64) (df dr : Int) (hdr : 1 ≤ dr ∧ dr ≤ 2) :
    (onBoard (file x + df) (rank x + dr) = true ↔
      (0 ≤ file x + df ∧ file x + df < 8 ∧ x + 8 * dr.toNat < 64)) ∧
    (onBoard (file x + df) (rank x + dr) = true →
      ((sq (file x + df) (rank x + dr) : Nat) : Int) = x + 8 * dr + df) := by
  rw [onBoard_iff]
  unfold sq file rank
  constructor <;> omega

theorem capA_rel (p : Position) {f : Nat} (hf : f < 64) (df : Int) (b : Nat) (pr : Option Kind) :
    CapA (relPos p) true f df b pr ↔
      b < 64 ∧ (b : Int) = f + 8 + df ∧ (0 ≤ file f + df ∧ file f + df < 8) ∧
        ((∃ q, relBoard p b = some q ∧ q.white = false ∧ PromoR b pr) ∨
          (relBoard p b = none ∧ p.ep = some b ∧ pr = none)) := by
  have hstep := rel_step hf df 1 (by omega)
  have key : (match (relPos p).board b with
        | some q => q.white ≠ true ∧ PromoA true b pr
        | none => (relPos p).ep = some b ∧ pr = none) ↔
      ((∃ q, relBoard p b = some q ∧ q.white = false ∧ PromoR b pr) ∨
          (relBoard p b = none ∧ p.ep = some b ∧ pr = none)) := by
    rw [relPos_board, relPos_ep]
    cases relBoard p b <;> simp [promoA_rel]
  refine Iff.trans (and_congr_right fun _ => and_congr_right fun _ => key) ?_
  show onBoard (file f + df) (rank f + 1) = true ∧ b = sq (file f + df) (rank f + 1) ∧ _ ↔ _
  constructor
  · rintro ⟨hon, rfl, hm⟩
    have hon' := hstep.1.mp hon
    exact ⟨onBoard_lt hon, by have := hstep.2 hon; omega, ⟨hon'.1, hon'.2.1⟩, hm⟩
  · rintro ⟨hb, hval, hrange, hm⟩
    have hon : onBoard (file f + df) (rank f + 1) = true := by
      rw [hstep.1]; refine ⟨hrange.1, hrange.2, ?_⟩
      unfold file at hrange
      show f + 8 * 1 < 64
      omega
    exact ⟨hon, by have := hstep.2 hon; omega, hm⟩

theorem push_rel {f : Nat} (hf : f < 64) (n : Nat) (hn : n = 1 ∨ n = 2) :
    (onBoard (file f) (rank f + n) = true ↔ f + 8 * n < 64) ∧
      (f + 8 * n < 64 → sq (file f) (rank f + n) = f + 8 * n) := by
  have hs := rel_step hf 0 n (by omega)
  have fx := file_bounds f
  simp only [Int.add_zero, Int.toNat_natCast] at hs
  refine ⟨hs.1.trans ⟨fun h => h.2.2, fun h => ⟨fx.1, fx.2, h⟩⟩, fun h => ?_⟩
  have := hs.2 (hs.1.mpr ⟨fx.1, fx.2, h⟩)
  omega

theorem pseudo_pawn_rel (p : Position) {f : Nat} (hf : f < 64) (hB : relBoard p f = some ⟨true, .pawn⟩)
    (t : Nat) (pr : Option Kind) :
    Move.normal f t pr ∈ pseudoFrom (relPos p) f ↔ t < 64 ∧ PawnPseudo (relBoard p) p.ep f t pr := by
  rw [normal_mem_pseudoFrom_pawn _ _ hB]
  unfold PawnA
  simp only [relPos_turn, relPos_board]
  rw [capA_rel p hf (-1), capA_rel p hf 1]
  obtain ⟨p1a, p1b⟩ := push_rel hf 1 (Or.inl rfl)
  obtain ⟨p2a, p2b⟩ := push_rel hf 2 (Or.inr rfl)
  have e1 : pdir true = 1 := rfl
  have est : rank f = pstart true ↔ f / 8 = 1 := by unfold pstart rank; simp; omega
  simp only [e1, Int.mul_one, est, promoA_rel]
  show (onBoard (file f) (rank f + (1 : Nat)) = true ∧ relBoard p (sq (file f) (rank f + (1 : Nat))) = none ∧
    (t = sq (file f) (rank f + (1 : Nat)) ∧ _ ∨ _ ∧ relBoard p (sq (file f) (rank f + (2 : Nat))) = none ∧
      t = sq (file f) (rank f + (2 : Nat)) ∧ _) ∨ _) ↔ _
  rw [p1a]
  unfold PawnPseudo
  constructor
  · rintro (⟨h8, hn1, hpush⟩ | ⟨ht, hv, hr, hm⟩ | ⟨ht, hv, hr, hm⟩)
    · rw [p1b h8] at hn1 hpush
      rcases hpush with ⟨rfl, hpr⟩ | ⟨hst, hn2, ht, hpr⟩
      · exact ⟨by omega, Or.inl ⟨rfl, hn1, hpr⟩⟩
      · rw [p2b (by omega)] at hn2 ht
        subst ht
        exact ⟨by omega, Or.inr (Or.inl ⟨hst, rfl, hn1, hn2, hpr⟩)⟩
    · exact ⟨ht, Or.inr (Or.inr ⟨Or.inl ⟨by omega, by unfold file at hr; omega⟩, hm⟩)⟩
    · exact ⟨ht, Or.inr (Or.inr ⟨Or.inr ⟨by omega, by unfold file at hr; omega⟩, hm⟩)⟩
  · rintro ⟨ht, (⟨rfl, hn1, hpr⟩ | ⟨hst, rfl, hn1, hn2, hpr⟩ | ⟨hgeo, hm⟩)⟩
    · rw [p1b (by omega)]
      exact Or.inl ⟨by omega, hn1, Or.inl ⟨rfl, hpr⟩⟩
    · rw [p1b (by omega), p2b (by omega)]
      exact Or.inl ⟨by omega, hn1, Or.inr ⟨hst, hn2, rfl, hpr⟩⟩
    · rcases hgeo with ⟨rfl, h0⟩ | ⟨rfl, h7⟩
      · exact Or.inr (Or.inl ⟨ht, by omega, by unfold file; omega, hm⟩)
      · exact Or.inr (Or.inr ⟨ht, by omega, by unfold file; omega, hm⟩)

/-- the piece standing on the target square after a pawn move with promotion field `pr`. -/
def pawnResult (pr : Option Kind) : Piece := ⟨true, match pr with | some k => k | none => .pawn⟩

/-- the relative board after the pawn move `f → t`. -/
def afterPawn (B : Board) (f t : Nat) (pr : Option Kind) : Board :=
  setSq (if (file f != file t && (B t).isNone) = true then setSq (setSq B f none) (sq (file t) (rank f)) none
    else setSq B f none) t (some (pawnResult pr))

theorem framePiece_result (bl : Bool) (pr : Option Kind) :
    framePiece bl (pawnResult pr) = (match pr with | some k => ⟨!bl, k⟩ | none => ⟨!bl, .pawn⟩ : Piece) := by
  unfold pawnResult
  cases pr <;> exact framePiece_us bl _

theorem apply_pawn_board (p : Position) {f t : Nat} (hB : relBoard p f = some ⟨true, .pawn⟩)
    (pr : Option Kind) :
    (apply (relPos p) (.normal f t pr)).board = afterPawn (relBoard p) f t pr := by
  have hB' : (relPos p).board f = some ⟨true, .pawn⟩ := hB
  have hsome : ∀ o : Option Piece, (!o.isSome) = o.isNone := fun o => by cases o <;> rfl
  unfold apply afterPawn pawnResult
  simp only [hB', beq_self_eq_true, Bool.true_and, relPos_board, hsome]
  cases pr <;> rfl

theorem pawnResult_ne_king {pr : Option Kind} (h : pr ≠ some .king) :
    (some (pawnResult pr) : Option Piece) ≠ some ⟨true, .king⟩ := by
  unfold pawnResult
  intro e
  injection e with e
  injection e with _ e
  cases pr with
  | none => cases e
  | some k => simp only at e; subst e; exact h rfl

end Rawr.Att
