import Rawr.Proofs.GenShape
import Rawr.Model.UciMove
/-! Helpers for C09: the printed destination square, injectivity of the pieces of the notation. -/
namespace Rawr
open Rawr.Position Rawr.Spec Rawr.ZH

/-- the destination square that is printed: for a castling move (= king takes own rook, `decodeMove`)
without `UCI_Chess960` the king's target g1 / c1 (mover-relative 6 / 2), otherwise `dst`. -/
def uciDst (p : Position) (m : Mv) : Nat :=
  match decodeMove p m with
  | .castle ks => if p.frc then m.dst else (if ks then 6 else 2)
  | .normal _ _ _ => m.dst

/-- conventional castling geometry: each present right of the mover has the king on e1 and the rook on h1 / a1. -/
def StandardGeometry (p : Position) : Prop :=
  (p.usK = true → lsb (p.p5 &&& p.c0) = 4 ∧ p.cf0 = 7) ∧ (p.usQ = true → lsb (p.p5 &&& p.c0) = 4 ∧ p.cf1 = 0)

instance (p : Position) : Decidable (StandardGeometry p) := by unfold StandardGeometry; infer_instance

theorem fileChar_inj : ∀ a b : Fin 8, fileChar a.val = fileChar b.val → a = b := by decide
theorem rankChar_inj : ∀ a b : Fin 8, rankChar a.val = rankChar b.val → a = b := by decide

theorem sqName_inj {s t : Nat} (hs : s < 64) (ht : t < 64) (h : sqName s = sqName t) : s = t := by
  simp only [sqName, List.cons.injEq, and_true] at h
  have h1 := fileChar_inj ⟨s % 8, by omega⟩ ⟨t % 8, by omega⟩ h.1
  have h2 := rankChar_inj ⟨s / 8, by omega⟩ ⟨t / 8, by omega⟩ h.2
  simp only [Fin.mk.injEq] at h1 h2
  omega

theorem promoChars_inj : ∀ a b : Fin 7, a.val ≠ 0 → a.val ≠ 5 → b.val ≠ 0 → b.val ≠ 5 →
    promoChars a.val = promoChars b.val → a = b := by decide

theorem uci_parts_inj {a b c a' b' c' : Nat} (ha : a < 64) (hb : b < 64) (ha' : a' < 64) (hb' : b' < 64)
    (hc : c = 6 ∨ c = 1 ∨ c = 2 ∨ c = 3 ∨ c = 4) (hc' : c' = 6 ∨ c' = 1 ∨ c' = 2 ∨ c' = 3 ∨ c' = 4)
    (h : sqName a ++ sqName b ++ promoChars c = sqName a' ++ sqName b' ++ promoChars c') :
    a = a' ∧ b = b' ∧ c = c' := by
  simp only [sqName, List.cons_append, List.nil_append, List.cons.injEq] at h
  obtain ⟨h1, h2, h3, h4, h5⟩ := h
  have e1 : sqName a = sqName a' := by simp only [sqName, h1, h2]
  have e2 : sqName b = sqName b' := by simp only [sqName, h3, h4]
  have r1 := sqName_inj ha ha' e1
  have r2 := sqName_inj hb hb' e2
  have r3 := promoChars_inj ⟨c, by omega⟩ ⟨c', by omega⟩ (by simp only; omega) (by simp only; omega)
    (by simp only; omega) (by simp only; omega) h5
  simp only [Fin.mk.injEq] at r3
  exact ⟨r1, r2, r3⟩

theorem uciDst_cases {p : Position} {g : GMv} (h : GenOk p g) :
    (p.c0.isSet g.mv.dst = false ∧ uciDst p g.mv = g.mv.dst) ∨
    (g.piece = 5 ∧ IsCastleK p g.mv ∧ uciDst p g.mv = if p.frc then g.mv.dst else 6) ∨
    (g.piece = 5 ∧ IsCastleQ p g.mv ∧ uciDst p g.mv = if p.frc then g.mv.dst else 2) := by
  by_cases hd : p.c0.isSet g.mv.dst = true
  · obtain ⟨h5, hK | hQ⟩ := h.dst_own hd
    · refine Or.inr (Or.inl ⟨h5, hK, ?_⟩)
      have hlt := hK.2.2.2.2.2.1
      simp [uciDst, decodeMove, hd, hlt]
    · refine Or.inr (Or.inr ⟨h5, hQ, ?_⟩)
      have hlt := hQ.2.2.2.2.2.1
      have : ¬ g.mv.src < g.mv.dst := by omega
      simp [uciDst, decodeMove, hd, this]
  · have hd' : p.c0.isSet g.mv.dst = false := by simpa using hd
    exact Or.inl ⟨hd', by simp [uciDst, decodeMove, hd']⟩

theorem uciDst_lt {p : Position} {g : GMv} (h : GenOk p g) : uciDst p g.mv < 64 := by
  have := h.dst_lt
  rcases uciDst_cases h with ⟨_, e⟩ | ⟨_, _, e⟩ | ⟨_, _, e⟩ <;> rw [e] <;> (try split) <;> omega

/-- `Mv::to_uci` prints source, (printed) destination, promotion letter. -/
theorem toUci_format {p : Position} {g : GMv} (h : GenOk p g) :
    toUciChars p g.mv = sqName (absSq p.black g.mv.src) ++ sqName (absSq p.black (uciDst p g.mv)) ++
      promoChars g.mv.promo := by
  have key : (if (!p.frc && p.c0.isSet g.mv.dst) = true then
      (if fileOf g.mv.dst > fileOf g.mv.src then 6 else 2) else g.mv.dst) = uciDst p g.mv := by
    rcases uciDst_cases h with ⟨hd, e⟩ | ⟨_, hK, e⟩ | ⟨_, hQ, e⟩
    · rw [e, hd]; simp
    · obtain ⟨_, _, hdst, hcf, hrook, hlt, _⟩ := hK
      have hd : p.c0.isSet g.mv.dst = true := by
        rw [BitVec.getLsbD_and, Bool.and_eq_true] at hrook; exact hrook.1
      have h8 : g.mv.dst < 8 := by rw [hdst]; simp only [fromCoords]; omega
      have hf : fileOf g.mv.dst > fileOf g.mv.src := by unfold fileOf; omega
      rw [e, hd]
      cases p.frc <;> simp [hf]
    · obtain ⟨_, _, hdst, hcf, hrook, hlt, hk8, _⟩ := hQ
      have hd : p.c0.isSet g.mv.dst = true := by
        rw [BitVec.getLsbD_and, Bool.and_eq_true] at hrook; exact hrook.1
      have hf : ¬ fileOf g.mv.dst > fileOf g.mv.src := by unfold fileOf; omega
      rw [e, hd]
      cases p.frc <;> simp [hf]
  unfold toUciChars
  simp only [key]
  cases p.black <;> rfl

theorem adj_e1 : ∀ d : Fin 64, (adjacent (bit 4)).getLsbD d.val = true → d.val ≠ 6 ∧ d.val ≠ 2 := by decide

theorem find?_unique {α : Type} {l : List α} {q : α → Bool} {m : α} (hm : m ∈ l) (hq : q m = true)
    (hu : ∀ x ∈ l, q x = true → x = m) : l.find? q = some m := by
  induction l with
  | nil => cases hm
  | cons x xs ih =>
    rw [List.find?_cons]
    cases hx : q x
    · simp only
      rcases List.mem_cons.mp hm with e | hm'
      · rw [← e, hq] at hx; cases hx
      · exact ih hm' (fun y hy => hu y (List.mem_cons_of_mem _ hy))
    · simp only
      rw [hu x List.mem_cons_self hx]

end Rawr
