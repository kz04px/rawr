import Rawr.Props.C03_rules
import Rawr.Props.C11
import Rawr.Props.C12
/-! Helper lemmas for the "rules-level" corollaries of C11 and C12 (`Props/C11_rules.lean`, `C12_rules.lean`): the
hypotheses of those properties on the search tree (`QEvalOk`, `TreeOk`) are discharged for every root in the domain
`V ∧ E` (`VE` of `Props/C03_rules.lean`).

* `qEvalOk_of_VE`: the evaluation is within `±EB = ±174416` on the capture tree below every
  position of `V ∧ E` (C17 through `qdom_QVE`);
* `KeysOk`, `treeOk_of_keysOk`: `TreeOk` with the evaluation clause removed — what is left is the absence of
  64-bit key collisions — implies `TreeOk … EB` on `V ∧ E`; `decKeysOk` lets the kernel check `KeysOk` on an example;
* children of a valid position: `makemove_total_V`, `child_V_E`, `child_clock` (`VE` of a child is
  `searchDomC_VE.move`);
* `rep_lt_two_iff`: the repetition test of C11 as `OccurredBefore`;
* tables of default entries: `ttInv_replicate`, `noChildHit_replicate`;
* `len_of_root_some`: a returning `go depth D` (`D ≥ 1`) has ordered the root's moves, so they fit the buffer. -/
namespace Rawr.RulesLevel
open MM DM

theorem qEvalOk_of_VE {n : Nat} {q : Position} (h : VE n q) : QEvalOk EB qFuel q :=
  qdom_QVE.qEvalOk qFuel q h.qve

theorem makemove_total_V {p : Position} (hV : ValidPos p = true) {m : Mv} (hm : m ∈ legalMoves p) :
    ∃ c, p.makemove m true = some c :=
  C02_makemove_total p m hV (gen_moveShape p hV m hm)

theorem child_V_E {p : Position} (hV : ValidPos p = true) (hE : Spec.EpConsistent (abs p) = true)
    (hh : p.halfmoves + 1 < 2147483648) (hf : p.fullmoves + 1 < 2147483648) {m : Mv} (hm : m ∈ legalMoves p)
    {c : Position} (hmk : p.makemove m true = some c) :
    ValidPos c = true ∧ Spec.EpConsistent (abs c) = true ∧ abs c = Spec.apply (abs p) (decodeMove p m) := by
  have hs := gen_moveShape p hV m hm
  have hL := (C01_sound p hV hE m hm).1
  exact ⟨C02_valid_preserved p m c hV hs hL hmk hh hf, E_preserved p hV m hm hE c hmk,
    C02_makemove_eq p m c true hV hs hL hmk⟩

theorem VE_mono {n k : Nat} {p : Position} (h : VE n p) (hk : k ≤ n) : VE k p := VE_le h hk

theorem child_clock {p : Position} (hV : ValidPos p = true) (hE : Spec.EpConsistent (abs p) = true) {m : Mv}
    (hm : m ∈ legalMoves p) {c : Position} (hmk : p.makemove m true = some c) :
    0 ≤ c.halfmoves ∧ c.halfmoves ≤ p.halfmoves + 1 := by
  obtain ⟨b0, b1, _, _⟩ := C02_counters p m c true hV (gen_moveShape p hV m hm) (C01_sound p hV hE m hm).1 hmk
  exact ⟨b0, b1⟩

/-- the subtree below `q` that `fuel` can reach (null-move children included exactly where `TreeOk` includes
them): no node has a key in `Kp`, no node with a legal move has a key in `Ks`. -/
def KeysOk (Kp Ks : BB → Prop) : Nat → Position → Prop
  | 0, _ => True
  | f + 1, q => ¬ Kp q.hash ∧ (legalMoves q ≠ [] → ¬ Ks q.hash) ∧
      (q.inCheck = false → isEndgame q = false → KeysOk Kp Ks f q.makenull) ∧
      ∀ m ∈ legalMoves q, ∀ c, q.makemove m true = some c → KeysOk Kp Ks f c

theorem treeOk_of_keysOk (Kp Ks : BB → Prop) : ∀ (f : Nat) (q : Position), VE f q → KeysOk Kp Ks f q →
    TreeOk Kp Ks EB f q
  | 0, _, _, _ => trivial
  | f + 1, q, hq, ⟨h1, h2, h3, h4⟩ =>
    ⟨h1, h2, qEvalOk_of_VE hq,
      fun hc he => treeOk_of_keysOk Kp Ks f _ (searchDomC_VE.null f q hq hc) (h3 hc he),
      fun m hm c hmk => treeOk_of_keysOk Kp Ks f c (searchDomC_VE.move f q m c hq hm hmk) (h4 m hm c hmk)⟩

instance decKeysOk (Kp Ks : BB → Prop) [DecidablePred Kp] [DecidablePred Ks] : ∀ f q, Decidable (KeysOk Kp Ks f q)
  | 0, _ => isTrue trivial
  | f + 1, q => by
    have := decKeysOk Kp Ks f
    unfold KeysOk
    infer_instance

/-- "not a repetition" in the index form of C11.2. -/
theorem rep_lt_two_iff (H : List BB) (c : Position) :
    repCount (c.hash :: H) c.halfmoves c.hash < 2 ↔ ¬ OccurredBefore H c := by
  rw [← Nat.not_le]
  exact not_congr (C11_repetition_iff c.hash H c.halfmoves)

theorem poll_replicate (n key : Nat) : (⟨Array.replicate n default⟩ : Table TTEntry).poll key = some default := by
  rw [Table.poll_eq]
  congr 1
  unfold Table.slot
  simp only [Array.getElem?_replicate]
  split <;> rfl

/-- an all-default table satisfies `TTInv` as soon as `0` (the key of an empty slot) is not in `Ks`. -/
theorem ttInv_replicate (Kp Ks : BB → Prop) (n : Nat) (h0 : ¬ Ks 0#64) :
    TTInv Kp Ks ⟨Array.replicate n default⟩ := by
  intro key e he
  rw [poll_replicate] at he
  cases he
  exact ⟨Or.inr ⟨by decide, by decide⟩, h0⟩

theorem noChildHit_replicate (p : Position) (n : Nat)
    (h0 : ∀ m ∈ legalMoves p, ∀ c, p.makemove m true = some c → c.hash ≠ 0#64) :
    NoChildHit p ⟨Array.replicate n default⟩ := by
  intro m hm c hmk
  rw [poll_replicate]
  simp only [Option.map_some, ne_eq, Option.some.injEq]
  exact fun h' => h0 m hm c hmk h'.symm

theorem sortNm_some_len {p : Position} {ms l : List Mv} {tt : Option Mv} (h : sortNm p ms tt = some l) :
    ms.length ≤ Gen.orderBufNegamax := by
  have e : Gen.orderBufNegamax = 218 := rfl
  unfold sortNm at h
  split at h
  · omega
  · split at h
    · cases h
    · omega

/-- a returning `go depth D`, `D ≥ 1`, has ordered the root's moves: there are at most 218. -/
theorem len_of_root_some (D : Int) (hD : 1 ≤ D) (fuel : Nat) (p : Position) (hist : List BB) (tt : Table TTEntry)
    (res : RootResult) (h : root (.depth D) (fuel + 1) p hist tt = some res) :
    (legalMoves p).length ≤ Gen.orderBufNegamax := by
  obtain ⟨score, s1, hcall, _⟩ := root_first h
  obtain ⟨_, _, _, _, _, _, _, _, hsort, _⟩ := root_call_unfold (.depth D) fuel p _ 1 score s1
    (by split <;> omega) (by show (1 : Int) ≤ D; exact hD) hcall
  exact sortNm_some_len hsort

end Rawr.RulesLevel
