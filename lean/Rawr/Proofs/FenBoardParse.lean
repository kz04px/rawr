import Rawr.Proofs.FenDefs
/-!
# The board loop of `set_fen` inverts the specification's board printer

`fenBoard ar (printBoard b) q 0 = some (placeAbs b q, 64)` in both arithmetics: on the characters the
printer produces no `u8` operation of the loop overflows.
-/
namespace Rawr
open Spec
namespace FenParse

/-- the square visited at loop index `i` (also its own inverse on `0..63`). -/
def idxOf (i : Nat) : Nat := 8 * (7 - i / 8) + i % 8

theorem idxOf_idxOf {i : Nat} (h : i < 64) : idxOf (idxOf i) = i := by unfold idxOf; omega

theorem idxOf_lt {i : Nat} (h : i < 64) : idxOf i < 64 := by unfold idxOf; omega

theorem idxOf_rank {r f : Nat} (hr : r ≤ 7) (hf : f < 8) : idxOf (8 * (7 - r) + f) = f + 8 * r := by
  unfold idxOf; omega

theorem fenBoard_nil (ar : Arith) (p : Position) (idx : Nat) : fenBoard ar [] p idx = some (p, idx) := by
  rw [fenBoard]

private theorem arith_ok (ar : Arith) (idx : Nat) (h : idx < 64) :
    u8sub ar 7 (idx / 8) = some (7 - idx / 8) ∧ u8mul ar 8 (7 - idx / 8) = some (8 * (7 - idx / 8)) ∧
    u8add ar (8 * (7 - idx / 8)) (idx % 8) = some (idxOf idx) ∧ bitAr ar (idxOf idx) = some (bit (idxOf idx)) := by
  refine ⟨?_, ?_, ?_, ?_⟩
  · unfold u8sub; rw [if_pos (by omega)]
  · unfold u8mul; rw [if_pos (by omega)]
  · unfold u8add idxOf; rw [if_pos (by omega)]
  · unfold bitAr idxOf; rw [if_pos (by omega)]

theorem fenBoard_piece (ar : Arith) (c : Char) (cs : List Char) (p : Position) (idx : Nat) (black : Bool) (k : Nat)
    (h : idx < 64) (hc : boardTok c = some (.piece black k)) :
    fenBoard ar (c :: cs) p idx =
      fenBoard ar cs
        ((if black then { p with c1 := p.c1 ^^^ bit (idxOf idx) } else { p with c0 := p.c0 ^^^ bit (idxOf idx) }).setPiece k
          ((if black then { p with c1 := p.c1 ^^^ bit (idxOf idx) } else { p with c0 := p.c0 ^^^ bit (idxOf idx) }).piece k
            ^^^ bit (idxOf idx)))
        (idx + 1) := by
  obtain ⟨h1, h2, h3, h4⟩ := arith_ok ar idx h
  have h5 : u8add ar idx 1 = some (idx + 1) := by unfold u8add; rw [if_pos (by omega)]
  rw [fenBoard]
  simp only [h1, h2, h3, h4, h5, hc, Option.bind_eq_bind, Option.bind_some]

theorem fenBoard_skip (ar : Arith) (c : Char) (cs : List Char) (p : Position) (idx n : Nat)
    (h : idx < 64) (hn : idx + n ≤ 64) (hc : boardTok c = some (.skip n)) :
    fenBoard ar (c :: cs) p idx = fenBoard ar cs p (idx + n) := by
  obtain ⟨h1, h2, h3, h4⟩ := arith_ok ar idx h
  have h5 : u8add ar idx n = some (idx + n) := by unfold u8add; rw [if_pos (by omega)]
  rw [fenBoard]
  simp only [h1, h2, h3, h4, h5, hc, Option.bind_eq_bind, Option.bind_some]

theorem fenBoard_slash (ar : Arith) (cs : List Char) (p : Position) (idx : Nat) (h : idx < 64) :
    fenBoard ar ('/' :: cs) p idx = fenBoard ar cs p idx := by
  obtain ⟨h1, h2, h3, h4⟩ := arith_ok ar idx h
  have hc : boardTok '/' = some .slash := by rfl
  rw [fenBoard]
  simp only [h1, h2, h3, h4, hc, Option.bind_eq_bind, Option.bind_some]

theorem boardTok_pieceLetter (pc : Piece) :
    boardTok (pieceLetter pc) = some (.piece (!pc.white) (kindIdx pc.kind)) := by
  obtain ⟨w, k⟩ := pc
  cases w <;> cases k <;> rfl

theorem boardTok_digitChar (n : Nat) (h1 : 1 ≤ n) (h8 : n ≤ 8) : boardTok (digitChar n) = some (.skip n) := by
  have : n = 1 ∨ n = 2 ∨ n = 3 ∨ n = 4 ∨ n = 5 ∨ n = 6 ∨ n = 7 ∨ n = 8 := by omega
  rcases this with rfl | rfl | rfl | rfl | rfl | rfl | rfl | rfl <;> rfl

/-- the squares with `P` among the first `n` loop indices. -/
def part (P : Nat → Bool) (n : Nat) : BB := geomBB (fun s => P s && decide (idxOf s < n))

theorem getLsbD_part (P : Nat → Bool) (n : Nat) {t : Nat} (ht : t < 64) :
    (part P n).getLsbD t = (P t && decide (idxOf t < n)) := by
  rw [part, getLsbD_geomBB]; simp [ht]

theorem part_zero (P : Nat → Bool) : part P 0 = 0#64 := by
  apply BitVec.eq_of_getLsbD_eq
  intro t ht
  rw [getLsbD_part P 0 ht]; simp

theorem part_full (P : Nat → Bool) : part P 64 = geomBB P := by
  apply BitVec.eq_of_getLsbD_eq
  intro t ht
  rw [getLsbD_part P 64 ht, getLsbD_geomBB]; simp [ht, idxOf_lt ht]

theorem part_skip (P : Nat → Bool) (n m : Nat) (hnm : n ≤ m)
    (hP : ∀ j, n ≤ j → j < m → j < 64 → P (idxOf j) = false) : part P n = part P m := by
  apply BitVec.eq_of_getLsbD_eq
  intro t ht
  rw [getLsbD_part P n ht, getLsbD_part P m ht]
  by_cases h1 : idxOf t < n
  · simp [h1, Nat.lt_of_lt_of_le h1 hnm]
  · by_cases h2 : idxOf t < m
    · have := hP (idxOf t) (Nat.le_of_not_lt h1) h2 (idxOf_lt ht)
      rw [idxOf_idxOf ht] at this
      simp [this]
    · simp [h1, h2]

theorem part_succ (P : Nat → Bool) (idx : Nat) (h : idx < 64) :
    part P (idx + 1) = if P (idxOf idx) then part P idx ^^^ bit (idxOf idx) else part P idx := by
  apply BitVec.eq_of_getLsbD_eq
  intro t ht
  by_cases he : idxOf t = idx
  · have ht' : t = idxOf idx := by rw [← he, idxOf_idxOf ht]
    split <;> rename_i hP
    · rw [BitVec.getLsbD_xor, getLsbD_bit, getLsbD_part P _ ht, getLsbD_part P _ ht, he, ht']; simp [hP, ht' ▸ ht]
    · rw [getLsbD_part P _ ht, getLsbD_part P _ ht, he, ht']; simp [hP]
  · have hne : t ≠ idxOf idx := fun e => he (by rw [e, idxOf_idxOf h])
    have hlt : idxOf t < idx + 1 ↔ idxOf t < idx := by omega
    split
    · rw [BitVec.getLsbD_xor, getLsbD_bit, getLsbD_part P _ ht, getLsbD_part P _ ht]; simp [hne, hlt]
    · rw [getLsbD_part P _ ht, getLsbD_part P _ ht]; simp [hlt]

/-- `q` with the boards `b` spells out on the squares of the first `n` loop indices. -/
def partialPos (b : Board) (q : Position) (n : Nat) : Position :=
  { q with
    c0 := part (isCol b true) n, c1 := part (isCol b false) n,
    p0 := part (isKind b .pawn) n, p1 := part (isKind b .knight) n, p2 := part (isKind b .bishop) n,
    p3 := part (isKind b .rook) n, p4 := part (isKind b .queen) n, p5 := part (isKind b .king) n }

theorem partialPos_zero (b : Board) (q : Position) (hq : BoardsEmpty q) : partialPos b q 0 = q := by
  cases q
  obtain ⟨h0, h1, h2, h3, h4, h5, h6, h7⟩ := hq
  simp only at h0 h1 h2 h3 h4 h5 h6 h7
  subst h0 h1 h2 h3 h4 h5 h6 h7
  simp only [partialPos, part_zero]

theorem partialPos_full (b : Board) (q : Position) : partialPos b q 64 = placeAbs b q := by
  simp only [partialPos, part_full, placeAbs]

theorem partialPos_skip (b : Board) (q : Position) (n m : Nat) (hnm : n ≤ m)
    (hb : ∀ j, n ≤ j → j < m → b (idxOf j) = none) : partialPos b q n = partialPos b q m := by
  have hc : ∀ w, part (isCol b w) n = part (isCol b w) m := fun w =>
    part_skip _ n m hnm (fun j h1 h2 _ => by simp only [isCol, hb j h1 h2])
  have hk : ∀ k, part (isKind b k) n = part (isKind b k) m := fun k =>
    part_skip _ n m hnm (fun j h1 h2 _ => by simp only [isKind, hb j h1 h2])
  simp only [partialPos, hc, hk]

theorem piece_step (ar : Arith) (b : Board) (q : Position) (cs : List Char) (idx : Nat) (pc : Piece)
    (h : idx < 64) (hb : b (idxOf idx) = some pc) :
    fenBoard ar (pieceLetter pc :: cs) (partialPos b q idx) idx =
      fenBoard ar cs (partialPos b q (idx + 1)) (idx + 1) := by
  rw [fenBoard_piece ar _ cs _ idx _ _ h (boardTok_pieceLetter pc)]
  congr 1
  simp only [partialPos, part_succ _ idx h, isCol, isKind, hb]
  obtain ⟨w, k⟩ := pc
  cases w <;> cases k <;> rfl

theorem digit_step (ar : Arith) (b : Board) (q : Position) (cs : List Char) (idx n : Nat)
    (h : idx < 64) (h1 : 1 ≤ n) (hn : idx + n ≤ 64) (hn8 : n ≤ 8)
    (hb : ∀ j, idx ≤ j → j < idx + n → b (idxOf j) = none) :
    fenBoard ar (digitChar n :: cs) (partialPos b q idx) idx =
      fenBoard ar cs (partialPos b q (idx + n)) (idx + n) := by
  rw [fenBoard_skip ar _ cs _ idx n h hn (boardTok_digitChar n h1 hn8),
    partialPos_skip b q idx (idx + n) (by omega) hb]

theorem go_acc (b : Board) (r : Nat) : ∀ (fuel f run : Nat) (acc : List Char),
    printRank.go b r f fuel run acc = acc ++ printRank.go b r f fuel run [] := by
  intro fuel
  induction fuel with
  | zero =>
    intro f run acc
    simp only [printRank.go]
    split <;> simp
  | succ fuel ih =>
    intro f run acc
    simp only [printRank.go]
    cases b (f + 8 * r) with
    | none => exact ih (f + 1) (run + 1) acc
    | some pc =>
      simp only
      rw [ih (f + 1) 0 ((if run > 0 then acc ++ [digitChar run] else acc) ++ [pieceLetter pc]),
        ih (f + 1) 0 ((if run > 0 then [] ++ [digitChar run] else []) ++ [pieceLetter pc])]
      split <;> simp

/-- the pending run of empty squares is consumed as one digit (or nothing). -/
theorem flush_step (ar : Arith) (b : Board) (q : Position) (r : Nat) (hr : r ≤ 7) (cs : List Char)
    (f run idx : Nat) (hf : f ≤ 8) (hrun : run ≤ f) (hidx : idx + run = 8 * (7 - r) + f)
    (hb : ∀ g, g < f → f ≤ g + run → b (g + 8 * r) = none) :
    fenBoard ar ((if run > 0 then [] ++ [digitChar run] else []) ++ cs) (partialPos b q idx) idx =
      fenBoard ar cs (partialPos b q (idx + run)) (idx + run) := by
  by_cases h0 : run > 0
  · rw [if_pos h0]
    simp only [List.nil_append, List.singleton_append]
    apply digit_step ar b q cs idx run (by omega) (by omega) (by omega) (by omega)
    intro j h1 h2
    rw [show j = 8 * (7 - r) + (j - 8 * (7 - r)) by omega, idxOf_rank hr (by omega)]
    exact hb _ (by omega) (by omega)
  · have : run = 0 := by omega
    subst this
    simp

theorem go_parse (ar : Arith) (b : Board) (q : Position) (r : Nat) (hr : r ≤ 7) (rest : List Char) :
    ∀ (fuel f run idx : Nat), f + fuel = 8 → run ≤ f → idx + run = 8 * (7 - r) + f →
      (∀ g, g < f → f ≤ g + run → b (g + 8 * r) = none) →
      fenBoard ar (printRank.go b r f fuel run [] ++ rest) (partialPos b q idx) idx =
        fenBoard ar rest (partialPos b q (8 * (7 - r) + 8)) (8 * (7 - r) + 8) := by
  intro fuel
  induction fuel with
  | zero =>
    intro f run idx hf hrun hidx hb
    have hf8 : f = 8 := by omega
    subst hf8
    have := flush_step ar b q r hr rest 8 run idx (by omega) hrun hidx hb
    rw [hidx] at this
    simpa only [printRank.go, List.nil_append] using this
  | succ fuel ih =>
    intro f run idx hf hrun hidx hb
    simp only [printRank.go]
    cases hsq : b (f + 8 * r) with
    | none =>
      apply ih (f + 1) (run + 1) idx (by omega) (by omega) (by omega)
      intro g hg1 hg2
      by_cases e : g = f
      · rw [e]; exact hsq
      · exact hb g (by omega) (by omega)
    | some pc =>
      simp only
      rw [go_acc, List.append_assoc, List.append_assoc,
        flush_step ar b q r hr _ f run idx (by omega) hrun hidx hb, hidx]
      rw [List.singleton_append,
        piece_step ar b q _ _ pc (by omega) (by rw [idxOf_rank hr (by omega)]; exact hsq)]
      apply ih (f + 1) 0 _ (by omega) (by omega) (by omega)
      intro g hg1 hg2
      omega

theorem rank_parse (ar : Arith) (b : Board) (q : Position) (r : Nat) (hr : r ≤ 7) (rest : List Char) :
    fenBoard ar (printRank b r ++ rest) (partialPos b q (8 * (7 - r))) (8 * (7 - r)) =
      fenBoard ar rest (partialPos b q (8 * (7 - r) + 8)) (8 * (7 - r) + 8) := by
  unfold printRank
  exact go_parse ar b q r hr rest 8 0 0 _ (by omega) (by omega) (by omega) (fun g hg _ => by omega)

theorem printBoard_eq (b : Board) :
    printBoard b = printRank b 7 ++ ('/' :: (printRank b 6 ++ ('/' :: (printRank b 5 ++ ('/' :: (printRank b 4 ++
      ('/' :: (printRank b 3 ++ ('/' :: (printRank b 2 ++ ('/' :: (printRank b 1 ++ ('/' :: (printRank b 0 ++
      [])))))))))))))) := by
  simp [printBoard, List.range, List.range.loop]

theorem pieceLetter_ne_space (pc : Piece) : pieceLetter pc ≠ ' ' := by
  obtain ⟨w, k⟩ := pc
  cases w <;> cases k <;> decide

theorem digitChar_ne_space (n : Nat) (h : n ≤ 8) : digitChar n ≠ ' ' := by
  have : n = 0 ∨ n = 1 ∨ n = 2 ∨ n = 3 ∨ n = 4 ∨ n = 5 ∨ n = 6 ∨ n = 7 ∨ n = 8 := by omega
  rcases this with rfl | rfl | rfl | rfl | rfl | rfl | rfl | rfl | rfl <;> decide

theorem go_no_space (b : Board) (r : Nat) : ∀ (fuel f run : Nat) (acc : List Char),
    run + fuel ≤ 8 → ' ' ∉ acc → ' ' ∉ printRank.go b r f fuel run acc := by
  intro fuel
  induction fuel with
  | zero =>
    intro f run acc h hacc
    simp only [printRank.go]
    split
    · simp only [List.mem_append, List.mem_singleton, not_or]
      exact ⟨hacc, fun e => digitChar_ne_space run (by omega) e.symm⟩
    · exact hacc
  | succ fuel ih =>
    intro f run acc h hacc
    simp only [printRank.go]
    cases b (f + 8 * r) with
    | none => exact ih (f + 1) (run + 1) acc (by omega) hacc
    | some pc =>
      apply ih (f + 1) 0 _ (by omega)
      simp only [List.mem_append, List.mem_singleton, not_or]
      refine ⟨?_, fun e => pieceLetter_ne_space pc e.symm⟩
      split
      · simp only [List.mem_append, List.mem_singleton, not_or]
        exact ⟨hacc, fun e => digitChar_ne_space run (by omega) e.symm⟩
      · exact hacc

theorem printRank_no_space (b : Board) (r : Nat) : ' ' ∉ printRank b r := by
  unfold printRank
  exact go_no_space b r 8 0 0 [] (by omega) (by simp)

end FenParse

open FenParse

theorem fenBoard_printBoard (ar : Arith) (b : Board) (q : Position) (hq : BoardsEmpty q) :
    fenBoard ar (printBoard b) q 0 = some (placeAbs b q, 64) := by
  have h7 := rank_parse ar b q 7 (by omega)
  have h6 := rank_parse ar b q 6 (by omega)
  have h5 := rank_parse ar b q 5 (by omega)
  have h4 := rank_parse ar b q 4 (by omega)
  have h3 := rank_parse ar b q 3 (by omega)
  have h2 := rank_parse ar b q 2 (by omega)
  have h1 := rank_parse ar b q 1 (by omega)
  have h0 := rank_parse ar b q 0 (by omega)
  simp only [Nat.sub_self, Nat.mul_zero, Nat.zero_add, Nat.reduceSub, Nat.reduceMul, Nat.reduceAdd] at h7 h6 h5 h4 h3 h2 h1 h0
  conv => lhs; rw [← partialPos_zero b q hq]
  rw [printBoard_eq, h7, fenBoard_slash ar _ _ 8 (by omega), h6, fenBoard_slash ar _ _ 16 (by omega),
    h5, fenBoard_slash ar _ _ 24 (by omega), h4, fenBoard_slash ar _ _ 32 (by omega),
    h3, fenBoard_slash ar _ _ 40 (by omega), h2, fenBoard_slash ar _ _ 48 (by omega),
    h1, fenBoard_slash ar _ _ 56 (by omega), h0, fenBoard_nil, partialPos_full]

theorem printBoard_no_space (b : Board) : ' ' ∉ printBoard b := by
  rw [printBoard_eq]
  simp only [List.mem_append, List.mem_cons, List.not_mem_nil, or_false, not_or]
  have := printRank_no_space b
  refine ⟨this 7, by decide, this 6, by decide, this 5, by decide, this 4, by decide, this 3, by decide,
    this 2, by decide, this 1, by decide, this 0⟩

theorem printBoard_ne_nil (b : Board) : printBoard b ≠ [] := by
  rw [printBoard_eq]
  intro h
  have := congrArg List.length h
  simp only [List.length_append, List.length_cons, List.length_nil] at this
  omega

/-- non-vacuity: the parser's initial position has empty boards, and the statement on a concrete board. -/
example : BoardsEmpty Position.dflt := by
  refine ⟨rfl, rfl, rfl, rfl, rfl, rfl, rfl, rfl⟩

example : fenBoard .trap (printBoard fun s => if s = 4 then some ⟨true, .king⟩ else if s = 60 then some ⟨false, .king⟩ else none)
    Position.dflt 0 = some (placeAbs (fun s => if s = 4 then some ⟨true, .king⟩ else if s = 60 then some ⟨false, .king⟩ else none)
      Position.dflt, 64) :=
  fenBoard_printBoard _ _ _ ⟨rfl, rfl, rfl, rfl, rfl, rfl, rfl, rfl⟩

example : printBoard (fun s => if s = 4 then some ⟨true, .king⟩ else if s = 60 then some ⟨false, .king⟩ else none)
    = "4k3/8/8/8/8/8/8/4K3".toList := by decide

#print axioms fenBoard_printBoard
#print axioms printBoard_no_space
#print axioms printBoard_ne_nil

end Rawr
