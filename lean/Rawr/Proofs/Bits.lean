import Rawr.Model.Basic
import Rawr.Proofs.X56
/-!
# Bits of a bitboard

Single bits (`bit`), the ascending list of set bits (`toList`) with its ends `lsb`, `hsb` and its length `count`
(and the inequalities between counts: `count_le_of_imp`, `count_or_le`), the zero tests, disjoint boards. Of the engine model only `Model/Basic` is imported.
-/
namespace Rawr

theorem bit_eq (s : Nat) : bit s = 1#64 <<< s := rfl

theorem getLsbD_bit (s t : Nat) : (bit s).getLsbD t = (decide (t < 64) && decide (t = s)) := by
  rw [bit_eq, BitVec.getLsbD_shiftLeft, BitVec.getLsbD_one]
  by_cases h1 : t < 64 <;> by_cases h2 : t = s <;> by_cases h3 : t < s <;>
    simp [h1, h2, h3] <;> omega

theorem mem_toList (b : BB) (i : Nat) : i ∈ toList b ↔ b.getLsbD i = true := by
  unfold toList
  simp only [List.mem_filter, List.mem_range, and_iff_right_iff_imp]
  intro h
  exact BitVec.lt_of_getLsbD h

theorem mem_toList_lt (X : BB) (s : Nat) : s ∈ toList X ↔ s < 64 ∧ X.getLsbD s = true := by
  unfold toList; rw [List.mem_filter, List.mem_range]

theorem toList_pairwise (b : BB) : (toList b).Pairwise (· < ·) := by
  unfold toList
  exact List.Pairwise.filter _ List.pairwise_lt_range

theorem toList_nodup (X : BB) : (toList X).Nodup :=
  List.Pairwise.filter _ List.nodup_range

theorem count_eq_countP (b : BB) : count b = (List.range 64).countP (fun i => b.getLsbD i) := by
  unfold count toList
  rw [List.countP_eq_length_filter]

theorem count_le_of_imp {a b : BB} (h : ∀ i, a.getLsbD i = true → b.getLsbD i = true) :
    count a ≤ count b := by
  rw [count_eq_countP, count_eq_countP]
  exact List.countP_mono_left (fun i _ => h i)

theorem count_and_le_left (a b : BB) : count (a &&& b) ≤ count a :=
  count_le_of_imp (fun i h => by rw [BitVec.getLsbD_and, Bool.and_eq_true] at h; exact h.1)

theorem count_and_le_right (a b : BB) : count (a &&& b) ≤ count b :=
  count_le_of_imp (fun i h => by rw [BitVec.getLsbD_and, Bool.and_eq_true] at h; exact h.2)

theorem count_or_le (a b : BB) : count (a ||| b) ≤ count a + count b := by
  rw [count_eq_countP, count_eq_countP, count_eq_countP]
  simp only [BitVec.getLsbD_or]
  generalize List.range 64 = l
  induction l with
  | nil => simp
  | cons x l ih =>
    simp only [List.countP_cons]
    cases a.getLsbD x <;> cases b.getLsbD x <;> simp <;> omega

theorem length_toList (b : BB) : (toList b).length = count b := rfl

theorem count_le_64 (b : BB) : count b ≤ 64 := by
  rw [count_eq_countP]
  have := List.countP_le_length (p := fun i => b.getLsbD i) (l := List.range 64)
  rw [List.length_range] at this
  exact this

theorem isOcc_false {b : BB} : b.isOcc = false ↔ b = 0#64 := by
  simp [BB.isOcc]

theorem isEmpty_false {b : BB} : b.isEmpty = false ↔ b ≠ 0#64 := by
  simp [BB.isEmpty]

theorem ne_zero_of_getLsbD {b : BB} {i : Nat} (h : b.getLsbD i = true) : b ≠ 0#64 := by
  intro e; rw [e] at h; simp at h

theorem exists_getLsbD_of_ne_zero {b : BB} (h : b ≠ 0#64) : ∃ i, i < 64 ∧ b.getLsbD i = true := by
  apply Classical.byContradiction
  intro hn
  apply h
  apply BitVec.eq_of_getLsbD_eq
  intro i hi
  rw [BitVec.getLsbD_zero]
  cases hb : b.getLsbD i
  · rfl
  · exact absurd ⟨i, hi, hb⟩ hn

theorem isOcc_iff (X : BB) : X.isOcc = true ↔ ∃ s, s < 64 ∧ X.getLsbD s = true := by
  unfold BB.isOcc
  rw [bne_iff_ne]
  exact ⟨exists_getLsbD_of_ne_zero, fun ⟨_, _, h⟩ => ne_zero_of_getLsbD h⟩

theorem isOcc_of_bit {b : BB} {x : Nat} (h : b.getLsbD x = true) : b.isOcc = true :=
  (isOcc_iff b).mpr ⟨x, BitVec.lt_of_getLsbD h, h⟩

theorem isOcc_false_of {b : BB} (h : ∀ x, x < 64 → b.getLsbD x = false) : b.isOcc = false := by
  cases hb : b.isOcc
  · rfl
  · obtain ⟨x, hx, hbit⟩ := (isOcc_iff b).mp hb
    rw [h x hx] at hbit
    cases hbit

theorem isEmpty_iff (X : BB) : X.isEmpty = true ↔ ∀ s, s < 64 → X.getLsbD s = false := by
  have h := isOcc_iff X
  have e : X.isEmpty = !X.isOcc := by
    unfold BB.isEmpty BB.isOcc; cases h0 : (X == 0#64) <;> simp [bne, h0]
  rw [e]
  constructor
  · intro hn s hs
    cases hX : X.getLsbD s
    · rfl
    · have := h.mpr ⟨s, hs, hX⟩
      rw [this] at hn; cases hn
  · intro hall
    cases ho : X.isOcc
    · rfl
    · obtain ⟨s, hs, hX⟩ := h.mp ho
      rw [hall s hs] at hX; cases hX

theorem isOcc_zero : BB.isOcc (0#64 : BB) = false := by decide

theorem toList_ne_nil {b : BB} (h : b ≠ 0#64) : toList b ≠ [] := by
  obtain ⟨i, _, hb⟩ := exists_getLsbD_of_ne_zero h
  intro e
  have : i ∈ toList b := (mem_toList b i).mpr hb
  rw [e] at this
  cases this

theorem ne_zero_of_count_one {b : BB} (h : count b = 1) : b ≠ 0#64 := by
  intro e; rw [e] at h; revert h; decide

theorem lsb_spec {b : BB} (h : b ≠ 0#64) : b.getLsbD (lsb b) = true ∧ ∀ i, b.getLsbD i = true → lsb b ≤ i := by
  have hp := toList_pairwise b
  unfold lsb
  cases hl : toList b with
  | nil => exact absurd hl (toList_ne_nil h)
  | cons x tl =>
    rw [hl, List.pairwise_cons] at hp
    simp only [List.head?_cons, Option.getD_some]
    refine ⟨(mem_toList b x).mp (by rw [hl]; exact List.mem_cons_self), fun i hi => ?_⟩
    have hm := (mem_toList b i).mpr hi
    rw [hl] at hm
    rcases List.mem_cons.mp hm with e | e
    · exact Nat.le_of_eq e.symm
    · exact Nat.le_of_lt (hp.1 i e)

theorem lsb_mem {b : BB} (h : b ≠ 0#64) : b.getLsbD (lsb b) = true := (lsb_spec h).1

theorem lsb_cases (b : BB) : lsb b = 64 ∨ b.getLsbD (lsb b) = true := by
  by_cases h : b = 0#64
  · left; rw [h]; rfl
  · exact Or.inr (lsb_mem h)

theorem lsb_le (b : BB) : lsb b ≤ 64 := by
  rcases lsb_cases b with h | h
  · omega
  · exact Nat.le_of_lt (BitVec.lt_of_getLsbD h)

theorem lsb_of_min {b : BB} {s : Nat} (hs : b.getLsbD s = true) (hu : ∀ i, b.getLsbD i = true → s ≤ i) :
    lsb b = s := by
  obtain ⟨h1, h2⟩ := lsb_spec (ne_zero_of_getLsbD hs)
  exact Nat.le_antisymm (h2 s hs) (hu _ h1)

theorem lsb_mem_of_isOcc {X : BB} (h : X.isOcc = true) : lsb X < 64 ∧ X.getLsbD (lsb X) = true := by
  obtain ⟨s, _, hb⟩ := (isOcc_iff X).mp h
  have hm := lsb_mem (ne_zero_of_getLsbD hb)
  exact ⟨BitVec.lt_of_getLsbD hm, hm⟩

theorem lsb_eq_of_unique {X : BB} {r : Nat} (hm : X.getLsbD r = true)
    (hu : ∀ t, t < 64 → X.getLsbD t = true → t = r) : X.isOcc = true ∧ lsb X = r := by
  obtain ⟨h1, h2⟩ := lsb_mem_of_isOcc (isOcc_of_bit hm)
  exact ⟨isOcc_of_bit hm, hu _ h1 h2⟩

theorem hsb_mem {b : BB} (h : b ≠ 0#64) : b.getLsbD (hsb b) = true := by
  unfold hsb
  cases hh : (toList b).getLast? with
  | none => exact absurd (List.getLast?_eq_none_iff.mp hh) (toList_ne_nil h)
  | some x =>
    have hx : x ∈ toList b := List.mem_of_getLast? hh
    simpa using (mem_toList b x).mp hx

theorem hsb_of_max {b : BB} {s : Nat} (hs : b.getLsbD s = true)
    (hu : ∀ i, b.getLsbD i = true → i ≤ s) : hsb b = s := by
  have hm : s ∈ toList b := (mem_toList b s).mpr hs
  unfold hsb
  cases hh : (toList b).getLast? with
  | none => rw [List.getLast?_eq_none_iff.mp hh] at hm; cases hm
  | some x =>
    have hx : x ∈ toList b := List.mem_of_getLast? hh
    have h1 : x ≤ s := hu x ((mem_toList b x).mp hx)
    have hp := toList_pairwise b
    obtain ⟨ys, hd⟩ := List.getLast?_eq_some_iff.mp hh
    rw [hd] at hp hm
    rw [List.pairwise_append] at hp
    simp only [Option.getD_some]
    rcases List.mem_append.mp hm with h | h
    · have := hp.2.2 s h x (by simp)
      omega
    · simp at h; omega

theorem count_le_one_iff (b : BB) :
    count b ≤ 1 ↔ ∀ i j, b.getLsbD i = true → b.getLsbD j = true → i = j := by
  have hn := toList_nodup b
  unfold count
  constructor
  · intro h i j hi hj
    have mi := (mem_toList b i).mpr hi
    have mj := (mem_toList b j).mpr hj
    match hl : toList b, h with
    | [], _ => rw [hl] at mi; cases mi
    | [a], _ =>
      rw [hl, List.mem_singleton] at mi mj
      rw [mi, mj]
    | _ :: _ :: _, h => simp at h
  · intro h
    match hl : toList b with
    | [] => simp
    | [a] => simp
    | x :: y :: l =>
      exfalso
      rw [hl] at hn
      have hx : x ∈ toList b := by rw [hl]; simp
      have hy : y ∈ toList b := by rw [hl]; simp
      have := h x y ((mem_toList b x).mp hx) ((mem_toList b y).mp hy)
      subst this
      simp at hn

theorem count_one_iff (b : BB) :
    count b = 1 ↔ ∃ i, b.getLsbD i = true ∧ ∀ j, b.getLsbD j = true → j = i := by
  constructor
  · intro h
    have hm := lsb_mem (ne_zero_of_count_one h)
    exact ⟨lsb b, hm, fun j hj => ((count_le_one_iff b).mp (Nat.le_of_eq h) _ _ hm hj).symm⟩
  · rintro ⟨i, hi, hu⟩
    have h1 := (count_le_one_iff b).mpr fun a c ha hc => (hu a ha).trans (hu c hc).symm
    have h0 : count b ≠ 0 := fun e => toList_ne_nil (ne_zero_of_getLsbD hi) (List.length_eq_zero_iff.mp e)
    omega

theorem lsb_unique {b : BB} (hc : count b ≤ 1) {x : Nat} (hx : b.getLsbD x = true) : lsb b = x :=
  (count_le_one_iff b).mp hc _ _ (lsb_mem (ne_zero_of_getLsbD hx)) hx

theorem bit_lsb_of_count_le_one (K : BB) (h : count K ≤ 1) : bit (lsb K) = K := by
  apply BitVec.eq_of_getLsbD_eq
  intro i hi
  rw [getLsbD_bit]
  cases hK : K.getLsbD i
  · by_cases e : i = lsb K
    · rcases lsb_cases K with h64 | hb
      · omega
      · rw [← e, hK] at hb
        cases hb
    · simp [e]
  · rw [lsb_unique h hK]
    simp [hi]

theorem toList_of_count_one (K : BB) (h : count K = 1) : toList K = [lsb K] ∧ lsb K < 64 := by
  have hm := lsb_mem (ne_zero_of_count_one h)
  refine ⟨?_, BitVec.lt_of_getLsbD hm⟩
  unfold count at h
  match hl : toList K, h with
  | [a], _ =>
    have hmem := (mem_toList K (lsb K)).mpr hm
    rw [hl, List.mem_singleton] at hmem
    rw [hmem]

theorem and_zero_bit {a b : BB} (h : a &&& b = 0#64) (s : Nat) : (a.getLsbD s && b.getLsbD s) = false := by
  have := congrArg (fun x => x.getLsbD s) h
  simpa using this

theorem bit_and_eq_zero {s : Nat} (hs : s < 64) (x : BB) : bit s &&& x = 0#64 ↔ x.getLsbD s = false := by
  constructor
  · intro h
    have := and_zero_bit h s
    rwa [getLsbD_bit, decide_eq_true hs, decide_eq_true rfl, Bool.true_and, Bool.true_and] at this
  · intro h
    apply BitVec.eq_of_getLsbD_eq
    intro i _
    rw [BitVec.getLsbD_and, getLsbD_bit, BitVec.getLsbD_zero]
    by_cases hi : i = s
    · subst hi
      simp [h]
    · simp [hi]

end Rawr
