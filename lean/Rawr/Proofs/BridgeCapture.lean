import Rawr.Props.C01_shape
import Rawr.Proofs.MakeMoveRefine
/-! Bridge for C08: the engine's `is_capture` agrees, on every generated move, with "capture" in the sense
of the rules (`Spec.isCaptureMove`: the target square is occupied, or a pawn leaves its file — en passant;
castling, encoded as "king takes own rook", is not a capture). Only `ValidPos` is needed. -/
namespace Rawr.Br
open Rawr.ZH Rawr.MM

theorem isCapture_of_genOk {p : Position} (hV : ValidPos p = true) {g : GMv} (ok : GenOk p g) :
    p.isCapture g.mv = Spec.isCaptureMove (abs p) (decodeMove p g.mv) := by
  obtain ⟨hC, _⟩ := validPos_parts hV
  have vf := vfacts_of_valid hV
  have hpo := ok.tag
  have h0s : p.c0.getLsbD g.mv.src = true := ok.own
  have hi6 := ZH.pieceOn_lt hpo
  have hp0 : p.p0.getLsbD g.mv.src = (g.piece == 0) := by
    have := piece_bit hC g.mv.src 0
    simp only [Position.piece] at this
    rw [this, hpo]
    rfl
  show (p.c1.getLsbD g.mv.dst || (p.p0.getLsbD g.mv.src && p.ep.isSome && p.ep == some g.mv.dst)) = _
  by_cases h0d : p.c0.getLsbD g.mv.dst = true
  · rw [decodeMove_castle h0d]
    obtain ⟨h5, _⟩ := ok.dst_own h0d
    have hd := c1_of_c0 hC h0d
    rw [hd, hp0, h5]
    rfl
  · have h0d' : p.c0.getLsbD g.mv.dst = false := by simpa using h0d
    rw [decodeMove_normal h0d']
    have hsrc := abs_board_own ok.src_lt h0s hpo
    have hdst := abs_board_isSome hC ok.dst_lt h0d'
    unfold Spec.isCaptureMove
    simp only [hsrc, hdst]
    rw [kindOf_pawn hi6, file_absSq, file_absSq, file_bne, hp0]
    cases hc : p.c1.getLsbD g.mv.dst
    · simp only [Bool.false_or]
      by_cases hi : g.piece = 0
      · rw [hi]
        simp only [beq_self_eq_true, Bool.true_and]
        have hd0 := c1_of_c0 hC h0s
        -- a pawn that takes nothing on `dst` leaves its file exactly when it captures en passant
        have key : p.ep = some g.mv.dst ↔ fileOf g.mv.src ≠ fileOf g.mv.dst := by
          unfold fileOf
          rcases ok.pawn hi with ⟨h1, _⟩ | ⟨h0, h1, _⟩ | ⟨_, _, h3⟩ | ⟨_, _, h3⟩ | ⟨h1, h2, _⟩
          · refine ⟨fun he => ?_, fun hf => (hf (by omega)).elim⟩
            obtain ⟨_, _, _, _, hpw⟩ := vf.ep _ he
            rw [show g.mv.dst - 8 = g.mv.src from by omega, BitVec.getLsbD_and, hd0] at hpw
            cases hpw
          · refine ⟨fun he => ?_, fun hf => (hf (by omega)).elim⟩
            have hr := (vf.ep _ he).2.1
            unfold rankOf at hr h0
            omega
          · rw [hc] at h3; cases h3
          · rw [hc] at h3; cases h3
          · exact ⟨fun _ => by unfold fileOf at h2; omega, fun _ => h1⟩
        rw [Bool.eq_iff_iff]
        simp only [Bool.and_eq_true, beq_iff_eq, bne_iff_ne, ne_eq]
        exact ⟨fun h => key.mp h.2, fun h => ⟨by rw [key.mpr h]; rfl, key.mpr h⟩⟩
      · have : (g.piece == 0) = false := by simpa using hi
        rw [this]
        rfl
    · rfl

end Rawr.Br
