import Rawr.Proofs.SpecLegal
/-! Below `C02_spec_valid_preserved`, specification alone: `Spec.Valid` as a structure of facts (`ValidFacts`). -/
namespace Rawr.SV
open Rawr.Spec

def RightOK (a : APos) (w ks : Bool) (f : Nat) : Prop :=
  f < 8 ∧ a.board (sq f (homeRank w)) = some ⟨w, .rook⟩ ∧
    ∃ k, kingSquares a.board w = [k] ∧ rank k = homeRank w ∧ (if ks = true then file k < (f : Int) else (f : Int) < file k)

structure ValidFacts (a : APos) : Prop where
  kw : ∃ k, UniqueKing a.board true k
  kb : ∃ k, UniqueKing a.board false k
  pawns : ∀ s, s < 64 → ∀ pc, a.board s = some pc → pc.kind = .pawn → rank s ≠ 0 ∧ rank s ≠ 7
  notInCheck : inCheck a.board (!a.whiteToMove) = false
  rights : ∀ w ks f, right a w ks = some f → RightOK a w ks f
  ep : ∀ e, a.ep = some e → rank e = (if a.whiteToMove = true then 5 else 2) ∧ a.board e = none ∧
    a.board (sq (file e) (if a.whiteToMove = true then 4 else 3)) = some ⟨!a.whiteToMove, .pawn⟩
  half : 0 ≤ a.half
  full : 1 ≤ a.full

theorem all_kings {a : APos} (v : ValidFacts a) (c : Bool) : ∃ k, UniqueKing a.board c k := by
  cases c
  · exact v.kb
  · exact v.kw

theorem king_clause (B : Board) (c : Bool) :
    (countPieces B (fun pc => pc == ⟨c, .king⟩) == 1) = true ↔ ∃ k, UniqueKing B c k := by
  rw [beq_iff_eq, countKing_eq, kingSquares_len_one]

theorem pawn_clause (B : Board) :
    (squares.all fun s => match B s with
      | some pc => !(pc.kind == .pawn && (rank s == 0 || rank s == 7)) | none => true) = true ↔
    ∀ s, s < 64 → ∀ pc, B s = some pc → pc.kind = .pawn → rank s ≠ 0 ∧ rank s ≠ 7 := by
  unfold squares
  rw [List.all_eq_true]
  constructor
  · intro h s hs pc hpc hk
    have := h s (List.mem_range.mpr hs)
    rw [hpc] at this
    simpa [hk] using this
  · intro h s hs
    have hs := List.mem_range.mp hs
    cases hb : B s with
    | none => rfl
    | some pc =>
      by_cases hk : pc.kind = .pawn
      · have := h s hs pc hb hk
        simp [hk, this.1, this.2]
      · simp [hk]

theorem right_clause (a : APos) (w ks : Bool) :
    (match right a w ks with
      | none => true
      | some f =>
        decide (f < 8) && a.board (sq f (homeRank w)) == some ⟨w, .rook⟩ &&
        (match kingSquares a.board w with
         | [k] => rank k == homeRank w && (if ks = true then decide (file k < (f : Int)) else decide ((f : Int) < file k))
         | _ => false)) = true ↔ ∀ f, right a w ks = some f → RightOK a w ks f := by
  cases hr : right a w ks with
  | none => simp
  | some f =>
    simp only [Option.some.injEq, forall_eq', RightOK, Bool.and_eq_true, decide_eq_true_eq, beq_iff_eq]
    constructor
    · rintro ⟨⟨h1, h2⟩, h3⟩
      refine ⟨h1, h2, ?_⟩
      split at h3
      · next k hk =>
        simp only [Bool.and_eq_true, beq_iff_eq] at h3
        refine ⟨k, hk, h3.1, ?_⟩
        cases ks <;> simpa using h3.2
      · cases h3
    · rintro ⟨h1, h2, k, hk, h3, h4⟩
      refine ⟨⟨h1, h2⟩, ?_⟩
      rw [hk]
      simp only [Bool.and_eq_true, beq_iff_eq]
      refine ⟨h3, ?_⟩
      cases ks <;> simpa using h4

theorem valid_iff (a : APos) : Valid a = true ↔ ValidFacts a := by
  unfold Valid
  simp only [Bool.and_eq_true, List.all_eq_true]
  constructor
  · rintro ⟨⟨⟨⟨⟨⟨⟨h1, h2⟩, h3⟩, h4⟩, h5⟩, h9⟩, h10⟩, h11⟩
    refine ⟨(king_clause _ _).mp h1, (king_clause _ _).mp h2, (pawn_clause _).mp (List.all_eq_true.mpr h3),
      by simpa using h4, ?_, ?_, by simpa using h10, by simpa using h11⟩
    · intro w ks
      exact (right_clause a w ks).mp (h5 (w, ks) (by cases w <;> cases ks <;> simp))
    · intro e he
      rw [he] at h9
      simpa [and_assoc] using h9
  · intro v
    refine ⟨⟨⟨⟨⟨⟨⟨(king_clause _ _).mpr v.kw, (king_clause _ _).mpr v.kb⟩,
      List.all_eq_true.mp ((pawn_clause _).mpr v.pawns)⟩, by simpa using v.notInCheck⟩, ?_⟩, ?_⟩,
      by simpa using v.half⟩, by simpa using v.full⟩
    · rintro ⟨w, ks⟩ _
      exact (right_clause a w ks).mpr (v.rights w ks)
    · cases he : a.ep with
      | none => rfl
      | some e => simpa [and_assoc] using v.ep e he

end Rawr.SV
