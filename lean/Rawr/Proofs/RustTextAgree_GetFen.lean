import Rawr.Proofs.RustTextAgree
/-!
# `get_fen` regenerated from get_fen.rs agrees with the model's `getFen`
-/
namespace Rawr

theorem pieceOn_cases (p : Position) (s : Nat) :
    p.pieceOn s = none ∨ p.pieceOn s = some 0 ∨ p.pieceOn s = some 1 ∨ p.pieceOn s = some 2 ∨
    p.pieceOn s = some 3 ∨ p.pieceOn s = some 4 ∨ p.pieceOn s = some 5 := by
  cases h : p.pieceOn s with
  | none => exact Or.inl rfl
  | some k =>
    match k, pieceOn_lt6 h with
    | 0, _ | 1, _ | 2, _ | 3, _ | 4, _ | 5, _ => simp

/-- one iteration of the inner (file) loop of `get_fen`, in the vocabulary of the model's `fenRank`. -/
theorem get_fen_loop1_step_eq (y : Nat) (np : Position) (x : Nat) (fen : List Char) (k : Nat) :
    R.get_fen_loop1_step y np x fen (k : Int) =
      (let sq := fromCoords x y
       let st : List Char × Nat := if np.occ.isSet sq && decide (k > 0) then (fen ++ intToChars k, 0) else (fen, k)
       match np.pieceOn sq, np.colourOn sq with
       | some pc, some col => some (ForInStep.yield (st.1 ++ [pieceChar pc col], (st.2 : Int)))
       | none, none => some (ForInStep.yield (st.1, ((st.2 + 1 : Nat) : Int)))
       | _, _ => none) := by
  unfold R.get_fen_loop1_step
  rw [agree_get_piece_on, agree_get_colour_on, agree_is_occupied]
  extract_lets f0 n0 sq occ jp pieceArm st n1 st'
  -- the `match` on piece and colour, for any pending text and blank count
  have hf : ∀ (f : List Char) (n : Nat), pieceArm () f (n : Int) =
      match np.pieceOn sq, np.colourOn sq with
      | some pc, some col => some (ForInStep.yield (f ++ [pieceChar pc col], (n : Int)))
      | none, none => some (ForInStep.yield (f, ((n + 1 : Nat) : Int)))
      | _, _ => none := by
    intro f n
    simp only [pieceArm]
    rcases pieceOn_cases np sq with h | h | h | h | h | h | h <;> rw [h] <;>
      cases np.colourOn sq with
      | none => rfl
      | some c => cases c <;> rfl
  have hk : decide (n0 > 0) = decide (k > 0) := by simp [n0]
  rw [hk]
  by_cases h0 : (np.occ.isSet sq && decide (k > 0)) = true
  · simp only [occ, st', h0, if_true]
    exact hf _ 0
  · simp only [occ, st', h0]
    exact hf _ k

/-- the inner loop over the files `x .. x+n` followed by the flush of the pending blank count is `fenRank`. -/
theorem get_fen_loop1_eq (y : Nat) (np : Position) (n : Nat) :
    ∀ (x : Nat) (fen : List Char) (k : Nat),
      (R.get_fen_loop1 y np (List.range' x n) fen (k : Int)).bind
          (fun r => some (if r.2 > 0 then r.1 ++ intToChars r.2 else r.1))
        = fenRank np y n x k fen := by
  induction n with
  | zero =>
    intro x fen k
    simp [R.get_fen_loop1, fenRank]
  | succ n ih =>
    intro x fen k
    unfold fenRank
    simp only [R.get_fen_loop1, List.range'_succ, List.forIn_cons, get_fen_loop1_step_eq] at ih ⊢
    by_cases h0 : (np.occ.isSet (fromCoords x y) && decide (k > 0)) = true <;>
      simp only [h0, if_true, if_false, Bool.false_eq_true] <;>
      cases np.pieceOn (fromCoords x y) <;> cases np.colourOn (fromCoords x y) <;>
      first
        | rfl
        | (simp only [Option.bind_eq_bind, Option.bind_some, Option.pure_def]; exact ih _ _ _)

theorem fenRank_acc (np : Position) (y n : Nat) :
    ∀ (x k : Nat) (a b : List Char), fenRank np y n x k (a ++ b) = (fenRank np y n x k b).map (a ++ ·) := by
  induction n with
  | zero => intro x k a b; unfold fenRank; split <;> simp
  | succ n ih =>
    intro x k a b
    unfold fenRank
    by_cases h0 : (np.occ.isSet (fromCoords x y) && decide (k > 0)) = true
    · simp only [h0, if_true]
      split
      · simp only [List.append_assoc]; exact ih _ _ _ _
      · simp only [List.append_assoc]; exact ih _ _ _ _
      · rfl
    · simp only [h0, if_false, Bool.false_eq_true]
      split
      · simp only [List.append_assoc]; exact ih _ _ _ _
      · exact ih _ _ _ _
      · rfl

theorem get_fen_loop2_step_eq (np : Position) (y : Nat) (fen : List Char) :
    R.get_fen_loop2_step np y fen =
      (fenRank np y 8 0 0 []).map (fun r => ForInStep.yield (fen ++ r ++ (if y > 0 then ['/'] else []))) := by
  have h := get_fen_loop1_eq y np 8 0 fen 0
  rw [show fen = fen ++ [] by simp, fenRank_acc] at h
  simp only [List.append_nil, Int.natCast_zero] at h
  -- the step is the inner loop with its flush (the left side of `h`), then the separator
  have e : (fenRank np y 8 0 0 []).map (fun r => ForInStep.yield (fen ++ r ++ (if y > 0 then ['/'] else []))) =
      ((fenRank np y 8 0 0 []).map (fen ++ ·)).map fun f => ForInStep.yield (f ++ if y > 0 then ['/'] else []) := by
    rw [Option.map_map]
    rfl
  rw [e, ← h]
  unfold R.get_fen_loop2_step
  rw [List.range_eq_range']
  dsimp only
  cases R.get_fen_loop1 y np (List.range' 0 8) fen 0 with
  | none => rfl
  | some r =>
    by_cases h1 : r.2 > 0 <;>
      by_cases h2 : y > 0 <;>
      simp [h1, h2]

theorem get_fen_loop2_eq (np : Position) (k : Nat) :
    ∀ acc : List Char, R.get_fen_loop2 np (List.range k).reverse acc = getFen.ranks np k (k - 1) acc := by
  induction k with
  | zero => intro acc; simp [R.get_fen_loop2, getFen.ranks]
  | succ k ih =>
    intro acc
    unfold getFen.ranks
    simp only [R.get_fen_loop2, List.range_succ, List.reverse_append, List.reverse_cons, List.reverse_nil, List.nil_append,
      List.singleton_append, List.forIn_cons, get_fen_loop2_step_eq, Nat.add_sub_cancel] at ih ⊢
    cases fenRank np k 8 0 0 [] with
    | none => rfl
    | some r => simp only [Option.map_some, Option.bind_eq_bind, Option.bind_some]; exact ih _

/-- a scan over part of the files `0 .. 7` is the scan over all of them with the files of the part selected. -/
theorem any_files (l : List Nat) (q g : Nat → Bool) (h : ∀ f, f ∈ l ↔ f < 8 ∧ q f = true) :
    l.any g = (List.range 8).any fun f => q f && g f := by
  rw [Bool.eq_iff_iff]
  simp only [List.any_eq_true, List.mem_range, Bool.and_eq_true, h, and_assoc]

/-- the X-FEN castling letter closure of `get_fen` is the model's `castleLetterOut` (castle file on the board). -/
theorem get_fen_letter_eq (ar : Arith) (rooks : BB) (file rank : Nat) (ks : Bool) (hf : file < 8) :
    R.get_fen_letter ar rooks file rank ks = some (castleLetterOut rooks file rank ks) := by
  have ha : u8add ar file 1 = some (file + 1) := u8add_small ar _ _ (by omega)
  have hb : u8add ar (asU8 'a') file = some ('a'.toNat + file) := u8add_small ar 97 _ (by omega)
  -- the files east of `file` for the king side, west of it for the queen side
  have hk := any_files (T.range (file + 1) 8) (fun f => decide (f > file)) (fun f => rooks.isSet (fromCoords f rank))
    fun f => by simp only [T.range, List.mem_range'_1, decide_eq_true_eq]; omega
  have hq := any_files (List.range file) (fun f => decide (f < file)) (fun f => rooks.isSet (fromCoords f rank))
    fun f => by simp only [List.mem_range, decide_eq_true_eq]; omega
  unfold R.get_fen_letter castleLetterOut
  cases ks
  · simp only [Bool.false_eq_true, if_false, hq, hb]
    generalize ((List.range 8).any fun f => decide (f < file) && rooks.isSet (fromCoords f rank)) = b
    cases b <;> simp
  · simp only [if_true, ha, hb, bind, Option.bind_some, hk]
    generalize ((List.range 8).any fun f => decide (f > file) && rooks.isSet (fromCoords f rank)) = b
    cases b <;> simp

/-- one `if right { fen.push(letter(..)) }` statement of `get_fen`, followed by the rest `k` of the function. -/
theorem get_fen_letter_step {β : Type} (ar : Arith) (rooks : BB) (file rank : Nat) (ks b : Bool) (hf : b = true → file < 8)
    (k : List Char → Option β) (f : List Char) :
    (if b = true then (R.get_fen_letter ar rooks file rank ks).bind fun l => k (f ++ [l]) else k f) =
      k (f ++ if b = true then [castleLetterOut rooks file rank ks] else []) := by
  cases b
  · simp
  · rw [if_pos rfl, if_pos rfl, get_fen_letter_eq ar rooks file rank ks (hf rfl)]
    rfl

/-- What `get_fen` needs in order not to panic (in `Square::fmt`, which indexes an 8-element table with `sq / 8`, and
in `b'a' + file`): an on-board en-passant square and on-board castle files for the rights that are set.  Every
valid position satisfies it (`fenPrintable_of_valid`).  The model's `getFen` is total, so the agreement is stated under
this hypothesis. -/
def FenPrintable (p : Position) : Prop :=
  (∀ e, p.ep = some e → e < 64) ∧ (p.usK = true → p.cf0 < 8) ∧ (p.usQ = true → p.cf1 < 8) ∧
  (p.themK = true → p.cf2 < 8) ∧ (p.themQ = true → p.cf3 < 8)

theorem FenPrintable.flip {p : Position} (h : FenPrintable p) : FenPrintable p.flip := by
  obtain ⟨he, h0, h1, h2, h3⟩ := h
  refine ⟨?_, h2, h3, h0, h1⟩
  intro e hep
  simp only [Position.flip, Option.map_eq_some_iff] at hep
  obtain ⟨a, ha, rfl⟩ := hep
  exact flipSq_lt (he a ha)

/-- `get_fen` and `Display` print the position as White sees it. -/
theorem FenPrintable.whiteRel {p : Position} (h : FenPrintable p) : FenPrintable (if p.black then p.flip else p) := by
  split
  · exact h.flip
  · exact h

theorem agree_get_fen (ar : Arith) (p : Position) (h : FenPrintable p) : R.get_fen ar p = getFen p := by
  have hP := h.whiteRel
  unfold R.get_fen
  extract_lets fen0 letter tail np1 np2
  have hnp : (if (!p.black) = true then pure p >>= tail else pure np2 >>= tail) = tail (if p.black then p.flip else p) := by
    cases p.black
    · rfl
    · exact congrArg tail (congrFun agree_flip p)
  refine hnp.trans ?_
  unfold getFen
  generalize (if p.black = true then p.flip else p) = np at hP ⊢
  obtain ⟨he, h0, h1, h2, h3⟩ := hP
  simp -zeta only [tail]
  rw [show fen0 = [] from rfl, get_fen_loop2_eq]
  show Option.bind _ _ = Option.bind _ _
  refine Option.bind_congr fun board _ => ?_
  extract_lets f1 jpEnd jpEp wr br jpq jpk jpQ jpC fw fb side castling ep
  have hEp : ∀ f, jpEp () f = some (f ++ ep ++ [' '] ++ intToChars np.halfmoves ++ [' '] ++ intToChars np.fullmoves) := by
    intro f
    simp only [jpEp, ep]
    cases hep : np.ep with
    | none => simp [jpEnd]
    | some e => simp [jpEnd, agree_square_fmt, he e hep]
  have hq : ∀ f, jpq () f = jpEp () (f ++ if np.themQ = true then [castleLetterOut (np.c1 &&& np.p3) np.cf3 7 false] else []) :=
    get_fen_letter_step ar _ _ _ _ _ h3 (jpEp ())
  have hk : ∀ f, jpk () f = jpq () (f ++ if np.themK = true then [castleLetterOut (np.c1 &&& np.p3) np.cf2 7 true] else []) :=
    get_fen_letter_step ar _ _ _ _ _ h2 (jpq ())
  have hQ : ∀ f, jpQ () f = jpk () (f ++ if np.usQ = true then [castleLetterOut (np.c0 &&& np.p3) np.cf1 0 false] else []) :=
    get_fen_letter_step ar _ _ _ _ _ h1 (jpk ())
  have hC : ∀ f, jpC () f = some (f ++ castling ++ ep ++ [' '] ++ intToChars np.halfmoves ++ [' '] ++ intToChars np.fullmoves) := by
    intro f
    simp only [jpC, castling]
    split
    · exact hEp _
    · exact (get_fen_letter_step ar _ _ _ _ _ h0 (jpQ ()) _).trans (by rw [hQ, hk, hq, hEp]; simp; rfl)
  cases hb : p.black <;> simp only [side, hb] <;> exact hC _
example : FenPrintable Gen.startpos := by
  refine ⟨?_, ?_, ?_, ?_, ?_⟩
  · intro e h; cases h
  all_goals decide
example : R.get_fen .trap Gen.startpos = some startFen := by decide +kernel
end Rawr

#print axioms Rawr.agree_get_fen
