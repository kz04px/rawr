import Rawr.Spec.Walk
import Rawr.Proofs.X56
/-!
# Squares as (file, rank) points, unit directions, points of a line

Arithmetic of `Spec.file`, `Spec.rank`, `Spec.sq`, `Spec.onBoard`; the directions a piece can slide in
(`GoodDir`); `pt k d i`, the square `i` steps of `d` from `k`, and `At k d n s`, "`s` is that square", with
the algebra of points on one line: a square fixes direction and distance (`at_unique`), segments add,
subtract and reverse, and every point of a segment between two squares of the board is on the board
(`onBoard_seg`, `at_le`). No board occupancy here beyond what one write does (`setSq_ne`, `setSq_self`); only the
specification is imported (and the number facts of `X56`, for the coordinates of `s ^^^ 56`).
-/
namespace Rawr
open Spec

theorem file_sq {f r : Int} (h : onBoard f r = true) : file (sq f r) = f := by
  simp only [onBoard, Bool.and_eq_true, decide_eq_true_eq] at h
  unfold file sq; omega

theorem rank_sq {f r : Int} (h : onBoard f r = true) : rank (sq f r) = r := by
  simp only [onBoard, Bool.and_eq_true, decide_eq_true_eq] at h
  unfold rank sq; omega

theorem onBoard_lt {f r : Int} (h : onBoard f r = true) : sq f r < 64 := by
  simp only [onBoard, Bool.and_eq_true, decide_eq_true_eq] at h
  unfold sq; omega

theorem setSq_ne {b : Board} {s x : Nat} {v : Option Piece} (h : x ≠ s) : setSq b s v x = b x := by
  unfold setSq; rw [if_neg h]

theorem setSq_self (b : Board) (s : Nat) (v : Option Piece) : setSq b s v s = v := by
  unfold setSq
  rw [if_pos rfl]

theorem any_range_congr {n : Nat} {p q : Nat → Bool} (h : ∀ s, s < n → p s = q s) :
    (List.range n).any p = (List.range n).any q := by
  rw [Bool.eq_iff_iff]
  simp only [List.any_eq_true, List.mem_range]
  constructor
  · rintro ⟨s, hs, hp⟩; exact ⟨s, hs, by rw [← h s hs]; exact hp⟩
  · rintro ⟨s, hs, hp⟩; exact ⟨s, hs, by rw [h s hs]; exact hp⟩

end Rawr

namespace Rawr.Att
open Spec

theorem file_bounds (s : Nat) : 0 ≤ file s ∧ file s < 8 := by unfold file; omega
theorem rank_bounds {s : Nat} (h : s < 64) : 0 ≤ rank s ∧ rank s < 8 := by unfold rank; omega
theorem lt_of_rank {s : Nat} (h : rank s < 8) : s < 64 := by unfold rank at h; omega
theorem sq_file_rank (s : Nat) : sq (file s) (rank s) = s := by unfold sq file rank; omega
theorem eq_of_file_rank {s t : Nat} (hf : file s = file t) (hr : rank s = rank t) : s = t := by
  unfold file rank at *; omega

theorem onBoard_iff (f r : Int) : onBoard f r = true ↔ 0 ≤ f ∧ f < 8 ∧ 0 ≤ r ∧ r < 8 := by
  simp only [onBoard, Bool.and_eq_true, decide_eq_true_eq]; omega

theorem onBoard_file_rank {s : Nat} (hs : s < 64) : onBoard (file s) (rank s) = true :=
  (onBoard_iff _ _).mpr ⟨(file_bounds s).1, (file_bounds s).2, rank_bounds hs⟩

theorem file_x56 (s : Nat) : file (s ^^^ 56) = file s := by
  unfold file; rw [x56_mod8]

theorem rank_x56 {s : Nat} (h : s < 64) : rank (s ^^^ 56) = 7 - rank s := by
  unfold rank
  rw [x56_eq s h]
  omega

def Unit3 (a : Int) : Prop := a = -1 ∨ a = 0 ∨ a = 1

theorem unit3_neg {a : Int} (h : Unit3 a) : Unit3 (-a) := by
  rcases h with rfl | rfl | rfl <;> simp [Unit3]

theorem unit3_mid {a x : Int} (ha : Unit3 a) {j k : Nat} (hjk : j ≤ k) (h0 : 0 ≤ x ∧ x < 8)
    (hk : 0 ≤ x + a * k ∧ x + a * k < 8) : 0 ≤ x + a * j ∧ x + a * j < 8 := by
  rcases ha with rfl | rfl | rfl <;> omega

theorem onBoard_mid {a b : Int} (ha : Unit3 a) (hb : Unit3 b) {f r : Int} {j k : Nat} (hjk : j ≤ k)
    (h0 : onBoard f r = true) (hk : onBoard (f + a * k) (r + b * k) = true) :
    onBoard (f + a * j) (r + b * j) = true := by
  rw [onBoard_iff] at *
  have hf := unit3_mid ha hjk ⟨h0.1, h0.2.1⟩ ⟨hk.1, hk.2.1⟩
  exact ⟨hf.1, hf.2, unit3_mid hb hjk h0.2.2 hk.2.2⟩

theorem onBoard_seg {a b : Int} (ha : Unit3 a) (hb : Unit3 b) {s t : Nat} (hs : s < 64) (ht : t < 64)
    {j k : Nat} (hjk : j ≤ k) (hf : file t = file s + a * k) (hr : rank t = rank s + b * k) :
    onBoard (file s + a * j) (rank s + b * j) = true :=
  onBoard_mid ha hb hjk (onBoard_file_rank hs) (by rw [← hf, ← hr]; exact onBoard_file_rank ht)

theorem unit3_mul_eq {a a' : Int} {n n' : Nat} (ha : Unit3 a) (ha' : Unit3 a') (hn : 1 ≤ n) (hn' : 1 ≤ n')
    (h : a * n = a' * n') : a = a' ∧ (a ≠ 0 → n = n') := by
  rcases ha with rfl | rfl | rfl <;> rcases ha' with rfl | rfl | rfl <;> omega

theorem unit3_natAbs_mul {a : Int} (ha : Unit3 a) (c : Int) : (a * c).natAbs = 0 ∨ (a * c).natAbs = c.natAbs := by
  rcases ha with rfl | rfl | rfl <;> simp

def GoodDir (d : Int × Int) : Prop := Unit3 d.1 ∧ Unit3 d.2 ∧ (d.1 ≠ 0 ∨ d.2 ≠ 0)

theorem goodDir_diag : ∀ d ∈ diag, GoodDir d := by
  intro d hd
  simp only [diag, List.mem_cons, List.not_mem_nil, or_false] at hd
  rcases hd with rfl | rfl | rfl | rfl <;> simp [GoodDir, Unit3]
theorem goodDir_orth : ∀ d ∈ orth, GoodDir d := by
  intro d hd
  simp only [orth, List.mem_cons, List.not_mem_nil, or_false] at hd
  rcases hd with rfl | rfl | rfl | rfl <;> simp [GoodDir, Unit3]

theorem mem_diag_iff {d : Int × Int} : d ∈ diag ↔ (d.1 = 1 ∨ d.1 = -1) ∧ (d.2 = 1 ∨ d.2 = -1) := by
  obtain ⟨a, b⟩ := d
  simp only [diag, List.mem_cons, List.not_mem_nil, or_false, Prod.mk.injEq]
  omega

theorem mem_orth_iff {d : Int × Int} :
    d ∈ orth ↔ ((d.1 = 1 ∨ d.1 = -1) ∧ d.2 = 0) ∨ (d.1 = 0 ∧ (d.2 = 1 ∨ d.2 = -1)) := by
  obtain ⟨a, b⟩ := d
  simp only [orth, List.mem_cons, List.not_mem_nil, or_false, Prod.mk.injEq]
  omega

theorem diag_orth_disj {d : Int × Int} (h1 : d ∈ diag) (h2 : d ∈ orth) : False := by
  rw [mem_diag_iff] at h1
  rw [mem_orth_iff] at h2
  omega

theorem neg_goodDir {d : Int × Int} (h : GoodDir d) : GoodDir (-d.1, -d.2) := by
  obtain ⟨h1, h2, h3⟩ := h
  exact ⟨unit3_neg h1, unit3_neg h2, by dsimp only; omega⟩

/-- the square `i` steps of `d` from `k` (meaningful while on the board). -/
def pt (k : Nat) (d : Int × Int) (i : Nat) : Nat := sq (file k + d.1 * i) (rank k + d.2 * i)

def At (k : Nat) (d : Int × Int) (n : Nat) (s : Nat) : Prop :=
  file s = file k + d.1 * n ∧ rank s = rank k + d.2 * n

theorem at_pt {k : Nat} {d : Int × Int} {n s : Nat} (h : At k d n s) : pt k d n = s := by
  unfold pt; rw [← h.1, ← h.2]; exact sq_file_rank s

theorem at_zero (k : Nat) (d : Int × Int) : At k d 0 k := by
  unfold At; simp

/-- the points of the segment from `k` to an on-board point are on the board. -/
theorem at_le {k : Nat} {d : Int × Int} {n s : Nat} (hd : GoodDir d) (hk : k < 64) (hs : s < 64)
    (h : At k d n s) {i : Nat} (hi : i ≤ n) : At k d i (pt k d i) ∧ pt k d i < 64 := by
  have hon := onBoard_seg hd.1 hd.2.1 hk hs hi h.1 h.2
  exact ⟨⟨file_sq hon, rank_sq hon⟩, onBoard_lt hon⟩

theorem at_eq {k : Nat} {d : Int × Int} {n s s' : Nat} (h : At k d n s) (h' : At k d n s') : s = s' :=
  eq_of_file_rank (by rw [h.1, h'.1]) (by rw [h.2, h'.2])

theorem at_unique {k : Nat} {d d' : Int × Int} {n n' s : Nat} (hd : GoodDir d) (hd' : GoodDir d')
    (hn : 1 ≤ n) (hn' : 1 ≤ n') (h : At k d n s) (h' : At k d' n' s) : d = d' ∧ n = n' := by
  obtain ⟨e1, g1⟩ := unit3_mul_eq hd.1 hd'.1 hn hn' (Int.add_left_cancel (h.1.symm.trans h'.1))
  obtain ⟨e2, g2⟩ := unit3_mul_eq hd.2.1 hd'.2.1 hn hn' (Int.add_left_cancel (h.2.symm.trans h'.2))
  exact ⟨Prod.ext e1 e2, hd.2.2.elim g1 g2⟩

theorem at_inj {k : Nat} {d : Int × Int} {n n' s : Nat} (hd : GoodDir d)
    (h : At k d n s) (h' : At k d n' s) : n = n' := by
  have e1 : d.1 * n = d.1 * n' := Int.add_left_cancel (h.1.symm.trans h'.1)
  have e2 : d.2 * n = d.2 * n' := Int.add_left_cancel (h.2.symm.trans h'.2)
  rcases hd.2.2 with h0 | h0
  · exact Int.ofNat_inj.mp (Int.eq_of_mul_eq_mul_left h0 e1)
  · exact Int.ofNat_inj.mp (Int.eq_of_mul_eq_mul_left h0 e2)

theorem at_add {k f s : Nat} {d : Int × Int} {j m : Nat} (h1 : At k d j f) (h2 : At f d m s) :
    At k d (j + m) s := by
  unfold At at *
  rw [h2.1, h2.2, h1.1, h1.2, Int.natCast_add, Int.mul_add, Int.mul_add]
  omega

theorem at_sub {k f s : Nat} {d : Int × Int} {j n : Nat} (h1 : At k d j f) (h2 : At k d n s)
    (hjn : j ≤ n) : At f d (n - j) s := by
  unfold At at *
  have e : ((n - j : Nat) : Int) = (n : Int) - (j : Int) := by omega
  rw [h2.1, h2.2, h1.1, h1.2, e, Int.mul_sub, Int.mul_sub]
  omega

theorem pt_add {k f : Nat} {d : Int × Int} {j : Nat} (h : At k d j f) (i : Nat) :
    pt f d i = pt k d (j + i) := by
  unfold pt
  rw [h.1, h.2, Int.natCast_add, Int.mul_add, Int.mul_add, Int.add_assoc, Int.add_assoc]

theorem at_rev {k s : Nat} {d : Int × Int} {n : Nat} (h : At k d n s) : At s (-d.1, -d.2) n k := by
  unfold At at *
  dsimp only
  rw [h.1, h.2, Int.neg_mul, Int.neg_mul]
  omega

theorem at_rev_iff {k s : Nat} {d : Int × Int} {n : Nat} : At s (-d.1, -d.2) n k ↔ At k d n s :=
  ⟨fun h => by have := at_rev h; rwa [Int.neg_neg, Int.neg_neg] at this, at_rev⟩

/-- the `i`-th point counted from the far end is the `(n - i)`-th from the near end. -/
theorem pt_rev {k s : Nat} {d : Int × Int} {n : Nat} (h : At k d n s) {i : Nat} (hi : i ≤ n) :
    pt s (-d.1, -d.2) i = pt k d (n - i) := by
  unfold pt
  rw [h.1, h.2, Int.natCast_sub hi]
  simp only [Int.neg_mul, Int.mul_sub]
  congr 1 <;> omega

/-- a knight's move never connects two points of a line through `k`. -/
theorem line_no_knight {k f t : Nat} {d0 : Int × Int} {j i : Nat} (gd0 : GoodDir d0)
    (hf : At k d0 j f) (ht : At k d0 i t) : knightStep f t = false := by
  have e1 : file t - file f = d0.1 * ((i : Int) - j) := by rw [ht.1, hf.1, Int.mul_sub]; omega
  have e2 : rank t - rank f = d0.2 * ((i : Int) - j) := by rw [ht.2, hf.2, Int.mul_sub]; omega
  have h1 := unit3_natAbs_mul gd0.1 ((i : Int) - j)
  have h2 := unit3_natAbs_mul gd0.2.1 ((i : Int) - j)
  unfold knightStep
  simp only [e1, e2, Bool.or_eq_false_iff, Bool.and_eq_false_iff, beq_eq_false_iff_ne]
  omega

end Rawr.Att
