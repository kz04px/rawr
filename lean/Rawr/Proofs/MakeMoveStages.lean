import Rawr.Model.MakeMove
import Rawr.Proofs.AbsCell
/-! `makemove` cut into named stages (definitionally the same function, `makemove_eq_staged`), so that proofs can reason
about one stage at a time; and what `setPiece` does to the boards. -/
namespace Rawr.ZH
open Rawr Rawr.Position

/-- move the piece `i` from `src` to `dst` (colour board and piece board), store the key, bump the clock. -/
def stRelocate (p : Position) (m : Mv) (i : Pc) (hash : BB) : Position :=
  let s : Position := { p with hash := hash, c0 := p.c0 ^^^ (bit m.src ||| bit m.dst), halfmoves := p.halfmoves + 1 }
  s.setPiece i (s.piece i ^^^ (bit m.src ||| bit m.dst))

def capStep (s : Position) (m : Mv) (c : Pc) : Position :=
  let s := { s with c1 := s.c1 ^^^ bit m.dst, halfmoves := 0 }
  s.setPiece c (s.piece c ^^^ bit m.dst)

def stClock (s : Position) (i : Pc) : Position := if i == 0 then { s with halfmoves := 0 } else s

def epStep (s : Position) (ep : Nat) : Position :=
  { s with c1 := s.c1 ^^^ south (bit ep), p0 := s.p0 ^^^ south (bit ep) }

def stDouble (s : Position) (m : Mv) (i : Pc) : Position :=
  if i == 0 && m.dst - m.src == 16 then { s with ep := some (m.dst - 8) } else { s with ep := none }

def stCastle (s : Position) (m : Mv) (kscUs qscUs : Nat) : Position :=
  let bbFrom := bit m.src
  let bbTo := bit m.dst
  if (s.p5 &&& s.p3).isOcc && m.dst > m.src then
    let s := { s with c0 := s.c0 ^^^ (bbFrom ||| bbTo), p5 := s.p5 ^^^ (bbFrom ||| bbTo) }
    let s := { s with c0 := s.c0 ^^^ bbFrom ^^^ bit 6, p5 := s.p5 ^^^ bbFrom ^^^ bit 6 }
    { s with c0 := s.c0 ^^^ bit kscUs ^^^ bit 5, p3 := s.p3 ^^^ bit kscUs ^^^ bit 5 }
  else if (s.p5 &&& s.p3).isOcc && m.dst < m.src then
    let s := { s with c0 := s.c0 ^^^ (bbFrom ||| bbTo), p5 := s.p5 ^^^ (bbFrom ||| bbTo) }
    let s := { s with c0 := s.c0 ^^^ bbFrom ^^^ bit 2, p5 := s.p5 ^^^ bbFrom ^^^ bit 2 }
    { s with c0 := s.c0 ^^^ bit qscUs ^^^ bit 3, p3 := s.p3 ^^^ bit qscUs ^^^ bit 3 }
  else s

def stPromo (s : Position) (m : Mv) : Position :=
  if m.promo != 6 then
    let s := { s with p0 := s.p0 ^^^ bit m.dst }
    s.setPiece m.promo (s.piece m.promo ^^^ bit m.dst)
  else s

def stRights (s : Position) (m : Mv) (ksqUs ksqThem kscUs qscUs kscThem qscThem : Nat) : Position :=
  { s with
    usK := s.usK && (m.src != ksqUs && m.src != kscUs && m.dst != kscUs),
    usQ := s.usQ && (m.src != ksqUs && m.src != qscUs && m.dst != qscUs),
    themK := s.themK && (m.src != ksqThem && m.src != kscThem && m.dst != kscThem),
    themQ := s.themQ && (m.src != ksqThem && m.src != qscThem && m.dst != qscThem) }

/-- the stages after the en-passant removal up to the rights update (all total). -/
def stTail0 (p : Position) (m : Mv) (i : Pc) (s : Position) : Position :=
  let s := stDouble s m i
  let s := stCastle s m (fromCoords p.cf0 0) (fromCoords p.cf1 0)
  let s := stPromo s m
  stRights s m (lsb (p.c0 &&& p.p5)) (lsb (p.c1 &&& p.p5)) (fromCoords p.cf0 0) (fromCoords p.cf1 0)
    (fromCoords p.cf2 7) (fromCoords p.cf3 7)

def stFull (s : Position) : Position := if s.black then { s with fullmoves := s.fullmoves + 1 } else s

def stTail (p : Position) (m : Mv) (i : Pc) (s : Position) : Position := stFull (stTail0 p m i s)

theorem full_hash (s : Position) : (stFull s).flip.hash = s.flip.hash := by
  unfold stFull
  split <;> rfl

theorem full_calc (K : ZKeys) (s : Position) : calculateHashK K (stFull s).flip = calculateHashK K s.flip := by
  unfold stFull
  split <;> rfl

/-- the part of `makemove` after the piece and the key have been looked up. -/
def mmFrom (p : Position) (m : Mv) (piece : Pc) (hash : BB) : Option Position := do
  let captured := p.pieceOn m.dst
  let s := stRelocate p m piece hash
  let s ← if s.c1.isSet m.dst then (do
      let c ← captured
      pure (capStep s m c)) else pure s
  let s := stClock s piece
  let s ← if piece == 0 && fileOf m.src != fileOf m.dst && captured.isNone then (do
      let ep ← s.ep
      pure (epStep s ep)) else pure s
  pure (stTail p m piece s).flip

/-- `makemove` is its two look-ups followed by `mmFrom`: the same monadic plumbing, the pure steps named. -/
theorem makemove_eq_staged (p : Position) (m : Mv) (u : Bool) :
    p.makemove m u = (do
      let i ← p.pieceOn m.src
      let h ← if u then p.predictHash m else pure p.hash
      mmFrom p m i h) := by
  unfold makemove mmFrom stTail stTail0 stFull stRights stPromo stCastle stDouble epStep stClock capStep
    stRelocate
  rfl

theorem makemove_eq_some {p : Position} {m : Mv} {u : Bool} {q : Position} :
    p.makemove m u = some q ↔ ∃ i, p.pieceOn m.src = some i ∧
      ∃ h, (if u then p.predictHash m else some p.hash) = some h ∧ mmFrom p m i h = some q := by
  rw [makemove_eq_staged]
  cases u
  · simp only [Option.bind_eq_bind, Option.bind_eq_some_iff, Option.pure_def, Bool.false_eq_true, if_false]
  · simp only [Option.bind_eq_bind, Option.bind_eq_some_iff, Option.pure_def, if_true]

theorem kind_cases {i : Nat} (hi : i < 6) : i = 0 ∨ i = 1 ∨ i = 2 ∨ i = 3 ∨ i = 4 ∨ i = 5 := by omega

theorem setPiece_piece (s : Position) (i k : Nat) (b : BB) (hi : i < 6) :
    (s.setPiece i b).piece k = if k = i then b else s.piece k := by
  rcases kind_cases hi with rfl | rfl | rfl | rfl | rfl | rfl <;>
    (unfold Position.piece Position.setPiece; split <;> first | rfl | simp_all)

theorem setPiece_piece_xor (s : Position) (i k : Nat) (d : BB) (hi : i < 6) :
    (s.setPiece i (s.piece i ^^^ d)).piece k = s.piece k ^^^ cnd (k = i) d := by
  rw [setPiece_piece _ _ _ _ hi]
  unfold cnd
  split
  · next h => rw [h]
  · simp

theorem setPiece_colours (s : Position) (i : Nat) (b : BB) :
    (s.setPiece i b).c0 = s.c0 ∧ (s.setPiece i b).c1 = s.c1 := by
  unfold Position.setPiece
  split <;> exact ⟨rfl, rfl⟩

end Rawr.ZH
