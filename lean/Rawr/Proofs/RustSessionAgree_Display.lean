import Rawr.Proofs.RustSessionAgree_Canon
import Rawr.Proofs.RustTextAgree
import Rawr.Proofs.UciShape
/-!
# `impl Display for Position`, `impl Display for Colour`, `Position::startpos` regenerated from the Rust source agree with
the model (`displayPos` of Rawr/Model/Uci.lean, `Gen.startpos`)

`R.position_fmt ar p f` appends to the formatter `f`; the model's `displayPos p` is the list of the lines.
The agreement `agree_position_fmt` holds for every position whose printed en-passant square is on the board and whose
castle files of the printed rights fit the `u8` addition `b'A' + file` (`DisplayOk`; true for every valid position):
the Rust code panics in `Square::fmt` / in the checked build otherwise, the model is total.
-/
namespace Rawr.Sess

theorem _root_.Rawr.agree_colour_fmt (b : Bool) (f : List Char) :
    R.colour_fmt b f = f ++ (if b then "Black" else "White").toList := by
  cases b <;> rfl

theorem _root_.Rawr.agree_startpos : R.startpos_ = Gen.startpos := by decide

theorem position_fmt_loop1_step_eq (y : Nat) (np : Position) (x : Nat) (f : List Char) :
    R.position_fmt_loop1_step y np x f = some (ForInStep.yield (f ++ [dispCell np (8 * y + x)])) := by
  -- both sides are the same chain of `if`s once the character is pulled out of the branches
  unfold R.position_fmt_loop1_step dispCell
  simp only [agree_get_white, R.get_pawns, R.get_knights, R.get_bishops, R.get_rooks, R.get_queens, R.get_kings,
    apply_ite (fun c => some (ForInStep.yield (f ++ [c])))]
  rfl

theorem position_fmt_loop1_eq (y : Nat) (np : Position) (l : List Nat) (f : List Char) :
    R.position_fmt_loop1 y np l f = some (f ++ l.map fun x => dispCell np (8 * y + x)) := by
  rw [List.map_eq_flatMap]
  exact forIn_append l (fun x _ f => position_fmt_loop1_step_eq y np x f) f

theorem position_fmt_loop2_step_eq (np : Position) (y : Nat) (f : List Char) :
    R.position_fmt_loop2_step np y f =
      some (ForInStep.yield (f ++ T.line (String.ofList ((List.range 8).map fun x => dispCell np (8 * y + x))))) := by
  unfold R.position_fmt_loop2_step
  simp only [position_fmt_loop1_eq, bind, pure, Option.bind_some, T.line]
  simp

theorem position_fmt_loop2_eq (np : Position) (l : List Nat) (f : List Char) :
    R.position_fmt_loop2 np l f =
      some (f ++ T.unlines (l.map fun y => String.ofList ((List.range 8).map fun x => dispCell np (8 * y + x)))) := by
  rw [T.unlines, List.flatMap_map]
  exact forIn_append l (fun y _ f => position_fmt_loop2_step_eq np y f) f

/-- the positions `Display` can print: the en-passant square of the white-relative position on the board, and
`b'A' + file` / `b'a' + file` within `u8` for the printed rights. -/
def DisplayOk (p : Position) : Prop :=
  let np := if p.black then p.flip else p
  (∀ e, np.ep = some e → e < 64) ∧ (np.usK = true → p.cf0 < 191) ∧ (np.usQ = true → p.cf1 < 191) ∧
  (np.themK = true → p.cf2 < 159) ∧ (np.themQ = true → p.cf3 < 159)

theorem rev_range8 : (List.range 8).reverse = (List.range 8).map (fun i => 7 - i) := by decide

theorem line_toList (a : String) : T.line a = a.toList ++ ['\n'] := rfl

theorem toString_bool (b : Bool) : toString b = (if b then "true" else "false") := by cases b <;> rfl

theorem position_fmt_part5_eq (s : Position) (f : List Char) :
    R.position_fmt_part5 s f = some (f ++ T.unlines ["Hash: 0x" ++ String.ofList (hexDigits s.hash.toNat),
      "FRC: " ++ (if s.frc then "true" else "false")]) := by
  unfold R.position_fmt_part5
  have e : ∀ x : String, "Hash: " ++ ("0x" ++ x) = "Hash: 0x" ++ x := by
    intro x; rw [← String.append_assoc]; rfl
  simp [T.unlines, toString_bool, hexLine, pure, e]

/-- `if b { write!(f, "{}", (base + c) as char) }` with the checked `u8` addition, followed by `k`. -/
def optChar (ar : Arith) (b : Bool) (base c : Nat) (k : List Char → Option (List Char)) (g : List Char) : Option (List Char) :=
  if b = true then (u8add ar base c).bind fun u => k (g ++ T.chars (String.singleton (Char.ofNat u))) else k g

theorem optChar_eq (ar : Arith) (b : Bool) (base c : Nat) (k : List Char → Option (List Char)) (g : List Char)
    (h : b = true → base + c < 256) :
    optChar ar b base c k g = k (g ++ if b = true then [Char.ofNat (base + c)] else []) := by
  unfold optChar
  cases b
  · simp only [Bool.false_eq_true, if_false, List.append_nil]
  · simp only [if_true, u8add_small ar base c (h rfl), Option.bind_some, T.chars, String.toList_singleton]

theorem position_fmt_part4_eq (ar : Arith) (np s : Position) (f : List Char)
    (h0 : np.usK = true → s.cf0 < 191) (h1 : np.usQ = true → s.cf1 < 191)
    (h2 : np.themK = true → s.cf2 < 159) (h3 : np.themQ = true → s.cf3 < 159) :
    R.position_fmt_part4 ar np s f = some (f ++ T.unlines [dispCastle np s,
      "Hash: 0x" ++ String.ofList (hexDigits s.hash.toNat), "FRC: " ++ (if s.frc then "true" else "false")]) := by
  have c0 := fun k g => optChar_eq ar np.usK 65 s.cf0 k g (fun h => by have := h0 h; omega)
  have c1 := fun k g => optChar_eq ar np.usQ 65 s.cf1 k g (fun h => by have := h1 h; omega)
  have c2 := fun k g => optChar_eq ar np.themK 97 s.cf2 k g (fun h => by have := h2 h; omega)
  have c3 := fun k g => optChar_eq ar np.themQ 97 s.cf3 k g (fun h => by have := h3 h; omega)
  -- the four rights are four `optChar`s, each the continuation of the one before
  show (if (!np.usK && !np.usQ && !np.themK && !np.themQ) = true then R.position_fmt_part5 s (f ++ T.line "Castling: -")
    else optChar ar np.usK 65 s.cf0 (optChar ar np.usQ 65 s.cf1 (optChar ar np.themK 97 s.cf2 (optChar ar np.themQ 97 s.cf3
      fun g => R.position_fmt_part5 s (g ++ T.line "")))) (f ++ T.chars "Castling: ")) = _
  rw [c0, c1, c2, c3]
  unfold dispCastle
  split
  · simp only [position_fmt_part5_eq, T.unlines, List.flatMap_cons, List.append_assoc]
  · simp only [position_fmt_part5_eq, T.unlines, T.line, T.chars, List.flatMap_cons, List.append_assoc, String.toList_append,
      String.toList_ofList, String.toList_empty, List.nil_append]
    rfl

theorem position_fmt_part3_eq (ar : Arith) (np s : Position) (f : List Char)
    (hep : ∀ e, np.ep = some e → e < 64)
    (h0 : np.usK = true → s.cf0 < 191) (h1 : np.usQ = true → s.cf1 < 191)
    (h2 : np.themK = true → s.cf2 < 159) (h3 : np.themQ = true → s.cf3 < 159) :
    R.position_fmt_part3 ar np s f = some (f ++ T.unlines [
      (match np.ep with | some e => "EP: " ++ String.ofList (sqName e) | none => "EP: -"), dispCastle np s,
      "Hash: 0x" ++ String.ofList (hexDigits s.hash.toNat), "FRC: " ++ (if s.frc then "true" else "false")]) := by
  unfold R.position_fmt_part3
  simp only [position_fmt_part4_eq ar np s _ h0 h1 h2 h3, bind]
  cases hepc : np.ep with
  | some e =>
    have he : e < 64 := hep e hepc
    simp [agree_square_fmt, he, T.unlines, T.line]
  | none => simp [T.unlines, T.line]

theorem position_fmt_part2_eq (ar : Arith) (np s : Position) (f : List Char)
    (hep : ∀ e, np.ep = some e → e < 64)
    (h0 : np.usK = true → s.cf0 < 191) (h1 : np.usQ = true → s.cf1 < 191)
    (h2 : np.themK = true → s.cf2 < 159) (h3 : np.themQ = true → s.cf3 < 159) :
    R.position_fmt_part2 ar np s f = some (f ++ T.unlines (dispLines np s)) := by
  unfold R.position_fmt_part2 dispLines
  simp only [position_fmt_part3_eq ar np s _ hep h0 h1 h2 h3, position_fmt_loop2_eq, rev_range8, List.map_map, bind,
    Option.bind_some, agree_in_check, agree_colour_fmt, toString_bool, List.nil_append, String.ofList_toList]
  simp [T.unlines, T.line, Function.comp_def]
  -- the `EP:` line: the same `match`, once in `position_fmt_part3_eq` and once in `dispLines`
  rfl

/-- **`impl Display for Position`**: the regenerated `fmt` appends the lines of the model's `displayPos`. -/
theorem _root_.Rawr.agree_position_fmt (ar : Arith) (p : Position) (f : List Char) (h : DisplayOk p) :
    R.position_fmt ar p f = some (f ++ T.unlines (displayPos p)) := by
  obtain ⟨hep, h0, h1, h2, h3⟩ := h
  have e : R.position_fmt ar p f = R.position_fmt_part2 ar (if p.black then p.flip else p) p f := by
    unfold R.position_fmt
    cases p.black
    · rfl
    · exact congrArg (R.position_fmt_part2 ar · p f) (congrFun agree_flip p)
  rw [e, position_fmt_part2_eq ar _ p f hep h0 h1 h2 h3, displayPos_eq]

example : DisplayOk Gen.startpos := by
  refine ⟨?_, ?_, ?_, ?_, ?_⟩ <;> decide

end Rawr.Sess

#print axioms Rawr.agree_colour_fmt
#print axioms Rawr.agree_startpos
#print axioms Rawr.agree_position_fmt
