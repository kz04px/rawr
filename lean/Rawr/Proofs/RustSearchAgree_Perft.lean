import Rawr.Proofs.RustSearchAgree
import Rawr.Proofs.RustImpAgree_MakeMove
import Rawr.Proofs.RustImpAgree_MoveGen
/-!
# `chess::perft` regenerated from the Rust source agrees with the model

`perft` recurses on its depth in the model and on fuel in the regenerated function: they agree whenever
`depth < fuel` (the real code has no fuel).
-/
namespace Rawr

theorem perft_loop_eq (rec : Position → Nat → Option Nat) (f : Position → Option Nat) (p : Position) (depth : Nat)
    (hrec : ∀ q, rec q (depth - 1) = f q) (l : List GMv) (acc : Nat) :
    R.perft_loop1 rec p depth l acc =
      (l.map (·.mv)).foldl (fun acc m =>
        match acc, p.makemove m false with
        | some a, some np => (f np).map (a + ·)
        | _, _ => none) (some acc) := by
  have hnone := perft_fold_none p f
  induction l generalizing acc with
  | nil => rfl
  | cons g l ih =>
    unfold R.perft_loop1
    simp only [List.map_cons, List.foldl_cons, agree_after_move, hrec]
    cases hm : p.makemove g.mv false with
    | none => exact (hnone _).symm
    | some np =>
      cases hf : f np with
      | none =>
        simp only [hf]
        exact (hnone _).symm
      | some r => simp [hf, ih]

theorem opt_match_id {α : Type} (x : Option α) : (match x with | none => none | some n => some n) = x := by
  cases x <;> rfl

theorem agree_perft : ∀ (fuel d : Nat) (p : Position), d < fuel → R.perft fuel p d = perft d p := by
  intro fuel
  induction fuel with
  | zero => intro d p h; omega
  | succ fuel ih =>
    intro d p h
    unfold R.perft
    match d with
    | 0 => simp [perft]
    | 1 => simp [perft, agree_count_moves]
    | d + 2 =>
      have h0 : ((d + 2) == 0) = false := by simp
      have h1 : ((d + 2) == 1) = false := by simp
      simp only [h0, h1, Bool.false_eq_true, if_false]
      rw [perft_loop_eq (R.perft fuel) (perft (d + 1)) p (d + 2) (fun q => ih (d + 1) q (by omega)), agree_move_generator]
      rw [perft.eq_3 p (d + 1) (by omega)]
      unfold legalMoves
      generalize List.foldl _ (some 0) _ = x
      cases x <;> rfl

end Rawr

#print axioms Rawr.agree_perft
