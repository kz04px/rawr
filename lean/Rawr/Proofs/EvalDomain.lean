import Rawr.Proofs.AbsCell
import Rawr.Proofs.EvalBound
/-! The evaluation model reads only the eight boards, `phase` is flip-invariant, `taper` is odd in the score; and from the
domain `D` of DESIGN.md §4 (`InD`; of its conjuncts only board consistency V.1 and legal material M on the absolute position are
used) to the hypotheses of the evaluation bound: at most 16 men a side on the engine's colour boards. -/
namespace Rawr

theorem SameBoards.piece {p q : Position} (h : SameBoards p q) : p.piece = q.piece := by
  obtain ⟨_, _, h0, h1, h2, h3, h4, h5⟩ := h
  funext i
  unfold Position.piece
  split <;> first | assumption | rfl

theorem SameBoards.flip {p q : Position} (h : SameBoards p q) : SameBoards p.flip q.flip := by
  obtain ⟨g0, g1, h0, h1, h2, h3, h4, h5⟩ := h
  simp only [SameBoards, Position.flip_c0, Position.flip_c1, Position.flip_p0, Position.flip_p1,
    Position.flip_p2, Position.flip_p3, Position.flip_p4, Position.flip_p5, g0, g1, h0, h1, h2, h3,
    h4, h5, and_self]

theorem evalUsT_congr (T : EvalTables) {p q : Position} (h : SameBoards p q) :
    evalUsT T p = evalUsT T q := by
  have hp := h.piece
  obtain ⟨g0, g1, h0, _, _, h3, _, h5⟩ := h
  unfold evalUsT
  rw [g0, g1, h0, h3, h5, hp]

theorem phase_congr {p q : Position} (h : SameBoards p q) : phase p = phase q := by
  obtain ⟨_, _, _, h1, h2, h3, h4, _⟩ := h
  unfold phase
  rw [h1, h2, h3, h4]

theorem evalT_congr (T : EvalTables) {p q : Position} (h : SameBoards p q) :
    evalT T p = evalT T q := by
  unfold evalT
  rw [evalUsT_congr T h, evalUsT_congr T h.flip, phase_congr h]

theorem phase_flip (p : Position) : phase p.flip = phase p := by
  unfold phase
  simp only [Position.flip_p1, Position.flip_p2, Position.flip_p3, Position.flip_p4, count_flipBB]

/-- `taper` is an odd function of the score (Rust's `/` truncates towards zero). -/
theorem taper_sub_swap (a b : Score) (ph : Int) : taper (b.sub a) ph = - taper (a.sub b) ph := by
  unfold taper Score.sub
  rw [← Int.neg_tdiv]
  congr 1
  simp only [Int.sub_mul]
  omega

open Spec

/-- `Consistent` (V.1) taken apart: colour boards disjoint, piece boards pairwise disjoint, and the
occupied squares are exactly the squares with a piece. -/
theorem consistent_parts {p : Position} (h : Consistent p = true) :
    p.c0 &&& p.c1 = 0#64 ∧ PieceDisj p ∧
    p.c0 ||| p.c1 = p.p0 ||| p.p1 ||| p.p2 ||| p.p3 ||| p.p4 ||| p.p5 := by
  unfold Consistent at h
  simp only [Bool.and_eq_true, beq_iff_eq] at h
  obtain ⟨⟨⟨⟨⟨⟨⟨⟨⟨⟨⟨⟨⟨⟨⟨⟨h0, h1⟩, h2⟩, h3⟩, h4⟩, h5⟩, h6⟩, h7⟩, h8⟩, h9⟩, h10⟩, h11⟩, h12⟩, h13⟩,
    h14⟩, h15⟩, hu⟩ := h
  exact ⟨h0, ⟨h1, h2, h3, h4, h5, h6, h7, h8, h9, h10, h11, h12, h13, h14, h15⟩, hu⟩

/-- The men of the mover (`c0`) are the pieces of the mover's colour on the absolute board; likewise for the
opponent (`c1`). -/
theorem count_eq_countPieces {p : Position} (hc : Consistent p = true) :
    countPieces (absBoard p) (fun pc => pc.white == !p.black) = count p.c0 ∧
    countPieces (absBoard p) (fun pc => pc.white == p.black) = count p.c1 :=
  ⟨countPieces_abs p _ _ (shows_abs hc).c0, countPieces_abs p _ _ (shows_abs hc).c1⟩

theorem count_le_16_of_LegalMaterial {p : Position} (hc : Consistent p = true)
    (hm : LegalMaterial (abs p) = true) : count p.c0 ≤ 16 ∧ count p.c1 ≤ 16 := by
  obtain ⟨h0, h1⟩ := count_eq_countPieces hc
  unfold LegalMaterial at hm
  simp only [List.all_cons, List.all_nil, Bool.and_true, Bool.and_eq_true, decide_eq_true_eq] at hm
  have ht := hm.1.1.1
  have hf := hm.2.1.1
  have e : (abs p).board = absBoard p := rfl
  rw [e] at ht hf
  cases hb : p.black <;> rw [hb] at h0 h1 <;> simp only [Bool.not_true, Bool.not_false] at h0 <;>
    omega

end Rawr
