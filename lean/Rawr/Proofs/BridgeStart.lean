import Rawr.Gen
import Rawr.Proofs.FenRel
import Rawr.Proofs.BridgeM
/-! Bridge (domain closure, start positions): the engine representation `rel a` of an absolute position `a`
is in `D = V ∧ E ∧ M` as soon as `a` satisfies `Spec.Valid`, E and M (and its counters fit `i32`) —
`inD_rel`; and the start position `GenPos.startFrom w b` does so for any two back ranks that pass the
list-level test `RankOk` — `start_inD`. -/
namespace Rawr.Br
open Rawr.Spec Rawr.SV

theorem inD_rel (a : APos) (frc : Bool) (hb : ∀ s, 64 ≤ s → a.board s = none)
    (hv : Spec.Valid a = true) (hE : Spec.EpConsistent a = true) (hM : Spec.LegalMaterial a = true)
    (hh : a.half < 2147483648) (hf : a.full < 2147483648) : InD (rel a frc) = true := by
  have habs := abs_rel a frc hb
  have v := (valid_iff a).mp hv
  have hr : ∀ w ks d, d < 8 → (right a w ks).getD d < 8 := by
    intro w ks d hd
    cases h : right a w ks with
    | none => exact hd
    | some f => exact (v.rights w ks f h).1
  unfold InD ValidPos
  rw [habs, hv, hE, hM, rel_consistent, rel_halfmoves, rel_fullmoves, rel_cf0, rel_cf1, rel_cf2, rel_cf3, rel_hash]
  simp only [Bool.true_and, Bool.and_true, Bool.and_eq_true, decide_eq_true_eq, beq_self_eq_true]
  cases a.whiteToMove
  · exact ⟨⟨⟨⟨⟨hh, hf⟩, hr false true 7 (by omega)⟩, hr false false 0 (by omega)⟩, hr true true 7 (by omega)⟩,
      hr true false 0 (by omega)⟩
  · exact ⟨⟨⟨⟨⟨hh, hf⟩, hr true true 7 (by omega)⟩, hr true false 0 (by omega)⟩, hr false true 7 (by omega)⟩,
      hr false false 0 (by omega)⟩

/-- the files on which back rank `l` has kind `k`, read the way `GenPos.startFrom` reads a rank
(a file beyond the end of the list holds a king). -/
def files (l : List Kind) (k : Kind) : List Nat := (List.range 8).filter fun i => l.getD i .king == k

/-- what the start position asks of a back rank: no pawn, at most two knights, two bishops and a queen,
exactly two rooks and one king, the king between the rooks. -/
def RankOk (l : List Kind) : Bool :=
  (files l .pawn).isEmpty && (files l .knight).length ≤ 2 && (files l .bishop).length ≤ 2 &&
  (files l .queen).length ≤ 1 &&
  match files l .rook, files l .king with
  | [q, r], [k] => q < k && k < r
  | _, _ => false

theorem mem_files {l : List Kind} {k : Kind} {i : Nat} : i ∈ files l k ↔ i < 8 ∧ l.getD i .king = k := by
  simp only [files, List.mem_filter, List.mem_range, beq_iff_eq]

theorem rankOk_facts {l : List Kind} (h : RankOk l = true) :
    files l .pawn = [] ∧ (files l .knight).length ≤ 2 ∧ (files l .bishop).length ≤ 2 ∧
    (files l .queen).length ≤ 1 ∧ ∃ q k r, files l .rook = [q, r] ∧ files l .king = [k] ∧ q < k ∧ k < r := by
  unfold RankOk at h
  simp only [Bool.and_eq_true, List.isEmpty_iff, decide_eq_true_eq] at h
  obtain ⟨⟨⟨⟨h1, h2⟩, h3⟩, h4⟩, h5⟩ := h
  refine ⟨h1, h2, h3, h4, ?_⟩
  split at h5
  · next q r k hr hk => exact ⟨q, k, r, hr, hk, by simpa using h5⟩
  · cases h5

section start
variable (w b : List Kind)

theorem start_board (s : Nat) : (GenPos.startFrom w b).board s =
    if s < 8 then some ⟨true, w.getD s .king⟩ else if s < 16 then some ⟨true, .pawn⟩
    else if 48 ≤ s ∧ s < 56 then some ⟨false, .pawn⟩
    else if 56 ≤ s ∧ s < 64 then some ⟨false, b.getD (s - 56) .king⟩ else none := rfl

theorem start_white {s : Nat} (h : s < 8) : (GenPos.startFrom w b).board s = some ⟨true, w.getD s .king⟩ := by
  rw [start_board, if_pos h]

theorem start_wpawn {s : Nat} (h : 8 ≤ s ∧ s < 16) : (GenPos.startFrom w b).board s = some ⟨true, .pawn⟩ := by
  rw [start_board, if_neg (by omega), if_pos h.2]

theorem start_empty {s : Nat} (h : 16 ≤ s ∧ s < 48 ∨ 64 ≤ s) : (GenPos.startFrom w b).board s = none := by
  rw [start_board, if_neg (by omega), if_neg (by omega), if_neg (by omega), if_neg (by omega)]

theorem start_bpawn {s : Nat} (h : 48 ≤ s ∧ s < 56) : (GenPos.startFrom w b).board s = some ⟨false, .pawn⟩ := by
  rw [start_board, if_neg (by omega), if_neg (by omega), if_pos h]

theorem start_black {i : Nat} (h : i < 8) :
    (GenPos.startFrom w b).board (i + 56) = some ⟨false, b.getD i .king⟩ := by
  rw [start_board, if_neg (by omega), if_neg (by omega), if_neg (by omega), if_pos (by omega), Nat.add_sub_cancel]

theorem squares_bands : squares =
    List.range 8 ++ List.range' 8 8 ++ List.range' 16 32 ++ List.range' 48 8 ++ (List.range 8).map (· + 56) := by
  decide

theorem filter_const (l : List Nat) (c : Bool) : l.filter (fun _ => c) = if c then l else [] := by
  cases c <;> simp

theorem filter_band {B : Board} (g : Option Piece → Bool) {l : List Nat} {v : Option Piece} (h : ∀ s ∈ l, B s = v) :
    l.filter (fun s => g (B s)) = if g v then l else [] :=
  (List.filter_congr fun s hs => congrArg g (h s hs)).trans (filter_const l (g v))

theorem filter_start (g : Option Piece → Bool) :
    squares.filter (fun s => g ((GenPos.startFrom w b).board s)) =
      (List.range 8).filter (fun i => g (some ⟨true, w.getD i .king⟩)) ++
      (if g (some ⟨true, .pawn⟩) then List.range' 8 8 else []) ++
      (if g none then List.range' 16 32 else []) ++
      (if g (some ⟨false, .pawn⟩) then List.range' 48 8 else []) ++
      ((List.range 8).filter (fun i => g (some ⟨false, b.getD i .king⟩))).map (· + 56) := by
  rw [squares_bands, List.filter_append, List.filter_append, List.filter_append, List.filter_append, List.filter_map,
    filter_band g fun s hs => start_wpawn w b (List.mem_range'_1.mp hs),
    filter_band g fun s hs => start_empty w b (Or.inl (List.mem_range'_1.mp hs)),
    filter_band g fun s hs => start_bpawn w b (List.mem_range'_1.mp hs),
    List.filter_congr fun s hs => congrArg g (start_white w b (List.mem_range.mp hs))]
  exact congrArg (fun l => _ ++ l.map (· + 56))
    (List.filter_congr fun s hs => congrArg g (start_black w b (List.mem_range.mp hs)))

theorem piece_beq (c c' : Bool) (k k' : Kind) : ((⟨c, k⟩ : Piece) == ⟨c', k'⟩) = (c == c' && k == k') := by
  rw [Bool.eq_iff_iff]
  simp only [beq_iff_eq, Piece.mk.injEq, Bool.and_eq_true]

theorem sq_home (i : Nat) (c : Bool) : sq i (homeRank c) = if c then i else i + 56 := by
  cases c <;> simp [sq, homeRank] <;> omega

theorem home_coords (c : Bool) {i : Nat} (h : i < 8) :
    file (sq i (homeRank c)) = i ∧ rank (sq i (homeRank c)) = homeRank c := by
  have hon : onBoard i (homeRank c) = true := by cases c <;> simp [onBoard, homeRank] <;> omega
  exact ⟨file_sq hon, rank_sq hon⟩

theorem start_home (c : Bool) {i : Nat} (h : i < 8) :
    (GenPos.startFrom w b).board (sq i (homeRank c)) = some ⟨c, (if c then w else b).getD i .king⟩ := by
  rw [sq_home]
  cases c
  · exact start_black w b h
  · exact start_white w b h

theorem kingSquares_start (c : Bool) : kingSquares (GenPos.startFrom w b).board c =
    (files (if c then w else b) .king).map fun i : Nat => sq i (homeRank c) := by
  unfold kingSquares
  rw [filter_start w b (· == some ⟨c, .king⟩)]
  simp only [sq_home]
  cases c <;> simp [-List.getD_eq_getElem?_getD, piece_beq, files]

theorem count_start (f : Piece → Bool) : countPieces (GenPos.startFrom w b).board f =
    ((List.range 8).filter fun i => f ⟨true, w.getD i .king⟩).length + (if f ⟨true, .pawn⟩ then 8 else 0) +
    (if f ⟨false, .pawn⟩ then 8 else 0) + ((List.range 8).filter fun i => f ⟨false, b.getD i .king⟩).length := by
  unfold countPieces
  refine (congrArg _ (filter_start w b fun o => match o with | some pc => f pc | none => false)).trans ?_
  simp only [List.length_append, List.length_map, apply_ite List.length, List.length_range', List.length_nil,
    Bool.false_eq_true, if_false, Nat.add_zero]

theorem cnt_start (c : Bool) (k : Kind) : cnt (GenPos.startFrom w b).board c k =
    (files (if c then w else b) k).length + if k = .pawn then 8 else 0 := by
  unfold cnt
  rw [count_start]
  cases c <;> simp [-List.getD_eq_getElem?_getD, piece_beq, files, filter_const, eq_comm (a := Kind.pawn), Nat.add_comm]

theorem cntCol_start (c : Bool) : cntCol (GenPos.startFrom w b).board c = 16 := by
  unfold cntCol
  rw [count_start]
  cases c <;> simp [filter_const]

end start

theorem rankOk_side {w b : List Kind} (hw : RankOk w = true) (hb : RankOk b = true) (c : Bool) :
    RankOk (if c then w else b) = true := by
  cases c
  · exact hb
  · exact hw

theorem start_material {w b : List Kind} (hw : RankOk w = true) (hb : RankOk b = true) :
    LegalMaterial (GenPos.startFrom w b) = true := by
  have h : ∀ c, MatOK (GenPos.startFrom w b).board c := by
    intro c
    obtain ⟨hp, hn, hbi, hq, q, k, r, hr, -⟩ := rankOk_facts (rankOk_side hw hb c)
    unfold MatOK excess
    simp only [cntCol_start, cnt_start, hp, hr, List.length_cons, List.length_nil, reduceCtorEq, reduceIte]
    omega
  exact (legalMaterial_iff _).mpr ⟨h true, h false⟩

/-- a line towards a square two or more ranks up is shut by a man on its first square. -/
theorem clearBetween_blocked (B : Board) {s t : Nat} (hfar : 2 ≤ rank t - rank s)
    (h : B (sq (file s + sgn (file t - file s)) (rank s + 1)) ≠ none) : clearBetween B s t = false := by
  have hr : sgn (rank t - rank s) = 1 := by unfold sgn; rw [if_pos (by omega)]
  unfold clearBetween
  rw [List.all_eq_false]
  refine ⟨0, List.mem_range.mpr (by omega), ?_⟩
  simpa [hr] using h

/-- a square six or more ranks up is attacked neither by a pawn nor by a man whose line towards it has its
first square occupied (a knight or a king does not reach that far either way). -/
theorem pieceAttacks_far (B : Board) {s t : Nat} (pc : Piece) (hfar : 6 ≤ rank t - rank s)
    (h : pc.kind = .pawn ∨ B (sq (file s + sgn (file t - file s)) (rank s + 1)) ≠ none) :
    pieceAttacks B s pc t = false := by
  obtain ⟨c, kd⟩ := pc
  have hcb : kd ≠ .pawn → clearBetween B s t = false := fun hk =>
    clearBetween_blocked B (by omega) (h.resolve_left hk)
  cases kd with
  | pawn =>
    simp only [pieceAttacks, Bool.and_eq_false_imp, beq_iff_eq, beq_eq_false_iff_ne]
    omega
  | knight | king =>
    simp [pieceAttacks]
    omega
  | bishop | rook | queen => simp [pieceAttacks, hcb]

/-- no white man of a start position attacks a square of the eighth rank: a piece on the first rank has a
pawn on the first square of every line that leads there. -/
theorem start_rank7_safe (w b : List Kind) {t : Nat} (ht : rank t = 7) :
    attackedBy (GenPos.startFrom w b).board true t = false := by
  unfold attackedBy squares
  rw [List.any_eq_false]
  intro s hs
  rw [List.mem_range] at hs
  have hfar : s < 16 → 6 ≤ rank t - rank s := fun h => by unfold rank at *; omega
  rcases (by omega : s < 8 ∨ (8 ≤ s ∧ s < 16) ∨ (16 ≤ s ∧ s < 48) ∨ (48 ≤ s ∧ s < 56) ∨ 56 ≤ s) with h | h | h | h | h
  · have hp : (GenPos.startFrom w b).board (sq (file s + sgn (file t - file s)) (rank s + 1)) ≠ none := by
      rw [start_wpawn w b (by unfold sq sgn file rank; omega)]
      simp
    simp [start_white w b h, pieceAttacks_far _ ⟨true, _⟩ (hfar (by omega)) (Or.inr hp)]
  · simp [start_wpawn w b h, pieceAttacks_far _ ⟨true, .pawn⟩ (hfar h.2) (Or.inl rfl)]
  · rw [start_empty w b (Or.inl h)]
    simp
  · rw [start_bpawn w b h]
    simp
  · rw [show s = s - 56 + 56 by omega, start_black w b (by omega)]
    simp

theorem start_right (w b : List Kind) (c ks : Bool) : right (GenPos.startFrom w b) c ks =
    some (if ks then (files (if c then w else b) .rook).getD 1 7 else (files (if c then w else b) .rook).getD 0 0) := by
  cases c <;> cases ks <;> rfl

theorem start_rightOK (w b : List Kind) (c ks : Bool) {f k : Nat} (hf : f ∈ files (if c then w else b) .rook)
    (hk8 : k < 8) (hk : kingSquares (GenPos.startFrom w b).board c = [sq k (homeRank c)])
    (hord : if ks then k < f else f < k) : RightOK (GenPos.startFrom w b) c ks f := by
  obtain ⟨hf8, hrook⟩ := mem_files.mp hf
  refine ⟨hf8, by rw [start_home w b c hf8, hrook], _, hk, (home_coords c hk8).2, ?_⟩
  rw [(home_coords c hk8).1]
  cases ks <;> simpa using hord

theorem start_valid {w b : List Kind} (hw : RankOk w = true) (hb : RankOk b = true) :
    Valid (GenPos.startFrom w b) = true := by
  -- for either colour: the rook files `q < r`, the king's file `k` between them, the king's square
  have side : ∀ c, ∃ q k r, files (if c then w else b) .rook = [q, r] ∧ q < k ∧ k < r ∧ k < 8 ∧
      kingSquares (GenPos.startFrom w b).board c = [sq k (homeRank c)] := by
    intro c
    obtain ⟨-, -, -, -, q, k, r, hr, hk, h1, h2⟩ := rankOk_facts (rankOk_side hw hb c)
    have hk8 : k ∈ files (if c then w else b) .king := by rw [hk]; exact List.mem_singleton_self k
    exact ⟨q, k, r, hr, h1, h2, (mem_files.mp hk8).1, by rw [kingSquares_start, hk]; rfl⟩
  have nopawn : ∀ (c : Bool) i, i < 8 → (if c then w else b).getD i .king ≠ .pawn := fun c i hi hp =>
    List.not_mem_nil ((rankOk_facts (rankOk_side hw hb c)).1 ▸ mem_files.mpr ⟨hi, hp⟩)
  rw [valid_iff]
  refine ⟨?_, ?_, ?_, ?_, ?_, ?_, Int.le_refl _, Int.le_refl _⟩
  · obtain ⟨_, _, _, _, _, _, _, hk⟩ := side true
    exact ⟨_, unique_of_kingSquares hk⟩
  · obtain ⟨_, _, _, _, _, _, _, hk⟩ := side false
    exact ⟨_, unique_of_kingSquares hk⟩
  · intro s hs pc hpc hkind
    unfold rank
    by_cases h8 : s < 8
    · rw [start_white w b h8] at hpc
      cases hpc
      exact absurd hkind (nopawn true s h8)
    by_cases h56 : 56 ≤ s
    · rw [show s = s - 56 + 56 by omega, start_black w b (by omega)] at hpc
      cases hpc
      exact absurd hkind (nopawn false _ (by omega))
    omega
  · obtain ⟨_, k, _, _, _, _, hk8, hk⟩ := side false
    show inCheck _ false = false
    unfold inCheck
    rw [hk]
    simp only [List.any_cons, List.any_nil, Bool.or_false, Bool.not_false]
    exact start_rank7_safe w b (home_coords false hk8).2
  · intro c ks f h
    obtain ⟨q, k, r, hr, h1, h2, hk8, hk⟩ := side c
    rw [start_right, hr] at h
    cases ks <;> cases h
    · exact start_rightOK w b c false (by rw [hr]; simp) hk8 hk h1
    · exact start_rightOK w b c true (by rw [hr]; simp) hk8 hk h2
  · intro e he
    cases he

theorem start_inD {w b : List Kind} (hw : RankOk w = true) (hb : RankOk b = true) (frc : Bool) :
    InD (rel (GenPos.startFrom w b) frc) = true :=
  inD_rel _ frc (fun _ hs => start_empty w b (Or.inr hs)) (start_valid hw hb) rfl (start_material hw hb)
    (show (0 : Int) < 2147483648 by decide) (show (1 : Int) < 2147483648 by decide)

end Rawr.Br
