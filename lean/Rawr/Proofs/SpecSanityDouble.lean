import Rawr.Proofs.SpecSanityKings
import Rawr.Proofs.SafeLine
/-!
# Sanity of the specification, part 4 (c): in a double check only the king moves

If two different enemy men attack the king of the side to move, every legal move is a move of that king
(capturing one checker leaves the other; a single interposition cannot shut two lines; castling is not
allowed in check). A checker that a move of another man neither captures nor shuts out still attacks
afterwards (`checker_line`: its line to the king stays open, by `hit_keep` of `Proofs/AttackGeom.lean`); two lines through the
square moved to belong to one checker (`hit_through_unique`, there too). No engine model.
-/
namespace Rawr.SpecS
open Rawr.Spec Rawr.Att Rawr.SV

def Checker (a : APos) (k c : Nat) : Prop :=
  c < 64 ∧ ∃ pc, a.board c = some pc ∧ pc.white = (!a.whiteToMove) ∧ pieceAttacks a.board c pc k = true

theorem inCheck_iff_checker {a : APos} {k : Nat} (hk : kingSquares a.board a.whiteToMove = [k]) :
    inCheck a.board a.whiteToMove = true ↔ ∃ c, Checker a k c := by
  unfold inCheck
  rw [hk]
  simp only [List.any_cons, List.any_nil, Bool.or_false]
  exact attackedBy_iff _ _ _

theorem checker_line {a : APos} {s t k c : Nat} {pr : Option Kind} {pc : Piece} (v : ValidFacts a)
    (nl : NormalLegal a s t pr pc) (hkd : pc.kind ≠ .king) (uk : UniqueKing a.board a.whiteToMove k)
    (hsafe : inCheck (newBoard a s t pr pc) a.whiteToMove = false) (hc : Checker a k c) :
    c = t ∨ (isEpB a s t pc = true ∧ c = sq (file t) (rank s)) ∨
      ∃ d n i, GoodDir d ∧ Hit a.board k d n c ∧ 1 ≤ i ∧ i < n ∧ pt k d i = t := by
  obtain ⟨hc64, pcc, hbc, hcw, hatt⟩ := hc
  by_cases h1 : c = t
  · exact Or.inl h1
  by_cases h2 : isEpB a s t pc = true ∧ c = sq (file t) (rank s)
  · exact Or.inr (Or.inl h2)
  right; right
  have hcs : c ≠ s := by
    intro e
    subst e
    rw [nl.hpc] at hbc
    have := Option.some.inj hbc
    subst this
    have := nl.hw
    rw [hcw] at this
    cases hw : a.whiteToMove <;> simp [hw] at this
  have hnb : newBoard a s t pr pc c = some pcc := by
    rw [newBoard_other h1, if_neg hcs, if_neg h2]; exact hbc
  have hks := kingSquares_of_unique (king_stays v nl uk (Or.inr hkd))
  unfold inCheck at hsafe
  rw [hks] at hsafe
  simp only [List.any_cons, List.any_nil, Bool.or_false] at hsafe
  have hna : ¬ pieceAttacks (newBoard a s t pr pc) c pcc k = true := by
    intro hp
    have : attackedBy (newBoard a s t pr pc) (!a.whiteToMove) k = true :=
      (attackedBy_iff _ _ _).mpr ⟨c, hc64, pcc, hnb, hcw, hp⟩
    rw [hsafe] at this; cases this
  rw [pieceAttacks_hit] at hatt hna
  rcases hatt with hl | ⟨d, n, hkd', hh⟩
  · exact absurd (Or.inl hl) hna
  · refine ⟨d, n, ?_⟩
    apply Classical.byContradiction
    intro hcon
    -- the move empties squares and fills `t` only: the line stays open unless it passes over `t`
    refine hna (Or.inr ⟨d, n, hkd', hit_keep hh (fun x hx hB => ?_)
      fun i h1 h2 e => hcon ⟨i, kindDir_goodDir hkd', hh, h1, h2, e⟩⟩)
    rw [newBoard_other hx]
    split
    · rfl
    · split
      · rfl
      · exact hB

theorem between_of_line {B : Board} {k c t : Nat} {d : Int × Int} {n i : Nat} (g : GoodDir d) (hk : k < 64)
    (hc : c < 64) (hh : Hit B k d n c) (h1 : 1 ≤ i) (h2 : i < n) (hp : pt k d i = t) : Between c k t := by
  have hb := (hit_between g hk hc hh h1 h2).2
  rw [hp] at hb
  exact between_symm hb

theorem checker_fate {a : APos} {s t k c : Nat} {pr : Option Kind} {pc : Piece} (v : ValidFacts a)
    (nl : NormalLegal a s t pr pc) (hkd : pc.kind ≠ .king) (uk : UniqueKing a.board a.whiteToMove k)
    (hsafe : inCheck (newBoard a s t pr pc) a.whiteToMove = false) (hc : Checker a k c) :
    c = t ∨ (isEpB a s t pc = true ∧ c = sq (file t) (rank s)) ∨ (Between c k t ∧ a.board t = none) := by
  rcases checker_line v nl hkd uk hsafe hc with h | h | ⟨d, n, i, g, hh, h1, h2, hp⟩
  · exact Or.inl h
  · exact Or.inr (Or.inl h)
  · refine Or.inr (Or.inr ⟨between_of_line g uk.1 hc.1 hh h1 h2 hp, ?_⟩)
    rw [← hp]
    exact hh.2.2 i h1 h2

/-- an en-passant capture cannot at the same time remove a checking pawn and shut the line of another
checker: the capturing pawn lands a knight's move away from the king, on no line through it. -/
theorem ep_no_block {a : APos} {s t k : Nat} {pr : Option Kind} {pc : Piece}
    (nl : NormalLegal a s t pr pc) (hE : isEpB a s t pc = true)
    (hatt : pieceAttacks a.board (sq (file t) (rank s)) ⟨!a.whiteToMove, .pawn⟩ k = true)
    {d : Int × Int} {i : Nat} (g : GoodDir d) (hat : At k d i t) : False := by
  obtain ⟨hk, hf, hn⟩ := isEpB_iff.mp hE
  obtain ⟨_, hr⟩ := nl.epT hk hn (fun e => hf e.symm)
  have hbs := rank_bounds nl.hs
  have hbt := file_bounds t
  have hob : onBoard (file t) (rank s) = true := by rw [onBoard_iff]; omega
  simp only [pieceAttacks, file_sq hob, rank_sq hob, Bool.and_eq_true, beq_iff_eq] at hatt
  have hw := nl.hw
  have hd := pdir_cases pc.white
  rw [hw] at hd hr
  have hks : knightStep k t = true := by
    unfold knightStep
    simp only [Bool.or_eq_true, Bool.and_eq_true, beq_iff_eq]
    left
    cases hwm : a.whiteToMove <;> simp [hwm, pdir] at hatt hr <;> omega
  rw [line_no_knight g (at_zero k d) hat] at hks
  cases hks

theorem double_check_king_move {a : APos} (hv : Valid a = true) {k c1 c2 : Nat}
    (hk : kingSquares a.board a.whiteToMove = [k]) (h1 : Checker a k c1) (h2 : Checker a k c2)
    (hne : c1 ≠ c2) {m : Move} (hm : m ∈ legalMoves a) : ∃ t, m = .normal k t none := by
  have v := (valid_iff a).mp hv
  have uk := unique_of_kingSquares hk
  rcases legal_cases hm with ⟨s, t, pr, pc, e, nl, hc⟩ | ⟨ks, e, _⟩
  · subst e
    by_cases hkd : pc.kind = .king
    · have hpc : pc = ⟨a.whiteToMove, .king⟩ := by rw [nl.pc_eq, hkd]
      have hs : s = k := uk.2.2 s nl.hs (by rw [nl.hpc, hpc])
      have hpr : pr = none := nl.pr_none (by rw [hkd]; exact nofun)
      exact ⟨t, by rw [hs, hpr]⟩
    · exfalso
      rw [apply_board nl.hpc] at hc
      have f1 := checker_line v nl hkd uk hc h1
      have f2 := checker_line v nl hkd uk hc h2
      obtain ⟨hc1, p1, hb1, hw1, ha1⟩ := h1
      obtain ⟨hc2, p2, hb2, hw2, ha2⟩ := h2
      have occ : ∀ {c p}, a.board c = some p → a.board c ≠ none := by
        intro c p hb e; rw [hb] at e; cases e
      have capt_ep : ∀ {c p}, a.board c = some p → c = t → isEpB a s t pc = true → False := by
        intro c p hb e hE
        rw [e, (isEpB_iff.mp hE).2.2] at hb; cases hb
      have ep_att : ∀ {c p}, a.board c = some p → pieceAttacks a.board c p k = true →
          isEpB a s t pc = true → c = sq (file t) (rank s) →
          pieceAttacks a.board (sq (file t) (rank s)) ⟨!a.whiteToMove, .pawn⟩ k = true := by
        intro c p hb ha hE e
        have := (ep_victim v nl hE).1
        rw [← e, hb] at this
        rw [← e, ← Option.some.inj this]; exact ha
      have line_at : ∀ {c : Nat} {d : Int × Int} {n i : Nat}, c < 64 → GoodDir d → Hit a.board k d n c →
          i < n → pt k d i = t → At k d i t := by
        intro c d n i hc64 g hh h2 hp
        have := (at_le g uk.1 hc64 hh.2.1 (Nat.le_of_lt h2)).1
        rwa [hp] at this
      rcases f1 with e1 | ⟨hE1, e1⟩ | ⟨d1, n1, i1, g1, hh1, a1, b1, t1⟩ <;>
        rcases f2 with e2 | ⟨hE2, e2⟩ | ⟨d2, n2, i2, g2, hh2, a2, b2, t2⟩
      · exact hne (e1.trans e2.symm)
      · exact capt_ep hb1 e1 hE2
      · -- the square captured on is an inner, hence empty, square of the other checker's line
        have := hh2.2.2 i2 a2 b2
        rw [t2, ← e1] at this
        exact occ hb1 this
      · exact capt_ep hb2 e2 hE1
      · exact hne (e1.trans e2.symm)
      · exact ep_no_block nl hE1 (ep_att hb1 ha1 hE1 e1) g2 (line_at hc2 g2 hh2 b2 t2)
      · have := hh1.2.2 i1 a1 b1
        rw [t1, ← e2] at this
        exact occ hb2 this
      · exact ep_no_block nl hE2 (ep_att hb2 ha2 hE2 e2) g1 (line_at hc1 g1 hh1 b1 t1)
      · exact hne (hit_through_unique uk.1 g1 g2 hc1 hc2 hh1 hh2 a1 b1 a2 b2 t1 t2 (occ hb1) (occ hb2))
  · subst e
    exfalso
    exact no_castle_in_check ((inCheck_iff_checker hk).mpr ⟨c1, h1⟩) hm

def IsKingMove (a : APos) (m : Move) : Prop :=
  match m with
  | .normal s _ _ => a.board s = some ⟨a.whiteToMove, .king⟩
  | .castle _ => True

theorem double_check_isKingMove {a : APos} (hv : Valid a = true) {k c1 c2 : Nat}
    (hk : kingSquares a.board a.whiteToMove = [k]) (h1 : Checker a k c1) (h2 : Checker a k c2)
    (hne : c1 ≠ c2) {m : Move} (hm : m ∈ legalMoves a) : IsKingMove a m := by
  obtain ⟨t, rfl⟩ := double_check_king_move hv hk h1 h2 hne hm
  exact (unique_of_kingSquares hk).2.1

end Rawr.SpecS
