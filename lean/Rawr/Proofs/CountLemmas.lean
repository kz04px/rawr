import Rawr.Model.CountMoves
import Rawr.Proofs.Bits
/-!
# Shifted boards bit by bit; the counting lemmas of C08a

For the move counter (C08a): the promotion and non-promotion source masks select the
arrivals on the last rank and off it (`north_promo` … `northWest_non`, `length_flatMap_pawnArrive`). For the generator
proofs (`GenBlocks`, `Gen*`): what a bit of a shifted board says about the board (`north_iff` … `east_north_iff`), the
promotion field of an arriving pawn (`PromoOk`, `mem_pawnArrive`), `gm_inj_iff`, `empty_mem`, and `OwnPawnsDisjoint`.
-/
namespace Rawr

def rank8 : BB := 0xFF00000000000000#64

theorem rank8_getLsbD (i : Nat) (h : i < 64) : rank8.getLsbD i = (rankOf i == 7) := by
  have : ∀ j : Fin 64, rank8.getLsbD j.val = (rankOf j.val == 7) := by decide
  exact this ⟨i, h⟩

theorem length_pawnArrive (d to : Nat) : (pawnArrive d to).length = if rankOf to == 7 then 4 else 1 := by
  unfold pawnArrive; split <;> rfl

theorem foldl_add_eq_sum {α} (l : List α) (g : α → Nat) (init : Nat) :
    l.foldl (fun a x => a + g x) init = init + (l.map g).sum := by
  induction l generalizing init with
  | nil => simp
  | cons x xs ih => simp [ih]; omega

theorem sumOver_eq {α β γ} (l : List α) (h : α → List β) (k : α → β → γ) :
    l.foldl (fun a src => a + (h src).length) 0 = (l.flatMap fun src => (h src).map (k src)).length := by
  rw [foldl_add_eq_sum, List.length_flatMap]; simp

theorem east_north (x : BB) : east (north x) = northEast x := by
  simp only [east, north, northEast, ← BitVec.shiftLeft_add]

theorem length_flatMap_pawnArrive_aux (d : Nat) (b : Nat → Bool) (l : List Nat) (hl : ∀ i ∈ l, i < 64) :
    ((l.filter b).flatMap (pawnArrive d)).length
      = 4 * (l.filter fun i => (b i && rank8.getLsbD i)).length
        + (l.filter fun i => (b i && !rank8.getLsbD i)).length := by
  induction l with
  | nil => rfl
  | cons x xs ih =>
    have hx : x < 64 := hl x (by simp)
    have ih' := ih (fun i hi => hl i (by simp [hi]))
    have hr := rank8_getLsbD x hx
    simp only [List.filter_cons]
    cases hb : b x <;> cases h7 : rankOf x == 7 <;>
      simp [hr, h7, ih', length_pawnArrive] <;> omega

theorem length_flatMap_pawnArrive (d : Nat) (B : BB) :
    ((toList B).flatMap (pawnArrive d)).length = 4 * count (B &&& rank8) + count (B &&& ~~~rank8) := by
  unfold count toList
  rw [length_flatMap_pawnArrive_aux d _ _ (fun i hi => by simpa using hi)]
  congr 2
  · congr 1; apply List.filter_congr; intro i hi; simp
  · apply List.filter_congr; intro i hi
    have : i < 64 := by simpa using hi
    simp [this]

abbrev promoMask : BB := 0xFF000000000000#64
abbrev nonMask : BB := 0xFFFFFFFFFFFF#64

theorem shl_self_and (x : BB) (k : Nat) : x <<< k = x <<< k &&& (BitVec.allOnes 64) <<< k := by
  rw [← BitVec.shiftLeft_and_distrib, BitVec.and_allOnes]

theorem north_promo (x : BB) : north (x &&& promoMask) = north x &&& rank8 := by
  simp only [north, BitVec.shiftLeft_and_distrib]
  congr 1

theorem north_non (x : BB) : north (x &&& nonMask) = north x &&& ~~~rank8 := by
  simp only [north, BitVec.shiftLeft_and_distrib]
  rw [shl_self_and x 8, BitVec.and_assoc, BitVec.and_assoc]
  congr 1

theorem northEast_promo (x : BB) : northEast (x &&& promoMask) = east (north x) &&& rank8 := by
  rw [east_north]
  simp only [northEast, BitVec.shiftLeft_and_distrib]
  rw [BitVec.and_assoc, BitVec.and_assoc]
  congr 1

theorem northEast_non (x : BB) : northEast (x &&& nonMask) = east (north x) &&& ~~~rank8 := by
  rw [east_north]
  simp only [northEast, BitVec.shiftLeft_and_distrib]
  rw [shl_self_and x 9]
  simp only [BitVec.and_assoc]
  congr 1

theorem northWest_promo (x : BB) : northWest (x &&& promoMask) = northWest x &&& rank8 := by
  simp only [northWest, BitVec.shiftLeft_and_distrib]
  rw [BitVec.and_assoc, BitVec.and_assoc]
  congr 1

theorem northWest_non (x : BB) : northWest (x &&& nonMask) = northWest x &&& ~~~rank8 := by
  simp only [northWest, BitVec.shiftLeft_and_distrib]
  rw [shl_self_and x 7]
  simp only [BitVec.and_assoc]
  congr 1

/-! The counter's promotion / non-promotion source masks select exactly the rank-8 / non-rank-8 arrivals: a mask `M`
on the sources of a shift that selects the targets in `R` (`h`), pulled out of the counter's expression for a pawn
block (two and three factors besides the mask). -/

theorem mask_out2 {sh sh' : BB → BB} {M R : BB} (h : ∀ x, sh (x &&& M) = sh' x &&& R) (U X E A : BB) :
    sh (U &&& M &&& X) &&& E &&& A = sh' (U &&& X) &&& E &&& A &&& R := by
  rw [show U &&& M &&& X = (U &&& X) &&& M by ac_rfl, h]; ac_rfl

theorem mask_out3 {sh sh' : BB → BB} {M R : BB} (h : ∀ x, sh (x &&& M) = sh' x &&& R) (U X Y E A : BB) :
    sh (U &&& M &&& X &&& Y) &&& E &&& A = sh' (U &&& X &&& Y) &&& E &&& A &&& R := by
  rw [show U &&& M &&& X &&& Y = (U &&& X &&& Y) &&& M by ac_rfl, h]; ac_rfl

theorem sumOver_count {γ} (l : List Nat) (f : Nat → BB) (k : Nat → Nat → γ) :
    l.foldl (fun a src => a + count (f src)) 0
      = (l.flatMap fun src => (toList (f src)).map (k src)).length :=
  sumOver_eq l (fun src => toList (f src)) k

theorem length_ite_singleton {α} (c : Prop) [Decidable c] (a : α) :
    (if c then [a] else []).length = if c then 1 else 0 := by
  split <;> rfl

theorem notAFile_iff : ∀ i : Fin 64, notAFile.getLsbD i.val = decide (i.val % 8 ≠ 0) := by decide
theorem notHFile_iff : ∀ i : Fin 64, notHFile.getLsbD i.val = decide (i.val % 8 ≠ 7) := by decide

/-- the mask of the double-push targets is the mover's fourth rank. -/
theorem rank4_iff : ∀ i : Fin 64, (0xFF000000#64 : BB).getLsbD i.val = decide (i.val / 8 = 3) := by decide

theorem shl_iff (X : BB) (n : Nat) {i : Nat} (hi : i < 64) :
    (X <<< n).getLsbD i = true ↔ n ≤ i ∧ X.getLsbD (i - n) = true := by
  simp only [BitVec.getLsbD_shiftLeft, Bool.and_eq_true, decide_eq_true_eq, Bool.not_eq_true',
    decide_eq_false_iff_not]
  constructor
  · rintro ⟨⟨_, h1⟩, h2⟩
    exact ⟨by omega, h2⟩
  · rintro ⟨h1, h2⟩
    exact ⟨⟨hi, by omega⟩, h2⟩

theorem north_iff (X : BB) {i : Nat} (hi : i < 64) :
    (north X).getLsbD i = true ↔ 8 ≤ i ∧ X.getLsbD (i - 8) = true :=
  shl_iff X 8 hi

theorem northNorth_iff (X : BB) {i : Nat} (hi : i < 64) :
    (northNorth X).getLsbD i = true ↔ 16 ≤ i ∧ X.getLsbD (i - 16) = true :=
  shl_iff X 16 hi

theorem northEast_iff (X : BB) {i : Nat} (hi : i < 64) :
    (northEast X).getLsbD i = true ↔ 9 ≤ i ∧ i % 8 ≠ 0 ∧ X.getLsbD (i - 9) = true := by
  rw [northEast, BitVec.getLsbD_and, Bool.and_eq_true, shl_iff X 9 hi, notAFile_iff ⟨i, hi⟩, decide_eq_true_iff]
  exact ⟨fun h => ⟨h.1.1, h.2, h.1.2⟩, fun h => ⟨⟨h.1, h.2.2⟩, h.2.1⟩⟩

theorem northWest_iff (X : BB) {i : Nat} (hi : i < 64) :
    (northWest X).getLsbD i = true ↔ 7 ≤ i ∧ i % 8 ≠ 7 ∧ X.getLsbD (i - 7) = true := by
  rw [northWest, BitVec.getLsbD_and, Bool.and_eq_true, shl_iff X 7 hi, notHFile_iff ⟨i, hi⟩, decide_eq_true_iff]
  exact ⟨fun h => ⟨h.1.1, h.2, h.1.2⟩, fun h => ⟨⟨h.1, h.2.2⟩, h.2.1⟩⟩

theorem southEast_iff (X : BB) {i : Nat} (hi : i < 64) :
    (southEast X).getLsbD i = true ↔ i % 8 ≠ 0 ∧ X.getLsbD (i + 7) = true := by
  rw [southEast, BitVec.getLsbD_and, Bool.and_eq_true, BitVec.getLsbD_ushiftRight, notAFile_iff ⟨i, hi⟩,
    decide_eq_true_iff, Nat.add_comm 7 i]
  exact and_comm

theorem southWest_iff (X : BB) {i : Nat} (hi : i < 64) :
    (southWest X).getLsbD i = true ↔ i % 8 ≠ 7 ∧ X.getLsbD (i + 9) = true := by
  rw [southWest, BitVec.getLsbD_and, Bool.and_eq_true, BitVec.getLsbD_ushiftRight, notHFile_iff ⟨i, hi⟩,
    decide_eq_true_iff, Nat.add_comm 9 i]
  exact and_comm

theorem east_north_iff (X : BB) {i : Nat} (hi : i < 64) :
    (east (north X)).getLsbD i = true ↔ 9 ≤ i ∧ i % 8 ≠ 0 ∧ X.getLsbD (i - 9) = true := by
  rw [east_north]
  exact northEast_iff X hi

theorem empty_mem (p : Position) {t : Nat} (ht : t < 64) :
    p.empty.getLsbD t = true ↔ p.occ.getLsbD t = false := by
  unfold Position.empty Position.occ
  rw [BitVec.getLsbD_not]
  simp [ht]

theorem gm_inj_iff {a b c d a' b' c' d' : Nat} :
    gm a b c d = gm a' b' c' d' ↔ a = a' ∧ b = b' ∧ c = c' ∧ d = d' := by
  unfold gm
  simp only [GMv.mk.injEq, Mv.mk.injEq]

/-- the promotion field of a pawn arriving on `t`: each of the four pieces on the last rank, none elsewhere. -/
def PromoOk (t pr : Nat) : Prop :=
  if rankOf t = 7 then (pr = 4 ∨ pr = 3 ∨ pr = 2 ∨ pr = 1) else pr = 6

theorem mem_pawnArrive {d to : Nat} {g : GMv} :
    g ∈ pawnArrive d to ↔ g.piece = 0 ∧ g.mv.src = to - d ∧ g.mv.dst = to ∧ PromoOk to g.mv.promo := by
  obtain ⟨pc, s, t, pr⟩ := g
  unfold pawnArrive PromoOk
  by_cases h7 : rankOf to = 7
  · simp only [h7, beq_self_eq_true, if_true, List.mem_cons, List.not_mem_nil, or_false, gm, GMv.mk.injEq,
      Mv.mk.injEq]
    constructor
    · rintro (⟨rfl, rfl, rfl, rfl⟩ | ⟨rfl, rfl, rfl, rfl⟩ | ⟨rfl, rfl, rfl, rfl⟩ | ⟨rfl, rfl, rfl, rfl⟩) <;> simp
    · rintro ⟨rfl, rfl, rfl, rfl | rfl | rfl | rfl⟩ <;> simp
  · have : (rankOf to == 7) = false := by simpa using h7
    simp only [this, Bool.false_eq_true, if_false, List.mem_singleton, gm, GMv.mk.injEq, Mv.mk.injEq, h7]

theorem disj_getLsbD {a b : BB} (h : a &&& b = 0#64) {i : Nat} (hb : b.getLsbD i = true) : a.getLsbD i = false := by
  have := and_zero_bit h i
  rwa [hb, Bool.and_true] at this

/-- no square of the mover's colour has the pawn bit and the bit of another kind: what makes the generator's tag
`piece == Pawn` the same test as `pawns.is_set(mv.src)` (`src_tag`, C08b). -/
def OwnPawnsDisjoint (p : Position) : Prop :=
  p.p0 &&& p.c0 &&& (p.p1 ||| p.p2 ||| p.p3 ||| p.p4 ||| p.p5) = 0#64

instance (p : Position) : Decidable (OwnPawnsDisjoint p) := by
  unfold OwnPawnsDisjoint; infer_instance

theorem own_nonpawn_not_pawn {p : Position} (h : OwnPawnsDisjoint p) {i : Nat}
    (hc : p.c0.getLsbD i = true)
    (hk : (p.p1 ||| p.p2 ||| p.p3 ||| p.p4 ||| p.p5).getLsbD i = true) : p.p0.getLsbD i = false := by
  have := disj_getLsbD h hk
  rwa [BitVec.getLsbD_and, hc, Bool.and_true] at this

theorem prelude_ksq (p : Position) : (prelude p).ksq = lsb (p.p5 &&& p.c0) := rfl

end Rawr
