import Rawr.Proofs.RustImpAgree
import Rawr.Generated.StartPos
/-!
# `makemove::<UPDATE_HASH>` regenerated from makemove.rs agrees with the model's `Position.makemove`

`R.makemove` (Rawr/Generated/RustImp.lean) is makemove.rs compiled statement by statement: one record update per
assignment, `Option` binds where the Rust unwraps (`piece`, `captured`, `self.ep`), `predict_hash` bound under
`if UPDATE_HASH`.  The model groups and orders some updates differently; the proof bridges exactly these points:

* the model binds `piece` first and computes `hash` before the relocation; makemove.rs unwraps `piece` at its first
  use, after `if UPDATE_HASH { self.hash = .. }`  (case split on `updateHash`, `pieceOn`, `predictHash`);
* relocation: Rust order `colours ^=; pieces[piece] ^=; halfmoves += 1`, model `{c0, halfmoves}` then `setPiece`
  (`reloc_eq`, by cases on the piece index);
* capture: Rust order `colours[Them] ^=; pieces[captured] ^=; halfmoves = 0`, model `{c1, halfmoves}` then
  `setPiece`  (`rest1_eq`);
* castling: makemove.rs recomputes the castling-rook square from `self.castle_files` of the CURRENT position inside
  the castling blocks, the model uses the squares computed at the top (`rest2_congr`/`setPiece_cf`: the castle files
  are not modified by any earlier statement).

`MM.CE` is makemove.rs as a composition of blocks, `MM.CM` the model as a composition of blocks;
`Position.makemove = CM` is `rfl` (same statements, up to `let` and structure eta), `R.makemove = CE` is `rfl` once
`R.predict_hash`, `R.get_piece_on` and `R.flip` are rewritten to the model's functions, and `CE = CM` is proved block
by block.
-/
namespace Rawr
open Position

namespace MM

/-- castling, promotion, castling rights, full-move counter, flip (`kc`, `qc`: the castling-rook squares used by
the castling blocks; makemove.rs recomputes them from the current position, the model takes them from the top). -/
def rest3 (kc qc : Nat) (m : Mv) (bbFrom bbTo : BB) (ksqUs ksqThem kscUs qscUs kscThem qscThem : Nat)
    (s : Position) : Option Position := do
  let s :=
    if (s.p5 &&& s.p3).isOcc && m.dst > m.src then
      let s := { s with c0 := s.c0 ^^^ (bbFrom ||| bbTo), p5 := s.p5 ^^^ (bbFrom ||| bbTo) }
      let s := { s with c0 := s.c0 ^^^ bbFrom ^^^ bit 6, p5 := s.p5 ^^^ bbFrom ^^^ bit 6 }
      { s with c0 := s.c0 ^^^ bit kc ^^^ bit 5, p3 := s.p3 ^^^ bit kc ^^^ bit 5 }
    else if (s.p5 &&& s.p3).isOcc && m.dst < m.src then
      let s := { s with c0 := s.c0 ^^^ (bbFrom ||| bbTo), p5 := s.p5 ^^^ (bbFrom ||| bbTo) }
      let s := { s with c0 := s.c0 ^^^ bbFrom ^^^ bit 2, p5 := s.p5 ^^^ bbFrom ^^^ bit 2 }
      { s with c0 := s.c0 ^^^ bit qc ^^^ bit 3, p3 := s.p3 ^^^ bit qc ^^^ bit 3 }
    else s
  let s := if m.promo != 6 then
      let s := { s with p0 := s.p0 ^^^ bbTo }
      s.setPiece m.promo (s.piece m.promo ^^^ bbTo)
    else s
  let s := { s with
    usK := s.usK && (m.src != ksqUs && m.src != kscUs && m.dst != kscUs),
    usQ := s.usQ && (m.src != ksqUs && m.src != qscUs && m.dst != qscUs),
    themK := s.themK && (m.src != ksqThem && m.src != kscThem && m.dst != kscThem),
    themQ := s.themQ && (m.src != ksqThem && m.src != qscThem && m.dst != qscThem) }
  let s := if s.black then { s with fullmoves := s.fullmoves + 1 } else s
  pure s.flip

/-- pawn move, en passant, double push, then `k`. -/
def rest2 (k : Position → Option Position) (m : Mv) (piece : Pc) (captured : Option Pc) (s : Position) :
    Option Position := do
  let s := if piece == 0 then { s with halfmoves := 0 } else s
  let s ← if piece == 0 && fileOf m.src != fileOf m.dst && captured.isNone then (do
      let ep ← s.ep
      pure { s with c1 := s.c1 ^^^ south (bit ep), p0 := s.p0 ^^^ south (bit ep) }) else pure s
  let s := if piece == 0 && m.dst - m.src == 16 then { s with ep := some (m.dst - 8) } else { s with ep := none }
  k s

/-- capture in the model's order, then `k`. -/
def rest1M (k : Position → Option Position) (m : Mv) (bbTo : BB) (captured : Option Pc) (s : Position) :
    Option Position := do
  let s ← if s.c1.isSet m.dst then (do
      let c ← captured
      let s := { s with c1 := s.c1 ^^^ bbTo, halfmoves := 0 }
      pure (s.setPiece c (s.piece c ^^^ bbTo))) else pure s
  k s

/-- capture in the statement order of makemove.rs, then `k`. -/
def rest1E (k : Position → Option Position) (m : Mv) (bbTo : BB) (captured : Option Pc) (s : Position) :
    Option Position := do
  let s ← if s.c1.isSet m.dst then (do
      let s := { s with c1 := s.c1 ^^^ bbTo }
      let c ← captured
      let s := s.setPiece c (s.piece c ^^^ bbTo)
      pure { s with halfmoves := 0 }) else pure s
  k s

def relocM (s : Position) (piece : Pc) (x : BB) : Position :=
  let s : Position := { s with c0 := s.c0 ^^^ x, halfmoves := s.halfmoves + 1 }
  s.setPiece piece (s.piece piece ^^^ x)

def relocE (s : Position) (piece : Pc) (x : BB) : Position :=
  let s : Position := { s with c0 := s.c0 ^^^ x }
  let s := s.setPiece piece (s.piece piece ^^^ x)
  { s with halfmoves := s.halfmoves + 1 }

def CM (p : Position) (m : Mv) (updateHash : Bool) : Option Position := do
  let bbFrom := bit m.src
  let bbTo := bit m.dst
  let piece ← p.pieceOn m.src
  let captured := p.pieceOn m.dst
  let ksqUs := lsb (p.c0 &&& p.p5)
  let ksqThem := lsb (p.c1 &&& p.p5)
  let kscUs := fromCoords p.cf0 0
  let qscUs := fromCoords p.cf1 0
  let kscThem := fromCoords p.cf2 7
  let qscThem := fromCoords p.cf3 7
  let hash ← if updateHash then p.predictHash m else pure p.hash
  rest1M (rest2 (rest3 kscUs qscUs m bbFrom bbTo ksqUs ksqThem kscUs qscUs kscThem qscThem) m piece captured)
    m bbTo captured (relocM { p with hash := hash } piece (bbFrom ||| bbTo))

def CE (p : Position) (m : Mv) (updateHash : Bool) : Option Position := do
  let bbFrom := bit m.src
  let bbTo := bit m.dst
  let captured := p.pieceOn m.dst
  let ksqUs := lsb (p.c0 &&& p.p5)
  let ksqThem := lsb (p.c1 &&& p.p5)
  let kscUs := fromCoords p.cf0 0
  let qscUs := fromCoords p.cf1 0
  let kscThem := fromCoords p.cf2 7
  let qscThem := fromCoords p.cf3 7
  let s ← if updateHash then (do
      let h ← Position.predictHashK genKeys p m
      pure { p with hash := h }) else pure p
  let piece ← p.pieceOn m.src
  rest1E (rest2 (fun s => rest3 (fromCoords s.cf0 0) (fromCoords s.cf1 0) m bbFrom bbTo ksqUs ksqThem kscUs qscUs
      kscThem qscThem s) m piece captured)
    m bbTo captured (relocE s piece (bbFrom ||| bbTo))

theorem model_eq_CM : @Position.makemove = @CM := rfl

theorem setPiece_cf (s : Position) (i : Nat) (b : BB) :
    (s.setPiece i b).cf0 = s.cf0 ∧ (s.setPiece i b).cf1 = s.cf1 := by
  rcases i with _|_|_|_|_|_|i <;> exact ⟨rfl, rfl⟩

theorem reloc_eq (s : Position) (pc : Pc) (x : BB) : relocE s pc x = relocM s pc x := by
  rcases pc with _|_|_|_|_|_|pc <;> rfl

theorem relocM_cf (s : Position) (pc : Pc) (x : BB) :
    (relocM s pc x).cf0 = s.cf0 ∧ (relocM s pc x).cf1 = s.cf1 := by
  unfold relocM; exact setPiece_cf _ _ _

theorem rest1_eq (k k' : Position → Option Position) (m : Mv) (bbTo : BB) (captured : Option Pc) (s : Position)
    (h : ∀ t, t.cf0 = s.cf0 → t.cf1 = s.cf1 → k t = k' t) :
    rest1E k m bbTo captured s = rest1M k' m bbTo captured s := by
  unfold rest1E rest1M
  by_cases hc : s.c1.isSet m.dst = true
  · simp only [hc, if_true]
    cases captured with
    | none => rfl
    | some c => rcases c with _|_|_|_|_|_|c <;> exact h _ rfl rfl
  · simp only [hc]
    exact h s rfl rfl

theorem rest2_congr (k k' : Position → Option Position) (m : Mv) (piece : Pc) (captured : Option Pc) (s : Position)
    (h : ∀ t, t.cf0 = s.cf0 → t.cf1 = s.cf1 → k t = k' t) :
    rest2 k m piece captured s = rest2 k' m piece captured s := by
  have key : ∀ t : Position, t.cf0 = s.cf0 → t.cf1 = s.cf1 →
      k (if (piece == 0 && m.dst - m.src == 16) = true then { t with ep := some (m.dst - 8) } else { t with ep := none })
      = k' (if (piece == 0 && m.dst - m.src == 16) = true then { t with ep := some (m.dst - 8) } else { t with ep := none }) := by
    intro t h0 h1
    apply h <;> (split <;> assumption)
  have hs1 : ∀ s1 : Position, (if (piece == 0) = true then { s with halfmoves := 0 } else s) = s1 →
      s1.cf0 = s.cf0 ∧ s1.cf1 = s.cf1 := by
    intro s1 e; subst e; split <;> exact ⟨rfl, rfl⟩
  unfold rest2
  generalize e1 : (if (piece == 0) = true then ({ s with halfmoves := 0 } : Position) else s) = s1
  obtain ⟨h0, h1⟩ := hs1 s1 e1
  by_cases hc : (piece == 0 && fileOf m.src != fileOf m.dst && captured.isNone) = true
  · simp only [hc, if_true]
    cases s1.ep with
    | none => rfl
    | some ep => exact key _ h0 h1
  · simp only [hc]
    exact key _ h0 h1

theorem CE_eq_CM : @CE = @CM := by
  funext p m u
  unfold CE CM Position.predictHash
  have tail : ∀ (h : BB) (pc : Pc),
      rest1E (rest2 (fun s => rest3 (fromCoords s.cf0 0) (fromCoords s.cf1 0) m (bit m.src) (bit m.dst)
          (lsb (p.c0 &&& p.p5)) (lsb (p.c1 &&& p.p5)) (fromCoords p.cf0 0) (fromCoords p.cf1 0)
          (fromCoords p.cf2 7) (fromCoords p.cf3 7) s) m pc (p.pieceOn m.dst))
        m (bit m.dst) (p.pieceOn m.dst) (relocE { p with hash := h } pc (bit m.src ||| bit m.dst))
      = rest1M (rest2 (rest3 (fromCoords p.cf0 0) (fromCoords p.cf1 0) m (bit m.src) (bit m.dst)
          (lsb (p.c0 &&& p.p5)) (lsb (p.c1 &&& p.p5)) (fromCoords p.cf0 0) (fromCoords p.cf1 0)
          (fromCoords p.cf2 7) (fromCoords p.cf3 7)) m pc (p.pieceOn m.dst))
        m (bit m.dst) (p.pieceOn m.dst) (relocM { p with hash := h } pc (bit m.src ||| bit m.dst)) := by
    intro h pc
    rw [reloc_eq]
    apply rest1_eq
    intro t h0 h1
    apply rest2_congr
    intro t' h0' h1'
    have e0 : t'.cf0 = p.cf0 := by rw [h0', h0, (relocM_cf _ _ _).1]
    have e1 : t'.cf1 = p.cf1 := by rw [h1', h1, (relocM_cf _ _ _).2]
    rw [e0, e1]
  cases u <;> cases p.pieceOn m.src with
  | none => first | rfl | (cases Position.predictHashK genKeys p m <;> rfl)
  | some pc => first | exact tail p.hash pc | (cases Position.predictHashK genKeys p m with | none => rfl | some h => exact tail h pc)
end MM

theorem agree_makemove_CE : @R.makemove = @MM.CE := by
  funext p m u
  unfold R.makemove
  rw [agree_predict_hash, agree_get_piece_on, agree_flip]
  rfl

theorem agree_makemove : @R.makemove = @Position.makemove := by
  rw [agree_makemove_CE, MM.CE_eq_CM]; rfl

theorem agree_after_move : @R.after_move = @Position.makemove := by
  funext p m u; unfold R.after_move; rw [agree_makemove]

/-! non-vacuity: without the hash update, 1. e4 from the start position is played and a move from the empty square
e3 is refused -/
example : (R.makemove Gen.startpos ⟨12, 28, 6⟩ false).isSome = true := by decide
example : R.makemove Gen.startpos ⟨20, 28, 6⟩ false = none := by decide

end Rawr

#print axioms Rawr.agree_makemove
#print axioms Rawr.agree_after_move
