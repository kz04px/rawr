import Rawr.Abs
import Rawr.Proofs.Coords
import Rawr.Proofs.Bits
/-! `absSq b`, the change between mover-relative and absolute squares (`maybeFlip` with the arguments swapped): an
involution of the board that keeps the file and, for Black, reverses the rank. A home-rank or en-passant square given
by coordinates on one side is found on the other by `file_absSq`, `rank_absSq` and `eq_of_file_rank`. -/
namespace Rawr
open Spec

theorem absSq_eq_maybeFlip (b : Bool) (s : Nat) : absSq b s = maybeFlip s b := rfl

theorem absSq_absSq (b : Bool) (s : Nat) : absSq b (absSq b s) = s := by
  cases b
  · rfl
  · exact x56_x56 s

theorem absSq_lt (b : Bool) {s : Nat} (h : s < 64) : absSq b s < 64 := by
  cases b
  · exact h
  · exact x56_lt h

theorem absSq_lt_iff (b : Bool) (s : Nat) : absSq b s < 64 ↔ s < 64 :=
  ⟨fun h => by have := absSq_lt b h; rwa [absSq_absSq] at this, absSq_lt b⟩

theorem absSq_inj (b : Bool) {s t : Nat} (h : absSq b s = absSq b t) : s = t := by
  have := congrArg (absSq b) h
  rwa [absSq_absSq, absSq_absSq] at this

theorem range64_map_absSq_perm (bl : Bool) : ((List.range 64).map (absSq bl)).Perm (List.range 64) := by
  cases bl
  · have : absSq false = id := rfl
    rw [this, List.map_id]
  · exact x56_perm

theorem file_absSq (b : Bool) (s : Nat) : file (absSq b s) = file s := by
  cases b
  · rfl
  · exact Att.file_x56 s

theorem rank_absSq (b : Bool) {s : Nat} (hs : s < 64) : rank (absSq b s) = if b then 7 - rank s else rank s := by
  cases b
  · rfl
  · exact Att.rank_x56 hs

theorem absSq_sq (b : Bool) {f r : Int} (h : onBoard f r = true) :
    absSq b (sq f r) = sq f (if b then 7 - r else r) := by
  have h' : onBoard f (if b then 7 - r else r) = true := by
    rw [Att.onBoard_iff] at *
    cases b <;> simp <;> omega
  have hl := onBoard_lt h
  apply Att.eq_of_file_rank
  · rw [file_absSq, file_sq h, file_sq h']
  · rw [rank_absSq b hl, rank_sq h, rank_sq h']

theorem fromCoords_zero (f : Nat) : fromCoords f 0 = f := by unfold fromCoords; omega

theorem absSq_fromCoords (b : Bool) {f r : Nat} (hf : f < 8) (hr : r < 8) :
    absSq b (fromCoords f r) = sq f (if b then 7 - (r : Int) else r) := by
  have e : fromCoords f r = sq f r := by
    unfold fromCoords sq
    omega
  rw [e]
  exact absSq_sq b ((Att.onBoard_iff _ _).mpr (by omega))

end Rawr
