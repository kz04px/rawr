import Rawr.Model.Search
import Rawr.Proofs.Hashtable
import Rawr.Proofs.SelSort
import Rawr.Proofs.IteRules
/-! What one node of `negamax` does, as a relation.

`NodeRun lim rec p st α β ply depth cn r`: a call of the body of `negamax` whose recursive calls go to `rec` ends in `r`
in one of the listed ways (`none`: one of the operations that can fail has failed). `negamax_succ_run` says that
`negamax lim (f + 1)` is such a run over `negamax lim f`: what is proved of an arbitrary call that has returned (frame,
ranges, the root call) or that must return (totality) is a case analysis on the run and does not unfold the body.
Three more proofs unfold the body of `negamax`, and have to follow it when it changes: `DM.negamax_drawn_child_eq`
(Proofs/DrawLemmas.lean) and `DM.child_mated_returns` (Proofs/MateLemmas.lean) compute the answer of a call on a special
node as an equation, `negamax_sim` (Proofs/SearchPolls.lean) walks two unfoldings side by side. -/
namespace Rawr

abbrev Rec := Position → SState → Int → Int → Int → Int → Bool → Option (Int × SState)

/-- remaining depth after the check extension. The statements of Proofs/DrawLemmas.lean and MateLemmas.lean write the `if`
out, as C11 and C12 do; the two forms are exchanged by definitional unfolding, without a lemma. -/
def extDepth (p : Position) (depth : Int) : Int := if p.inCheck then depth + 1 else depth

def SState.enter (st : SState) (ply : Int) : SState := { st with seldepth := max st.seldepth ply }
def SState.push (st : SState) (x : BB) : SState := { st with hist := x :: st.hist }
def SState.pop (st : SState) : SState := { st with hist := st.hist.tail }

/-- the stop poll of a node: skipped at the root during iteration 1. -/
def nodePoll (lim : Limit) (ply : Int) (s : SState) : Bool × SState :=
  if !(ply == 0 && s.depth ≤ 1) then shouldStop lim s else (false, s)

theorem nodePoll_fields (lim : Limit) (ply : Int) (s : SState) :
    (nodePoll lim ply s).2.hist = s.hist ∧ (nodePoll lim ply s).2.tt = s.tt ∧ (nodePoll lim ply s).2.depth = s.depth ∧
      (nodePoll lim ply s).2.best = s.best := by
  unfold nodePoll
  split <;> exact ⟨rfl, rfl, rfl, rfl⟩

/-- the table probe: a cut-off value, or the window narrowed by the bound found. -/
def ttProbe (tte : TTEntry) (p : Position) (α β ply d : Int) : Option Int × Int × Int :=
  if tte.hash == p.hash && tte.depth ≥ d && !(ply == 0) && !(β != α + 1) then
    if tte.flag == 0 then (some tte.score, α, β)
    else
      let alpha := if tte.flag == 1 then max α tte.score else α
      let beta := if tte.flag == 2 then min β tte.score else β
      if alpha ≥ beta then (some tte.score, alpha, beta) else (none, alpha, beta)
  else (none, α, β)

theorem ttProbe_some {tte : TTEntry} {p : Position} {α β ply d v a b : Int}
    (h : ttProbe tte p α β ply d = (some v, a, b)) : tte.hash = p.hash ∧ v = tte.score ∧ ply ≠ 0 := by
  simp only [ttProbe] at h
  generalize (if (tte.flag == 1) = true then max α tte.score else α) = a1 at h
  generalize (if (tte.flag == 2) = true then min β tte.score else β) = b1 at h
  split at h
  · rename_i hc
    simp only [Bool.and_eq_true, beq_iff_eq, Bool.not_eq_true', beq_eq_false_iff_ne, ne_eq] at hc
    refine ⟨hc.1.1.1, ?_, hc.1.2⟩
    split at h
    · exact (Option.some.inj (Prod.mk.inj h).1).symm
    · split at h
      · exact (Option.some.inj (Prod.mk.inj h).1).symm
      · cases (Prod.mk.inj h).1
  · cases (Prod.mk.inj h).1

theorem ttProbe_root (tte : TTEntry) (p : Position) (α β d : Int) : ttProbe tte p α β 0 d = (none, α, β) := by
  unfold ttProbe; exact if_neg (by simp)

def NullTried (p : Position) (ply d : Int) (cn : Bool) : Prop :=
  ply ≠ 0 ∧ cn = true ∧ 2 < d ∧ p.inCheck = false ∧ isEndgame p = false

instance (p : Position) (ply d : Int) (cn : Bool) : Decidable (NullTried p ply d cn) := by
  unfold NullTried; infer_instance

def nullCall (rec : Rec) (p : Position) (s : SState) (b ply d : Int) : Option (Int × SState) :=
  rec p.makenull (s.push p.makenull.hash) (-b) (-b + 1) (ply + 1) (d - 1 - 2) false

/-- the state the move loop starts from: the null move was not tried, or it failed low. -/
inductive NullPass (rec : Rec) (p : Position) (s : SState) (b ply d : Int) (cn : Bool) : SState → Prop
  | skip : ¬ NullTried p ply d cn → NullPass rec p s b ply d cn s
  | low {sc : Int} {s3 : SState} : NullTried p ply d cn → nullCall rec p s b ply d = some (sc, s3) → -sc < b →
      NullPass rec p s b ply d cn s3.pop

/-- the rule draws a non-root node looks at. -/
def RuleDraw (p : Position) (s : SState) (ply : Int) : Prop :=
  ply ≠ 0 ∧ (p.halfmoves ≥ 100 ∨ repCount s.hist p.halfmoves p.hash ≥ 2)

/-- a node past the table probe with remaining depth `d > 0`; `pr` is the answer of its stop poll, `(a, b)` its window,
`(α₀, β₀)` the window it was called with, `ttm` the move of the table entry. From `nullFail` on the node is live:
not stopped and not drawn by rule. -/
inductive InnerRun (rec : Rec) (p : Position) (pr : Bool × SState) (α₀ β₀ a b ply d : Int) (cn : Bool)
    (ttm : Option Mv) : Option (Int × SState) → Prop
  | stopped : pr.1 = true → InnerRun rec p pr α₀ β₀ a b ply d cn ttm (some (0, pr.2))
  | draw : pr.1 = false → RuleDraw p pr.2 ply → InnerRun rec p pr α₀ β₀ a b ply d cn ttm (some (Gen.DRAW_SCORE, pr.2))
  | futility : pr.1 = false → ¬ RuleDraw p pr.2 ply → β₀ = α₀ + 1 → p.inCheck = false → d < 4 → eval p - 100 * d ≥ b →
      InnerRun rec p pr α₀ β₀ a b ply d cn ttm (some (eval p - 100 * d, pr.2))
  | nullFail : pr.1 = false → ¬ RuleDraw p pr.2 ply → NullTried p ply d cn → nullCall rec p pr.2 b ply d = none →
      InnerRun rec p pr α₀ β₀ a b ply d cn ttm none
  | nullCut {sc : Int} {s3 : SState} : pr.1 = false → ¬ RuleDraw p pr.2 ply → NullTried p ply d cn →
      nullCall rec p pr.2 b ply d = some (sc, s3) → -sc ≥ b →
      InnerRun rec p pr α₀ β₀ a b ply d cn ttm (some (-sc, s3.pop))
  | sortFail {s2 : SState} : pr.1 = false → ¬ RuleDraw p pr.2 ply → NullPass rec p pr.2 b ply d cn s2 →
      sortNm p (legalMoves p) ttm = none → InnerRun rec p pr α₀ β₀ a b ply d cn ttm none
  | loopFail {s2 : SState} {moves : List Mv} : pr.1 = false → ¬ RuleDraw p pr.2 ply →
      NullPass rec p pr.2 b ply d cn s2 → sortNm p (legalMoves p) ttm = some moves →
      nmLoop rec p b ply d p.inCheck moves 0 s2 a (-Gen.INF) none = none →
      InnerRun rec p pr α₀ β₀ a b ply d cn ttm none
  | noMove {s2 s3 : SState} {moves : List Mv} {a3 best : Int} : pr.1 = false → ¬ RuleDraw p pr.2 ply →
      NullPass rec p pr.2 b ply d cn s2 → sortNm p (legalMoves p) ttm = some moves →
      nmLoop rec p b ply d p.inCheck moves 0 s2 a (-Gen.INF) none = some (s3, a3, best, none) →
      InnerRun rec p pr α₀ β₀ a b ply d cn ttm (some (if p.inCheck then -Gen.MATE_SCORE + ply else Gen.DRAW_SCORE, s3))
  | store {s2 s3 : SState} {moves : List Mv} {a3 best : Int} {bm : Mv} {tt' : Table TTEntry} : pr.1 = false →
      ¬ RuleDraw p pr.2 ply → NullPass rec p pr.2 b ply d cn s2 → sortNm p (legalMoves p) ttm = some moves →
      nmLoop rec p b ply d p.inCheck moves 0 s2 a (-Gen.INF) none = some (s3, a3, best, some bm) →
      s3.tt.add p.hash.toNat ⟨p.hash, bm, best, d, if best ≤ α₀ then 2 else if best ≥ b then 1 else 0⟩ = some tt' →
      InnerRun rec p pr α₀ β₀ a b ply d cn ttm (some (best, { s3 with tt := tt', best := some bm }))

inductive NodeRun (lim : Limit) (rec : Rec) (p : Position) (st : SState) (α β ply depth : Int) (cn : Bool) :
    Option (Int × SState) → Prop
  | ttCut {tte : TTEntry} {v a b : Int} : st.tt.poll p.hash.toNat = some tte →
      ttProbe tte p α β ply (extDepth p depth) = (some v, a, b) →
      NodeRun lim rec p st α β ply depth cn (some (v, st.enter ply))
  | quiesce {tte : TTEntry} {a b v : Int} {q : QState} : st.tt.poll p.hash.toNat = some tte →
      ttProbe tte p α β ply (extDepth p depth) = (none, a, b) → extDepth p depth ≤ 0 →
      qsearch qFuel p ⟨(st.enter ply).seldepth, st.nodes⟩ a b ply = some (v, q) →
      NodeRun lim rec p st α β ply depth cn (some (v, { st.enter ply with seldepth := q.seldepth, nodes := q.nodes }))
  | quiesceFail {tte : TTEntry} {a b : Int} : st.tt.poll p.hash.toNat = some tte →
      ttProbe tte p α β ply (extDepth p depth) = (none, a, b) → extDepth p depth ≤ 0 →
      qsearch qFuel p ⟨(st.enter ply).seldepth, st.nodes⟩ a b ply = none → NodeRun lim rec p st α β ply depth cn none
  | inner {tte : TTEntry} {a b : Int} {r : Option (Int × SState)} : st.tt.poll p.hash.toNat = some tte →
      ttProbe tte p α β ply (extDepth p depth) = (none, a, b) → 0 < extDepth p depth →
      InnerRun rec p (nodePoll lim ply (st.enter ply)) α β a b ply (extDepth p depth) cn
        (if tte.hash == p.hash then some tte.mv else none) r →
      NodeRun lim rec p st α β ply depth cn r

theorem ruleDraw_iff (p : Position) (s : SState) (ply : Int) :
    (!(ply == 0) && (decide (p.halfmoves ≥ 100) ||
      decide (repCount s.hist p.halfmoves p.hash ≥ if (ply == 0) = true then 3 else 2))) = true ↔ RuleDraw p s ply := by
  unfold RuleDraw
  by_cases h : ply = 0 <;> simp [h]

theorem nullTried_iff (p : Position) (ply d : Int) (cn : Bool) :
    (!(ply == 0) && cn && decide (d > 2) && !p.inCheck && !isEndgame p) = true ↔ NullTried p ply d cn := by
  unfold NullTried
  simp [and_assoc]

theorem negamax_succ_run (lim : Limit) (f : Nat) (p : Position) (st : SState) (α β ply depth : Int) (cn : Bool) :
    NodeRun lim (negamax lim f) p st α β ply depth cn (negamax lim (f + 1) p st α β ply depth cn) := by
  obtain ⟨tte, hp⟩ := Table.poll_ne_none st.tt p.hash.toNat
  simp only [negamax, hp]
  change NodeRun lim (negamax lim f) p st α β ply depth cn
    (match ttProbe tte p α β ply (extDepth p depth) with
      | (some v, _, _) => some (v, st.enter ply)
      | (none, a, b) => _)
  cases hc : ttProbe tte p α β ply (extDepth p depth) with
  | mk ov w =>
  obtain ⟨a, b⟩ := w
  cases ov with
  | some v => exact .ttCut hp hc
  | none =>
  simp only []
  refine ite_run (fun hd => ?_) (fun hd => ?_)
  · generalize hq : qsearch _ _ _ _ _ _ = q
    rcases q with _ | ⟨v, q⟩
    · exact .quiesceFail hp hc hd hq
    · exact .quiesce hp hc hd hq
  refine .inner hp hc (Int.not_le.1 hd) ?_
  clear hd hc
  generalize hpr : (ite (_ = true) (shouldStop lim _) (false, _) : Bool × SState) = pr
  rw [show nodePoll lim ply (st.enter ply) = pr from hpr]
  clear hpr
  generalize (if (tte.hash == p.hash) = true then some tte.mv else none) = ttm
  have hdd : (if p.inCheck = true then depth + 1 else depth) = extDepth p depth := rfl
  simp only [hdd]
  generalize extDepth p depth = d
  obtain ⟨stop, s1⟩ := pr
  simp only []
  refine ite_run (fun hs => .stopped hs) (fun hs => ?_)
  have hs : stop = false := by simpa using hs
  refine ite_run (fun h => .draw hs ((ruleDraw_iff p s1 ply).1 h)) (fun hdr => ?_)
  rw [ruleDraw_iff] at hdr
  refine ite_run (fun h => ?_) (fun _ => ?_)
  · simp only [Bool.and_eq_true, Bool.not_eq_true', bne_eq_false_iff_eq, decide_eq_true_eq] at h
    exact .futility hs hdr h.1.1.1 h.1.1.2 h.1.2 h.2
  generalize hnr : (ite (_ = true) _ _ : Option (Option Int × SState)) = nr
  have hnull : (nr = none ∧ NullTried p ply d cn ∧ nullCall (negamax lim f) p s1 b ply d = none) ∨
      (∃ sc s3, nr = some (some (-sc), s3.pop) ∧ NullTried p ply d cn ∧
        nullCall (negamax lim f) p s1 b ply d = some (sc, s3) ∧ -sc ≥ b) ∨
      ∃ s2, nr = some (none, s2) ∧ NullPass (negamax lim f) p s1 b ply d cn s2 := by
    by_cases h : NullTried p ply d cn
    · rw [if_pos ((nullTried_iff p ply d cn).2 h)] at hnr
      generalize hn : negamax lim f _ _ _ _ _ _ _ = r at hnr
      rcases r with _ | ⟨sc, s3⟩
      · exact Or.inl ⟨hnr.symm, h, hn⟩
      · by_cases hge : -sc ≥ b
        · exact Or.inr (Or.inl ⟨sc, s3, by rw [← hnr]; exact if_pos hge, h, hn, hge⟩)
        · exact Or.inr (Or.inr ⟨s3.pop, by rw [← hnr]; exact if_neg hge, .low h hn (by omega)⟩)
    · rw [if_neg (mt (nullTried_iff p ply d cn).1 h)] at hnr
      exact Or.inr (Or.inr ⟨s1, hnr.symm, .skip h⟩)
  clear hnr
  rcases hnull with ⟨rfl, ht, hn⟩ | ⟨sc, s3, rfl, ht, hn, hge⟩ | ⟨s2, rfl, hpass⟩
  · exact .nullFail hs hdr ht hn
  · exact .nullCut hs hdr ht hn hge
  simp only []
  cases hsort : sortNm p (legalMoves p) ttm with
  | none => exact .sortFail hs hdr hpass hsort
  | some moves =>
  simp only []
  cases hloop : nmLoop (negamax lim f) p b ply d p.inCheck moves 0 s2 a (-Gen.INF) none with
  | none => exact .loopFail hs hdr hpass hsort hloop
  | some r =>
  obtain ⟨s3, a3, best, bm⟩ := r
  cases bm with
  | none => exact .noMove hs hdr hpass hsort hloop
  | some bm =>
    simp only []
    obtain ⟨tt', hadd⟩ := Table.add_ne_none s3.tt p.hash.toNat
      ⟨p.hash, bm, best, d, if best ≤ α then 2 else if best ≥ b then 1 else 0⟩
    rw [hadd]
    exact .store hs hdr hpass hsort hloop hadd

/-- what a returning root call (`ply = 0`, full window, no null move, depth ≥ 1 after the check extension) has done:
it was stopped by its poll, or it ordered the moves, ran the move loop from `(-INF, -INF, none)` in the polled state and
stored its entry if a move was found. -/
inductive RootRun (lim : Limit) (rec : Rec) (p : Position) (st : SState) (depth : Int) : Int → SState → Prop
  | stopped : (nodePoll lim 0 (st.enter 0)).1 = true → RootRun lim rec p st depth 0 (nodePoll lim 0 (st.enter 0)).2
  | noMove {ttm : Option Mv} {moves : List Mv} {s3 : SState} {a3 best : Int} : (nodePoll lim 0 (st.enter 0)).1 = false →
      sortNm p (legalMoves p) ttm = some moves →
      nmLoop rec p Gen.INF 0 (extDepth p depth) p.inCheck moves 0 (nodePoll lim 0 (st.enter 0)).2 (-Gen.INF) (-Gen.INF) none =
        some (s3, a3, best, none) →
      RootRun lim rec p st depth (if p.inCheck then -Gen.MATE_SCORE + 0 else Gen.DRAW_SCORE) s3
  | store {ttm : Option Mv} {moves : List Mv} {s3 : SState} {a3 best : Int} {bm : Mv} {tt' : Table TTEntry} :
      (nodePoll lim 0 (st.enter 0)).1 = false → sortNm p (legalMoves p) ttm = some moves →
      nmLoop rec p Gen.INF 0 (extDepth p depth) p.inCheck moves 0 (nodePoll lim 0 (st.enter 0)).2 (-Gen.INF) (-Gen.INF) none =
        some (s3, a3, best, some bm) →
      s3.tt.add p.hash.toNat
        ⟨p.hash, bm, best, extDepth p depth, if best ≤ -Gen.INF then 2 else if best ≥ Gen.INF then 1 else 0⟩ = some tt' →
      RootRun lim rec p st depth best { s3 with tt := tt', best := some bm }

theorem NullPass.root {rec : Rec} {p : Position} {s s2 : SState} {b d : Int} {cn : Bool}
    (h : NullPass rec p s b 0 d cn s2) : s2 = s := by
  cases h with
  | skip => rfl
  | low ht => exact absurd rfl ht.1

theorem NodeRun.root {lim : Limit} {rec : Rec} {p : Position} {st : SState} {depth v : Int} {st' : SState}
    (hd : 1 ≤ extDepth p depth) (h : NodeRun lim rec p st (-Gen.INF) Gen.INF 0 depth false (some (v, st'))) :
    RootRun lim rec p st depth v st' := by
  cases h with
  | ttCut _ hc => exact absurd rfl (ttProbe_some hc).2.2
  | quiesce _ _ hd0 => omega
  | inner _ hc _ hin =>
    rw [ttProbe_root] at hc
    cases hc
    cases hin with
    | stopped hs => exact .stopped hs
    | draw _ hdr => exact absurd rfl hdr.1
    | futility _ _ hpv => exact absurd hpv (by decide)
    | nullCut _ _ ht => exact absurd rfl ht.1
    | noMove hs _ hp hsort hloop => cases hp.root; exact .noMove hs hsort hloop
    | store hs _ hp hsort hloop hadd => cases hp.root; exact .store hs hsort hloop hadd

theorem negamax_root_some {lim : Limit} {f : Nat} {p : Position} {st : SState} {depth : Int}
    (hd : 1 ≤ extDepth p depth) (hlen : (legalMoves p).length ≤ Gen.orderBufNegamax)
    (hloop : ∀ ttm moves, sortNm p (legalMoves p) ttm = some moves →
      nmLoop (negamax lim f) p Gen.INF 0 (extDepth p depth) p.inCheck moves 0 (nodePoll lim 0 (st.enter 0)).2
        (-Gen.INF) (-Gen.INF) none ≠ none) :
    ∃ v st', negamax lim (f + 1) p st (-Gen.INF) Gen.INF 0 depth false = some (v, st') := by
  have hrun := negamax_succ_run lim f p st (-Gen.INF) Gen.INF 0 depth false
  generalize negamax lim (f + 1) p st (-Gen.INF) Gen.INF 0 depth false = r at hrun
  cases hrun with
  | quiesceFail _ _ hd0 => omega
  | inner _ hc _ hin =>
    rw [ttProbe_root] at hc
    cases hc
    cases hin with
    | nullFail _ _ ht => exact absurd rfl ht.1
    | sortFail _ _ _ hs =>
      obtain ⟨l, hl⟩ := sortNm_isSome p (legalMoves p) _ hlen
      rw [hl] at hs
      cases hs
    | loopFail _ _ hp hs hl =>
      cases hp.root
      exact absurd hl (hloop _ _ hs)
    | _ => exact ⟨_, _, rfl⟩
  | _ => exact ⟨_, _, rfl⟩

/-- the state on which the root's stop poll is evaluated: `st.enter 0`, written out. -/
def rootPollState (st : SState) : SState := { st with seldepth := max st.seldepth 0 }

def RootStopped (lim : Limit) (st : SState) : Prop :=
  1 < st.depth ∧ (shouldStop lim (rootPollState st)).1 = true

theorem nodePoll_root (lim : Limit) (st : SState) :
    (RootStopped lim st ∧ nodePoll lim 0 (st.enter 0) = (true, (shouldStop lim (rootPollState st)).2)) ∨
    (¬ RootStopped lim st ∧ (nodePoll lim 0 (st.enter 0)).1 = false ∧
      (nodePoll lim 0 (st.enter 0)).2.tt = st.tt ∧ (nodePoll lim 0 (st.enter 0)).2.best = st.best) := by
  unfold nodePoll RootStopped
  by_cases hdd : st.depth ≤ 1
  · rw [if_neg (by simp [SState.enter, hdd])]
    exact Or.inr ⟨fun h => by omega, rfl, rfl, rfl⟩
  · rw [if_pos (by simp [SState.enter, hdd])]
    cases hs : (shouldStop lim (rootPollState st)).1 with
    | true => exact Or.inl ⟨⟨by omega, rfl⟩, Prod.ext hs rfl⟩
    | false => exact Or.inr ⟨fun h => (by cases h.2), hs, rfl, rfl⟩

theorem negamax_root_stopped (lim : Limit) (fuel : Nat) (p : Position) (st : SState) (depth : Int)
    (hd : 1 ≤ extDepth p depth) (hs : RootStopped lim st) :
    negamax lim (fuel + 1) p st (-Gen.INF) Gen.INF 0 depth false = some (0, (shouldStop lim (rootPollState st)).2) := by
  have hrun := negamax_succ_run lim fuel p st (-Gen.INF) Gen.INF 0 depth false
  generalize negamax lim (fuel + 1) p st (-Gen.INF) Gen.INF 0 depth false = r at hrun
  rcases nodePoll_root lim st with ⟨_, hpoll⟩ | ⟨hn, _⟩
  · cases hrun with
    | ttCut _ hc => exact absurd rfl (ttProbe_some hc).2.2
    | quiesce _ _ hd0 => omega
    | quiesceFail _ _ hd0 => omega
    | inner _ _ _ hin =>
      rw [hpoll] at hin
      cases hin with
      | stopped => rfl
      | draw h | futility h | nullFail h | nullCut h | sortFail h | loopFail h | noMove h | store h => cases h
  · exact absurd hs hn

end Rawr
