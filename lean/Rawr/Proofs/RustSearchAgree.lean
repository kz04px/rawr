import Rawr.Generated.RustSearch

/-!
# The hand-written model agrees with the SEARCH-side functions regenerated from the Rust source

`Rawr/Generated/RustSearch.lean` is rewritten by `tools/rust2lean_search.py` from /repo on every run: each `R.<fn>` is
compiled statement by statement from the Rust body.  The theorems say that the model definition IS the regenerated one.
This file has score.rs and hashtable.rs, which need no agreement of the move generator; perft.rs is in
`RustSearchAgree_Perft.lean`, the sorts of qsearch.rs / negamax.rs in `_Sort`, their bodies in `_QSearch` and
`_Negamax`, root.rs in `_Root`.

`u64` node counters are `Nat` on both sides (the model does not wrap at 2^64).
-/
namespace Rawr

/-! ## score.rs (`Score(mg, eg)` is `Int × Int`; these are the primitives the eval translation uses) -/
theorem agree_score_mg : @R.score_mg = fun s => s.1 := rfl
theorem agree_score_eg : @R.score_eg = fun s => s.2 := rfl
theorem agree_score_default : R.score_default = ((0, 0) : Score) := rfl
theorem agree_score_add : @R.score_add = @Score.add := rfl
theorem agree_score_sub : @R.score_sub = @Score.sub := rfl
theorem agree_score_mul : @R.score_mul = @Score.mul := rfl
/-- `impl Mul<Score> for i32`: the scalar on the left. -/
theorem agree_score_mul_i32 : @R.score_mul_i32 = fun n s => Score.mul s n := by
  funext n s
  simp only [R.score_mul_i32, Score.mul, Int.mul_comm]
theorem agree_score_add_assign : @R.score_add_assign = @Score.add := rfl
theorem agree_score_sub_assign : @R.score_sub_assign = @Score.sub := rfl

/-! ## hashtable.rs -/
namespace Table
variable {α : Type}

theorem isEmpty_false (a : Array α) (h : ¬ a.size = 0) : Array.isEmpty a = false := by
  simp [Array.isEmpty, h]

theorem agree_tt_get_idx (t : Table α) (key : Nat) : R.tt_get_idx t key = t.idx key := by
  unfold R.tt_get_idx R.checkedMod Table.idx
  split <;> simp_all

theorem agree_tt_poll [Inhabited α] (t : Table α) (key : Nat) : R.tt_poll t key = t.poll key := by
  unfold R.tt_poll Table.poll
  rw [agree_tt_get_idx]
  unfold Table.idx
  by_cases h : t.entries.size = 0
  · simp [h, Array.isEmpty]
  · simp only [h, if_false, isEmpty_false t.entries h, Bool.false_eq_true]
    cases t.entries[key % t.entries.size]? <;> rfl

theorem agree_tt_add (t : Table α) (key : Nat) (e : α) : R.tt_add t key e = t.add key e := by
  unfold R.tt_add Table.add
  rw [agree_tt_get_idx]
  unfold Table.idx
  by_cases h : t.entries.size = 0
  · simp [h, Array.isEmpty]
  · have hlt : key % t.entries.size < t.entries.size := Nat.mod_lt _ (Nat.pos_of_ne_zero h)
    simp only [h, if_false, isEmpty_false t.entries h, Bool.false_eq_true, R.Arr.set, hlt, if_true]

theorem agree_tt_len : @R.tt_len α = @Table.len α := rfl

section
-- the bounds of `impl<T: Copy + Default + PartialEq> Hashtable<T>`
variable [Inhabited α] [DecidableEq α]
set_option linter.unusedSectionVars false in
theorem agree_tt_clear : @R.tt_clear α _ = @Table.clear α _ := rfl
end

/-- `size_of::<T>()` is never 0 for the entry type (24 bytes); with a zero-sized type the Rust code divides by zero. -/
theorem agree_tt_resize [Inhabited α] (t : Table α) (mb es : Nat) (hes : es ≠ 0) :
    R.tt_resize t mb es = some (t.resize mb es) := by
  unfold R.tt_resize R.checkedDiv Table.resize Table.numEntries R.Arr.resize
  simp only [hes, if_false]
  split <;> rfl

theorem agree_tt_new [Inhabited α] (mb es : Nat) (hes : es ≠ 0) :
    R.tt_new (α := α) mb es = some (Table.new mb es) := by
  unfold R.tt_new Table.new
  simp only [agree_tt_resize _ _ _ hes]

/-- the counting loop of `hashfull` (an `i32` counter in Rust, a list length in the model). -/
theorem hashfull_loop [Inhabited α] [DecidableEq α] (t : Table α) (l : List Nat) (hl : ∀ i ∈ l, i < t.entries.size) (acc : Int) :
    R.tt_hashfull_loop1 t l acc =
      some (acc + (((l.filter fun i => t.entries[i]! ≠ default).length : Nat) : Int)) := by
  induction l generalizing acc with
  | nil => simp [R.tt_hashfull_loop1]
  | cons i l ih =>
    have hi : i < t.entries.size := hl i (by simp)
    unfold R.tt_hashfull_loop1
    simp only [Array.getElem?_eq_getElem hi]
    rw [ih (fun j hj => hl j (by simp [hj]))]
    simp only [List.filter_cons, getElem!_pos t.entries i hi]
    by_cases hd : t.entries[i] = default
    · simp [hd]
    · simp [hd]; omega

theorem filter_range_extract [Inhabited α] (a : Array α) (n : Nat) (hn : n ≤ a.size) (q : α → Bool) :
    ((List.range n).filter fun i => q a[i]!).length = ((a.extract 0 n).toList.filter q).length := by
  have : (a.extract 0 n).toList = (List.range n).map (fun i => a[i]!) := by
    apply List.ext_getElem
    · simp; omega
    · intro i h1 h2
      simp at h1 h2
      simp [getElem!_pos a i (by omega)]
  rw [this, List.filter_map, List.length_map]
  rfl

theorem agree_tt_hashfull [Inhabited α] [DecidableEq α] (t : Table α) : R.tt_hashfull t = some (t.hashfull.map Int.ofNat) := by
  unfold R.tt_hashfull Table.hashfull
  by_cases h : min t.entries.size 1000 = 0
  · simp [h]
  · have hb : (min t.entries.size 1000 == 0) = false := by simpa using h
    simp only [hb, Bool.false_eq_true, if_false, h]
    rw [hashfull_loop t _ (fun i hi => by simp at hi; omega)]
    simp only [Int.zero_add, Option.map_some]
    rw [filter_range_extract t.entries _ (Nat.min_le_left _ _) (fun e => decide (e ≠ default))]
    rfl

end Table

/-! non-vacuity: the regenerated functions compute -/
example : R.perft 3 Gen.startpos 1 = some 20 := by decide +kernel
example : R.tt_poll (R.tt_clear (⟨#[1, 2, 3]⟩ : Table Nat)) 5 = some 0 := by decide

end Rawr

#print axioms Rawr.agree_score_mul_i32
#print axioms Rawr.Table.agree_tt_get_idx
#print axioms Rawr.Table.agree_tt_poll
#print axioms Rawr.Table.agree_tt_add
#print axioms Rawr.Table.agree_tt_len
#print axioms Rawr.Table.agree_tt_clear
#print axioms Rawr.Table.agree_tt_resize
#print axioms Rawr.Table.agree_tt_new
#print axioms Rawr.Table.agree_tt_hashfull
