import Rawr.Proofs.SpecSanityMirrorA
/-!
# Sanity of the specification, part 1 (b): `Spec.apply` commutes with the colour mirror
-/
namespace Rawr.SpecS
open Rawr.Spec Rawr.Att Rawr.SV

theorem flip_kind (pc : Piece) : (flipPiece pc).kind = pc.kind := rfl
theorem flip_white (pc : Piece) : (flipPiece pc).white = !pc.white := rfl

theorem beq_not_not (x y : Bool) : ((!x) == (!y)) = (x == y) := by cases x <;> cases y <;> rfl

theorem lostCore_mirror (r : Option Nat) (hr : ∀ f, r = some f → f < 8) (c w : Bool) (s t : Nat) (km : Bool) :
    lostCore r ((!c) == (!w)) (homeRank (!c)) (s ^^^ 56) (t ^^^ 56) km =
      lostCore r (c == w) (homeRank c) s t km := by
  rw [beq_not_not]
  cases r with
  | none => rfl
  | some f =>
    unfold lostCore
    simp only
    rw [sq_home_mirror (hr f rfl) c, x56_beq, x56_beq]

/-- the square a double pawn step passes over, mirrored. -/
theorem mid_rank_mirror {x y : Int} (h : (y - x).natAbs = 2) :
    (7 - x + (7 - y)) / 2 = 7 - (x + y) / 2 := by omega

theorem newPiece_flip (pr : Option Kind) (pc : Piece) :
    (match pr with | some k => (⟨(flipPiece pc).white, k⟩ : Piece) | none => flipPiece pc) =
      flipPiece (match pr with | some k => ⟨pc.white, k⟩ | none => pc) := by
  cases pr <;> rfl

theorem apply_mirror_normal (a : APos) (hR : RightsOK a) {s t : Nat} (hs : s < 64) (ht : t < 64)
    (pr : Option Kind) :
    EqModFull (apply (mirrorA a) (.normal (s ^^^ 56) (t ^^^ 56) pr)) (mirrorA (apply a (.normal s t pr))) := by
  cases hb : a.board s with
  | none =>
    have hb' : (mirrorA a).board (s ^^^ 56) = none := by
      rw [mirrorA_at, hb]; rfl
    rw [apply_normal_none hb, apply_normal_none hb']
    exact EqModFull.refl _
  | some pc =>
    have hb' : (mirrorA a).board (s ^^^ 56) = some (flipPiece pc) := by
      rw [mirrorA_at, hb]; rfl
    rw [apply_normal hb, apply_normal hb', eqModFull_iff]
    have fs := file_x56 s
    have ft := file_x56 t
    have rs := rank_x56 hs
    have rt := rank_x56 ht
    have hbs := rank_bounds hs
    have hbt := rank_bounds ht
    have hfs := file_bounds s
    have hft := file_bounds t
    have hsome : (mirrorB a.board (t ^^^ 56)).isSome = (a.board t).isSome := mirrorB_isSome a.board t
    have hvic : sq (file (t ^^^ 56)) (rank (s ^^^ 56)) = sq (file t) (rank s) ^^^ 56 := by
      rw [ft, rs]
      apply sq_mirror
      rw [onBoard_iff]; omega
    refine ⟨?_, rfl, ?_, ?_, ?_, ?_, ?_, ?_⟩
    · rw [hvic]
      simp only [mirrorA, flip_kind, fs, ft, hsome]
      rw [mirrorB_setSq]
      have eb : (if (pc.kind == Kind.pawn && file s != file t && !(a.board t).isSome) = true then
            setSq (setSq (mirrorB a.board) (s ^^^ 56) none) (sq (file t) (rank s) ^^^ 56) none
          else setSq (mirrorB a.board) (s ^^^ 56) none) =
          mirrorB (if (pc.kind == Kind.pawn && file s != file t && !(a.board t).isSome) = true then
            setSq (setSq a.board s none) (sq (file t) (rank s)) none else setSq a.board s none) := by
        split
        · rw [mirrorB_setSq, mirrorB_setSq]; rfl
        · rw [mirrorB_setSq]; rfl
      rw [eb]
      cases pr <;> rfl
    · exact lostCore_mirror a.bK (fun f h => hR false true f h) false a.whiteToMove s t _
    · exact lostCore_mirror a.bQ (fun f h => hR false false f h) false a.whiteToMove s t _
    · exact lostCore_mirror a.wK (fun f h => hR true true f h) true a.whiteToMove s t _
    · exact lostCore_mirror a.wQ (fun f h => hR true false f h) true a.whiteToMove s t _
    · simp only [mirrorA, flip_kind, fs, rs, rt]
      rw [show 7 - rank t - (7 - rank s) = -(rank t - rank s) by omega, Int.natAbs_neg]
      split
      · next hc =>
        simp only [Bool.and_eq_true, beq_iff_eq] at hc
        simp only [Option.map_some]
        congr 1
        rw [mid_rank_mirror hc.2]
        apply sq_mirror
        rw [onBoard_iff]; omega
      · rfl
    · simp only [mirrorA, flip_kind, hsome]

theorem apply_mirror_castle (a : APos) {ks : Bool} {rf k : Nat} (hrf : rf < 8)
    (hr : right a a.whiteToMove ks = some rf) (hk : kingSquares a.board a.whiteToMove = [k]) :
    EqModFull (apply (mirrorA a) (.castle ks)) (mirrorA (apply a (.castle ks))) := by
  have hr' : right (mirrorA a) (mirrorA a).whiteToMove ks = some rf :=
    (right_mirror_mover a ks).trans hr
  have hk' : kingSquares (mirrorA a).board (mirrorA a).whiteToMove = [k ^^^ 56] :=
    kingSquares_mirror_singleton hk
  rw [apply_castle hr hk, apply_castle hr' hk', eqModFull_iff]
  refine ⟨?_, rfl, ?_, ?_, ?_, ?_, rfl, rfl⟩
  · simp only [mirrorA]
    rw [sq_home_mirror hrf, sq_home_mirror' _ (by split <;> omega) (by split <;> omega),
      sq_home_mirror' _ (by split <;> omega) (by split <;> omega)]
    rw [mirrorB_setSq, mirrorB_setSq, mirrorB_setSq, mirrorB_setSq]
    rfl
  · simp only [mirrorA]; rcases Bool.eq_false_or_eq_true a.whiteToMove with h | h <;> simp [h]
  · simp only [mirrorA]; rcases Bool.eq_false_or_eq_true a.whiteToMove with h | h <;> simp [h]
  · simp only [mirrorA]; rcases Bool.eq_false_or_eq_true a.whiteToMove with h | h <;> simp [h]
  · simp only [mirrorA]; rcases Bool.eq_false_or_eq_true a.whiteToMove with h | h <;> simp [h]

theorem apply_mirror {a : APos} (hR : RightsOK a) {m : Move} (hm : m ∈ legalMoves a) :
    EqModFull (apply (mirrorA a) (mirrorMove m)) (mirrorA (apply a m)) := by
  rcases legal_cases hm with ⟨s, t, pr, pc, e, nl, _⟩ | ⟨ks, e, hc⟩
  · subst e
    exact apply_mirror_normal a hR nl.hs nl.ht pr
  · subst e
    obtain ⟨rf, k, cf⟩ := castle_facts hc
    exact apply_mirror_castle a (hR _ _ _ cf.hr) cf.hr cf.hk

end Rawr.SpecS
