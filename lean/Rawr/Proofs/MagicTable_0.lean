import Rawr.Proofs.MagicCheck
/-! C10 table check, squares 0 to 15: every row evaluated by the kernel. The statements do not mention
any table content, so a changed table or magic makes these proofs fail. -/
namespace Rawr.MagicTable
theorem bishops_0 : (List.range' 0 16).all checkB = true := by decide +kernel
theorem rooks_0 : (List.range' 0 16).all checkR = true := by decide +kernel
end Rawr.MagicTable
