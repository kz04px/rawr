import Rawr.Proofs.RustSessionAgree_Info
import Rawr.Proofs.RustTextAgree_Go
import Rawr.Proofs.RustTextAgree_Uci
import Rawr.Proofs.UciGo
/-!
# uci/perft.rs, uci/split.rs regenerated from the Rust source agree with the `perft` / `split` branches of the model's
`doGo`, modulo the canonicalisation of the clock-dependent words and lines
-/
namespace Rawr.Sess
open T

/-- a printed line of two words `k v`; `b` holds its canonical form, or nothing if the line is dropped. -/
theorem Out.two_words (a : String) (b : List String) (k v : List Char) (ha : a.toList = k ++ ' ' :: v) (hk : Word k) (hv : Word v)
    (hc : (canonLine (k ++ ' ' :: v)).toList = b.map String.toList) : Out (T.line a) b := by
  refine ⟨[k ++ ' ' :: v], by simp [T.line, unl, ha], ?_, ?_⟩
  · intro l hl
    rw [List.mem_singleton.1 hl]
    simp only [List.mem_append, List.mem_cons, not_or]
    exact ⟨hk.2, by decide, hv.2⟩
  · rw [← hc]
    cases h : canonLine (k ++ ' ' :: v) <;> simp [h]

/-- a command that leaves the position `p` alone: the model prints `m` (`none`: panic), the regenerated code returns `x`.

`@[irreducible]`, like the relations of this shape that follow (`SplitRel`, `GoRel`, `StepRel`, `LoopRel`, `FirstRel`):
where an `exact` has to match two instances whose arguments are not syntactically equal, the unifier would otherwise
unfold the relation and evaluate the model's run and the regenerated function under its `match` (`agree_go` runs out of
heartbeats in `whnf` without the attribute).  A proof that needs the content says `unfold` and splits on `m`. -/
@[irreducible] def CmdRel (p : Position) (m : Option (List String)) (x : Option (Position × List Char)) : Prop :=
  match m with
  | none => x = none
  | some L => ∃ s, x = some (p, s) ∧ Out s L

/-- the `info depth i nodes n time t [nps x]` line of perft.rs. -/
theorem perft_info_out (i n t : Nat) (x : Option Nat) (a : String)
    (ha : a = "info depth " ++ toString i ++ " nodes " ++ toString n ++ " time " ++ toString t ++
      (match x with | some v => " nps " ++ toString v | none => "")) :
    Out (T.line a) [s!"info depth {i} nodes {n} time ?"] := by
  have hs : a.toList = joinSp (wInfo :: wDepth :: ([(toString i).toList, wNodes, (toString n).toList] ++
      wTime :: (toString t).toList :: (npsWords (x.map fun v => (toString v).toList) ++ []))) := by
    rw [ha, joinSp_eq]
    cases x <;>
      simp only [String.toList_append, String.reduceToList, tailSp_cons, tailSp_nil, npsWords, Option.map_none, Option.map_some,
        wInfo, wDepth, wNodes, wTime, wNps, List.cons_append, List.nil_append, List.append_assoc, List.append_nil]
  rw [T.line, hs]
  refine Out.info_line _ _ _ _ _ ?_ ?_ (fun _ h => nomatch h) (numChars_nat t).word ?_
  · rw [joinSp_eq]
    simp only [String.toList_append, String.reduceToList, tailSp_cons, tailSp_nil, hts, wInfo, wDepth, wNodes, wTime,
      List.cons_append, List.nil_append, List.append_assoc, List.append_nil]
  · intro w hw
    simp only [List.mem_cons, List.not_mem_nil, or_false] at hw
    rcases hw with rfl | rfl | rfl
    · exact word_plain_num (numChars_nat i)
    · exact ⟨by constructor <;> decide, by constructor <;> decide⟩
    · exact word_plain_num (numChars_nat n)
  · intro v hv
    cases x with
    | none => cases hv
    | some u => cases hv; exact (numChars_nat u).word

/-- `nodes` begins none of the prefixes `nps `, `time `, `id name Rawr `, `info depth `. -/
theorem nodes_out (n : Nat) : Out (T.line ("nodes " ++ toString n)) [s!"nodes {n}"] :=
  Out.two_words _ _ wNodes (toString n).toList (by rw [String.toList_append]; rfl) (word_lit _ rfl) (numChars_nat n).word
    (by simp [wNodes, canonLine, List.isPrefixOf, pfxId, pfxInfo, hts, String.toList_append])

/-- what one iteration of perft.rs prints. -/
def perftOut (clock : Nat → Nat) (tick i n d : Nat) : List Char :=
  T.line (if clock tick == 0 then
      "info depth " ++ toString i ++ " nodes " ++ toString n ++ " time " ++ toString (clock tick / 1000000)
    else "info depth " ++ toString i ++ " nodes " ++ toString n ++ " time " ++ toString (clock tick / 1000000) ++ " nps " ++
      toString (F64.toU64 (F64.div (F64.ofNat n) (F64.ofNanos (clock tick))))) ++
  (if i == d then T.line ("nodes " ++ toString n) else [])

theorem perft_step_eq (fuel : Nat) (ar : Arith) (p : Position) (clock : Nat → Nat) (d i tick : Nat) (out : List Char)
    (hi : i < fuel) :
    R.uci_perft_loop1_step fuel ar p clock d i tick out =
      (perft i p).bind fun n => some (ForInStep.yield (tick + 1, out ++ perftOut clock tick i n d)) := by
  unfold R.uci_perft_loop1_step perftOut
  simp only [agree_pos_perft ar fuel i p hi, bind, pure]
  cases perft i p with
  | none => rfl
  | some n =>
    simp only [Option.bind_some]
    by_cases hz : (clock tick == 0) = true <;> by_cases hd : (i == d) = true <;> simp [hz, hd]

theorem perftOut_out (clock : Nat → Nat) (tick i n d : Nat) :
    Out (perftOut clock tick i n d) ([s!"info depth {i} nodes {n} time ?"] ++ (if i == d then [s!"nodes {n}"] else [])) := by
  unfold perftOut
  refine Out.append ?_ (ite_rel (fun _ => nodes_out n) fun _ => Out.nil)
  refine ite_run (R := fun s => Out (T.line s) _) (fun _ => perft_info_out i n (clock tick / 1000000) none _ (by simp)) fun _ => ?_
  exact perft_info_out i n (clock tick / 1000000) (some (F64.toU64 (F64.div (F64.ofNat n) (F64.ofNanos (clock tick))))) _
    (by simp [String.append_assoc])

theorem uci_perft_loop_eq (fuel : Nat) (ar : Arith) (p : Position) (clock : Nat → Nat) (d : Nat) :
    ∀ (l : List Nat) (tick : Nat) (out : List Char) (acc : List String), (∀ i ∈ l, i < fuel) → Out out acc →
      match l.foldl (perftStep p d) (some acc) with
      | none => R.uci_perft_loop1 fuel ar p clock d l tick out = none
      | some L => ∃ tick' s, R.uci_perft_loop1 fuel ar p clock d l tick out = some (tick', s) ∧ Out s L := by
  intro l
  induction l with
  | nil => intro tick out acc _ ho; exact ⟨tick, out, rfl, ho⟩
  | cons i l ih =>
    intro tick out acc hl ho
    have hi : i < fuel := hl i (by simp)
    simp only [R.uci_perft_loop1, List.forIn_cons, List.foldl_cons, perft_step_eq _ _ _ _ _ _ _ _ hi] at ih ⊢
    cases hp : perft i p with
    | none =>
      simp only [perftStep, hp, bind, Option.bind_none]
      rw [foldl_none _ (fun _ => rfl)]
      trivial
    | some n =>
      simp only [perftStep, hp, bind, Option.bind_some]
      have := ih (tick + 1) (out ++ perftOut clock tick i n d)
        (acc ++ [s!"info depth {i} nodes {n} time ?"] ++ (if i == d then [s!"nodes {n}"] else []))
        (fun x hx => hl x (by simp [hx])) (by rw [List.append_assoc]; exact ho.append (perftOut_out clock tick i n d))
      exact this

/-- **`uci::perft::perft`**: the regenerated function prints lines whose canonical form is what the model's `perft`
branch prints; it panics exactly when the model does.  The position is not changed. -/
theorem _root_.Rawr.agree_uci_perft (fuel : Nat) (ar : Arith) (clock : Nat → Nat) (p : Position) (d : Nat) (hf : d < fuel) :
    CmdRel p (perftLines p d) (R.uci_perft fuel ar clock p d) := by
  unfold CmdRel R.uci_perft perftLines
  have hr : T.range 1 (d + 1) = List.range' 1 d := by simp [T.range]
  have hl : ∀ i ∈ List.range' 1 d, i < fuel := by
    intro i hi
    simp only [List.mem_range'_1] at hi
    omega
  have := uci_perft_loop_eq fuel ar p clock d (List.range' 1 d) 0 [] [] hl Out.nil
  rw [hr]
  simp only [bind, pure]
  split at this
  · simp [this]
  · obtain ⟨tick', s, e, ho⟩ := this
    exact ⟨s, by simp [e], ho⟩

/-- the line `<move> <nodes>` of split.rs is kept. -/
theorem split_line_out (p : Position) (m : Mv) (n : Nat) (h1 : m.src < 64) (h2 : m.dst < 64) :
    Out (T.line (String.ofList (toUciChars p m) ++ " " ++ toString n)) [s!"{mvStr p m} {n}"] := by
  obtain ⟨hw, c, r, hc, c1, c2, c3⟩ := toUciChars_facts p m h1 h2
  refine Out.two_words _ _ (toUciChars p m) (toString n).toList (by simp [String.toList_append]) hw (numChars_nat n).word ?_
  rw [hc, List.cons_append, canonLine_head c _ c1 c2 c3, ← List.cons_append, ← hc]
  simp [String.toList_append, hts, mvStr, toUci]

theorem nps_line_out (x : Nat) : Out (T.line ("nps " ++ toString x)) [] :=
  Out.two_words _ _ wNps (toString x).toList (by rw [String.toList_append]; rfl) (word_lit _ rfl) (numChars_nat x).word
    (by simp [wNps, canonLine, List.isPrefixOf])

theorem time_line_out (t : Nat) : Out (T.line ("time " ++ toString t)) ["time ?"] :=
  Out.two_words _ _ wTime (toString t).toList (by rw [String.toList_append]; rfl) (word_lit _ rfl) (numChars_nat t).word
    (by simp [wTime, canonLine, List.isPrefixOf])

theorem split_step_eq (fuel : Nat) (ar : Arith) (p : Position) (d : Nat) (m : Mv) (total : Nat) (out : List Char)
    (hd : d - 1 < fuel) (h1 : m.src < 64) (h2 : m.dst < 64) :
    R.uci_split_loop1_step fuel ar p d m total out =
      (p.makemove m false).bind fun np => (perft (d - 1) np).bind fun n =>
        some (ForInStep.yield (total + n, out ++ T.line (String.ofList (toUciChars p m) ++ " " ++ toString n))) := by
  unfold R.uci_split_loop1_step
  simp only [agree_after_move, agree_to_uci m p h1 h2, bind, pure]
  cases p.makemove m false with
  | none => rfl
  | some np =>
    simp only [Option.bind_some, agree_pos_perft ar fuel (d - 1) np hd]

/-- as `CmdRel`, for the loop of split.rs with its running total. -/
@[irreducible] def SplitRel (r : Option (List String × Nat)) (x : Option (Nat × List Char)) : Prop :=
  match r with
  | none => x = none
  | some (L, tot) => ∃ s, x = some (tot, s) ∧ Out s L

theorem uci_split_loop_eq (fuel : Nat) (ar : Arith) (p : Position) (d : Nat) (hd : d - 1 < fuel) :
    ∀ (l : List Mv) (total : Nat) (out : List Char) (acc : List String), (∀ m ∈ l, m.src < 64 ∧ m.dst < 64) → Out out acc →
      SplitRel (l.foldl (splitStep p (d - 1)) (some (acc, total))) (R.uci_split_loop1 fuel ar p d l total out) := by
  unfold SplitRel
  intro l
  induction l with
  | nil => intro total out acc _ ho; exact ⟨out, rfl, ho⟩
  | cons m l ih =>
    intro total out acc hl ho
    have hm := hl m (by simp)
    simp only [R.uci_split_loop1, List.forIn_cons, List.foldl_cons, split_step_eq fuel ar p d m _ _ hd hm.1 hm.2] at ih ⊢
    cases hk : p.makemove m false with
    | none =>
      simp only [splitStep, hk, bind, Option.bind_none]
      rw [foldl_none _ (fun _ => rfl)]
      trivial
    | some np =>
      cases hp : perft (d - 1) np with
      | none =>
        simp only [splitStep, hk, hp, bind, Option.bind_some, Option.bind_none, Option.map_none]
        rw [foldl_none _ (fun _ => rfl)]
        trivial
      | some n =>
        simp only [splitStep, hk, hp, bind, Option.bind_some, Option.map_some]
        exact ih (total + n) _ (acc ++ [s!"{mvStr p m} {n}"]) (fun x hx => hl x (by simp [hx]))
          (ho.append (split_line_out p m n hm.1 hm.2))

/-- what split.rs prints after the moves. -/
def splitTail (clock : Nat → Nat) (tot : Nat) : List Char :=
  (if clock 0 == 0 then [] else T.line ("nps " ++ toString (F64.toU64 (F64.div (F64.ofNat tot) (F64.ofNanos (clock 0)))))) ++
  T.line ("time " ++ toString (clock 0 / 1000000)) ++ T.line ("nodes " ++ toString tot)

theorem uci_split_eq (fuel : Nat) (ar : Arith) (clock : Nat → Nat) (p : Position) (d : Nat) :
    R.uci_split fuel ar clock p d =
      (R.uci_split_loop1 fuel ar p d (legalMoves p) 0 []).bind fun r => some (p, r.2 ++ splitTail clock r.1) := by
  unfold R.uci_split splitTail
  simp only [agree_legal_moves, bind, pure]
  cases R.uci_split_loop1 fuel ar p d (legalMoves p) 0 [] with
  | none => rfl
  | some r =>
    simp only [Option.bind_some]
    by_cases hz : (clock 0 == 0) = true
    · simp only [hz, if_true, List.nil_append, List.append_assoc]
    · simp only [hz, Bool.false_eq_true, if_false, List.append_assoc]

theorem splitTail_out (clock : Nat → Nat) (tot : Nat) : Out (splitTail clock tot) ["time ?", s!"nodes {tot}"] := by
  unfold splitTail
  have h2 := (time_line_out (clock 0 / 1000000)).append (nodes_out tot)
  by_cases hz : (clock 0 == 0) = true
  · simp only [hz, if_true, List.nil_append]
    exact h2
  · simp only [hz, Bool.false_eq_true, if_false, List.append_assoc]
    exact (nps_line_out _).append h2

/-- **`uci::split::split`**: the regenerated function prints lines whose canonical form is what the model's `split`
branch prints (the `nps` line is dropped, `time <t>` is `time ?`); it panics exactly when the model does. -/
theorem _root_.Rawr.agree_uci_split (fuel : Nat) (ar : Arith) (clock : Nat → Nat) (p : Position) (d : Nat) (hf : d - 1 < fuel)
    (hB : MovesOnBoard p) :
    CmdRel p (splitLines p d) (R.uci_split fuel ar clock p d) := by
  rw [uci_split_eq]
  unfold splitLines
  unfold MovesOnBoard at hB
  generalize legalMoves p = l at hB ⊢
  have this := uci_split_loop_eq fuel ar p d hf l 0 [] [] hB Out.nil
  generalize l.foldl (splitStep p (d - 1)) (some ([], 0)) = r at this ⊢
  rcases r with _ | ⟨L, tot⟩
  · simp only [SplitRel] at this
    rw [this]
    simp only [CmdRel, Option.map_none, Option.bind_none]
  · simp only [SplitRel] at this
    obtain ⟨s, e, ho⟩ := this
    rw [e]
    simp only [CmdRel, Option.map_some, Option.bind_some]
    exact ⟨_, rfl, ho.append (splitTail_out clock tot)⟩

end Rawr.Sess

#print axioms Rawr.agree_uci_perft
#print axioms Rawr.agree_uci_split
