import Rawr.Proofs.RustSessionAgree_Canon
import Rawr.Proofs.RustTextAgree
/-!
# Words of the printed lines: what makes a `Word`, the printed moves (`toUciChars_facts`); the canonical form of an
`info depth ..` line (`canonLine_info`, `Out.info_line`)
-/
namespace Rawr.Sess

/-- `joinSp (w :: ws) = w ++ tailSp ws` (`joinSp_eq`), and `tailSp` distributes over `++`. -/
def tailSp (ws : List (List Char)) : List Char := ws.flatMap (' ' :: ·)

theorem tailSp_nil : tailSp [] = [] := rfl
theorem tailSp_cons (w : List Char) (ws : List (List Char)) : tailSp (w :: ws) = ' ' :: w ++ tailSp ws := by
  simp [tailSp]
theorem tailSp_append (a b : List (List Char)) : tailSp (a ++ b) = tailSp a ++ tailSp b := by simp [tailSp]

theorem joinSp_eq (w : List Char) (ws : List (List Char)) : joinSp (w :: ws) = w ++ tailSp ws := by
  induction ws generalizing w with
  | nil => simp [joinSp, tailSp]
  | cons v ws ih => rw [joinSp_cons, ih, tailSp_cons]; simp

theorem joinSp_append (w : List Char) (a b : List (List Char)) : joinSp (w :: (a ++ b)) = joinSp (w :: a) ++ tailSp b := by
  rw [joinSp_eq, joinSp_eq, tailSp_append, List.append_assoc]

/-- a word of a printed line: `splitSp` does not cut it and `linesOf` does not break it. -/
def Word (w : List Char) : Prop := ' ' ∉ w ∧ '\n' ∉ w

theorem NumChars.word {w : List Char} (h : NumChars w) : Word w :=
  ⟨fun hm => h.ne hm (by decide) rfl, fun hm => h.ne hm (by decide) rfl⟩

theorem word_lit (w : List Char) (h : (!w.contains ' ' && !w.contains '\n') = true) : Word w := by
  simp only [Bool.and_eq_true, Bool.not_eq_true', List.contains_eq_mem, decide_eq_false_iff_not] at h
  exact h

theorem nonl_joinSp (ws : List (List Char)) (h : ∀ w ∈ ws, Word w) : '\n' ∉ joinSp ws := by
  cases ws with
  | nil => simp [joinSp]
  | cons w ws =>
    rw [joinSp_eq]
    intro hm
    rcases List.mem_append.1 hm with h1 | h1
    · exact (h w (by simp)).2 h1
    · simp only [tailSp, List.mem_flatMap, List.mem_cons] at h1
      obtain ⟨v, hv, h2⟩ := h1
      rcases h2 with h2 | h2
      · exact absurd h2 (by decide)
      · exact (h v (by simp [hv])).2 h2

def wInfo : List Char := ['i', 'n', 'f', 'o']
def wDepth : List Char := ['d', 'e', 'p', 't', 'h']

def npsWords : Option (List Char) → List (List Char)
  | some v => [wNps, v]
  | none => []

theorem info_words_word (a b : List (List Char)) (t : List Char) (x : Option (List Char))
    (ha : ∀ w ∈ a, Word w ∧ Plain w) (hb : ∀ w ∈ b, Word w ∧ Plain w) (ht : Word t) (hx : ∀ v, x = some v → Word v) :
    ∀ w ∈ wInfo :: wDepth :: (a ++ wTime :: t :: (npsWords x ++ b)), Word w := by
  intro w hw
  simp only [List.mem_cons, List.mem_append] at hw
  rcases hw with rfl | rfl | hw | rfl | rfl | hw | hw
  · exact word_lit _ rfl
  · exact word_lit _ rfl
  · exact (ha w hw).1
  · exact word_lit _ rfl
  · exact ht
  · cases x with
    | none => cases hw
    | some v =>
      simp only [npsWords, List.mem_cons, List.not_mem_nil, or_false] at hw
      rcases hw with rfl | rfl
      · exact word_lit _ rfl
      · exact hx _ rfl
  · exact (hb w hw).1

/-- **the canonical form of an `info depth ..` line**: `a` are the words between `depth` and `time`, `t` the printed
time, `x` the optional `nps` value, `b` the remaining words. -/
theorem canonLine_info (a b : List (List Char)) (t : List Char) (x : Option (List Char))
    (ha : ∀ w ∈ a, Word w ∧ Plain w) (hb : ∀ w ∈ b, Word w ∧ Plain w) (ht : Word t) (hx : ∀ v, x = some v → Word v) :
    canonLine (joinSp (wInfo :: wDepth :: (a ++ wTime :: t :: (npsWords x ++ b)))) =
      some (joinSp (wInfo :: wDepth :: (a ++ wTime :: ['?'] :: b))) := by
  -- the line starts with `info depth ` and splits into the words it was joined from
  have hpre : joinSp (wInfo :: wDepth :: (a ++ wTime :: t :: (npsWords x ++ b))) =
      pfxInfo ++ joinSp (a ++ wTime :: t :: (npsWords x ++ b)) := by
    cases a <;> rfl
  have hsplit := splitSp_joinSp (wInfo :: wDepth :: (a ++ wTime :: t :: (npsWords x ++ b))) (by simp)
    (fun w hw => (info_words_word a b t x ha hb ht hx w hw).1)
  have p4 : pfxInfo.isPrefixOf (pfxInfo ++ joinSp (a ++ wTime :: t :: (npsWords x ++ b))) = true := by
    rw [List.isPrefixOf_iff_prefix]; exact List.prefix_append _ _
  unfold canonLine
  rw [hsplit, hpre, p4]
  refine congrArg some (congrArg joinSp ?_)
  -- `info`, `depth` and the words of `a` are copied, `time t` becomes `time ?`, `nps v` goes, `b` is copied
  have hpl : ∀ w ∈ wInfo :: wDepth :: a, Plain w := by
    intro w hw
    simp only [List.mem_cons] at hw
    rcases hw with rfl | rfl | hw
    · constructor <;> decide
    · constructor <;> decide
    · exact (ha w hw).2
  have hbp : canonWords none b = b := by
    have := canonWords_append_plain b [] (fun w hw => (hb w hw).2)
    rwa [List.append_nil, show canonWords none [] = [] from rfl, List.append_nil] at this
  have htail : canonWords none (wTime :: t :: (npsWords x ++ b)) = wTime :: ['?'] :: b := by
    rw [canonWords_time]
    cases x with
    | none => rw [show npsWords none ++ b = b from rfl, hbp]
    | some v => rw [show npsWords (some v) ++ b = wNps :: v :: b from rfl, canonWords_nps, hbp]
  exact (canonWords_append_plain (wInfo :: wDepth :: a) _ hpl).trans (congrArg _ htail)

theorem Out.info_line (m : String) (a b : List (List Char)) (t : List Char) (x : Option (List Char))
    (hm : m.toList = joinSp (wInfo :: wDepth :: (a ++ wTime :: ['?'] :: b)))
    (ha : ∀ w ∈ a, Word w ∧ Plain w) (hb : ∀ w ∈ b, Word w ∧ Plain w) (ht : Word t) (hx : ∀ v, x = some v → Word v) :
    Out (joinSp (wInfo :: wDepth :: (a ++ wTime :: t :: (npsWords x ++ b))) ++ ['\n']) [m] :=
  ⟨[joinSp (wInfo :: wDepth :: (a ++ wTime :: t :: (npsWords x ++ b)))], by simp [unl],
    by simpa using nonl_joinSp _ (info_words_word a b t x ha hb ht hx),
    by simp [canonLine_info a b t x ha hb ht hx, hm]⟩

theorem fileChar_facts : ∀ k, k < 8 → fileChar k ≠ ' ' ∧ fileChar k ≠ '\n' ∧ fileChar k ≠ 'n' ∧ fileChar k ≠ 't' ∧ fileChar k ≠ 'i' := by
  decide
theorem rankChar_facts : ∀ k, k < 8 → rankChar k ≠ ' ' ∧ rankChar k ≠ '\n' := by decide

theorem sqName_word (s : Nat) (h : s < 64) : Word (sqName s) := by
  have hf := fileChar_facts (s % 8) (Nat.mod_lt _ (by decide))
  have hr := rankChar_facts (s / 8) (by omega)
  constructor <;> simp only [sqName, List.mem_cons, List.not_mem_nil, or_false, not_or]
  · exact ⟨Ne.symm hf.1, Ne.symm hr.1⟩
  · exact ⟨Ne.symm hf.2.1, Ne.symm hr.2⟩

theorem promoChars_word (pc : Nat) : Word (promoChars pc) := by
  unfold promoChars
  split <;> constructor <;> decide

theorem word_append {a b : List Char} (ha : Word a) (hb : Word b) : Word (a ++ b) :=
  ⟨by simp [ha.1, hb.1], by simp [ha.2, hb.2]⟩

/-- the printed form of a move between on-board squares: a word that starts with a file letter. -/
theorem toUciChars_facts (p : Position) (m : Mv) (h1 : m.src < 64) (h2 : m.dst < 64) :
    Word (toUciChars p m) ∧ ∃ c r, toUciChars p m = c :: r ∧ c ≠ 'n' ∧ c ≠ 't' ∧ c ≠ 'i' := by
  have lt_ite : ∀ (c : Prop) [Decidable c] (a b : Nat), a < 64 → b < 64 → (if c then a else b) < 64 := by
    intro c _ a b ha hb; split <;> assumption
  have ht := lt_ite ((!p.frc && p.c0.isSet m.dst) = true) _ _ (lt_ite (fileOf m.dst > fileOf m.src) 6 2 (by decide) (by decide)) h2
  have hs := lt_ite (p.black = true) _ _ (flipSq_lt h1) h1
  have hd := lt_ite (p.black = true) _ _ (flipSq_lt ht) ht
  exact ⟨word_append (word_append (sqName_word _ hs) (sqName_word _ hd)) (promoChars_word _), _, _, rfl,
    (fileChar_facts _ (Nat.mod_lt _ (by decide))).2.2⟩

theorem plain_of_head {w : List Char} (h : ∃ c r, w = c :: r ∧ c ≠ 'n' ∧ c ≠ 't' ∧ c ≠ 'i') : Plain w := by
  obtain ⟨c, r, rfl, h1, h2, _⟩ := h
  constructor
  · intro e; injection e with e _; exact h2 e
  · intro e; injection e with e _; exact h1 e

theorem hts (x : String) : toString x = x := rfl

theorem join_toList (l : List String) : (String.join l).toList = l.flatMap String.toList := by
  have : ∀ (acc : String), (l.foldl (fun r s => r ++ s) acc).toList = acc.toList ++ l.flatMap String.toList := by
    induction l with
    | nil => intro acc; simp
    | cons a l ih => intro acc; simp [ih, String.toList_append]
  simpa [String.join] using this ""

end Rawr.Sess
