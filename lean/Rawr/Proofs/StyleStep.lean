import Rawr.Proofs.StyleLists
import Rawr.Proofs.StyleWF
/-!
# One iteration of the move loop of `analyse_game`

Each small update function is characterised as an explicit update of its argument; `step_spec`: from a
state satisfying the per-move invariant `StepInv`, an iteration on a ply with `pawnRankOk` (a pawn of `side` arrives
on relative rank ≥ 2, which keeps slots 0 and 1 of the three push tables at zero) cannot raise (for `ply < 1024`),
re-establishes `StepInv`, leaves the per-game fields alone (`Frame`) and changes the early pawn-push table exactly
by the push it sees.
-/
namespace Rawr.Style

theorem squareFile_lt (s : Square) : squareFile s < 8 := by unfold squareFile; omega
theorem squareRank_lt (s : Square) : squareRank s < 8 := by unfold squareRank; omega

theorem absDiff_lt {a b n : Nat} (ha : a < n) (hb : b < n) : absDiff a b < n := by
  unfold absDiff; omega

theorem squareDistance_lt (a b : Square) : squareDistance a b < 8 :=
  Nat.max_lt.mpr ⟨absDiff_lt (squareFile_lt a) (squareFile_lt b), absDiff_lt (squareRank_lt a) (squareRank_lt b)⟩

theorem relRank_lt (side : Color) (to : Square) : Stats.relRank side to < 8 := by
  unfold Stats.relRank
  have := squareRank_lt to
  split <;> omega

theorem markImbalance_stats (side : Color) (L : Loop) (p : Ply) : (markImbalance side L p).stats = L.stats := by
  simp only [markImbalance, apply_ite Loop.stats, ite_self]

theorem markImbalance_ply (side : Color) (L : Loop) (p : Ply) : (markImbalance side L p).ply = L.ply := by
  simp only [markImbalance, apply_ite Loop.ply, ite_self]

theorem markCastleUs_ply (L : Loop) (p : Ply) : (markCastleUs L p).ply = L.ply := by
  simp only [markCastleUs, apply_ite Loop.ply, ite_self]

theorem stepThem_stats (L : Loop) (p : Ply) : (stepThem L p).stats = L.stats := by
  simp only [stepThem, apply_ite Loop.stats, ite_self]

theorem stepThem_ply (L : Loop) (p : Ply) : (stepThem L p).ply = L.ply := by
  simp only [stepThem, apply_ite Loop.ply, ite_self]

theorem markQueens_ply {L L' : Loop} {p : Ply} (h : markQueens L p = .ok L') : L'.ply = L.ply := by
  unfold markQueens at h
  split at h
  · split at h
    · cases h
    · cases h; rfl
  · cases h; rfl

theorem stepUs_ply {side : Color} {L L' : Loop} {p : Ply} (h : stepUs side L p = .ok L') : L'.ply = L.ply := by
  unfold stepUs at h
  dsimp only at h
  split at h
  · cases h
  · split at h
    · cases h
    · cases h; exact (markCastleUs_ply _ _).trans (markImbalance_ply _ _ _)

theorem step_ply {side : Color} {L L' : Loop} {p : Ply} (h : step side L p = .ok L') : L'.ply = L.ply + 1 := by
  unfold step at h
  split at h
  · cases h
  · rename_i Lq hq
    split at h
    · cases h
    · rename_i Lu hu
      cases h
      refine congrArg (· + 1) (Eq.trans ?_ (markQueens_ply hq))
      split at hu
      · exact stepUs_ply hu
      · cases hu; exact stepThem_ply _ _

theorem markCastleUs_stats (L : Loop) (p : Ply) :
    ∃ ck cq, (markCastleUs L p).stats = { L.stats with castleKing := ck, castleQueen := cq } := by
  unfold markCastleUs
  split
  · exact ⟨_, _, rfl⟩
  · split <;> exact ⟨_, _, rfl⟩

theorem markThreats_eq (s : Stats) (p : Ply) : markThreats s p =
    { s with numRookThreats := s.numRookThreats + b2n (rookThreat p),
             numBishopThreats := s.numBishopThreats + b2n (bishopThreat p) } := by
  unfold markThreats
  cases rookThreat p <;> cases bishopThreat p <;> rfl

theorem b2n_le_one (b : Bool) : b2n b ≤ 1 := by cases b <;> decide

theorem addCapture_eq (s : Stats) (ply : Nat) :
    ∃ a b c d, a + b + c + d = 1 ∧ s.addCapture ply =
      { s with totalCaptures := s.totalCaptures + 1, totalMoves := s.totalMoves + 1,
               earlyCaptures := s.earlyCaptures + a, midCaptures := s.midCaptures + b,
               lateCaptures := s.lateCaptures + c, extremeCaptures := s.extremeCaptures + d } := by
  unfold Stats.addCapture
  by_cases h30 : ply < 30
  · exact ⟨1, 0, 0, 0, rfl, by rw [if_pos h30]; rfl⟩
  · by_cases h50 : ply < 50
    · exact ⟨0, 1, 0, 0, rfl, by rw [if_neg h30, if_pos h50]; rfl⟩
    · by_cases h70 : ply < 70
      · exact ⟨0, 0, 1, 0, rfl, by rw [if_neg h30, if_neg h50, if_pos h70]; rfl⟩
      · exact ⟨0, 0, 0, 1, rfl, by rw [if_neg h30, if_neg h50, if_neg h70]; rfl⟩

theorem markMoveType_eq (s : Stats) (ply : Nat) (p : Ply)
    (h1 : s.captureDistance.length = 8) (h2 : s.noncaptureDistance.length = 8) :
    ∃ s', markMoveType s ply p = .ok s' ∧
      ∃ (k a b c d : Nat) (cd ncd : List Nat), k ≤ 1 ∧ a + b + c + d = k ∧ cd.length = 8 ∧ ncd.length = 8 ∧
        cd.sum = s.captureDistance.sum + k ∧ ncd.sum = s.noncaptureDistance.sum + (1 - k) ∧
        s' = { s with totalCaptures := s.totalCaptures + k, totalNoncaptures := s.totalNoncaptures + (1 - k),
                      totalMoves := s.totalMoves + 1,
                      earlyCaptures := s.earlyCaptures + a, midCaptures := s.midCaptures + b,
                      lateCaptures := s.lateCaptures + c, extremeCaptures := s.extremeCaptures + d,
                      captureDistance := cd, noncaptureDistance := ncd } := by
  have hd := squareDistance_lt p.to p.enemyKing
  unfold markMoveType
  by_cases hc : p.isCapture = true
  · obtain ⟨a, b, c, d, habcd, he⟩ := addCapture_eq s ply
    have hl : squareDistance p.to p.enemyKing < (s.addCapture ply).captureDistance.length := by
      rw [he]; exact h1 ▸ hd
    simp only [hc, if_true, incAt_ok hl, Except.map]
    refine ⟨_, rfl, 1, a, b, c, d, bump s.captureDistance (squareDistance p.to p.enemyKing), s.noncaptureDistance,
      by omega, habcd, by simp [h1], h2, sum_bump _ _ (by omega), by simp, ?_⟩
    rw [he]
    rfl
  · have hl : squareDistance p.to p.enemyKing < (s.addNoncapture).noncaptureDistance.length := h2 ▸ hd
    simp only [hc, if_false, incAt_ok hl, Except.map, Bool.false_eq_true]
    exact ⟨_, rfl, 0, 0, 0, 0, 0, s.captureDistance, bump s.noncaptureDistance (squareDistance p.to p.enemyKing),
      by omega, rfl, h1, by simp [h2], by simp, sum_bump _ _ (by omega), rfl⟩

theorem addPawnPush_eq (s : Stats) (ply : Nat) (to : Square) (side : Color) (ek : Square)
    (hE : s.earlyPawnPushes.length = 8) (hM : s.midPawnPushes.length = 8) (hL : s.latePawnPushes.length = 8) :
    s.addPawnPush ply to side ek = .ok
      { s with totalPawnPushes := s.totalPawnPushes + 1,
               earlyPawnPushes := bumpIf (ply < 40) s.earlyPawnPushes (Stats.relRank side to),
               midPawnPushes := bumpIf (¬ ply < 40 ∧ ply < 60) s.midPawnPushes (Stats.relRank side to),
               latePawnPushes := bumpIf (¬ ply < 60) s.latePawnPushes (Stats.relRank side to),
               totalPawnPushesTowardsKing := s.totalPawnPushesTowardsKing +
                 b2n (decide (absDiff (squareFile to) (squareFile ek) ≤ 1)) } := by
  have hr := relRank_lt side to
  have hE' : Stats.relRank side to < s.earlyPawnPushes.length := by omega
  have hM' : Stats.relRank side to < s.midPawnPushes.length := by omega
  have hL' : Stats.relRank side to < s.latePawnPushes.length := by omega
  unfold Stats.addPawnPush bumpIf b2n
  by_cases h40 : ply < 40
  · have h60 : ply < 60 := by omega
    by_cases ht : absDiff (squareFile to) (squareFile ek) ≤ 1 <;>
      simp [h40, h60, ht, incAt_ok hE', Except.map, bind, Except.bind, pure, Except.pure]
  · by_cases h60 : ply < 60 <;> by_cases ht : absDiff (squareFile to) (squareFile ek) ≤ 1 <;>
      simp [h40, h60, ht, incAt_ok hM', incAt_ok hL', Except.map, bind, Except.bind, pure, Except.pure]

theorem markPawn_eq (s : Stats) (ply : Nat) (p : Ply)
    (hE : s.earlyPawnPushes.length = 8) (hM : s.midPawnPushes.length = 8) (hL : s.latePawnPushes.length = 8) :
    ∃ t, t ≤ b2n (p.piece == PAWN) ∧ markPawn s ply p = .ok
      { s with totalPawnPushes := s.totalPawnPushes + b2n (p.piece == PAWN),
               earlyPawnPushes := bumpIf (p.piece = PAWN ∧ ply < 40) s.earlyPawnPushes (Stats.relRank p.turn p.to),
               midPawnPushes := bumpIf (p.piece = PAWN ∧ ¬ ply < 40 ∧ ply < 60) s.midPawnPushes
                 (Stats.relRank p.turn p.to),
               latePawnPushes := bumpIf (p.piece = PAWN ∧ ¬ ply < 60) s.latePawnPushes (Stats.relRank p.turn p.to),
               totalPawnPushesTowardsKing := s.totalPawnPushesTowardsKing + t } := by
  unfold markPawn
  by_cases hp : p.piece = PAWN
  · refine ⟨_, ?_, by simp only [hp, beq_self_eq_true, if_true, true_and]; exact addPawnPush_eq s ply _ _ _ hE hM hL⟩
    rw [hp]; exact b2n_le_one _
  · exact ⟨0, Nat.zero_le _, by simp [hp, bumpIf, b2n]⟩

theorem queensOff_eq (s : Stats) (ply : Nat) (h : ply < s.noQueens.length) :
    ∃ et mt lt, s.queensOff ply = .ok
      { s with noQueens := bump s.noQueens ply, totalTrades := s.totalTrades + 1, earlyTrades := et,
               midTrades := mt, lateTrades := lt } := by
  unfold Stats.queensOff
  simp only [incAt_ok h, bind, Except.bind, pure, Except.pure]
  split
  · exact ⟨_, _, _, rfl⟩
  · split <;> exact ⟨_, _, _, rfl⟩

theorem markQueens_eq (L : Loop) (p : Ply) (h : L.stats.noQueens.length = 1024) (hp : L.ply < 1024) :
    ∃ L', markQueens L p = .ok L' ∧ ∃ nq tt et mt lt, nq.length = 1024 ∧
      L'.stats = { L.stats with noQueens := nq, totalTrades := tt, earlyTrades := et, midTrades := mt,
                                lateTrades := lt } := by
  unfold markQueens
  split
  · obtain ⟨et, mt, lt, he⟩ := queensOff_eq L.stats L.ply (h ▸ hp)
    rw [he]
    exact ⟨_, rfl, _, _, _, _, _, (length_bump _ _).trans h, rfl⟩
  · exact ⟨_, rfl, _, _, _, _, _, h, rfl⟩

theorem markCheck_eq (side : Color) (s : Stats) (p : Ply) :
    ∃ a b, a + b = b2n (p.turn == side) ∧
      markCheck side s p = { s with checks := s.checks + a, nonchecks := s.nonchecks + b } := by
  unfold markCheck
  have : ((!p.turn) != side) = (p.turn == side) := by cases p.turn <;> cases side <;> rfl
  rw [this]
  cases p.turn == side
  · exact ⟨0, 0, rfl, rfl⟩
  · cases p.checkAfter
    · exact ⟨0, 1, rfl, rfl⟩
    · exact ⟨1, 0, rfl, rfl⟩

/-- the `if board.turn == side:` branch, as one update of the statistics. -/
theorem stepUs_eq (side : Color) (L : Loop) (p : Ply)
    (hCD : L.stats.captureDistance.length = 8) (hNCD : L.stats.noncaptureDistance.length = 8)
    (hE : L.stats.earlyPawnPushes.length = 8) (hM : L.stats.midPawnPushes.length = 8)
    (hL : L.stats.latePawnPushes.length = 8) :
    ∃ L', stepUs side L p = .ok L' ∧
      ∃ (ck cq k a b c d : Nat) (cd ncd : List Nat) (t : Nat),
        k ≤ 1 ∧ a + b + c + d = k ∧ cd.length = 8 ∧ ncd.length = 8 ∧
        cd.sum = L.stats.captureDistance.sum + k ∧ ncd.sum = L.stats.noncaptureDistance.sum + (1 - k) ∧
        t ≤ b2n (p.piece == PAWN) ∧
        L'.stats = { L.stats with
          castleKing := ck, castleQueen := cq,
          numRookThreats := L.stats.numRookThreats + b2n (rookThreat p),
          numBishopThreats := L.stats.numBishopThreats + b2n (bishopThreat p),
          totalCaptures := L.stats.totalCaptures + k, totalNoncaptures := L.stats.totalNoncaptures + (1 - k),
          totalMoves := L.stats.totalMoves + 1,
          earlyCaptures := L.stats.earlyCaptures + a, midCaptures := L.stats.midCaptures + b,
          lateCaptures := L.stats.lateCaptures + c, extremeCaptures := L.stats.extremeCaptures + d,
          captureDistance := cd, noncaptureDistance := ncd,
          totalPawnPushes := L.stats.totalPawnPushes + b2n (p.piece == PAWN),
          earlyPawnPushes := bumpIf (p.piece = PAWN ∧ L.ply < 40) L.stats.earlyPawnPushes
            (Stats.relRank p.turn p.to),
          midPawnPushes := bumpIf (p.piece = PAWN ∧ ¬ L.ply < 40 ∧ L.ply < 60) L.stats.midPawnPushes
            (Stats.relRank p.turn p.to),
          latePawnPushes := bumpIf (p.piece = PAWN ∧ ¬ L.ply < 60) L.stats.latePawnPushes
            (Stats.relRank p.turn p.to),
          totalPawnPushesTowardsKing := L.stats.totalPawnPushesTowardsKing + t } := by
  obtain ⟨ck, cq, h2⟩ := markCastleUs_stats (markImbalance side L p) p
  rw [markImbalance_stats] at h2
  obtain ⟨s4, h4, k, a, b, c, d, cd, ncd, hk, habcd, hcd, hncd, hcds, hncds, e4⟩ :=
    markMoveType_eq (markThreats (markCastleUs (markImbalance side L p) p).stats p) L.ply p
      (by rw [markThreats_eq, h2]; exact hCD) (by rw [markThreats_eq, h2]; exact hNCD)
  rw [markThreats_eq, h2] at hcds hncds e4
  obtain ⟨t, ht, h5⟩ := markPawn_eq s4 L.ply p (by rw [e4]; exact hE) (by rw [e4]; exact hM) (by rw [e4]; exact hL)
  simp only [stepUs, markCastleUs_ply, markImbalance_ply, h4, h5]
  exact ⟨_, rfl, ck, cq, k, a, b, c, d, cd, ncd, t, hk, habcd, hcd, hncd, hcds, hncds, ht, by subst e4; rfl⟩

/-- what holds of the statistics between two iterations of the move loop. -/
structure StepInv (s : Stats) : Prop where
  moves : s.totalMoves = s.totalCaptures + s.totalNoncaptures
  chk : s.totalMoves = s.checks + s.nonchecks
  caps : s.totalCaptures = s.earlyCaptures + s.midCaptures + s.lateCaptures + s.extremeCaptures
  capDist : s.captureDistance.sum = s.totalCaptures
  ncapDist : s.noncaptureDistance.sum = s.totalNoncaptures
  lenCD : s.captureDistance.length = 8
  lenNCD : s.noncaptureDistance.length = 8
  lenNQ : s.noQueens.length = 1024
  lenE : s.earlyPawnPushes.length = 8
  lenM : s.midPawnPushes.length = 8
  lenL : s.latePawnPushes.length = 8
  e0 : s.earlyPawnPushes.getD 0 0 = 0
  e1 : s.earlyPawnPushes.getD 1 0 = 0
  m0 : s.midPawnPushes.getD 0 0 = 0
  m1 : s.midPawnPushes.getD 1 0 = 0
  l0 : s.latePawnPushes.getD 0 0 = 0
  l1 : s.latePawnPushes.getD 1 0 = 0
  towards : s.totalPawnPushesTowardsKing ≤ s.totalPawnPushes
  rook : s.numRookThreats ≤ s.totalMoves
  bishop : s.numBishopThreats ≤ s.totalMoves

/-- the fields the move loop never writes. -/
structure Frame (s s' : Stats) : Prop where
  numGames : s'.numGames = s.numGames
  numWins : s'.numWins = s.numWins
  numDraws : s'.numDraws = s.numDraws
  numLosses : s'.numLosses = s.numLosses
  numWinAhead : s'.numWinAhead = s.numWinAhead
  numWinEqual : s'.numWinEqual = s.numWinEqual
  numWinBehind : s'.numWinBehind = s.numWinBehind
  shortGames : s'.shortGames = s.shortGames
  mediumGames : s'.mediumGames = s.mediumGames
  longGames : s'.longGames = s.longGames
  extremeGames : s'.extremeGames = s.extremeGames
  gameLength : s'.gameLength = s.gameLength
  finalMaterial : s'.finalMaterial = s.finalMaterial

theorem Frame.refl (s : Stats) : Frame s s := ⟨rfl, rfl, rfl, rfl, rfl, rfl, rfl, rfl, rfl, rfl, rfl, rfl, rfl⟩
theorem Frame.trans {a b c : Stats} (h1 : Frame a b) (h2 : Frame b c) : Frame a c :=
  ⟨h2.1.trans h1.1, h2.2.trans h1.2, h2.3.trans h1.3, h2.4.trans h1.4, h2.5.trans h1.5, h2.6.trans h1.6,
   h2.7.trans h1.7, h2.8.trans h1.8, h2.9.trans h1.9, h2.10.trans h1.10, h2.11.trans h1.11,
   h2.12.trans h1.12, h2.13.trans h1.13⟩

theorem step_spec (side : Color) (L : Loop) (p : Ply) (hI : StepInv L.stats) (hply : L.ply < 1024)
    (hp : pawnRankOk side p = true) :
    ∃ L', step side L p = .ok L' ∧ StepInv L'.stats ∧ Frame L.stats L'.stats ∧
      (∀ r, L'.stats.earlyPawnPushes.getD r 0 =
              L.stats.earlyPawnPushes.getD r 0 + b2n (isEarlyPush side r L.ply p)) ∧
      L'.stats.earlyPawnPushes.sum ≤ L.stats.earlyPawnPushes.sum + (if L.ply < 40 then 1 else 0) ∧
      L'.stats.totalPawnPushes ≤ L.stats.totalPawnPushes + 1 := by
  obtain ⟨Lq, hq, nq, tt, et, mt, lt, hnq, hqs⟩ := markQueens_eq L p hI.lenNQ hply
  have hqp := markQueens_ply hq
  unfold step
  rw [hq]
  dsimp only
  by_cases ht : p.turn = side
  · obtain ⟨Lu, hu, ck, cq, k, a, b, c, d, cd, ncd, t, hk, habcd, hcd, hncd, hcds, hncds, htp, hus⟩ :=
      stepUs_eq side Lq p (by rw [hqs]; exact hI.lenCD) (by rw [hqs]; exact hI.lenNCD)
        (by rw [hqs]; exact hI.lenE) (by rw [hqs]; exact hI.lenM) (by rw [hqs]; exact hI.lenL)
    obtain ⟨ca, cb, hcab, hc⟩ := markCheck_eq side Lu.stats p
    rw [hqs, hqp] at hus
    rw [hqs] at hcds hncds
    dsimp only at hcds hncds
    rw [if_pos (by simpa using ht), hu]
    refine ⟨_, rfl, ?_⟩
    dsimp only
    rw [hc, hus]
    have hr := relRank_lt p.turn p.to
    have hrank : p.piece = PAWN → 2 ≤ Stats.relRank p.turn p.to := by
      intro hpawn
      simpa [pawnRankOk, ht, hpawn] using hp
    -- a pawn of `side` arrives on relative rank ≥ 2: the first two slots of the three tables stay 0
    have hlow (c : Prop) [Decidable c] (l : List Nat) (j : Nat) (hj : j < 2) :
        (bumpIf (p.piece = PAWN ∧ c) l (Stats.relRank p.turn p.to)).getD j 0 = l.getD j 0 :=
      getD_bumpIf_of_ne _ _ fun h => by have := hrank h.1; omega
    have hpk := b2n_le_one (p.piece == PAWN)
    have hcab' : ca + cb = 1 := by simpa [ht, b2n] using hcab
    refine ⟨?_, ⟨rfl, rfl, rfl, rfl, rfl, rfl, rfl, rfl, rfl, rfl, rfl, rfl, rfl⟩, fun r => ?_, ?_, ?_⟩
    · have := hI.moves; have := hI.chk; have := hI.caps
      constructor <;> dsimp only
      · omega
      · omega
      · omega
      · exact hcds.trans (congrArg (· + k) hI.capDist)
      · exact hncds.trans (congrArg (· + (1 - k)) hI.ncapDist)
      · exact hcd
      · exact hncd
      · exact hnq
      · exact (length_bumpIf _ _ _).trans hI.lenE
      · exact (length_bumpIf _ _ _).trans hI.lenM
      · exact (length_bumpIf _ _ _).trans hI.lenL
      · exact (hlow _ _ 0 (by omega)).trans hI.e0
      · exact (hlow _ _ 1 (by omega)).trans hI.e1
      · exact (hlow _ _ 0 (by omega)).trans hI.m0
      · exact (hlow _ _ 1 (by omega)).trans hI.m1
      · exact (hlow _ _ 0 (by omega)).trans hI.l0
      · exact (hlow _ _ 1 (by omega)).trans hI.l1
      · exact Nat.add_le_add hI.towards htp
      · exact Nat.add_le_add hI.rook (b2n_le_one _)
      · exact Nat.add_le_add hI.bishop (b2n_le_one _)
    · dsimp only
      rw [getD_bumpIf _ (by rw [hI.lenE]; exact hr)]
      congr 1
      by_cases hpawn : p.piece = PAWN <;> by_cases h40 : L.ply < 40 <;>
        simp [isEarlyPush, b2n, ht, hpawn, h40]
    · dsimp only
      rw [sum_bumpIf _ (by rw [hI.lenE]; exact hr)]
      split <;> split <;> omega
    · exact Nat.add_le_add_left hpk _
  · obtain ⟨ca, cb, hcab, hc⟩ := markCheck_eq side (stepThem Lq p).stats p
    obtain ⟨rfl, rfl⟩ : ca = 0 ∧ cb = 0 := by
      have : ca + cb = 0 := by simpa [ht, b2n] using hcab
      omega
    rw [if_neg (by simpa using ht)]
    refine ⟨_, rfl, ?_⟩
    dsimp only
    rw [hc, stepThem_stats, hqs]
    refine ⟨⟨hI.moves, hI.chk, hI.caps, hI.capDist, hI.ncapDist, hI.lenCD, hI.lenNCD, hnq, hI.lenE, hI.lenM,
        hI.lenL, hI.e0, hI.e1, hI.m0, hI.m1, hI.l0, hI.l1, hI.towards, hI.rook, hI.bishop⟩,
      ⟨rfl, rfl, rfl, rfl, rfl, rfl, rfl, rfl, rfl, rfl, rfl, rfl, rfl⟩, fun r => ?_, ?_, Nat.le_succ _⟩
    · have : isEarlyPush side r L.ply p = false := by simp [isEarlyPush, ht]
      rw [this]; rfl
    · exact Nat.le_add_right _ _

end Rawr.Style
