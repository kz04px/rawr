import Rawr.Proofs.StyleGame
import Rawr.Proofs.StyleQ
/-!
# Features and scores of the style model

Under the invariant `Inv` every feature that does not divide by zero returns a value in `[0,1]`,
the only possible exception of a score function is the `ZeroDivisionError` of an unguarded feature,
and the asserts never fire.
-/
namespace Rawr.Style

def Unit01 (x : Q) : Prop := x.Pos ∧ 0 ≤ x.val ∧ x.val ≤ 1

theorem unit01_zero : Unit01 Q.zero := ⟨Q.pos_zero, by rw [Q.val_zero], by rw [Q.val_zero]; norm_num⟩

theorem Unit01.inUnit {x : Q} (h : Unit01 x) : x.inUnit = true := (Q.inUnit_iff h.1).mpr ⟨h.2.1, h.2.2⟩

/-- a quotient `r / W` with `0 ≤ r ≤ W`, `0 < W`: every bound below is an instance. -/
theorem scale_unit (r W : Q) (hr : r.Pos) (hW : W.Pos) (hWv : 0 < W.val) (h0 : 0 ≤ r.val) (h1 : r.val ≤ W.val) :
    ∃ x, r.div W = .ok x ∧ Unit01 x := by
  have hn : W.num ≠ 0 := fun h => by
    have := (Q.val_eq_zero_iff hW).mpr h
    linarith
  obtain ⟨x, hx, hp, hv⟩ := Q.div_ok hr hW hn
  refine ⟨x, hx, hp, ?_, ?_⟩
  · rw [hv]; positivity
  · rw [hv, div_le_one hWv]; exact h1

theorem natDiv_unit (a b : Nat) (hab : a ≤ b) (hb : 0 < b) :
    ∃ x, (Q.nat a).div (Q.nat b) = .ok x ∧ Unit01 x := by
  refine scale_unit _ _ (Q.pos_nat a) (Q.pos_nat b) ?_ ?_ ?_ <;> simp only [Q.val_nat]
  · exact_mod_cast hb
  · positivity
  · exact_mod_cast hab

/-- `if b == 0: return 0.0` / `return a / b`. -/
theorem guardedDiv_unit (a b : Nat) (hab : a ≤ b) :
    ∃ x, (if b = 0 then Except.ok Q.zero else (Q.nat a).div (Q.nat b)) = .ok x ∧ Unit01 x := by
  by_cases hb : b = 0
  · exact ⟨Q.zero, by simp [hb], unit01_zero⟩
  · obtain ⟨x, hx, hu⟩ := natDiv_unit a b hab (by omega)
    exact ⟨x, by simp [hb, hx], hu⟩

/-- `(0.6 * x + 0.25 * y + 0.15 * z) / n / 0.6`. -/
def weighted3 (x y z n : Nat) : Except PyErr Q := do
  let w := (((Q.dec 6 10).mul (Q.nat x)).add ((Q.dec 25 100).mul (Q.nat y))).add
    ((Q.dec 15 100).mul (Q.nat z))
  let y ← w.div (Q.nat n)
  y.div (Q.dec 6 10)

theorem weighted3_zero (x y z : Nat) : weighted3 x y z 0 = .error .zeroDivision := by
  simp only [weighted3, (Q.div_error_iff _ (Q.nat 0) .zeroDivision).mpr ⟨rfl, rfl⟩, bind, Except.bind]

theorem weighted3_unit (x y z n : Nat) (h : x + y + z ≤ n) (hn : 0 < n) :
    ∃ v, weighted3 x y z n = .ok v ∧ Unit01 v := by
  have p1 : ((Q.dec 6 10).mul (Q.nat x)).Pos := Q.pos_mul (Q.pos_dec _ _ (by omega)) (Q.pos_nat _)
  have p2 : ((Q.dec 25 100).mul (Q.nat y)).Pos := Q.pos_mul (Q.pos_dec _ _ (by omega)) (Q.pos_nat _)
  have p3 : ((Q.dec 15 100).mul (Q.nat z)).Pos := Q.pos_mul (Q.pos_dec _ _ (by omega)) (Q.pos_nat _)
  have p12 := Q.pos_add p1 p2
  obtain ⟨a, ha, hap, hav⟩ := Q.div_ok (Q.pos_add p12 p3) (Q.pos_nat n) (by simp [Q.nat]; omega)
  rw [Q.val_add p12 p3, Q.val_add p1 p2, Q.val_mul (Q.pos_dec _ _ (by omega)) (Q.pos_nat _),
    Q.val_mul (Q.pos_dec _ _ (by omega)) (Q.pos_nat _), Q.val_mul (Q.pos_dec _ _ (by omega)) (Q.pos_nat _),
    Q.val_dec, Q.val_dec, Q.val_dec, Q.val_nat, Q.val_nat, Q.val_nat, Q.val_nat] at hav
  have hn' : (0 : ℚ) < n := by exact_mod_cast hn
  have hxyz : (x : ℚ) + y + z ≤ n := by exact_mod_cast h
  have hx : (0 : ℚ) ≤ x := by positivity
  have hy : (0 : ℚ) ≤ y := by positivity
  have hz : (0 : ℚ) ≤ z := by positivity
  obtain ⟨b, hb, hu⟩ := scale_unit a (Q.dec 6 10) hap (Q.pos_dec 6 10 (by omega)) (by rw [Q.val_dec]; norm_num)
    (by rw [hav]; positivity) (by rw [hav, Q.val_dec, div_le_iff₀ hn']; push_cast; linarith)
  exact ⟨b, by simp only [weighted3, ha, hb, bind, Except.bind], hu⟩

theorem list8 (l : List Nat) (h : l.length = 8) :
    ∃ a0 a1 a2 a3 a4 a5 a6 a7, l = [a0, a1, a2, a3, a4, a5, a6, a7] := by
  match l, h with
  | [a0, a1, a2, a3, a4, a5, a6, a7], _ => exact ⟨a0, a1, a2, a3, a4, a5, a6, a7, rfl⟩

/-- `sum(weights[dist] * frequency ...) / (max(weights) * total)`. -/
def nearKing (l : List Nat) (total : Nat) : Except PyErr Q := do
  let score ← enumDot Aggression.nearKingWeights l
  let maxScore := Aggression.listMax Aggression.nearKingWeights * total
  (Q.nat score).div (Q.nat maxScore)

theorem nearKing_eq (a0 a1 a2 a3 a4 a5 a6 a7 total : Nat) :
    nearKing [a0, a1, a2, a3, a4, a5, a6, a7] total =
      (Q.nat (0 * a0 + (8 * a1 + (4 * a2 + (2 * a3 + (1 * a4 + (0 * a5 + (0 * a6 + (0 * a7 + 0))))))))).div
        (Q.nat (8 * total)) := rfl

theorem nearKing_unit (l : List Nat) (total : Nat) (hl : l.length = 8) (hs : l.sum = total) (ht : 0 < total) :
    ∃ x, nearKing l total = .ok x ∧ Unit01 x := by
  obtain ⟨a0, a1, a2, a3, a4, a5, a6, a7, rfl⟩ := list8 l hl
  rw [nearKing_eq]
  simp only [List.sum_cons, List.sum_nil] at hs
  exact natDiv_unit _ _ (by omega) (by omega)

theorem nearKing_zero (l : List Nat) (hl : l.length = 8) : nearKing l 0 = .error .zeroDivision := by
  obtain ⟨a0, a1, a2, a3, a4, a5, a6, a7, rfl⟩ := list8 l hl
  rw [nearKing_eq]
  exact (Q.div_error_iff _ _ _).mpr ⟨by simp [Q.nat], rfl⟩

/-- the unguarded tail of `feature_push_pawns`. -/
def pushPawns (early gl : List Nat) : Except PyErr Q := do
  let totalEarlyMoves := enumMinSum 40 gl
  let totalScore ← Aggression.rangeDot Aggression.pushWeights early 2 6
  let tail := Aggression.pushWeights.drop 3
  let mean ← (Q.nat tail.sum).div (Q.nat tail.length)
  let maxTotalScore := mean.mul (Q.nat totalEarlyMoves)
  (Q.nat totalScore).div maxTotalScore

theorem pushPawns_eq (a0 a1 a2 a3 a4 a5 a6 a7 : Nat) (gl : List Nat) :
    pushPawns [a0, a1, a2, a3, a4, a5, a6, a7] gl =
      (Q.nat (1 * a2 + (1 * a3 + (2 * a4 + (4 * a5 + (8 * a6 + (16 * a7 + 0))))))).div
        ((⟨31, 5⟩ : Q).mul (Q.nat (enumMinSum 40 gl))) := rfl

theorem natDivScaled_unit (a T n d : Nat) (hn : 0 < n) (hd : 0 < d) (hT : 0 < T) (h : d * a ≤ n * T) :
    ∃ x, (Q.nat a).div ((⟨n, d⟩ : Q).mul (Q.nat T)) = .ok x ∧ Unit01 x := by
  have hq : (⟨n, d⟩ : Q).Pos := hd
  have hv : ((⟨n, d⟩ : Q).mul (Q.nat T)).val = (n : ℚ) / d * T := by
    rw [Q.val_mul hq (Q.pos_nat T), Q.val_nat]; simp [Q.val]
  refine scale_unit _ _ (Q.pos_nat a) (Q.pos_mul hq (Q.pos_nat T)) ?_ ?_ ?_ <;> simp only [hv, Q.val_nat]
  · positivity
  · positivity
  · rw [div_mul_eq_mul_div, le_div_iff₀ (by exact_mod_cast hd)]
    exact_mod_cast (Nat.mul_comm a d).trans_le h

theorem pushPawns_unit (early gl : List Nat) (hl : early.length = 8)
    (hchain : ∀ r, 3 ≤ r → r ≤ 6 → early.getD (r + 1) 0 ≤ early.getD r 0)
    (hsum : early.sum ≤ enumMinSum 40 gl) (hpos : 0 < enumMinSum 40 gl) :
    ∃ x, pushPawns early gl = .ok x ∧ Unit01 x := by
  obtain ⟨a0, a1, a2, a3, a4, a5, a6, a7, rfl⟩ := list8 early hl
  rw [pushPawns_eq]
  have c3 := hchain 3 (by omega) (by omega)
  have c4 := hchain 4 (by omega) (by omega)
  have c5 := hchain 5 (by omega) (by omega)
  have c6 := hchain 6 (by omega) (by omega)
  simp only [List.getD_cons_succ, List.getD_cons_zero] at c3 c4 c5 c6
  simp only [List.sum_cons, List.sum_nil] at hsum
  -- a pawn's arrivals on the 5th…8th rank weigh 2, 4, 8, 16 but are each matched by an earlier arrival one rank
  -- below, so a push weighs at most 31/5 on average
  exact natDivScaled_unit _ _ 31 5 (by omega) (by omega) hpos (by omega)

def FeatOK (s : Stats) (f : Stats → Except PyErr Q) : Prop := ∃ x, f s = .ok x ∧ Unit01 x

/-- `r` raises nothing but `ZeroDivisionError`, and a value it returns satisfies `P`. -/
def Safe {α : Type} (P : α → Prop) (r : Except PyErr α) : Prop :=
  (∀ v, r = .ok v → P v) ∧ (∀ e, r = .error e → e = .zeroDivision)

theorem Safe.ok {α : Type} {P : α → Prop} {v : α} (h : P v) : Safe P (.ok v) :=
  ⟨fun w hw => (by cases hw; exact h), fun e he => (by cases he)⟩

theorem Safe.zeroDiv {α : Type} {P : α → Prop} : Safe P (.error .zeroDivision) :=
  ⟨fun v hv => (by cases hv), fun e he => (by cases he; rfl)⟩

theorem Safe.mono {α : Type} {P P' : α → Prop} {r : Except PyErr α} (h : Safe P r) (hPP' : ∀ v, P v → P' v) :
    Safe P' r :=
  ⟨fun v hv => hPP' v (h.1 v hv), h.2⟩

theorem Safe.bind {α β : Type} {P : α → Prop} {P' : β → Prop} {r : Except PyErr α} {f : α → Except PyErr β}
    (h : Safe P r) (hf : ∀ v, P v → Safe P' (f v)) : Safe P' (r >>= f) := by
  cases r with
  | error e => exact ⟨fun v hv => (by cases hv), fun e' he' => (by cases he'; exact h.2 e rfl)⟩
  | ok v => exact hf v (h.1 v rfl)

def FeatSafe (s : Stats) (f : Stats → Except PyErr Q) : Prop := Safe Unit01 (f s)

theorem safe_of_zeroDiv_or_unit {r : Except PyErr Q} (h : r = .error .zeroDivision ∨ ∃ v, r = .ok v ∧ Unit01 v) :
    Safe Unit01 r := by
  rcases h with rfl | ⟨v, rfl, hu⟩
  · exact .zeroDiv
  · exact .ok hu

theorem FeatOK.safe {s : Stats} {f : Stats → Except PyErr Q} (h : FeatOK s f) : FeatSafe s f :=
  safe_of_zeroDiv_or_unit (Or.inr h)

theorem weighted3_safe (x y z n : Nat) (h : x + y + z ≤ n) : Safe Unit01 (weighted3 x y z n) := by
  refine safe_of_zeroDiv_or_unit ?_
  by_cases hn : n = 0
  · exact Or.inl (hn ▸ weighted3_zero x y z)
  · exact Or.inr (weighted3_unit x y z n h (by omega))

theorem nearKing_safe (l : List Nat) (total : Nat) (hl : l.length = 8) (hs : l.sum = total) :
    Safe Unit01 (nearKing l total) := by
  refine safe_of_zeroDiv_or_unit ?_
  by_cases hn : total = 0
  · exact Or.inl (hn ▸ nearKing_zero l hl)
  · exact Or.inr (nearKing_unit l total hl hs (by omega))

/-- a feature that returns `0.0` under a guard `g` and computes `r` otherwise (`if g: return 0.0`). -/
theorem FeatSafe.guard {s : Stats} {f : Stats → Except PyErr Q} {g : Prop} [Decidable g] {r : Except PyErr Q}
    (hf : f s = if g then .ok Q.zero else r) (hr : Safe Unit01 r) : FeatSafe s f := by
  unfold FeatSafe
  rw [hf]
  split
  · exact .ok unit01_zero
  · exact hr

theorem FeatOK.guard {s : Stats} {f : Stats → Except PyErr Q} {g : Prop} [Decidable g] {r : Except PyErr Q}
    (hf : f s = if g then .ok Q.zero else r) (hr : ¬ g → ∃ x, r = .ok x ∧ Unit01 x) : FeatOK s f := by
  unfold FeatOK
  rw [hf]
  split
  · exact ⟨_, rfl, unit01_zero⟩
  · exact hr ‹_›

theorem pos_of_guard {v : Variant} {n : Nat} (hc : v = .guarded ∨ 0 < n) (hg : ¬ (v = .guarded ∧ n = 0)) : 0 < n := by
  rcases hc with hc | hc
  · exact Nat.pos_of_ne_zero fun h0 => hg ⟨hc, h0⟩
  · exact hc

theorem aggr_captureEarly_eq (v : Variant) (s : Stats) : Aggression.featureCaptureEarly v s =
    if v = .guarded ∧ s.totalCaptures = 0 then .ok Q.zero
    else weighted3 s.earlyCaptures s.midCaptures s.lateCaptures s.totalCaptures := rfl

theorem moveNearKing_eq (v : Variant) (s : Stats) : Aggression.featureMoveNearKing v s =
    if v = .guarded ∧ s.totalNoncaptures = 0 then .ok Q.zero
    else nearKing s.noncaptureDistance s.totalNoncaptures := rfl

def wsum (fs : List Feature) : ℚ := (fs.map fun f => f.weight.val).sum

def WPos (fs : List Feature) : Prop := ∀ f ∈ fs, 0 < f.weight.den ∧ 0 ≤ f.weight.num

theorem WPos.val_nonneg {f : Feature} (h : 0 < f.weight.den ∧ 0 ≤ f.weight.num) : 0 ≤ f.weight.val := by
  unfold Q.val
  have : (0 : ℚ) ≤ f.weight.num := by exact_mod_cast h.2
  positivity

theorem weightSum_fold : ∀ (fs : List Feature), WPos fs → ∀ (a : Q), a.Pos →
    (fs.foldl (fun acc f => acc.add f.weight) a).Pos ∧
      (fs.foldl (fun acc f => acc.add f.weight) a).val = a.val + wsum fs
  | [], _, a, ha => ⟨ha, by simp [wsum]⟩
  | f :: fs, hw, a, ha => by
    have hf := hw f (by simp)
    have := weightSum_fold fs (fun g hg => hw g (by simp [hg])) (a.add f.weight) (Q.pos_add ha hf.1)
    refine ⟨this.1, ?_⟩
    simp only [List.foldl_cons]
    rw [this.2, Q.val_add ha hf.1]
    simp [wsum]; ring

theorem weightSum_val (fs : List Feature) (hw : WPos fs) : (weightSum fs).Pos ∧ (weightSum fs).val = wsum fs := by
  have := weightSum_fold fs hw (Q.nat 0) (Q.pos_nat 0)
  refine ⟨this.1, ?_⟩
  have h2 := this.2
  rw [Q.val_nat] at h2
  simpa [weightSum] using h2

theorem wsum_nonneg : ∀ (fs : List Feature), WPos fs → 0 ≤ wsum fs
  | [], _ => by simp [wsum]
  | f :: fs, hw => by
    have h1 := WPos.val_nonneg (hw f (by simp))
    have h2 := wsum_nonneg fs (fun g hg => hw g (by simp [hg]))
    simp only [wsum, List.map_cons, List.sum_cons] at *
    linarith

theorem scoreLoop_safe (s : Stats) : ∀ (fs : List Feature) (acc : Q), acc.Pos → WPos fs →
    (∀ f ∈ fs, FeatSafe s f.func) →
    Safe (fun r => r.Pos ∧ acc.val ≤ r.val ∧ r.val ≤ acc.val + wsum fs) (scoreLoop s fs acc)
  | [], acc, ha, _, _ => .ok ⟨ha, le_refl _, by simp [wsum]⟩
  | f :: fs, acc, ha, hw, hs => by
    have hf := hw f (by simp)
    have hfv := WPos.val_nonneg hf
    rw [scoreLoop_cons]
    refine (hs f (by simp)).bind fun x hu => ?_
    rw [if_pos hu.inUnit]
    have hpos : (acc.add (f.weight.mul x)).Pos := Q.pos_add ha (Q.pos_mul hf.1 hu.1)
    have hval : (acc.add (f.weight.mul x)).val = acc.val + f.weight.val * x.val := by
      rw [Q.val_add ha (Q.pos_mul hf.1 hu.1), Q.val_mul hf.1 hu.1]
    refine (scoreLoop_safe s fs _ hpos (fun g hg => hw g (by simp [hg])) fun g hg => hs g (by simp [hg])).mono
      fun r ⟨hp, h1, h2⟩ => ?_
    rw [hval] at h1 h2
    have hwx0 : 0 ≤ f.weight.val * x.val := mul_nonneg hfv hu.2.1
    have hwx1 : f.weight.val * x.val ≤ f.weight.val := mul_le_of_le_one_right hfv hu.2.2
    refine ⟨hp, by linarith, ?_⟩
    simp only [wsum, List.map_cons, List.sum_cons] at *
    linarith

theorem scoreLoop_ok (s : Stats) : ∀ (fs : List Feature) (acc : Q), (∀ f ∈ fs, FeatOK s f.func) →
    ∃ r, scoreLoop s fs acc = .ok r
  | [], acc, _ => ⟨acc, rfl⟩
  | f :: fs, acc, hs => by
    obtain ⟨x, hx, hu⟩ := hs f (by simp)
    obtain ⟨r, hr⟩ := scoreLoop_ok s fs (acc.add (f.weight.mul x)) (fun g hg => hs g (by simp [hg]))
    exact ⟨r, by simp only [scoreLoop, hx, hu.inUnit, if_true, hr]⟩

theorem placeholder_ok (s : Stats) : FeatOK s PawnPusher.featurePlaceholder := ⟨_, rfl, unit01_zero⟩
theorem sacrifices_ok (s : Stats) : FeatOK s Aggression.featureSacrifices := ⟨_, rfl, unit01_zero⟩

theorem wpos_aggr (v : Variant) : WPos (Aggression.features v) := by
  unfold WPos; cases v <;> decide

theorem wpos_pos (v : Variant) : WPos (Positional.features v) := by
  unfold WPos; cases v <;> decide

theorem wpos_pawn : WPos PawnPusher.features := by unfold WPos; decide

theorem wsum_aggr (v : Variant) : wsum (Aggression.features v) = 201 / 5 := by
  simp only [wsum, Aggression.features, List.map_cons, List.map_nil, List.sum_cons, List.sum_nil, Q.val_nat,
    Q.val_dec]
  norm_num

theorem wsum_pos (v : Variant) : wsum (Positional.features v) = 3 := by
  simp only [wsum, Positional.features, List.map_cons, List.map_nil, List.sum_cons, List.sum_nil, Q.val_nat]
  norm_num

theorem wsum_pawn : wsum PawnPusher.features = 1 := by
  simp only [wsum, PawnPusher.features, List.map_cons, List.map_nil, List.sum_cons, List.sum_nil, Q.val_nat]
  norm_num

/-- every feature of `get_aggression_score` is safe under the invariant, and returns when there is a game and the
two divisors that variant `.current` (the script before its four guards) leaves unguarded are positive. -/
theorem aggr_features_spec {s : Stats} (h : Inv s) (v : Variant) : ∀ f ∈ Aggression.features v,
    FeatSafe s f.func ∧ (0 < s.numGames → (v = .guarded ∨ 0 < s.totalCaptures) →
      (v = .guarded ∨ 0 < s.totalNoncaptures) → FeatOK s f.func) := by
  have always {f : Stats → Except PyErr Q} (hf : FeatOK s f) : FeatSafe s f ∧ (0 < s.numGames →
      (v = .guarded ∨ 0 < s.totalCaptures) → (v = .guarded ∨ 0 < s.totalNoncaptures) → FeatOK s f) :=
    ⟨hf.safe, fun _ _ _ => hf⟩
  have hlens : s.shortGames + s.mediumGames + s.longGames ≤ s.numGames := by have := h.game.lens; omega
  have hcaps : s.earlyCaptures + s.midCaptures + s.lateCaptures ≤ s.totalCaptures := by have := h.step.caps; omega
  intro f hf
  simp only [Aggression.features, List.mem_cons, List.not_mem_nil, or_false] at hf
  rcases hf with rfl | rfl | rfl | rfl | rfl | rfl | rfl | rfl | rfl | rfl | rfl | rfl
  · exact ⟨weighted3_safe _ _ _ _ hlens, fun hn _ _ => weighted3_unit _ _ _ _ hlens hn⟩
  · exact ⟨.guard rfl (weighted3_safe _ _ _ _ hcaps),
      fun _ hc _ => .guard rfl fun hg => weighted3_unit _ _ _ _ hcaps (pos_of_guard hc hg)⟩
  · exact ⟨.guard rfl (nearKing_safe _ _ h.step.lenCD h.step.capDist),
      fun _ hc _ => .guard rfl fun hg => nearKing_unit _ _ h.step.lenCD h.step.capDist (pos_of_guard hc hg)⟩
  · exact ⟨.guard rfl (nearKing_safe _ _ h.step.lenNCD h.step.ncapDist),
      fun _ _ hnc => .guard rfl fun hg => nearKing_unit _ _ h.step.lenNCD h.step.ncapDist (pos_of_guard hnc hg)⟩
  · exact always (guardedDiv_unit s.castleOpposite (s.castleOpposite + s.castleSame) (by omega))
  · exact always (.guard rfl fun h0 => pushPawns_unit s.earlyPawnPushes s.gameLength h.step.lenE h.game.chain
      h.game.earlySum (h.game.pushPos (by omega)))
  · exact always (guardedDiv_unit s.checks s.totalMoves (by have := h.step.chk; omega))
  · exact always (guardedDiv_unit s.numWinBehind s.numWins (by have := h.game.wins; omega))
  · exact always (guardedDiv_unit s.totalCaptures s.totalMoves (by have := h.step.moves; omega))
  · exact always (guardedDiv_unit s.totalPawnPushesTowardsKing s.totalPawnPushes h.step.towards)
  · exact always (guardedDiv_unit s.numRookThreats s.totalMoves h.step.rook)
  · exact always (guardedDiv_unit s.numBishopThreats s.totalMoves h.step.bishop)

theorem pos_features_spec {s : Stats} (h : Inv s) (v : Variant) : ∀ f ∈ Positional.features v,
    FeatSafe s f.func ∧ (0 < s.numGames → (v = .guarded ∨ 0 < s.totalCaptures) → FeatOK s f.func) := by
  have hlens : s.longGames + s.mediumGames + s.shortGames ≤ s.numGames := by have := h.game.lens; omega
  have hcaps : s.lateCaptures + s.midCaptures + s.earlyCaptures ≤ s.totalCaptures := by have := h.step.caps; omega
  intro f hf
  simp only [Positional.features, List.mem_cons, List.not_mem_nil, or_false] at hf
  rcases hf with rfl | rfl
  · exact ⟨weighted3_safe _ _ _ _ hlens, fun hn _ => weighted3_unit _ _ _ _ hlens hn⟩
  · exact ⟨.guard rfl (weighted3_safe _ _ _ _ hcaps),
      fun _ hc => .guard rfl fun hg => weighted3_unit _ _ _ _ hcaps (pos_of_guard hc hg)⟩

theorem pawn_features_ok (s : Stats) : ∀ f ∈ PawnPusher.features, FeatOK s f.func := by
  intro f hf
  simp only [PawnPusher.features, List.mem_cons, List.not_mem_nil, or_false] at hf
  subst hf
  exact placeholder_ok s

/-- the common tail `scaled = score / sum(weights); assert(0.0 <= scaled and scaled <= 1.0)`. -/
theorem tail_spec (s : Stats) (fs : List Feature) (hw : WPos fs) (hpos : 0 < wsum fs)
    (hsafe : ∀ f ∈ fs, FeatSafe s f.func) :
    Safe (fun r => ∃ x, r.div (weightSum fs) = .ok x ∧ Unit01 x) (scoreLoop s fs (Q.nat 0)) := by
  obtain ⟨hWp, hWv⟩ := weightSum_val fs hw
  refine (scoreLoop_safe s fs (Q.nat 0) (Q.pos_nat 0) hw hsafe).mono fun r ⟨hp, h0, h1⟩ => ?_
  rw [Q.val_nat] at h0 h1
  exact scale_unit r (weightSum fs) hp hWp (by rw [hWv]; exact hpos) (by simpa using h0)
    (by rw [hWv]; simpa using h1)

theorem double_min_unit {x : Q} (hx : Unit01 x) : Unit01 (Q.min Q.one ((Q.nat 2).mul x)) := by
  have hp2 : ((Q.nat 2).mul x).Pos := Q.pos_mul (Q.pos_nat 2) hx.1
  refine ⟨Q.pos_min Q.pos_one hp2, ?_, ?_⟩
  · rw [Q.val_min Q.pos_one hp2, Q.val_one, Q.val_mul (Q.pos_nat 2) hx.1, Q.val_nat]
    have := hx.2.1
    exact le_min (by norm_num) (by push_cast; linarith)
  · rw [Q.val_min Q.pos_one hp2, Q.val_one]
    exact min_le_left _ _

/-- what the three score functions do after the `num_games == 0` test: the scoring loop over `fs`, the division by
the sum of the weights, the rescaling `post` (`min(1.0, 2.0 * scaled)` or nothing) and the range assertion. -/
def scoreTail (s : Stats) (fs : List Feature) (post : Q → Q) : Except PyErr (Option Q) := do
  let score ← scoreLoop s fs (Q.nat 0)
  let scaled ← score.div (weightSum fs)
  if (post scaled).inUnit then pure (some (post scaled)) else throw .assertion

/-- stated for any `r` of the form `if num_games == 0 then None else scoreTail …`, so that the three score functions are
instances. -/
theorem score_spec {s : Stats} {r : Except PyErr (Option Q)} {fs : List Feature} {post : Q → Q}
    (hr : r = if s.numGames = 0 then .ok none else scoreTail s fs post) (hw : WPos fs) (hpos : 0 < wsum fs)
    (hsafe : ∀ f ∈ fs, FeatSafe s f.func) (hpost : ∀ x, Unit01 x → Unit01 (post x)) :
    (s.numGames = 0 → r = .ok none) ∧ Safe (fun o => ∀ q, o = some q → Unit01 q) r ∧
    (0 < s.numGames → (∀ f ∈ fs, FeatOK s f.func) → ∃ q, r = .ok (some q) ∧ Unit01 q) := by
  subst hr
  have hts := tail_spec s fs hw hpos hsafe
  by_cases hn : s.numGames = 0
  · rw [if_pos hn]
    exact ⟨fun _ => rfl, .ok nofun, fun h0 => (by omega)⟩
  · rw [if_neg hn]
    unfold scoreTail
    cases hsl : scoreLoop s fs (Q.nat 0) with
    | error e =>
      refine ⟨fun h0 => absurd h0 hn, ?_, fun _ hok => ?_⟩
      · cases hts.2 e hsl
        exact .zeroDiv
      · obtain ⟨r, hr⟩ := scoreLoop_ok s fs (Q.nat 0) hok
        rw [hr] at hsl; cases hsl
    | ok r =>
      obtain ⟨x, hx, hu⟩ := hts.1 r hsl
      have hd := hpost x hu
      simp only [hx, bind, Except.bind, hd.inUnit, if_true, pure, Except.pure]
      exact ⟨fun h0 => absurd h0 hn, .ok fun q hq => (by cases hq; exact hd), fun _ _ => ⟨_, rfl, hd⟩⟩

theorem getAggressionScore_spec {s : Stats} (h : Inv s) (v : Variant) :
    (s.numGames = 0 → getAggressionScore v s = .ok none) ∧
    Safe (fun o => ∀ q, o = some q → Unit01 q) (getAggressionScore v s) ∧
    (0 < s.numGames → (v = .guarded ∨ 0 < s.totalCaptures) → (v = .guarded ∨ 0 < s.totalNoncaptures) →
      ∃ q, getAggressionScore v s = .ok (some q) ∧ Unit01 q) := by
  have hs := score_spec (r := getAggressionScore v s) (post := fun x => Q.min Q.one ((Q.nat 2).mul x)) rfl
    (wpos_aggr v) (by rw [wsum_aggr]; norm_num) (fun f hf => (aggr_features_spec h v f hf).1) fun _ => double_min_unit
  exact ⟨hs.1, hs.2.1, fun hn hc hnc => hs.2.2 hn fun f hf => (aggr_features_spec h v f hf).2 hn hc hnc⟩

theorem getPositionalScore_spec {s : Stats} (h : Inv s) (v : Variant) :
    (s.numGames = 0 → getPositionalScore v s = .ok none) ∧
    Safe (fun o => ∀ q, o = some q → Unit01 q) (getPositionalScore v s) ∧
    (0 < s.numGames → (v = .guarded ∨ 0 < s.totalCaptures) →
      ∃ q, getPositionalScore v s = .ok (some q) ∧ Unit01 q) := by
  have hs := score_spec (r := getPositionalScore v s) (post := fun x => x) rfl
    (wpos_pos v) (by rw [wsum_pos]; norm_num) (fun f hf => (pos_features_spec h v f hf).1) fun _ hx => hx
  exact ⟨hs.1, hs.2.1, fun hn hc => hs.2.2 hn fun f hf => (pos_features_spec h v f hf).2 hn hc⟩

theorem getPawnPusherScore_spec (s : Stats) :
    (s.numGames = 0 → getPawnPusherScore s = .ok none) ∧
    Safe (fun o => ∀ q, o = some q → Unit01 q) (getPawnPusherScore s) ∧
    (0 < s.numGames → ∃ q, getPawnPusherScore s = .ok (some q) ∧ Unit01 q) := by
  have hs := score_spec (r := getPawnPusherScore s) (post := fun x => x) rfl
    wpos_pawn (by rw [wsum_pawn]; norm_num) (fun f hf => (pawn_features_ok s f hf).safe) fun _ hx => hx
  exact ⟨hs.1, hs.2.1, fun hn => hs.2.2 hn (pawn_features_ok s)⟩

theorem getAggressionScore_error_of_feature {s : Stats} (hI : Inv s) (v : Variant) (hn : 0 < s.numGames)
    (f : Feature) (hf : f ∈ Aggression.features v) (e : PyErr) (he : f.func s = .error e) :
    getAggressionScore v s = .error .zeroDivision := by
  have hspec := getAggressionScore_spec hI v
  cases hg : getAggressionScore v s with
  | error e' => rw [hspec.2.1.2 e' hg]
  | ok o =>
    exfalso
    unfold getAggressionScore at hg
    rw [if_neg (by omega)] at hg
    cases hsl : scoreLoop s (Aggression.features v) (Q.nat 0) with
    | error e' => simp only [hsl, bind, Except.bind] at hg; cases hg
    | ok r =>
      obtain ⟨x, hx⟩ := scoreLoop_ok_mem s _ _ r hsl f hf
      rw [hx] at he; cases he

theorem getAggressionScore_current_raises {s : Stats} (hI : Inv s) (hn : 0 < s.numGames)
    (hz : s.totalCaptures = 0 ∨ s.totalNoncaptures = 0) :
    getAggressionScore .current s = .error .zeroDivision := by
  rcases hz with hz | hz
  · refine getAggressionScore_error_of_feature hI .current hn
      ⟨Q.nat 2, "Capture early", Aggression.featureCaptureEarly .current⟩ (by simp [Aggression.features])
      .zeroDivision ?_
    show Aggression.featureCaptureEarly .current s = _
    rw [aggr_captureEarly_eq, if_neg (by simp), hz, weighted3_zero]
  · refine getAggressionScore_error_of_feature hI .current hn
      ⟨Q.nat 2, "Move near king", Aggression.featureMoveNearKing .current⟩ (by simp [Aggression.features])
      .zeroDivision ?_
    show Aggression.featureMoveNearKing .current s = _
    rw [moveNearKing_eq, if_neg (by simp), hz, nearKing_zero _ hI.step.lenNCD]

end Rawr.Style
