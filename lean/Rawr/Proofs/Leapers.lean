import Rawr.Model.Magic
import Rawr.Proofs.RayFill
/-!
# Leaper attack sets are board geometry (no wrap-around)

Single squares: 64-row tables evaluated by the kernel. Arbitrary sets of squares: the functions
distribute over unions (`Linear`), so the set version follows from the single-square tables.
-/
namespace Rawr
open Spec

theorem getLsbD_geomBB (p : Nat → Bool) (t : Nat) :
    (geomBB p).getLsbD t = (decide (t < 64) && p t) := by
  unfold geomBB squares
  rw [getLsbD_setBB]
  by_cases h : t < 64
  · simp [h, List.mem_filter]
  · simp [h]

theorem knightMask_geom : ∀ s : Fin 64, knightMask s = geomBB (knightStep s) := by decide +kernel
theorem kingMask_geom : ∀ s : Fin 64, kingMask s = geomBB (kingStep s) := by decide +kernel
theorem knights_bit : ∀ s : Fin 64, knights (bit s) = geomBB (knightStep s) := by decide +kernel
theorem adjacent_bit : ∀ s : Fin 64, adjacent (bit s) = geomBB (kingStep s) := by decide +kernel

/-- `rays::pawns` is the union of the two diagonal steps forward. -/
theorem pawnsAtt_bit (us : Bool) (s : Fin 64) : pawnsAtt us (bit s) = geomBB (pawnStep us s) := by
  apply BitVec.eq_of_getLsbD_eq
  intro t ht
  rw [getLsbD_geomBB]
  unfold pawnsAtt pawnStep
  cases us
  · rw [if_neg (by decide), BitVec.getLsbD_or, southEast_bit s, southWest_bit s, getLsbD_stepBB, getLsbD_stepBB, Bool.eq_iff_iff]
    simp only [ht, decide_true, Bool.true_and, Bool.or_eq_true, Bool.and_eq_true, decide_eq_true_eq,
      beq_iff_eq, Bool.false_eq_true, if_false]
    omega
  · rw [if_pos rfl, BitVec.getLsbD_or, northEast_bit s, northWest_bit s, getLsbD_stepBB, getLsbD_stepBB, Bool.eq_iff_iff]
    simp only [ht, decide_true, Bool.true_and, Bool.or_eq_true, Bool.and_eq_true, decide_eq_true_eq,
      beq_iff_eq, if_true]
    omega

theorem linear_knights : Linear knights :=
  Linear.or (Linear.or (Linear.or (Linear.or (Linear.or (Linear.or (Linear.or
    (Linear.comp linear_northEast linear_north) (Linear.comp linear_northWest linear_north))
    (Linear.comp linear_southEast linear_south)) (Linear.comp linear_southWest linear_south))
    (Linear.comp linear_northEast linear_east)) (Linear.comp linear_southEast linear_east))
    (Linear.comp linear_northWest linear_west)) (Linear.comp linear_southWest linear_west)

theorem linear_adjacent : Linear adjacent :=
  Linear.or (Linear.or (Linear.or (Linear.shl 8) (Linear.shr 8))
    (Linear.comp (Linear.and notHFile) (Linear.or (Linear.or (Linear.shl 7) (Linear.shr 9)) (Linear.shr 1))))
    (Linear.comp (Linear.and notAFile) (Linear.or (Linear.or (Linear.shr 7) (Linear.shl 9)) (Linear.shl 1)))

theorem linear_pawnsAtt (us : Bool) : Linear (pawnsAtt us) := by
  cases us
  · exact Linear.or linear_southEast linear_southWest
  · exact Linear.or linear_northEast linear_northWest

theorem Linear.getLsbD_of_bit {F : BB → BB} (hF : Linear F) {p : Nat → Nat → Bool}
    (hbit : ∀ s : Fin 64, F (bit s) = geomBB (p s)) (b : BB) (t : Nat) :
    (F b).getLsbD t = (decide (t < 64) && (List.range 64).any fun s => b.getLsbD s && p s t) := by
  rw [hF.getLsbD]
  by_cases ht : t < 64
  · simp only [ht, decide_true, Bool.true_and]
    apply any_range_congr
    intro s hs
    rw [hbit ⟨s, hs⟩, getLsbD_geomBB]
    simp [ht]
  · have : ∀ x : BB, x.getLsbD t = false := fun x => BitVec.getLsbD_of_ge x t (Nat.le_of_not_lt ht)
    simp [ht, this]

end Rawr
