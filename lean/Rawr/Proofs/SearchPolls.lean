import Rawr.Proofs.SearchHist
/-! Two runs of the search compared (`negamax_sim`): on more fuel, and from another value of the poll counter.
Its two readings: the fuel is not an observable (`Proofs/TerminationMono.lean`), and the search does not depend on
the poll counter unless the limit is a clock (C13). -/
namespace Rawr

/-- limits that never consult the clock oracle. -/
def Limit.clockFree : Limit → Prop
  | .clock _ => False
  | _ => True

def SState.eqUpToPolls (s t : SState) : Prop :=
  s.hist = t.hist ∧ s.tt = t.tt ∧ s.depth = t.depth ∧ s.seldepth = t.seldepth ∧ s.nodes = t.nodes ∧
    s.best = t.best

theorem SState.eqUpToPolls.refl (s : SState) : s.eqUpToPolls s := ⟨rfl, rfl, rfl, rfl, rfl, rfl⟩

theorem SState.eqUpToPolls.symm {s t : SState} (h : s.eqUpToPolls t) : t.eqUpToPolls s :=
  ⟨h.1.symm, h.2.1.symm, h.2.2.1.symm, h.2.2.2.1.symm, h.2.2.2.2.1.symm, h.2.2.2.2.2.symm⟩

theorem SState.eqUpToPolls.trans {s t u : SState} (h : s.eqUpToPolls t) (h' : t.eqUpToPolls u) :
    s.eqUpToPolls u :=
  ⟨h.1.trans h'.1, h.2.1.trans h'.2.1, h.2.2.1.trans h'.2.2.1, h.2.2.2.1.trans h'.2.2.2.1,
    h.2.2.2.2.1.trans h'.2.2.2.2.1, h.2.2.2.2.2.trans h'.2.2.2.2.2⟩

theorem SState.eqUpToPolls_iff (s t : SState) : s.eqUpToPolls t ↔ t = { s with polls := t.polls } := by
  cases s; cases t
  simp only [SState.eqUpToPolls, SState.mk.injEq, and_true]
  constructor
  · rintro ⟨h1, h2, h3, h4, h5, h6⟩; exact ⟨h1.symm, h2.symm, h3.symm, h4.symm, h5.symm, h6.symm⟩
  · rintro ⟨h1, h2, h3, h4, h5, h6⟩; exact ⟨h1.symm, h2.symm, h3.symm, h4.symm, h5.symm, h6.symm⟩

def ResEq : Option (Int × SState) → Option (Int × SState) → Prop
  | none, none => True
  | some (v, s), some (w, t) => v = w ∧ s.eqUpToPolls t
  | _, _ => False

theorem ResEq.cases {r1 r2 : Option (Int × SState)} (h : ResEq r1 r2) :
    (r1 = none ∧ r2 = none) ∨ ∃ v s k, r1 = some (v, s) ∧ r2 = some (v, { s with polls := k }) := by
  rcases r1 with _ | ⟨v, s⟩ <;> rcases r2 with _ | ⟨w, t⟩
  · exact Or.inl ⟨rfl, rfl⟩
  · exact h.elim
  · exact h.elim
  · obtain ⟨rfl, hs⟩ := h
    exact Or.inr ⟨v, s, t.polls, rfl, congrArg (fun u => some (v, u)) ((SState.eqUpToPolls_iff s t).1 hs)⟩

theorem ResEq.some_set (v : Int) (s : SState) (k k' : Nat) :
    ResEq (some (v, { s with polls := k })) (some (v, { s with polls := k' })) :=
  ⟨rfl, rfl, rfl, rfl, rfl, rfl, rfl⟩

/-- What `negamax_sim` carries through the search about the results `r1`, `r2` of two runs, in two readings selected by `lo`.
Without `lo` (same fuel, other poll counter): both runs fail, or `r2` is `r1` with the poll counter in the answer set to
some `k` (`setP`). With `lo` (the left run has less fuel, same counter): a left run that fails is matched by anything, and
`k` is the counter `r1` has (`getP`), so that `r2 = r1` whenever `r1` answers. -/
def Sim {γ : Type} (setP : γ → Nat → γ) (getP : γ → Nat) (lo : Bool) (r1 r2 : Option γ) : Prop :=
  (r1 = none ∧ (lo = true ∨ r2 = none)) ∨
    ∃ x k, r1 = some x ∧ r2 = some (setP x k) ∧ (lo = true → k = getP x)

/-- for results `(value, state)`. -/
abbrev ResSim {α : Type} (lo : Bool) : Option (α × SState) → Option (α × SState) → Prop :=
  Sim (fun x k => (x.1, { x.2 with polls := k })) (fun x => x.2.polls) lo

/-- for the result of the move loop, which has the state first. -/
abbrev LoopSim {β : Type} (lo : Bool) : Option (SState × β) → Option (SState × β) → Prop :=
  Sim (fun x k => ({ x.1 with polls := k }, x.2)) (fun x => x.1.polls) lo

/-- closes `Sim lo none r` from `h : lo = true ∨ r' = none`, where `r` is a `match` on `r'` that answers `none` on `none`. -/
macro "sim_none " h:term : tactic =>
  `(tactic| exact Or.inl ⟨rfl, ($h).elim Or.inl (fun e => by subst e; exact Or.inr rfl)⟩)

def RecSim (lo : Bool) (rec rec' : Rec) : Prop :=
  ∀ np s a b pl d c k, (lo = true → k = s.polls) →
    ResSim lo (rec np s a b pl d c) (rec' np { s with polls := k } a b pl d c)

theorem nmLoop_sim {lo rec rec'} (hrec : RecSim lo rec rec') (p : Position) (beta ply depth : Int) (inCheck : Bool)
    (ms : List Mv) : ∀ (idx : Nat) (st : SState) (alpha best : Int) (bestMv : Option Mv) (k : Nat),
      (lo = true → k = st.polls) →
      LoopSim lo (nmLoop rec p beta ply depth inCheck ms idx st alpha best bestMv)
        (nmLoop rec' p beta ply depth inCheck ms idx { st with polls := k } alpha best bestMv) := by
  induction ms with
  | nil =>
    intro idx st alpha best bestMv k hk
    exact Or.inr ⟨_, k, rfl, rfl, hk⟩
  | cons m ms ih =>
    intro idx st alpha best bestMv k hk
    simp only [nmLoop]
    cases hmk : p.makemove m true with
    | none => exact Or.inl ⟨rfl, Or.inr rfl⟩
    | some np =>
      simp only []
      generalize hres1 : (ite ((idx == 0) = true) _ _ : Option (Int × SState)) = res1
      generalize hres2 : (ite ((idx == 0) = true) _ _ : Option (Int × SState)) = res2
      have hres : ResSim lo res1 res2 := by
        subst hres1 hres2
        refine ite_rel (fun _ => ?_) (fun _ => ?_)
        · generalize hr1 : rec _ _ _ _ _ _ _ = r1
          generalize hr2 : rec' _ _ _ _ _ _ _ = r2
          have hr : ResSim lo r1 r2 := by rw [← hr1, ← hr2]; exact hrec _ _ _ _ _ _ _ _ hk
          clear hr1 hr2
          rcases hr with ⟨rfl, h⟩ | ⟨⟨v, s1⟩, k1, rfl, rfl, hk1⟩
          · sim_none h
          · exact Or.inr ⟨_, k1, rfl, rfl, hk1⟩
        · generalize hr1 : rec _ _ _ _ _ _ _ = r1
          generalize hr2 : rec' _ _ _ _ _ _ _ = r2
          have hr : ResSim lo r1 r2 := by rw [← hr1, ← hr2]; exact hrec _ _ _ _ _ _ _ _ hk
          clear hr1 hr2
          rcases hr with ⟨rfl, h⟩ | ⟨⟨v, s1⟩, k1, rfl, rfl, hk1⟩
          · sim_none h
          simp only []
          refine ite_rel (fun _ => ?_) (fun _ => ?_)
          · generalize hr1 : rec _ _ _ _ _ _ _ = r1
            generalize hr2 : rec' _ _ _ _ _ _ _ = r2
            have hr : ResSim lo r1 r2 := by rw [← hr1, ← hr2]; exact hrec _ _ _ _ _ _ _ _ hk1
            clear hr1 hr2
            rcases hr with ⟨rfl, h⟩ | ⟨⟨v, s2⟩, k2, rfl, rfl, hk2⟩
            · sim_none h
            · exact Or.inr ⟨_, k2, rfl, rfl, hk2⟩
          · exact Or.inr ⟨_, k1, rfl, rfl, hk1⟩
      clear hres1 hres2
      rcases hres with ⟨rfl, h⟩ | ⟨⟨v, s1⟩, k1, rfl, rfl, hk1⟩
      · sim_none h
      · simp only []
        refine ite_rel (fun _ => Or.inr ⟨_, k1, rfl, rfl, hk1⟩) (fun _ => ?_)
        exact ih _ { s1 with hist := s1.hist.tail } _ _ _ k1 hk1

theorem shouldStop_fst_polls {lim : Limit} (hl : lim.clockFree) (s : SState) (k : Nat) :
    (shouldStop lim { s with polls := k }).1 = (shouldStop lim s).1 := by
  cases lim with
  | clock o => exact hl.elim
  | _ => rfl

theorem pollIf_sim {lim : Limit} {lo : Bool} (hl : lo = true ∨ lim.clockFree) {c : Prop} [Decidable c] (s : SState)
    (k : Nat) (hk : lo = true → k = s.polls) :
    ∃ k', (if c then shouldStop lim { s with polls := k } else (false, { s with polls := k })) =
        ((if c then shouldStop lim s else (false, s)).1,
          { (if c then shouldStop lim s else (false, s)).2 with polls := k' }) ∧
      (lo = true → k' = (if c then shouldStop lim s else (false, s)).2.polls) := by
  by_cases hc : c
  · simp only [if_pos hc]
    refine ⟨k + 1, ?_, fun h => by rw [hk h]; rfl⟩
    rcases hl with h | h
    · rw [hk h]; rfl
    · rw [← shouldStop_fst_polls h s k]; rfl
  · simp only [if_neg hc]
    exact ⟨k, rfl, hk⟩

/-- The search run on fuel `f` from `s`, and on `f' ≥ f` from `s` with another poll counter. With `lo` the counters are
the same and this is monotonicity in the fuel; without it the limit must not read the counter and the fuels are equal. -/
theorem negamax_sim (lim : Limit) (lo : Bool) (hl : lo = true ∨ lim.clockFree) (f : Nat) :
    ∀ f', f ≤ f' → (lo = false → f' = f) → RecSim lo (negamax lim f) (negamax lim f') := by
  induction f with
  | zero =>
    intro f' _ hf np s a b pl d c k _
    refine Or.inl ⟨rfl, ?_⟩
    cases lo with
    | true => exact Or.inl rfl
    | false => rw [hf rfl]; exact Or.inr rfl
  | succ f ih =>
    intro f' hle hf p st α β ply depth cn k hk
    obtain ⟨g, rfl⟩ : ∃ g, f' = g + 1 := ⟨f' - 1, by omega⟩
    have ih := ih g (by omega) (fun h => by have := hf h; omega)
    simp only [negamax]
    generalize hpr1 : (ite (_ = true) (shouldStop lim _) (false, _) : Bool × SState) = pr1
    generalize hpr2 : (ite (_ = true) (shouldStop lim _) (false, _) : Bool × SState) = pr2
    obtain ⟨k', hk2, hk'⟩ : ∃ k', pr2 = (pr1.1, { pr1.2 with polls := k' }) ∧ (lo = true → k' = pr1.2.polls) := by
      rw [← hpr1, ← hpr2]; exact pollIf_sim hl { st with seldepth := max st.seldepth ply } k hk
    clear hpr1 hpr2
    subst hk2
    obtain ⟨stop, s1⟩ := pr1
    simp only []
    -- table probe (same table on both sides)
    generalize (Table.poll _ _ : Option TTEntry) = probe
    rcases probe with _ | tte <;> simp only []
    · exact Or.inl ⟨rfl, Or.inr rfl⟩
    generalize (ite (_ = true) _ _ : Option Int × Int × Int) = cut
    rcases cut with ⟨_ | v, alpha, beta⟩ <;> simp only []
    case some => exact Or.inr ⟨_, k, rfl, rfl, hk⟩
    refine ite_rel (fun _ => ?_) (fun _ => ?_)
    · generalize qsearch _ _ _ _ _ _ = q
      rcases q with _ | ⟨v, q⟩ <;> simp only []
      · exact Or.inl ⟨rfl, Or.inr rfl⟩
      · exact Or.inr ⟨_, k, rfl, rfl, hk⟩
    refine ite_rel (fun _ => Or.inr ⟨_, k', rfl, rfl, hk'⟩) (fun _ => ?_)
    refine ite_rel (fun _ => Or.inr ⟨_, k', rfl, rfl, hk'⟩) (fun _ => ?_)
    refine ite_rel (fun _ => Or.inr ⟨_, k', rfl, rfl, hk'⟩) (fun _ => ?_)
    generalize hn1 : (ite (_ = true) _ _ : Option (Option Int × SState)) = nr1
    generalize hn2 : (ite (_ = true) _ _ : Option (Option Int × SState)) = nr2
    have hn : ResSim lo nr1 nr2 := by
      subst hn1 hn2
      refine ite_rel (fun _ => ?_) (fun _ => Or.inr ⟨_, k', rfl, rfl, hk'⟩)
      generalize hr1 : negamax lim f _ _ _ _ _ _ _ = r1
      generalize hr2 : negamax lim g _ _ _ _ _ _ _ = r2
      have hr : ResSim lo r1 r2 := by rw [← hr1, ← hr2]; exact ih _ _ _ _ _ _ _ _ hk'
      clear hr1 hr2
      rcases hr with ⟨rfl, h⟩ | ⟨⟨v, s2⟩, k2, rfl, rfl, hk2⟩
      · sim_none h
      · simp only []
        exact ite_rel (fun _ => Or.inr ⟨_, k2, rfl, rfl, hk2⟩) (fun _ => Or.inr ⟨_, k2, rfl, rfl, hk2⟩)
    clear hn1 hn2
    rcases hn with ⟨rfl, h⟩ | ⟨⟨ov, s2⟩, k2, rfl, rfl, hk2⟩
    · sim_none h
    rcases ov with _ | v <;> simp only []
    case some => exact Or.inr ⟨_, k2, rfl, rfl, hk2⟩
    generalize sortNm _ _ _ = sorted
    rcases sorted with _ | moves <;> simp only []
    · exact Or.inl ⟨rfl, Or.inr rfl⟩
    generalize hl1 : nmLoop _ _ _ _ _ _ _ _ _ _ _ _ = l1
    generalize hl2 : nmLoop _ _ _ _ _ _ _ _ _ _ _ _ = l2
    have hloop : LoopSim lo l1 l2 := by
      rw [← hl1, ← hl2]; exact nmLoop_sim ih _ _ _ _ _ _ _ _ _ _ _ _ hk2
    clear hl1 hl2
    rcases hloop with ⟨rfl, h⟩ | ⟨⟨s3, a3, best, bestMv⟩, k3, rfl, rfl, hk3⟩
    · sim_none h
    simp only []
    rcases bestMv with _ | bm <;> simp only []
    · exact Or.inr ⟨_, k3, rfl, rfl, hk3⟩
    generalize (Table.add _ _ _ : Option (Table TTEntry)) = stored
    rcases stored with _ | tt' <;> simp only []
    · exact Or.inl ⟨rfl, Or.inr rfl⟩
    · exact Or.inr ⟨_, k3, rfl, rfl, hk3⟩

def RecPolls (rec : Rec) : Prop :=
  ∀ np s a b pl d c k, ResEq (rec np s a b pl d c) (rec np { s with polls := k } a b pl d c)

theorem negamax_polls (lim : Limit) (hl : lim.clockFree) (fuel : Nat) : RecPolls (negamax lim fuel) := by
  intro np s a b pl d c k
  rcases negamax_sim lim false (Or.inr hl) fuel fuel (Nat.le_refl _) (fun _ => rfl) np s a b pl d c k
    (fun h => by cases h) with ⟨e1, h⟩ | ⟨⟨v, s1⟩, k1, e1, e2, _⟩
  · rcases h with h | e2
    · cases h
    · rw [e1, e2]; trivial
  · rw [e1, e2]; exact ResEq.some_set v s1 s1.polls k1

theorem rootIter_polls (lim : Limit) (hl : lim.clockFree) (fuel : Nat) (p : Position) (n : Nat) :
    ∀ (depth : Int) (st : SState) (bestMove : Option Mv) (infos : List InfoRec) (k : Nat),
      rootIter lim fuel p n depth { st with polls := k } bestMove infos =
        rootIter lim fuel p n depth st bestMove infos := by
  induction n with
  | zero => intro depth st bestMove infos k; rfl
  | succ n ih =>
    intro depth st bestMove infos k
    simp only [rootIter]
    by_cases hd : depth ≥ Gen.MAX_DEPTH
    · simp only [hd, ↓reduceIte]
    simp only [hd, ↓reduceIte]
    generalize hr1 : negamax lim fuel _ _ _ _ _ _ _ = r1
    generalize hr2 : negamax lim fuel _ _ _ _ _ _ _ = r2
    have hr : ResEq r2 r1 := by rw [← hr1, ← hr2]; exact negamax_polls lim hl fuel _ _ _ _ _ _ _ _
    clear hr1 hr2
    rcases hr.cases with ⟨e1, e2⟩ | ⟨v, s1, k1, e1, e2⟩ <;> subst e1 e2 <;> simp only []
    obtain ⟨h1, t1, d1, sd1, n1, b1, p1⟩ := s1
    cases b1 with
    | none => rfl
    | some bm =>
      simp only []
      by_cases hgt : depth > 1
      · simp only [hgt, ↓reduceIte, shouldStop_snd]
        rw [shouldStop_fst_polls hl ⟨h1, t1, d1, sd1, n1, some bm, p1⟩ k1]
        generalize (shouldStop lim _).1 = stop
        cases stop with
        | true => rfl
        | false =>
          simp only [Bool.false_eq_true, ↓reduceIte]
          exact ih _ ⟨h1, t1, d1, sd1, n1, some bm, p1 + 1⟩ _ _ (k1 + 1)
      · simp only [hgt, ↓reduceIte, Bool.false_eq_true]
        exact ih _ ⟨h1, t1, d1, sd1, n1, some bm, p1⟩ _ _ k1

theorem root_polls (lim : Limit) (hl : lim.clockFree) (fuel : Nat) (p : Position) (hist : List BB)
    (tt : Table TTEntry) (k : Nat) :
    rootIter lim fuel p Gen.MAX_DEPTH.toNat 1 ⟨hist, tt, 0, 0, 0, none, k⟩ none [] = root lim fuel p hist tt :=
  rootIter_polls lim hl fuel p _ _ ⟨hist, tt, 0, 0, 0, none, 0⟩ _ _ k

end Rawr
