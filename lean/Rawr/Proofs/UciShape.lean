import Rawr.Proofs.UciMoves
/-! Classification of the output lines of the model: `isBest` (starts with `"bestmove "`), `isInfo` (starts with
`"info "`), `Neutral` (neither a `bestmove` line nor `readyok`), proved through the first characters; `displayPos` with
its local definitions named (`dispCell`, `dispCastle`, `dispLines`, `displayPos_eq`). What the counting of C15 takes from
here: `nReady`, `nBest`, `counts_of_neutral`, and `SearchShape` (`info` lines, then one `bestmove` line) with
`SearchShape.counts`. -/
namespace Rawr

def isBest (s : String) : Bool := (str "bestmove ").isPrefixOf s.toList
def isInfo (s : String) : Bool := (str "info ").isPrefixOf s.toList
def Neutral (s : String) : Prop := isBest s = false ∧ s ≠ "readyok"

theorem neutral_of_first {s : String} {a : Char} {r : List Char} (h : s.toList = a :: r)
    (hb : a ≠ 'b') (hr : a ≠ 'r') : Neutral s := by
  constructor
  · simp [isBest, h, str, List.isPrefixOf, Ne.symm hb]
  · intro e; subst e; simp at h; exact hr h.1.symm

theorem neutral_of_second {s : String} {a b : Char} {r : List Char} (h : s.toList = a :: b :: r)
    (he : b ≠ 'e') : Neutral s := by
  constructor
  · simp [isBest, h, str, List.isPrefixOf, Ne.symm he]
  · intro e; subst e; simp at h; exact he h.2.1.symm

theorem neutral_of_fifth {s : String} {a b c d e : Char} {r : List Char} (h : s.toList = a :: b :: c :: d :: e :: r)
    (hm : e ≠ 'm') (hy : e ≠ 'y') : Neutral s := by
  constructor
  · simp [isBest, h, str, List.isPrefixOf, Ne.symm hm]
  · intro e; subst e; simp at h; exact hy h.2.2.2.2.1.symm

/-- the second character exists and is not `e` (both `bestmove …` and `readyok` have `e` there). -/
def secondOk (l : List Char) : Bool :=
  match l with
  | _ :: b :: _ => b != 'e'
  | _ => false

theorem neutral_of_secondOk {s : String} (h : secondOk s.toList = true) : Neutral s := by
  unfold secondOk at h
  split at h
  · next a b r e => exact neutral_of_second e (by simpa using h)
  · cases h

theorem neutral_append (pre t : String) (h : secondOk pre.toList = true) : Neutral (pre ++ t) := by
  apply neutral_of_secondOk
  rw [String.toList_append]
  unfold secondOk at h ⊢
  split at h
  · next a b r e => rw [e]; simpa using h
  · cases h

theorem toString_str (s : String) : toString s = s := rfl

theorem isInfo_append (t : String) : isInfo ("info " ++ t) = true := by
  simp [isInfo, str, List.isPrefixOf]

theorem isBest_append (t : String) : isBest ("bestmove " ++ t) = true := by
  simp [isBest, str, List.isPrefixOf]

theorem isInfo_neutral {s : String} (h : isInfo s = true) : Neutral s := by
  unfold isInfo at h
  rw [List.isPrefixOf_iff_prefix] at h
  obtain ⟨t, ht⟩ := h
  exact neutral_of_first (a := 'i') (r := str "nfo " ++ t) (by rw [← ht]; simp [str]) (by decide) (by decide)

theorem isBest_ne_readyok {s : String} (h : isBest s = true) : s ≠ "readyok" := by
  rintro rfl
  revert h
  decide

theorem infoLine_isInfo (p : Position) (i : InfoRec) : isInfo (infoLine p i) = true := by
  unfold infoLine
  simp only [toString_str, String.append_assoc]
  have e : "info depth " = "info " ++ "depth " := by decide
  rw [e, String.append_assoc]
  exact isInfo_append _

theorem natRepr_neutral (n : Nat) : Neutral (toString n) := by
  have hne := @Nat.toDigits_ne_nil n 10
  cases h : Nat.toDigits 10 n with
  | nil => exact absurd h hne
  | cons a r =>
    have hd : a.isDigit = true :=
      Nat.isDigit_of_mem_toDigits (b := 10) (n := n) (by omega) (by omega) (by rw [h]; simp)
    refine neutral_of_first (a := a) (r := r) (by simp [Nat.toString_eq_repr, Nat.repr, h]) ?_ ?_
    · rintro rfl; revert hd; decide
    · rintro rfl; revert hd; decide

theorem intRepr_neutral (n : Int) : Neutral (toString n) := by
  cases n with
  | ofNat m => exact natRepr_neutral m
  | negSucc m =>
    exact neutral_of_first (a := '-') (r := (m.succ.repr).toList) (by simp [toString, Int.repr])
      (by decide) (by decide)

theorem hexLine_neutral (h : BB) : Neutral (hexLine h) :=
  neutral_of_first (a := '0') (r := 'x' :: hexDigits h.toNat) (by simp [hexLine]) (by decide) (by decide)

/-- the board character of a square (`displayPos`'s local `cell`). -/
def dispCell (np : Position) (sq : Nat) : Char :=
  let w := np.white.isSet sq
  let pick (u l : Char) := if w then u else l
  if np.p0.isSet sq then pick 'P' 'p' else if np.p1.isSet sq then pick 'N' 'n'
  else if np.p2.isSet sq then pick 'B' 'b' else if np.p3.isSet sq then pick 'R' 'r'
  else if np.p4.isSet sq then pick 'Q' 'q' else if np.p5.isSet sq then pick 'K' 'k' else '-'

/-- the `Castling:` line of `displayPos`. -/
def dispCastle (np p : Position) : String :=
  if !np.usK && !np.usQ && !np.themK && !np.themQ then "Castling: -"
  else "Castling: " ++ String.ofList (
    (if np.usK then [Char.ofNat ('A'.toNat + p.cf0)] else []) ++
    (if np.usQ then [Char.ofNat ('A'.toNat + p.cf1)] else []) ++
    (if np.themK then [Char.ofNat ('a'.toNat + p.cf2)] else []) ++
    (if np.themQ then [Char.ofNat ('a'.toNat + p.cf3)] else []))

/-- the lines of `displayPos p` for the white-relative position `np` of `p`, its local definitions named. -/
def dispLines (np p : Position) : List String :=
  ((List.range 8).map fun i => String.ofList ((List.range 8).map fun x => dispCell np (8 * (7 - i) + x))) ++
  [ "Turn: " ++ (if p.black then "Black" else "White"),
    "Check: " ++ (if p.inCheck then "true" else "false"),
    "Halfmoves: " ++ toString np.halfmoves,
    "Fullmoves: " ++ toString np.fullmoves,
    (match np.ep with | some e => "EP: " ++ String.ofList (sqName e) | none => "EP: -"), dispCastle np p,
    "Hash: 0x" ++ String.ofList (hexDigits p.hash.toNat), "FRC: " ++ (if p.frc then "true" else "false")]

theorem displayPos_eq (p : Position) : displayPos p = dispLines (if p.black then p.flip else p) p := rfl

theorem dispCell_facts (np : Position) (sq : Nat) :
    dispCell np sq ≠ ' ' ∧ dispCell np sq ≠ '\n' ∧ dispCell np sq ≠ 'e' := by
  -- the conjunction moves into the branches of the chain of `if`s, where it is a fact about one character
  unfold dispCell
  simp only [apply_ite (fun c : Char => c ≠ ' ' ∧ c ≠ '\n' ∧ c ≠ 'e')]
  simp

theorem range8 : List.range 8 = [0, 1, 2, 3, 4, 5, 6, 7] := by decide

theorem displayPos_neutral (p : Position) : ∀ l ∈ displayPos p, Neutral l := by
  intro l hl
  rw [displayPos_eq, dispLines] at hl
  simp only [List.mem_append, List.mem_map, List.mem_cons, List.not_mem_nil, or_false] at hl
  generalize (if p.black = true then p.flip else p) = np at hl
  rcases hl with ⟨i, _, rfl⟩ | rfl | rfl | rfl | rfl | rfl | rfl | rfl | rfl
  · -- the second character of a row is a board character
    rw [range8]
    exact neutral_of_second String.toList_ofList (dispCell_facts np _).2.2
  · exact neutral_append _ _ (by decide +kernel)
  · exact neutral_append _ _ (by decide +kernel)
  · exact neutral_append _ _ (by decide +kernel)
  · exact neutral_append _ _ (by decide +kernel)
  · split
    · exact neutral_append _ _ (by decide +kernel)
    · exact neutral_of_secondOk (by decide +kernel)
  · unfold dispCastle
    split
    · exact neutral_of_secondOk (by decide +kernel)
    · exact neutral_append _ _ (by decide +kernel)
  · exact neutral_append _ _ (by decide +kernel)
  · exact neutral_append _ _ (by decide +kernel)

theorem unknownMove_neutral (t : List Char) : Neutral ("info string unknown move " ++ String.ofList t) :=
  neutral_append _ _ (by decide +kernel)

theorem reports_neutral (ts : List (List Char)) (pos : Position) : ∀ l ∈ reports ts pos, Neutral l := by
  intro l hl
  obtain ⟨t, _, rfl⟩ := reports_mem ts pos l hl
  exact unknownMove_neutral t

def nReady (out : List String) : Nat := out.count "readyok"
def nBest (out : List String) : Nat := out.countP isBest

theorem nReady_append (a b : List String) : nReady (a ++ b) = nReady a + nReady b := List.count_append
theorem nBest_append (a b : List String) : nBest (a ++ b) = nBest a + nBest b := List.countP_append

theorem counts_of_neutral {out : List String} (h : ∀ l ∈ out, Neutral l) : nReady out = 0 ∧ nBest out = 0 := by
  constructor
  · unfold nReady
    rw [List.count_eq_zero]
    intro hm
    exact (h _ hm).2 rfl
  · unfold nBest
    rw [List.countP_eq_zero]
    intro l hl
    rw [(h l hl).1]
    decide

def SearchShape (out : List String) : Prop :=
  ∃ infos bm, out = infos ++ [bm] ∧ (∀ l ∈ infos, isInfo l = true) ∧ isBest bm = true

theorem SearchShape.counts {out : List String} (h : SearchShape out) : nReady out = 0 ∧ nBest out = 1 := by
  obtain ⟨infos, bm, rfl, hi, hb⟩ := h
  have := counts_of_neutral (out := infos) fun l hl => isInfo_neutral (hi l hl)
  rw [nReady_append, nBest_append, this.1, this.2]
  constructor
  · unfold nReady
    rw [Nat.zero_add, List.count_eq_zero]
    intro hm
    simp only [List.mem_singleton] at hm
    exact isBest_ne_readyok hb hm.symm
  · simp [nBest, hb]

end Rawr
