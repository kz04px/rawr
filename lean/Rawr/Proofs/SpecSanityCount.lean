import Rawr.Proofs.BridgeM
import Rawr.Proofs.SpecFrame
/-!
# Sanity of the specification, part 3: conservation of material

A legal move removes exactly one man when it is a capture
(`Spec.isCaptureMove`, en passant included) and none otherwise; the mover's own men are conserved, kind by
kind, except that a promotion trades one pawn for one piece; the number of pawns of either colour never
grows. No engine model involved.
-/
namespace Rawr.SpecS
open Rawr.Spec Rawr.SV Rawr.Br Rawr.Term

def menCount (b : Board) : Nat := countPieces b (fun _ => true)

theorem ind_true (o : Option Piece) : ind o (fun _ => true) = if o.isSome = true then 1 else 0 := by
  cases o <;> rfl

theorem menCount_le (b : Board) : menCount b ≤ 64 := by
  unfold menCount
  rw [countPieces_eq_wsum]
  refine wsumN_le _ (fun x => ?_) 64
  rw [cellW_ind, ind_true]
  split <;> omega

theorem menCount_pos {b : Board} {s : Nat} {pc : Piece} (hs : s < 64) (h : b s = some pc) : 1 ≤ menCount b := by
  unfold menCount
  rw [countPieces_eq_wsum]
  refine wsumN_pos _ hs ?_
  rw [cellW_ind, ind_true, h]
  exact Nat.le_refl 1

theorem isCaptureMove_normal {a : APos} {s t : Nat} {pr : Option Kind} {pc : Piece}
    (hpc : a.board s = some pc) :
    isCaptureMove a (.normal s t pr) = ((a.board t).isSome || isEpB a s t pc) := by
  unfold isCaptureMove isEpB
  simp only [hpc]
  cases hq : a.board t with
  | none => simp
  | some q => simp

theorem men_apply {a : APos} {m : Move} (hv : Valid a = true) (hl : m ∈ legalMoves a) :
    menCount (apply a m).board + (if isCaptureMove a m = true then 1 else 0) = menCount a.board := by
  have v := (valid_iff a).mp hv
  rcases legal_cases hl with ⟨s, t, pr, pc, e, nl, _⟩ | ⟨ks, e, hc⟩
  · subst e
    rw [apply_board nl.hpc, isCaptureMove_normal nl.hpc]
    have h := count_newBoard v nl (fun _ => true)
    simp only [ind_true, Option.isSome_some, if_true] at h
    unfold menCount
    by_cases hE : isEpB a s t pc = true
    · have hn : (a.board t).isSome = false := by
        rw [(isEpB_iff.mp hE).2.2]
        rfl
      rw [hE, hn] at h ⊢
      simp only [Bool.false_or, if_true, Bool.false_eq_true, if_false] at h ⊢
      omega
    · have hE' : isEpB a s t pc = false := by simpa using hE
      rw [hE'] at h ⊢
      simp only [Bool.or_false, Bool.false_eq_true, if_false] at h ⊢
      omega
  · subst e
    unfold menCount
    rw [count_castle v hc]
    rfl

theorem opp_counts_le {a : APos} {m : Move} (hv : Valid a = true) (hl : m ∈ legalMoves a) :
    cntCol (apply a m).board (!a.whiteToMove) ≤ cntCol a.board (!a.whiteToMove) ∧
    ∀ kd, cnt (apply a m).board (!a.whiteToMove) kd ≤ cnt a.board (!a.whiteToMove) kd := by
  have v := (valid_iff a).mp hv
  rcases legal_cases hl with ⟨s, t, pr, pc, e, nl, _⟩ | ⟨ks, e, hc⟩
  · subst e
    rw [apply_board nl.hpc]
    exact ⟨count_opp_le v nl _ (onlyCol_col _), fun kd => count_opp_le v nl _ (onlyCol_cnt _ kd)⟩
  · subst e
    unfold cnt cntCol
    simp only [count_castle v hc]
    exact ⟨Nat.le_refl _, fun _ => Nat.le_refl _⟩

theorem own_counts {a : APos} {m : Move} (hv : Valid a = true) (hl : m ∈ legalMoves a) :
    cntCol (apply a m).board a.whiteToMove = cntCol a.board a.whiteToMove ∧
    ((∀ s t k, m ≠ .normal s t (some k)) →
      ∀ kd, cnt (apply a m).board a.whiteToMove kd = cnt a.board a.whiteToMove kd) := by
  have v := (valid_iff a).mp hv
  rcases legal_cases hl with ⟨s, t, pr, pc, e, nl, _⟩ | ⟨ks, e, hc⟩
  · subst e
    rw [apply_board nl.hpc]
    constructor
    · have hcol := count_own v nl _ (onlyCol_col a.whiteToMove)
      rw [ind_col, ind_col, newPiece_white, nl.hw] at hcol
      simp only [if_true] at hcol
      unfold cntCol; omega
    · intro hnp kd
      have hpr : pr = none := by
        cases pr with
        | none => rfl
        | some k => exact absurd rfl (hnp s t k)
      subst hpr
      have := count_own v nl _ (onlyCol_cnt a.whiteToMove kd)
      have hnp : newPiece none pc = pc := rfl
      rw [hnp] at this
      unfold cnt; omega
  · subst e
    unfold cnt cntCol
    simp only [count_castle v hc]
    exact ⟨trivial, fun _ _ => trivial⟩

theorem promotion_counts {a : APos} {s t : Nat} {k : Kind} (hv : Valid a = true)
    (hl : Move.normal s t (some k) ∈ legalMoves a) :
    k ∈ promoKinds ∧ a.board s = some ⟨a.whiteToMove, .pawn⟩ ∧
    (apply a (.normal s t (some k))).board t = some ⟨a.whiteToMove, k⟩ ∧
    (apply a (.normal s t (some k))).board s = none ∧
    cnt (apply a (.normal s t (some k))).board a.whiteToMove .pawn + 1 = cnt a.board a.whiteToMove .pawn ∧
    cnt (apply a (.normal s t (some k))).board a.whiteToMove k = cnt a.board a.whiteToMove k + 1 ∧
    ∀ kd, kd ≠ .pawn → kd ≠ k →
      cnt (apply a (.normal s t (some k))).board a.whiteToMove kd = cnt a.board a.whiteToMove kd := by
  have v := (valid_iff a).mp hv
  rcases legal_cases hl with ⟨s', t', pr', pc, e, nl, _⟩ | ⟨ks, e, _⟩
  · cases e
    obtain ⟨hkp, hmem, _⟩ := nl.prK k rfl
    have hpcE : pc = ⟨a.whiteToMove, .pawn⟩ := by rw [nl.pc_eq, hkp]
    subst hpcE
    have hkne : k ≠ .pawn := by
      intro e; subst e; simp [promoKinds] at hmem
    have hk := fun kd => count_own v nl _ (onlyCol_cnt a.whiteToMove kd)
    have hnp : newPiece (some k) ⟨a.whiteToMove, .pawn⟩ = ⟨a.whiteToMove, k⟩ := rfl
    rw [apply_board nl.hpc]
    simp only [hnp, ind_eq] at hk
    refine ⟨hmem, nl.hpc, by rw [newBoard_t, hnp], ?_, ?_, ?_, ?_⟩
    · rw [newBoard_other nl.hne, if_pos rfl]
    · have := hk .pawn
      simp only [if_true, Piece.mk.injEq, true_and] at this
      rw [if_neg hkne] at this
      unfold cnt; omega
    · have := hk k
      simp only [if_true, Piece.mk.injEq, true_and] at this
      rw [if_neg (fun e => hkne e.symm)] at this
      unfold cnt; omega
    · intro kd h1 h2
      have := hk kd
      simp only [Piece.mk.injEq, true_and] at this
      rw [if_neg (fun e => h1 e.symm), if_neg (fun e => h2 e.symm)] at this
      unfold cnt; omega
  · cases e

theorem pawns_never_increase {a : APos} {m : Move} (hv : Valid a = true) (hl : m ∈ legalMoves a) (c : Bool) :
    cnt (apply a m).board c .pawn ≤ cnt a.board c .pawn := by
  by_cases hc : c = a.whiteToMove
  · subst hc
    by_cases hp : ∃ s t k, m = .normal s t (some k)
    · obtain ⟨s, t, k, rfl⟩ := hp
      have := (promotion_counts hv hl).2.2.2.2.1
      omega
    · have := (own_counts hv hl).2 (fun s t k e => hp ⟨s, t, k, e⟩) .pawn
      omega
  · have : c = !a.whiteToMove := Bool.eq_not_of_ne hc
    subst this
    exact (opp_counts_le hv hl).2 .pawn

theorem menCount_eq (b : Board) (c : Bool) : menCount b = cntCol b c + cntCol b (!c) := by
  unfold menCount cntCol
  rw [countPieces_eq_wsum, countPieces_eq_wsum, countPieces_eq_wsum, ← wsum_add]
  congr 1
  funext pc s
  cases pc.white <;> cases c <;> rfl

/-- the man that disappears in a capture is the opponent's: all men less the mover's, which are conserved. -/
theorem opp_men_apply {a : APos} {m : Move} (hv : Valid a = true) (hl : m ∈ legalMoves a) :
    cntCol (apply a m).board (!a.whiteToMove) + (if isCaptureMove a m = true then 1 else 0) =
      cntCol a.board (!a.whiteToMove) := by
  have h := men_apply hv hl
  rw [menCount_eq _ a.whiteToMove, menCount_eq a.board a.whiteToMove, (own_counts hv hl).1] at h
  omega

end Rawr.SpecS
