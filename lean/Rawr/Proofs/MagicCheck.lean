import Rawr.Model.Magic
import Rawr.Spec.Walk
import Rawr.Proofs.AttackGeom
import Rawr.Proofs.Force
/-!
# C10, table part: a kernel-evaluable checker over `Nat` shadows and its soundness

`checkSq` enumerates every subset `s` of a mask and compares the table entry selected by the magic
index of `s` with the coordinate walk. Everything that is evaluated by the kernel works on `Nat`
literals, all intermediate values are forced (kernel evaluation is lazy). Two things keep a row cheap:
the blockers of one ray fix what that ray scans, so the scans are made once per ray and the rows
combine them (`rayRows`, `checkRows`); and the part of the table a square uses is first packed into
two big numbers, in which a look-up is one shift (`Trie.pack`), where the trie takes a step per level.
The soundness theorems at the end of the file connect a successful run to the `BitVec` model
functions of `Model/Magic.lean` and to `Spec.walkBB`.
-/
namespace Rawr
open Spec

/-- `k l`, with every element of `l` evaluated first, by `f`. -/
def forceAll {α : Type} (f : α → (α → Bool) → Bool) : List α → (List α → Bool) → Bool
  | [], k => k []
  | x :: xs, k => f x fun x => forceAll f xs fun xs => k (x :: xs)

theorem forceAll_eq {α : Type} {f : α → (α → Bool) → Bool} (hf : ∀ x k, f x k = k x) (l : List α)
    (k : List α → Bool) : forceAll f l k = k l := by
  induction l generalizing k with
  | nil => rfl
  | cons x xs ih => simp only [forceAll, hf, ih]

def forcePair (x : Nat × Nat) (k : Nat × Nat → Bool) : Bool :=
  forceN x.1 fun t => forceN x.2 fun a => k (t, a)

theorem forcePair_eq (x : Nat × Nat) (k : Nat × Nat → Bool) : forcePair x k = k x := by
  simp only [forcePair, forceN_eq]

theorem testBit_match {α : Type} (i d : Nat) (a b : α) :
    (match Nat.land 1 (Nat.shiftRight i d) with | 0 => a | Nat.succ _ => b)
      = if i.testBit d then b else a := by
  have h : i.testBit d = (Nat.land 1 (Nat.shiftRight i d) != 0) := rfl
  rw [h]
  cases Nat.land 1 (Nat.shiftRight i d) <;> simp

def setNat (l : List Nat) : Nat := l.foldr (fun t a => 2 ^ t ||| a) 0

theorem setNat_cons (t : Nat) (l : List Nat) : setNat (t :: l) = 2 ^ t ||| setNat l := rfl

/-- prefix of `l` up to and including the first element satisfying `p`. -/
def takeUntil (p : Nat → Bool) : List Nat → List Nat
  | [] => []
  | t :: ts => if p t then [t] else t :: takeUntil p ts

/-- `setNat (takeUntil s.testBit ray)`. -/
def scanRay (s : Nat) : List Nat → Nat
  | [] => 0
  | t :: ts =>
    match Nat.land 1 (Nat.shiftRight s t) with
    | 0 => 2 ^ t ||| scanRay s ts
    | Nat.succ _ => 2 ^ t ||| 0

def scanRays (s : Nat) : List (List Nat) → Nat
  | [] => 0
  | r :: rs => scanRay s r ||| scanRays s rs

theorem scanRay_eq (s : Nat) (l : List Nat) : scanRay s l = setNat (takeUntil s.testBit l) := by
  induction l with
  | nil => rfl
  | cons t ts ih =>
    simp only [scanRay, testBit_match, takeUntil, ih]
    split <;> simp [setNat]

theorem setNat_append (a b : List Nat) : setNat (a ++ b) = setNat a ||| setNat b := by
  induction a with
  | nil => simp [setNat]
  | cons t ts ih =>
    rw [List.cons_append, setNat_cons, ih, ← Nat.or_assoc, setNat_cons]

theorem scanRays_eq (s : Nat) (rs : List (List Nat)) :
    scanRays s rs = setNat (rs.flatMap (takeUntil s.testBit)) := by
  induction rs with
  | nil => rfl
  | cons r rs ih => simp only [scanRays, List.flatMap_cons, setNat_append, scanRay_eq, ih]

def emptyOcc : Nat → Bool := fun _ => false

theorem walkFrom_takeUntil (df dr : Int) (occ : Nat → Bool) (n : Nat) (f r : Int) :
    walkFrom df dr occ n f r = takeUntil occ (walkFrom df dr emptyOcc n f r) := by
  induction n generalizing f r with
  | zero => rfl
  | succ n ih =>
    simp only [walkFrom]
    split
    · simp only [emptyOcc, Bool.false_eq_true, if_false, takeUntil]
      split
      · rfl
      · rw [ih]
    · rfl

def emptyRays (dirs : List (Int × Int)) (sq : Nat) : List (List Nat) :=
  dirs.map fun d => walk d.1 d.2 sq emptyOcc

theorem scanRays_emptyRays (dirs : List (Int × Int)) (sq s : Nat) :
    scanRays s (emptyRays dirs sq) = setNat (walkList dirs sq s.testBit) := by
  rw [scanRays_eq, emptyRays, walkList]
  congr 1
  induction dirs with
  | nil => rfl
  | cons d ds ih =>
    simp only [List.map_cons, List.flatMap_cons, ih]
    congr 1
    exact (walkFrom_takeUntil d.1 d.2 s.testBit 7 (file sq) (rank sq)).symm

theorem mem_walkFrom_lt {df dr : Int} {occ : Nat → Bool} {n : Nat} {f r : Int} {t : Nat}
    (h : t ∈ walkFrom df dr occ n f r) : t < 64 := by
  obtain ⟨k, hk, _, ⟨hon, _⟩, rfl⟩ := (Att.mem_walkFrom df dr occ t n f r).mp h
  exact onBoard_lt (hon k hk (Nat.le_refl k))

theorem mem_walkList_lt {dirs : List (Int × Int)} {sq : Nat} {occ : Nat → Bool} {t : Nat}
    (h : t ∈ walkList dirs sq occ) : t < 64 := by
  simp only [walkList, List.mem_flatMap] at h
  obtain ⟨d, _, h⟩ := h
  exact mem_walkFrom_lt h

theorem setBB_toNat (l : List Nat) (h : ∀ t ∈ l, t < 64) : (setBB l).toNat = setNat l := by
  induction l with
  | nil => rfl
  | cons t ts ih =>
    have ht : t < 64 := h t (List.mem_cons_self ..)
    have e : setBB (t :: ts) = (1#64 <<< t) ||| setBB ts := rfl
    rw [e, setNat_cons, BitVec.toNat_or, ih (fun x hx => h x (List.mem_cons_of_mem _ hx)),
      BitVec.toNat_shiftLeft]
    congr 1
    have : (1#64).toNat = 1 := rfl
    rw [this, Nat.one_shiftLeft]
    exact Nat.mod_eq_of_lt (Nat.pow_lt_pow_right (by decide) ht)

theorem walkBB_toNat (dirs : List (Int × Int)) (sq : Nat) (occ : BitVec 64) :
    (walkBB dirs sq occ).toNat = setNat (walkList dirs sq occ.toNat.testBit) := by
  unfold walkBB
  rw [setBB_toNat _ (fun t h => mem_walkList_lt h)]
  congr 2

theorem testBit_setNat (l : List Nat) (t : Nat) : (setNat l).testBit t = decide (t ∈ l) := by
  induction l with
  | nil => simp [setNat]
  | cons x xs ih =>
    rw [setNat_cons, Nat.testBit_or, Nat.testBit_two_pow, ih]
    simp [eq_comm]

theorem and_two_pow_cases (o i : Nat) : o &&& 2 ^ i = 0 ∨ o &&& 2 ^ i = 2 ^ i := by
  by_cases h : o.testBit i
  · right
    apply Nat.eq_of_testBit_eq; intro j
    rw [Nat.testBit_and, Nat.testBit_two_pow]
    by_cases hj : i = j
    · subst hj; simp [h]
    · simp [hj]
  · left
    apply Nat.eq_of_testBit_eq; intro j
    rw [Nat.testBit_and, Nat.testBit_two_pow]
    by_cases hj : i = j
    · subst hj; simp [h]
    · simp [hj]

def subsets : List Nat → List Nat
  | [] => [0]
  | t :: ts => subsets ts ++ (subsets ts).map (2 ^ t ||| ·)

theorem mem_subsets (o : Nat) (ts : List Nat) : o &&& setNat ts ∈ subsets ts := by
  induction ts with
  | nil => simp [subsets, setNat]
  | cons t ts ih =>
    rw [setNat_cons, Nat.and_or_distrib_left, subsets, List.mem_append, List.mem_map]
    rcases and_two_pow_cases o t with h | h <;> rw [h]
    · exact .inl (by rwa [Nat.zero_or])
    · exact .inr ⟨_, ih, rfl⟩

/-- the blockers on the ray `r` that `mask` admits, each set with what the ray then scans. -/
def rayRows (mask : Nat) (r : List Nat) : List (Nat × Nat) :=
  (subsets (r.filter mask.testBit)).map fun t => (t, scanRay t r)

theorem setNat_filter (mask : Nat) (r : List Nat) :
    setNat (r.filter mask.testBit) = mask &&& setNat r := by
  apply Nat.eq_of_testBit_eq; intro j
  rw [Nat.testBit_and, testBit_setNat, testBit_setNat]
  by_cases h : mask.testBit j <;> simp [List.mem_filter, h]

theorem mem_rayRows (o mask : Nat) (r : List Nat) :
    (o &&& (mask &&& setNat r), scanRay (o &&& (mask &&& setNat r)) r) ∈ rayRows mask r := by
  rw [← setNat_filter]
  exact List.mem_map.mpr ⟨_, mem_subsets o _, rfl⟩

/-- `row s a` for every combination of one entry per ray, `s` the blockers and `a` the scans taken
together. -/
def checkRows (row : Nat → Nat → Bool) : List (List (Nat × Nat)) → Nat → Nat → Bool
  | [], s, a => row s a
  | l :: ls, s, a => l.all fun x =>
      forceN (s ||| x.1) fun s' => forceN (a ||| x.2) fun a' => checkRows row ls s' a'

def raysDisjoint : List (List Nat) → Bool
  | [] => true
  | r :: rs => Nat.beq (setNat r &&& setNat rs.flatten) 0 && raysDisjoint rs

theorem takeUntil_congr {p q : Nat → Bool} {l : List Nat} (h : ∀ t ∈ l, p t = q t) :
    takeUntil p l = takeUntil q l := by
  induction l with
  | nil => rfl
  | cons t ts ih =>
    rw [takeUntil, takeUntil, h t (List.mem_cons_self ..), ih fun u hu => h u (List.mem_cons_of_mem _ hu)]

theorem scanRay_or (s x : Nat) (r : List Nat) (h : x &&& setNat r = 0) :
    scanRay (s ||| x) r = scanRay s r := by
  rw [scanRay_eq, scanRay_eq, takeUntil_congr]
  intro t ht
  have := congrArg (·.testBit t) h
  simp only [Nat.testBit_and, testBit_setNat, ht, decide_true, Bool.and_true, Nat.zero_testBit] at this
  rw [Nat.testBit_or, this, Bool.or_false]

theorem or_and_eq_zero {x y z : Nat} : (x ||| y) &&& z = 0 ↔ x &&& z = 0 ∧ y &&& z = 0 := by
  rw [Nat.and_or_distrib_right, Nat.or_eq_zero_iff]

/-- the occupancy `checkRows` reaches from `s` when the blockers on the rays are those of `o`. -/
def pick (o mask : Nat) : List (List Nat) → Nat → Nat
  | [], s => s
  | r :: rs, s => pick o mask rs (s ||| (o &&& (mask &&& setNat r)))

theorem pick_eq (o mask : Nat) (rs : List (List Nat)) (s : Nat) :
    pick o mask rs s = s ||| (o &&& (mask &&& setNat rs.flatten)) := by
  induction rs generalizing s with
  | nil => simp [pick, setNat]
  | cons r rs ih =>
    rw [pick, ih, List.flatten_cons, setNat_append, Nat.or_assoc, ← Nat.and_or_distrib_left,
      ← Nat.and_or_distrib_left]

theorem checkRows_sound (row : Nat → Nat → Bool) (o mask : Nat) :
    ∀ (rays : List (List Nat)) (s a : Nat), raysDisjoint rays = true → s &&& setNat rays.flatten = 0 →
      checkRows row (rays.map (rayRows mask)) s a = true →
      row (pick o mask rays s) (a ||| scanRays (pick o mask rays s) rays) = true := by
  intro rays
  induction rays with
  | nil => intro s a _ _ h; simpa [checkRows, pick, scanRays] using h
  | cons r rs ih =>
    intro s a hd hs h
    simp only [raysDisjoint, Bool.and_eq_true] at hd
    have hr := Nat.eq_of_beq_eq_true hd.1
    rw [List.flatten_cons, setNat_append, Nat.and_or_distrib_left, Nat.or_eq_zero_iff] at hs
    simp only [List.map_cons, checkRows, forceN_eq, List.all_eq_true] at h
    -- `t`: the blockers of `o` on `r`; they lie on `r`, so off the rays to come
    generalize ht : o &&& (mask &&& setNat r) = t at h
    have ht' : t &&& setNat rs.flatten = 0 := by
      rw [← ht, Nat.and_assoc, Nat.and_assoc, hr, Nat.and_zero, Nat.and_zero]
    have := ih _ _ hd.2 (or_and_eq_zero.mpr ⟨hs.2, ht'⟩) (h _ (ht ▸ mem_rayRows o mask r))
    rw [pick_eq] at this
    rw [pick, ht, scanRays, ← Nat.or_assoc, pick_eq]
    -- what `r` scans is fixed by `t`: `s` and the blockers to come lie off `r`
    rwa [Nat.or_comm s t, Nat.or_assoc t, scanRay_or t _ r (or_and_eq_zero.mpr ⟨hs.1, by
      rw [Nat.and_assoc, Nat.and_assoc, Nat.and_comm _ (setNat r), hr, Nat.and_zero, Nat.and_zero]⟩),
      ← Nat.or_assoc t, Nat.or_comm t s]

namespace Trie

/-- the half of a trie that holds the indices whose leading bit is `b`. -/
def child : Trie → Bool → Trie
  | E, _ => E
  | L v, _ => L v
  | N l _, false => l
  | N _ r, true => r

theorem get_succ (t : Trie) (d i : Nat) : t.get (d + 1) i = (t.child (i.testBit d)).get d i := by
  cases t with
  | E => cases d <;> rfl
  | L v => cases d <;> rfl
  | N l r => rw [get]; cases i.testBit d <;> rfl

theorem get_mod (t : Trie) (d i : Nat) : t.get d (i % 2 ^ d) = t.get d i := by
  induction d generalizing t i with
  | zero => cases t <;> rfl
  | succ d ih =>
    rw [get_succ, get_succ, Nat.testBit_mod_two_pow, decide_eq_true (Nat.lt_succ_self d), Bool.true_and,
      ← ih _ (i % _), Nat.mod_mod_of_dvd _ (Nat.pow_dvd_pow 2 (Nat.le_succ d)), ih]

/-- block `k` of `2 ^ b` entries of a trie of depth `e + b`. -/
def sub : Nat → Nat → Trie → Trie
  | 0, _, t => t
  | e + 1, k, t => sub e k (t.child (k.testBit e))

theorem sub_get (b : Nat) : ∀ (e : Nat) (t : Trie) (i : Nat),
    (sub e (i >>> b) t).get b (i % 2 ^ b) = t.get (e + b) i
  | 0, t, i => by rw [sub, get_mod, Nat.zero_add]
  | e + 1, t, i => by
    rw [sub, sub_get b e, Nat.add_right_comm, get_succ, Nat.testBit_shiftRight, Nat.add_comm b e]

/-- an entry as a cell of 65 bits, 0 for none. -/
def cell : Option Nat → Nat
  | some v => match Nat.blt v 18446744073709551616 with | true => v + 1 | false => 0
  | none => 0

theorem cell_lt (x : Option Nat) : cell x < 2 ^ 65 := by
  unfold cell
  split
  · split
    · rename_i h; have := Nat.blt_eq.mp h; omega
    · decide
  · decide

theorem cell_eq_succ {x : Option Nat} {a : Nat} (h : cell x = a + 1) : x = some a := by
  unfold cell at h
  split at h
  · split at h <;> simp_all
  · simp at h

/-- The `2 ^ d` entries of a trie of depth `d` side by side in one number, entry `i` in the bits from
`65 * i`: kernel evaluation shifts a big number in one step, while a look-up in the trie takes a
step per level. -/
def pack : Nat → Trie → Nat
  | 0, t => cell (t.get 0 0)
  | _ + 1, E => 0
  | d + 1, L v => pack d (L v) ||| pack d (L v) <<< (65 * 2 ^ d)
  | d + 1, N l r => pack d l ||| pack d r <<< (65 * 2 ^ d)

theorem pack_succ (d : Nat) (t : Trie) :
    pack (d + 1) t = pack d (t.child false) ||| pack d (t.child true) <<< (65 * 2 ^ d) := by
  cases t with
  | E =>
    have : ∀ d, pack d E = 0 := fun d => by cases d <;> rfl
    rw [child, child, this, this, Nat.zero_shiftLeft]; rfl
  | L v => rfl
  | N l r => rfl

theorem pack_lt : ∀ (d : Nat) (t : Trie), pack d t < 2 ^ (65 * 2 ^ d)
  | 0, t => cell_lt _
  | d + 1, t => by
    have e : 65 * 2 ^ (d + 1) = 65 * 2 ^ d + 65 * 2 ^ d := by rw [Nat.pow_succ]; omega
    rw [pack_succ, e]
    refine Nat.or_lt_two_pow (Nat.lt_of_lt_of_le (pack_lt d _) (Nat.pow_le_pow_right (by decide) (by omega))) ?_
    rw [Nat.shiftLeft_eq, Nat.pow_add]
    exact Nat.mul_lt_mul_of_lt_of_le (pack_lt d _) (Nat.le_refl _) (Nat.two_pow_pos _)

theorem testBit_cellAt (x n j : Nat) :
    ((x >>> n) % 2 ^ 65).testBit j = (decide (j < 65) && x.testBit (n + j)) := by
  rw [Nat.testBit_mod_two_pow, Nat.testBit_shiftRight]

theorem pack_get : ∀ (d : Nat) (t : Trie) (i : Nat), i < 2 ^ d →
    (pack d t >>> (65 * i)) % 2 ^ 65 = cell (t.get d i)
  | 0, t, i, h => by
    have : i = 0 := by simpa using h
    subst this
    exact Nat.mod_eq_of_lt (cell_lt _)
  | d + 1, t, i, h => by
    rw [get_succ, pack_succ]
    have hl := pack_lt d (t.child false)
    by_cases hi : i < 2 ^ d
    · rw [Nat.testBit_lt_two_pow hi, ← pack_get d _ i hi]
      apply Nat.eq_of_testBit_eq; intro j
      rw [testBit_cellAt, testBit_cellAt, Nat.testBit_or, Nat.testBit_shiftLeft]
      by_cases hj : j < 65
      · have : ¬ 65 * 2 ^ d ≤ 65 * i + j := by omega
        simp [this]
      · simp [hj]
    · have hi' : i - 2 ^ d < 2 ^ d := by rw [Nat.pow_succ] at h; omega
      have hb : i.testBit d = true := by
        rw [Nat.testBit_eq_decide_div_mod_eq, Nat.div_eq_of_lt_le (k := 1)] <;>
          simp [Nat.pow_succ] at h ⊢ <;> omega
      rw [hb, ← get_mod, Nat.mod_eq_sub_mod (Nat.le_of_not_lt hi), get_mod, ← pack_get d _ _ hi']
      apply Nat.eq_of_testBit_eq; intro j
      rw [testBit_cellAt, testBit_cellAt, Nat.testBit_or, Nat.testBit_shiftLeft,
        Nat.testBit_lt_two_pow (Nat.lt_of_lt_of_le hl (Nat.pow_le_pow_right (by decide) (by omega)))]
      have : 65 * 2 ^ d ≤ 65 * i + j := by omega
      have e : 65 * i + j - 65 * 2 ^ d = 65 * (i - 2 ^ d) + j := by omega
      simp [this, e]

end Trie

/-- One row: the table entry at the magic index of the occupancy `s` is the attack set `a`. The entry
is looked for in blocks `k0` and `k0 + 1` of `2 ^ b` entries, packed in `p1` and `p2`. -/
def rowOK (b k0 p1 p2 magic off shift s a : Nat) : Bool :=
  forceN (off + (((s * magic) % 18446744073709551616) >>> shift)) fun idx =>
    Nat.blt idx Gen.magicTableLen &&
    forceN (idx >>> b) fun k =>
      match Nat.beq k k0 with
      | true => Nat.beq ((p1 >>> (65 * (idx % 2 ^ b))) % 2 ^ 65) (a + 1)
      | false =>
        match Nat.beq k (k0 + 1) with
        | true => Nat.beq ((p2 >>> (65 * (idx % 2 ^ b))) % 2 ^ 65) (a + 1)
        | false => false

theorem rowOK_sound {e b k0 magic off shift s a : Nat} (he : e + b = Gen.magicTrieDepth)
    (h : rowOK b k0 (Trie.pack b (Trie.sub e k0 Gen.magicTrie))
      (Trie.pack b (Trie.sub e (k0 + 1) Gen.magicTrie)) magic off shift s a = true) :
    magicGet (off + (((s * magic) % 18446744073709551616) >>> shift)) = some a := by
  simp only [rowOK, forceN_eq, Bool.and_eq_true] at h
  generalize off + (((s * magic) % 18446744073709551616) >>> shift) = idx at h ⊢
  rw [magicGet, if_pos (Nat.blt_eq.mp h.1), ← he, ← Trie.sub_get b]
  have hm : idx % 2 ^ b < 2 ^ b := Nat.mod_lt _ (Nat.two_pow_pos b)
  replace h := h.2
  split at h
  next hk =>
    rw [Nat.eq_of_beq_eq_true hk]
    exact Trie.cell_eq_succ ((Trie.pack_get b _ _ hm).symm.trans (Nat.eq_of_beq_eq_true h))
  next =>
    split at h
    next hk =>
      rw [Nat.eq_of_beq_eq_true hk]
      exact Trie.cell_eq_succ ((Trie.pack_get b _ _ hm).symm.trans (Nat.eq_of_beq_eq_true h))
    next => exact absurd h (by simp)

/-- All rows of one square: every subset of `mask`. The table entries used lie within `2 ^ (64 - shift)`
of `off`, so in at most two blocks of that size. -/
def checkSq (dirs : List (Int × Int)) (stuff : Array (Nat × Nat)) (shift mask sq : Nat) : Bool :=
  match stuff[sq]?.getD (0, 0) with
  | (magic, off) =>
    forceN magic fun magic => forceN off fun off => forceN mask fun mask =>
    forceN shift fun shift => forceAll (forceAll forceN) (emptyRays dirs sq) fun rays =>
    forceAll (forceAll forcePair) (rays.map (rayRows mask)) fun rows =>
    forceN (64 - shift) fun b => forceN (Gen.magicTrieDepth - b) fun e => forceN (off >>> b) fun k0 =>
    forceN (Trie.pack b (Trie.sub e k0 Gen.magicTrie)) fun p1 =>
    forceN (Trie.pack b (Trie.sub e (k0 + 1) Gen.magicTrie)) fun p2 =>
      Nat.beq (e + b) Gen.magicTrieDepth && raysDisjoint rays &&
        Nat.beq (mask &&& setNat rays.flatten) mask &&
        checkRows (rowOK b k0 p1 p2 magic off shift) rows 0 0

def checkB (sq : Nat) : Bool :=
  checkSq diag Gen.bishopStuffLib Gen.bishopShiftLib (bishopMask sq).toNat sq
def checkR (sq : Nat) : Bool :=
  checkSq orth Gen.rookStuffLib Gen.rookShiftLib (rookMask sq).toNat sq

theorem checkSq_sound (dirs : List (Int × Int)) (stuff : Array (Nat × Nat)) (shift : Nat)
    (mask : BB) (sq : Nat) (h : checkSq dirs stuff shift mask.toNat sq = true) (occ : BB) :
    magicGet (magicIndex stuff shift mask sq occ) = some (walkBB dirs sq (occ &&& mask)).toNat := by
  unfold checkSq at h
  simp only [forceN_eq, forceAll_eq (forceAll_eq forceN_eq), forceAll_eq (forceAll_eq forcePair_eq),
    Bool.and_eq_true] at h
  obtain ⟨⟨⟨he, hd⟩, hc⟩, h⟩ := h
  have h2 := rowOK_sound (Nat.eq_of_beq_eq_true he)
    (checkRows_sound _ occ.toNat mask.toNat _ 0 0 hd (Nat.zero_and _) h)
  rw [pick_eq, Nat.eq_of_beq_eq_true hc, Nat.zero_or, Nat.zero_or, scanRays_emptyRays] at h2
  rw [walkBB_toNat, BitVec.toNat_and, ← h2]
  simp only [magicIndex, BitVec.toNat_ushiftRight, BitVec.toNat_mul, BitVec.toNat_and,
    BitVec.toNat_ofNat, Nat.mul_mod_mod]

theorem checkB_sound (sq : Nat) (h : checkB sq = true) (occ : BB) :
    magicGet (bishopIndex sq occ) = some (walkBB diag sq (occ &&& bishopMask sq)).toNat :=
  checkSq_sound diag _ _ _ sq h occ

theorem checkR_sound (sq : Nat) (h : checkR sq = true) (occ : BB) :
    magicGet (rookIndex sq occ) = some (walkBB orth sq (occ &&& rookMask sq)).toNat :=
  checkSq_sound orth _ _ _ sq h occ

end Rawr
