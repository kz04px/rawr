import Rawr.Model.Fen
/-! `set_fen` as a pipeline of named stages (`setFenStaged`), proved equal to the model's `setFenCore`,
and the decomposition of an accepting run (`setFenCore_some`). -/
namespace Rawr

def fenSide (sidePart : List Char) : Option Bool :=
  if sidePart == ['w'] || sidePart == ['W'] then some false
  else if sidePart == ['b'] || sidePart == ['B'] then some true else none

def fenCastlePart (part : Option (List Char)) (p : Position) : Option Position :=
  match part with
  | none => some p
  | some part => fenCastling part [] p

def fenEp (ar : Arith) (epPart : List Char) : Option (Option Nat) :=
  if epPart == ['-'] then some none
  else if strLen epPart == 2 then
    match epPart with
    | [c1, c2] => do
      let file ← u8sub ar (asU8 c1) (asU8 'a')
      let rank ← u8sub ar (asU8 c2) (asU8 '1')
      let r8 ← u8mul ar 8 rank
      let idx ← u8add ar r8 file
      some (some idx)
    | _ => none
  else none

def fenFinish (ar : Arith) (p : Position) (hm fm : Int) (shouldFlip : Bool) : Option Position :=
  let p := { p with halfmoves := hm, fullmoves := fm }
  let p := if shouldFlip then { p.flip with black := true } else p
  let p := { p with hash := p.calculateHash }
  if validateAr ar p then some p else none

theorem ep_stage {α} (ar : Arith) (epPart : List Char) (p : Position) (k : Position → Option α) :
    ((if epPart == ['-'] then some { p with ep := none }
      else if strLen epPart == 2 then
        match epPart with
        | [c1, c2] =>
          (u8sub ar (asU8 c1) (asU8 'a')).bind fun file =>
          (u8sub ar (asU8 c2) (asU8 '1')).bind fun rank =>
          (u8mul ar 8 rank).bind fun r8 =>
          (u8add ar r8 file).bind fun idx =>
          some { p with ep := some idx }
        | _ => none
      else none).bind k) = (fenEp ar epPart).bind fun ep => k { p with ep := ep } := by
  unfold fenEp
  split
  · rfl
  split
  · split
    · simp only [Option.bind_eq_bind, Option.bind_assoc, Option.bind_some]
    · rfl
  · rfl

def setFenStaged (ar : Arith) (frc : Bool) (fen : List Char) : Option Position :=
  let parts := splitSpace fen
  (fenBoard ar (parts.headD []) { Position.dflt with frc := frc } 0).bind fun r =>
  if r.2 != 64 then none else
  parts[1]?.bind fun sidePart =>
  (fenSide sidePart).bind fun flip =>
  if (r.1.c0 &&& r.1.p5).isEmpty || (r.1.c1 &&& r.1.p5).isEmpty then none else
  (fenCastlePart parts[2]? r.1).bind fun pc =>
  parts[3]?.bind fun epPart =>
  (fenEp ar epPart).bind fun ep =>
  parts[4]?.bind fun hmPart =>
  (parseI32 hmPart).bind fun hm =>
  if hm < 0 then none else
  parts[5]?.bind fun fmPart =>
  (parseI32 fmPart).bind fun fm =>
  if fm < 0 then none else
  if parts.length > 6 then none else
  fenFinish ar { pc with ep := ep } hm fm flip

/-- Both sides run the same stages on the same data; only the en-passant stage is written differently
(`ep_stage`), the other steps walk to it. -/
theorem setFenCore_eq_staged (ar frc fen) : setFenCore ar frc fen = setFenStaged ar frc fen := by
  unfold setFenCore setFenStaged
  refine Option.bind_congr fun r _ => ?_
  refine ite_congr rfl (fun _ => rfl) fun _ => ?_
  refine Option.bind_congr fun sidePart _ => ?_
  refine Option.bind_congr (o := fenSide sidePart) fun flip _ => ?_
  refine ite_congr rfl (fun _ => rfl) fun _ => ?_
  generalize (splitSpace fen)[2]? = part
  cases part
  all_goals
    refine Option.bind_congr fun pc _ => ?_
    exact Option.bind_congr fun epPart _ => ep_stage ar epPart pc _

/-- an accepting run of `set_fen`, stage by stage. -/
theorem setFenCore_some {ar frc fen r} (h : setFenCore ar frc fen = some r) :
    ∃ pb sidePart flip pc epPart ep hmPart hm fmPart fm,
      fenBoard ar ((splitSpace fen).headD []) { Position.dflt with frc := frc } 0 = some (pb, 64) ∧
      (splitSpace fen)[1]? = some sidePart ∧ fenSide sidePart = some flip ∧
      (pb.c0 &&& pb.p5).isEmpty = false ∧ (pb.c1 &&& pb.p5).isEmpty = false ∧
      fenCastlePart (splitSpace fen)[2]? pb = some pc ∧
      (splitSpace fen)[3]? = some epPart ∧ fenEp ar epPart = some ep ∧
      (splitSpace fen)[4]? = some hmPart ∧ parseI32 hmPart = some hm ∧ 0 ≤ hm ∧
      (splitSpace fen)[5]? = some fmPart ∧ parseI32 fmPart = some fm ∧ 0 ≤ fm ∧
      (splitSpace fen).length ≤ 6 ∧
      fenFinish ar { pc with ep := ep } hm fm flip = some r := by
  rw [setFenCore_eq_staged] at h
  unfold setFenStaged at h
  simp only [Option.bind_eq_some_iff, Option.ite_none_left_eq_some, bne_iff_ne, ne_eq, Decidable.not_not,
    Bool.or_eq_true, not_or, Bool.not_eq_true, Int.not_lt, Nat.not_lt] at h
  obtain ⟨⟨pb, idx⟩, hb, hidx, sidePart, hs, flip, hf, ⟨hk0, hk1⟩, pc, hc, epPart, he, ep, hep, hmPart, hh, hm, hhm,
    hhm0, fmPart, hfp, fm, hfm, hfm0, hlen, h⟩ := h
  cases hidx
  exact ⟨pb, sidePart, flip, pc, epPart, ep, hmPart, hm, fmPart, fm, hb, hs, hf, hk0, hk1, hc, he, hep,
    hh, hhm, hhm0, hfp, hfm, hfm0, hlen, h⟩

end Rawr
