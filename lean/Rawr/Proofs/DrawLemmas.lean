import Rawr.Proofs.RootLemmasFrame
import Rawr.Proofs.SelSort
/-! Helper lemmas for C11 (children drawn by rule) — also used by C12. Everything here lives in the namespace
`Rawr.DM` (other helper files prove similarly named range lemmas in `Rawr`).

The notions C11 and C12 are stated with: `DrawnChild`, `QuietAt` (limits that do not stop an iteration), `QEvalOk` (the
evaluation bound on a capture tree), `NoChildHit`, and `AllChildrenDrawn`, the hypotheses of C11 as one decidable record,
with what it gives for one root call (`.root_call`) and for the iterations from 2 on (`.iterations`). The lemmas:

* `everySecond` as an index condition (`mem_everySecond`; the repetition test itself is `C11_repetition_iff`);
* a non-root call on a position drawn by rule, with no table hit and a quiet limit, as an equation
  (`negamax_drawn_child_eq`);
* what a returning root call has done (`root_call_unfold`), and the root call all of whose children are drawn
  (`root_all_children_drawn`: it returns by `nmLoop_total`, and what it returns is read off `nmLoop_best`);
* quiescence values lie within the bounds of the static evaluation (`qsearch_range`). -/
namespace Rawr.DM

theorem everySecond_cons (x : BB) (l : List BB) : everySecond (x :: l) = x :: everySecond l.tail := by
  cases l <;> rfl

theorem mem_everySecond (x : BB) (l : List BB) : x ∈ everySecond l ↔ ∃ i, l[2 * i]? = some x := by
  fun_induction everySecond l with
  | case1 => simp
  | case2 y =>
    constructor
    · intro h
      exact ⟨0, by simpa using (List.mem_singleton.1 h).symm⟩
    · rintro ⟨i, hi⟩
      cases i with
      | zero => simpa using hi.symm
      | succ i => simp at hi
  | case3 y z rest ih =>
    rw [List.mem_cons, ih]
    constructor
    · rintro (h | ⟨i, hi⟩)
      · exact ⟨0, by simp [h]⟩
      · exact ⟨i + 1, by simpa [Nat.mul_add] using hi⟩
    · rintro ⟨i, hi⟩
      cases i with
      | zero => left; simpa using hi.symm
      | succ i => right; exact ⟨i, by simpa [Nat.mul_add] using hi⟩

/-- a non-root call on a position drawn by rule (no table hit, poll answers `false`): quiescence if the remaining
depth after the check extension is ≤ 0 (the rule draws are only looked at afterwards), else `DRAW_SCORE`. -/
theorem negamax_drawn_child_eq (lim : Limit) (fuel : Nat) (c : Position) (st : SState)
    (α β ply depth : Int) (cn : Bool)
    (hply : 1 ≤ ply)
    (hnohit : (st.tt.poll c.hash.toNat).map (·.hash) ≠ some c.hash)
    (hlim : (shouldStop lim st).1 = false)
    (hdraw : c.halfmoves ≥ 100 ∨ repCount st.hist c.halfmoves c.hash ≥ 2) :
    negamax lim (fuel + 1) c st α β ply depth cn =
      if (if c.inCheck then depth + 1 else depth) ≤ 0 then
        match qsearch qFuel c ⟨max st.seldepth ply, st.nodes⟩ α β ply with
        | none => none
        | some (v, q) => some (v, { st with seldepth := q.seldepth, nodes := q.nodes })
      else some (Gen.DRAW_SCORE, { st with seldepth := max st.seldepth ply, polls := st.polls + 1 }) := by
  obtain ⟨e, he⟩ := Table.poll_ne_none st.tt c.hash.toNat
  have hhit : (e.hash == c.hash) = false := by
    rw [he] at hnohit
    simpa using hnohit
  have hroot : (ply == 0) = false := by
    simp only [beq_eq_false_iff_ne, ne_eq]; omega
  unfold negamax
  simp only [he, hhit, hroot, Bool.false_and, Bool.false_eq_true, ↓reduceIte, Bool.not_false, Bool.true_and]
  have hd : (decide (c.halfmoves ≥ 100) || decide (repCount st.hist c.halfmoves c.hash ≥ 2)) = true := by
    simpa only [Bool.or_eq_true, decide_eq_true_eq] using hdraw
  generalize (if c.inCheck = true then depth + 1 else depth) = d'
  by_cases hd' : d' ≤ 0
  · rw [if_pos hd', if_pos hd']
    rfl
  · rw [if_neg hd', if_neg hd', shouldStop_fst_seldepth, hlim]
    simp only [Bool.false_eq_true, ↓reduceIte, shouldStop_snd]
    exact if_pos hd

/-- the four fields that the stop poll leaves alone (`nodePoll_fields`) and that a call on a drawn child hands back as it
received them, at given values: the state invariant of the root's move loop in this file. (`SState.Inv` and `Fr` relate the
state before and after any call, and say less: `tt.len` for `tt`, `best` only not erased.) -/
def FrameAt (H : List BB) (T : Table TTEntry) (D : Int) (B : Option Mv) (s : SState) : Prop :=
  s.hist = H ∧ s.tt = T ∧ s.depth = D ∧ s.best = B

theorem FrameAt.push {H : List BB} {T : Table TTEntry} {D : Int} {B : Option Mv} {st : SState}
    (h : FrameAt H T D B st) (c : Position) : FrameAt (c.hash :: H) T D B
      ⟨c.hash :: st.hist, st.tt, st.depth, st.seldepth, st.nodes + 1, st.best, st.polls⟩ :=
  ⟨by show c.hash :: st.hist = _; rw [h.1], h.2.1, h.2.2.1, h.2.2.2⟩

theorem FrameAt.pop {x : BB} {H : List BB} {T : Table TTEntry} {D : Int} {B : Option Mv} {s : SState}
    (h : FrameAt (x :: H) T D B s) : FrameAt H T D B { s with hist := s.hist.tail } :=
  ⟨by show s.hist.tail = H; rw [h.1]; rfl, h.2.1, h.2.2.1, h.2.2.2⟩

/-- a child of the root that the search scores as a draw by rule without looking at it: its key is on top of
the history `c.hash :: H`, and the table `T` has no entry under its key. -/
def DrawnChild (H : List BB) (T : Table TTEntry) (c : Position) : Prop :=
  (c.halfmoves ≥ 100 ∨ repCount (c.hash :: H) c.halfmoves c.hash ≥ 2) ∧
    (T.poll c.hash.toNat).map (·.hash) ≠ some c.hash

/-- limits whose poll answers `false` for every state whose `depth` field is `d`. -/
def QuietAt (lim : Limit) (d : Int) : Prop :=
  match lim with
  | .depth D => d ≤ D
  | .infinite => True
  | _ => False

theorem shouldStop_quiet {lim : Limit} {s : SState} (h : QuietAt lim s.depth) : (shouldStop lim s).1 = false := by
  cases lim with
  | depth D => simpa [shouldStop, QuietAt] using h
  | infinite => rfl
  | nodes n => exact h.elim
  | clock o => exact h.elim

/-- `NodeRun.root` under a quiet limit, where the exit `stopped` does not occur; the two other exits are joined under one
`nmLoop` equation, so that a user applies the loop rule once and splits on `bm` afterwards. -/
theorem root_call_unfold (lim : Limit) (fuel : Nat) (p : Position) (st : SState) (depth v : Int) (st' : SState)
    (hdepth : 1 ≤ (if p.inCheck then depth + 1 else depth))
    (hlim : QuietAt lim st.depth)
    (h : negamax lim (fuel + 1) p st (-Gen.INF) Gen.INF 0 depth false = some (v, st')) :
    ∃ s1 ttm moves s2 a2 best bm, FrameAt st.hist st.tt st.depth st.best s1 ∧
      sortNm p (legalMoves p) ttm = some moves ∧
      nmLoop (negamax lim fuel) p Gen.INF 0 (if p.inCheck then depth + 1 else depth) p.inCheck moves 0 s1
        (-Gen.INF) (-Gen.INF) none = some (s2, a2, best, bm) ∧
      match bm with
      | none => st' = s2 ∧ v = (if p.inCheck then -Gen.MATE_SCORE + 0 else Gen.DRAW_SCORE)
      | some m => v = best ∧ ∃ tt', s2.tt.add p.hash.toNat ⟨p.hash, m, best, if p.inCheck then depth + 1 else depth,
          if best ≤ -Gen.INF then 2 else if best ≥ Gen.INF then 1 else 0⟩ = some tt' ∧
          st' = { s2 with tt := tt', best := some m } := by
  have hrun := negamax_succ_run lim fuel p st (-Gen.INF) Gen.INF 0 depth false
  rw [h] at hrun
  have hfr : FrameAt st.hist st.tt st.depth st.best (nodePoll lim 0 (st.enter 0)).2 :=
    nodePoll_fields lim 0 (st.enter 0)
  cases hrun.root hdepth with
  | stopped hs =>
    unfold nodePoll at hs
    split at hs
    · rw [shouldStop_quiet (s := st.enter 0) hlim] at hs
      cases hs
    · cases hs
  | noMove _ hsort hloop => exact ⟨_, _, _, _, _, _, none, hfr, hsort, hloop, rfl, rfl⟩
  | store _ hsort hloop hadd => exact ⟨_, _, _, _, _, _, some _, hfr, hsort, hloop, rfl, _, hadd, rfl⟩

/-- (C11.3) the root call when every child is a `DrawnChild` and the depth after the check extension is ≥ 2. -/
theorem root_all_children_drawn (lim : Limit) (fuel : Nat) (p : Position) (st : SState) (depth : Int)
    (hdepth : 2 ≤ (if p.inCheck then depth + 1 else depth))
    (hlim : QuietAt lim st.depth)
    (hlen : (legalMoves p).length ≤ Gen.orderBufNegamax)
    (hne : legalMoves p ≠ [])
    (hch : ∀ m ∈ legalMoves p, ∃ c, p.makemove m true = some c ∧ DrawnChild st.hist st.tt c) :
    ∃ m₀ st', m₀ ∈ legalMoves p ∧
      negamax lim (fuel + 2) p st (-Gen.INF) Gen.INF 0 depth false = some (-Gen.DRAW_SCORE, st') ∧
      st'.best = some m₀ ∧ st'.hist = st.hist ∧ st'.depth = st.depth ∧
      st.tt.add p.hash.toNat ⟨p.hash, m₀, -Gen.DRAW_SCORE, if p.inCheck then depth + 1 else depth, 0⟩ =
        some st'.tt := by
  -- every child, searched with remaining depth ≥ 1, answers the draw score and touches nothing but counters
  have hchild : ∀ {m c s a b d}, m ∈ legalMoves p → p.makemove m true = some c →
      FrameAt (c.hash :: st.hist) st.tt st.depth st.best s → ChildDepth (if p.inCheck then depth + 1 else depth) d →
      ∃ s0, negamax lim (fuel + 1) c s a b (0 + 1) d true = some (Gen.DRAW_SCORE, s0) ∧
        FrameAt (c.hash :: st.hist) st.tt st.depth st.best s0 := by
    intro m c s a b d hm hmk hs hcd
    obtain ⟨c', hmk', hdr, hnh⟩ := hch m hm
    rw [hmk] at hmk'
    cases hmk'
    have e := negamax_drawn_child_eq lim fuel c s a b (0 + 1) d true (by omega) (by rw [hs.2.1]; exact hnh)
      (shouldStop_quiet (by rw [hs.2.2.1]; exact hlim)) (by rw [hs.1]; exact hdr)
    rw [if_neg (by rcases hcd with h | h <;> split <;> omega)] at e
    exact ⟨_, e, hs⟩
  have hfr : FrameAt st.hist st.tt st.depth st.best (nodePoll lim 0 (st.enter 0)).2 :=
    nodePoll_fields lim 0 (st.enter 0)
  -- the call returns: the moves fit the buffer and every child answers
  obtain ⟨v, st', h⟩ := negamax_root_some (lim := lim) (f := fuel + 1) (st := st) (depth := depth)
    (by unfold extDepth; omega) hlen (fun ttm moves hsort => ne_none_of_ex
      (nmLoop_total _ p _ 0 _ _ (FrameAt st.hist st.tt st.depth st.best)
        (fun c => FrameAt (c.hash :: st.hist) st.tt st.depth st.best) moves (fun _ c h => h.push c) (fun _ _ h => h.pop)
        (fun m hm => by
          obtain ⟨c, hmk, _⟩ := hch m ((sortNm_perm _ _ _ _ hsort).mem_iff.1 hm)
          exact ⟨c, hmk, fun s a b d hs hcd =>
            let ⟨s0, e, hf⟩ := hchild ((sortNm_perm _ _ _ _ hsort).mem_iff.1 hm) hmk hs hcd
            ⟨_, s0, e, hf⟩⟩)
        0 _ _ _ _ hfr))
  -- what it returns: every score is the draw score, so the best one is, and it comes with one of the moves
  obtain ⟨s1, ttm, moves, s2, a2, best, bm, hs1, hsort, hloop, hfin⟩ :=
    root_call_unfold lim (fuel + 1) p st depth v st' (by omega) hlim h
  have hperm := sortNm_perm p _ _ _ hsort
  obtain ⟨hs2, ⟨rfl, _⟩ | ⟨rfl, m₀, hm₀, rfl⟩⟩ := nmLoop_best (negamax lim (fuel + 1)) p Gen.INF 0 _ p.inCheck
    (FrameAt st.hist st.tt st.depth st.best) (fun c => FrameAt (c.hash :: st.hist) st.tt st.depth st.best)
    (fun v => v = -Gen.DRAW_SCORE) moves (fun _ h => by rw [h]; decide) (fun _ c h => h.push c) (fun _ _ h => h.pop)
    (fun m hm c hmk s a b d v s' hs hcd hc => by
      obtain ⟨s0, e, hf⟩ := hchild (hperm.mem_iff.1 hm) hmk hs hcd
      rw [e] at hc
      cases hc
      exact ⟨hf, rfl⟩) hs1 hloop
  · exact absurd hperm.symm.eq_nil hne
  · obtain ⟨rfl, tt', hadd, rfl⟩ := hfin
    refine ⟨m₀, _, hperm.mem_iff.1 hm₀, h, rfl, hs2.1, hs2.2.2.1, ?_⟩
    rw [← hs2.2.1]
    exact hadd

/-- the static evaluation is within `[-B, B]` on the capture tree below `p`, to depth `fuel`. -/
def QEvalOk (B : Int) : Nat → Position → Prop
  | 0, _ => True
  | f + 1, p => (-B ≤ eval p ∧ eval p ≤ B) ∧
      ∀ m ∈ legalCaptures p, ∀ np, p.makemove m false = some np → QEvalOk B f np

instance decForallSome {α : Type} (o : Option α) (P : α → Prop) [DecidablePred P] :
    Decidable (∀ c, o = some c → P c) :=
  match o with
  | none => isTrue fun _ h => by cases h
  | some a => if h : P a then isTrue fun _ e => by cases e; exact h else isFalse fun g => h (g a rfl)

instance decExistsSome {α : Type} (o : Option α) (P : α → Prop) [DecidablePred P] :
    Decidable (∃ c, o = some c ∧ P c) :=
  match o with
  | none => isFalse fun ⟨_, h, _⟩ => by cases h
  | some a => if h : P a then isTrue ⟨a, rfl, h⟩ else isFalse fun ⟨_, e, g⟩ => by cases e; exact h g

/-- `QEvalOk` on a concrete position is checked by evaluation as it stands (`decide +kernel`); so are `TreeOk`, `KeysOk` and the
hypotheses of C11 and C12 built from them. -/
instance decQEvalOk (B : Int) : ∀ f p, Decidable (QEvalOk B f p)
  | 0, _ => isTrue trivial
  | f + 1, p => by
    have := decQEvalOk B f
    unfold QEvalOk
    infer_instance

theorem QEvalOk_of_forall (B : Int) (h : ∀ q, -B ≤ eval q ∧ eval q ≤ B) : ∀ f p, QEvalOk B f p
  | 0, _ => trivial
  | f + 1, p => ⟨h p, fun _ _ np _ => QEvalOk_of_forall B h f np⟩

theorem qloop_range (B : Int) (rec : Position → QState → Int → Int → Int → Option (Int × QState))
    (p : Position) (beta ply : Int) (ms : List Mv)
    (hrec : ∀ m ∈ ms, ∀ np, p.makemove m false = some np → ∀ s a b pl v s',
      rec np s a b pl = some (v, s') → -B ≤ v ∧ v ≤ B) :
    ∀ (st : QState) (alpha best v : Int) (st' : QState), -B ≤ best ∧ best ≤ B →
      qloop rec p beta ply ms st alpha best = some (v, st') → -B ≤ v ∧ v ≤ B := by
  induction ms with
  | nil =>
    intro st alpha best v st' hb h
    simp only [qloop, Option.some.injEq, Prod.mk.injEq] at h
    rw [← h.1]; exact hb
  | cons m ms ih =>
    intro st alpha best v st' hb h
    simp only [qloop] at h
    split at h
    · simp at h
    rename_i np hmk
    split at h
    · simp at h
    rename_i sc s1 hcall
    have hsc := hrec m List.mem_cons_self np hmk _ _ _ _ _ _ hcall
    have hb' : -B ≤ (if -sc > best then -sc else best) ∧ (if -sc > best then -sc else best) ≤ B := by
      split <;> omega
    ite_split h
    · simp only [Option.some.injEq, Prod.mk.injEq] at h
      rw [← h.1]; exact hb'
    · exact ih (fun m' hm' => hrec m' (List.mem_cons_of_mem _ hm')) _ _ _ _ _ hb' h

/-- quiescence values are (negated) static evaluations: they lie in `[-B, B]`. -/
theorem qsearch_range (B : Int) : ∀ (fuel : Nat) (p : Position) (st : QState) (α β ply v : Int) (st' : QState),
    QEvalOk B fuel p → qsearch fuel p st α β ply = some (v, st') → -B ≤ v ∧ v ≤ B := by
  intro fuel
  induction fuel with
  | zero => intro p st α β ply v st' _ h; simp [qsearch] at h
  | succ fuel ih =>
    intro p st α β ply v st' hok h
    obtain ⟨hev, hch⟩ := hok
    simp only [qsearch] at h
    ite_split h
    · simp only [Option.some.injEq, Prod.mk.injEq] at h
      rw [← h.1]; exact hev
    · split at h
      · simp at h
      rename_i moves hsort
      have hperm := sortQs_perm p _ _ hsort
      exact qloop_range B (qsearch fuel) p β ply moves
        (fun m hm np hmk s a b pl v s' hc => ih np s a b pl v s' (hch m (hperm.mem_iff.1 hm) np hmk) hc)
        _ _ _ _ _ hev h

/-- a drawn child answers the draw score or a quiescence value (above `-INF` when negated, so that the root records its
move), and touches nothing but counters. -/
theorem drawn_child_frame (lim : Limit) (fuel : Nat) (c : Position) (s : SState) (a b ply d : Int) (cn : Bool)
    (Bd : Int) (H : List BB) (T : Table TTEntry) (D : Int) (B : Option Mv)
    (hply : 1 ≤ ply) (hlim : QuietAt lim D) (hdr : DrawnChild H T c) (hq : QEvalOk Bd qFuel c)
    (hs : FrameAt (c.hash :: H) T D B s) (v : Int) (s' : SState)
    (h : negamax lim (fuel + 1) c s a b ply d cn = some (v, s')) :
    FrameAt (c.hash :: H) T D B s' ∧ (v = Gen.DRAW_SCORE ∨ (-Bd ≤ v ∧ v ≤ Bd)) := by
  rw [negamax_drawn_child_eq lim fuel c s a b ply d cn hply (by rw [hs.2.1]; exact hdr.2)
    (shouldStop_quiet (by rw [hs.2.2.1]; exact hlim)) (by rw [hs.1]; exact hdr.1)] at h
  ite_split h
  · split at h
    · simp at h
    rename_i v1 q hqs
    simp only [Option.some.injEq, Prod.mk.injEq] at h
    rw [← h.1, ← h.2]
    exact ⟨hs, Or.inr (qsearch_range Bd _ _ _ _ _ _ _ _ hq hqs)⟩
  · simp only [Option.some.injEq, Prod.mk.injEq] at h
    rw [← h.1, ← h.2]
    exact ⟨hs, Or.inl rfl⟩

/-- (towards C11.4, iteration 1) a returning root call all of whose children are drawn by rule has recorded a
legal best move, and its only table write is its own entry — also when the children are searched with remaining
depth 0, i.e. go to quiescence. -/
theorem root_drawn_children_frame (lim : Limit) (fuel : Nat) (p : Position) (st : SState) (depth : Int) (Bd : Int)
    (hBd : Bd < Gen.INF)
    (hdepth : 1 ≤ (if p.inCheck then depth + 1 else depth))
    (hlim : QuietAt lim st.depth)
    (hne : legalMoves p ≠ [])
    (hch : ∀ m ∈ legalMoves p, ∀ c, p.makemove m true = some c → DrawnChild st.hist st.tt c ∧ QEvalOk Bd qFuel c)
    (v : Int) (st' : SState)
    (h : negamax lim (fuel + 2) p st (-Gen.INF) Gen.INF 0 depth false = some (v, st')) :
    ∃ m₀ e, m₀ ∈ legalMoves p ∧ st'.best = some m₀ ∧ st'.hist = st.hist ∧ st'.depth = st.depth ∧
      e.hash = p.hash ∧ st.tt.add p.hash.toNat e = some st'.tt := by
  obtain ⟨s1, ttm, moves, s2, a2, best, bm, hs1, hsort, hloop, hfin⟩ :=
    root_call_unfold lim (fuel + 1) p st depth v st' hdepth hlim h
  have hperm := sortNm_perm p _ _ _ hsort
  obtain ⟨hs2, ⟨rfl, _, _⟩ | ⟨_, m₀, hm₀, rfl⟩⟩ := nmLoop_best (negamax lim (fuel + 1)) p Gen.INF 0 _ p.inCheck
    (FrameAt st.hist st.tt st.depth st.best)
    (fun c => FrameAt (c.hash :: st.hist) st.tt st.depth st.best)
    (fun score => -Gen.INF < score) moves (fun _ h => h)
    (fun _ c h => h.push c) (fun _ _ h => h.pop)
    (by
      intro m hm c hmk s a b d v1 s1' hs _ hc
      obtain ⟨hdr, hq⟩ := hch m (hperm.mem_iff.1 hm) c hmk
      obtain ⟨hf, hv⟩ := drawn_child_frame lim fuel c s a b (0 + 1) d true Bd _ _ _ _ (by omega) hlim hdr hq hs v1 s1' hc
      refine ⟨hf, ?_⟩
      rcases hv with hv | hv
      · rw [hv]; decide
      · omega)
    hs1 hloop
  · exact absurd hperm.symm.eq_nil hne
  · obtain ⟨_, tt', hadd, rfl⟩ := hfin
    refine ⟨m₀, ⟨p.hash, m₀, best, if p.inCheck then depth + 1 else depth,
      if best ≤ -Gen.INF then 2 else if best ≥ Gen.INF then 1 else 0⟩, hperm.mem_iff.1 hm₀, rfl,
      hs2.1, hs2.2.2.1, rfl, ?_⟩
    rw [← hs2.2.1]; exact hadd

def NoChildHit (p : Position) (T : Table TTEntry) : Prop :=
  ∀ m ∈ legalMoves p, ∀ c, p.makemove m true = some c → (T.poll c.hash.toNat).map (·.hash) ≠ some c.hash

instance (p : Position) (T : Table TTEntry) : Decidable (NoChildHit p T) := by
  unfold NoChildHit
  infer_instance

theorem NoChildHit.add {p : Position} {T T' : Table TTEntry} {e : TTEntry} (h : NoChildHit p T)
    (hk : ∀ m ∈ legalMoves p, ∀ c, p.makemove m true = some c → c.hash ≠ e.hash)
    (hadd : T.add p.hash.toNat e = some T') : NoChildHit p T' := by
  intro m hm c hmk
  rcases Table.poll_add_cases hadd c.hash.toNat with h1 | h1
  · rw [h1]
    simp only [Option.map_some, ne_eq, Option.some.injEq]
    exact fun h' => hk m hm c hmk h'.symm
  · rw [h1]; exact h m hm c hmk

/-- a freshly allocated table has no hit on any non-zero key. -/
theorem poll_new_hash (mb : Nat) (k : Nat) :
    ((Table.new mb Gen.ttEntrySize : Table TTEntry).poll k).map (·.hash) = some 0#64 := by
  rw [Table.poll_eq, Table.slot_new]; rfl

/-- the hypotheses of C11 on the root `p` with game history `H` (table-independent part):
there is a legal move, the ordering buffer suffices, every legal move can be made and leads to a position `c`
that is drawn by rule when its key is pushed on `H`, whose key differs from the root's, and on whose capture
tree the evaluation is within `[-Bd, Bd]` (needed for iteration 1 only, where children go to quiescence). -/
structure AllChildrenDrawn (Bd : Int) (p : Position) (H : List BB) : Prop where
  ne : legalMoves p ≠ []
  len : (legalMoves p).length ≤ Gen.orderBufNegamax
  child : ∀ m ∈ legalMoves p, ∃ c, p.makemove m true = some c ∧
    (c.halfmoves ≥ 100 ∨ repCount (c.hash :: H) c.halfmoves c.hash ≥ 2) ∧ c.hash ≠ p.hash ∧ QEvalOk Bd qFuel c

instance (Bd : Int) (p : Position) (H : List BB) : Decidable (AllChildrenDrawn Bd p H) :=
  decidable_of_iff (_ ∧ _ ∧ _) ⟨fun ⟨a, b, c⟩ => ⟨a, b, c⟩, fun h => ⟨h.ne, h.len, h.child⟩⟩

theorem AllChildrenDrawn.drawn {Bd : Int} {p : Position} {H : List BB} (h : AllChildrenDrawn Bd p H)
    {T : Table TTEntry} (hT : NoChildHit p T) :
    ∀ m ∈ legalMoves p, ∃ c, p.makemove m true = some c ∧ DrawnChild H T c := by
  intro m hm
  obtain ⟨c, hmk, hdr, _, _⟩ := h.child m hm
  exact ⟨c, hmk, hdr, hT m hm c hmk⟩

theorem AllChildrenDrawn.store {Bd : Int} {p : Position} {H : List BB} (hyp : AllChildrenDrawn Bd p H)
    {T T' : Table TTEntry} {e : TTEntry} (hT : NoChildHit p T) (he : e.hash = p.hash)
    (hadd : T.add p.hash.toNat e = some T') : NoChildHit p T' := by
  refine hT.add (fun m hm c hmk => ?_) hadd
  obtain ⟨c', hmk', _, hne, _⟩ := hyp.child m hm
  rw [hmk] at hmk'
  cases hmk'
  rw [he]
  exact hne

theorem AllChildrenDrawn.root_call {Bd : Int} {p : Position} {H : List BB} (hyp : AllChildrenDrawn Bd p H)
    {D : Int} {fuel : Nat} {st : SState} {k score : Int} {s1 : SState} (h2 : 2 ≤ k) (hkD : k ≤ D) (hH : st.hist = H)
    (hT : NoChildHit p st.tt)
    (hnm : negamax (.depth D) (fuel + 2) p { st with depth := k } (-Gen.INF) Gen.INF 0 k false = some (score, s1)) :
    score = -Gen.DRAW_SCORE ∧ ∃ m ∈ legalMoves p, s1.best = some m ∧ s1.hist = H ∧ NoChildHit p s1.tt := by
  obtain ⟨m₀, st', hm₀, hcall, hb', hh', _, hadd⟩ := root_all_children_drawn (.depth D) fuel p
    { st with depth := k } k (by split <;> omega) hkD hyp.len hyp.ne (by rw [hH]; exact hyp.drawn hT)
  rw [hcall] at hnm
  cases hnm
  exact ⟨rfl, m₀, hm₀, hb', hh'.trans hH, hyp.store hT rfl hadd⟩

theorem AllChildrenDrawn.iterations {Bd : Int} {p : Position} {H : List BB} (hyp : AllChildrenDrawn Bd p H)
    {D : Int} (hD2 : 2 ≤ D) (hD : D < Gen.MAX_DEPTH) {fuel : Nat} {st : SState} {bm : Mv} {infos : List InfoRec} {res : RootResult}
    (hH : st.hist = H) (hT : NoChildHit p st.tt) (hb : st.best = some bm) (hbm : bm ∈ legalMoves p)
    (h : rootIter (.depth D) (fuel + 2) p (Gen.MAX_DEPTH.toNat - 1) 2 st (some bm) infos = some res) :
    (∃ m ∈ legalMoves p, res.best = some m) ∧ res.infos.length = infos.length + (D + 1 - 2).toNat ∧
      ∃ new, res.infos = infos.reverse ++ new ∧ ∀ r ∈ new, r.score = -Gen.DRAW_SCORE := by
  have hDT : depthTarget D = D := by
    unfold depthTarget
    omega
  -- a reported iteration ran within the limit, where `root_call` gives the draw score …
  obtain ⟨⟨_, m, ⟨_, _, _, hm⟩, hbest⟩, _, hnew⟩ := rootIter_chain
    (J := fun st bm => st.hist = H ∧ NoChildHit p st.tt ∧ st.best = some bm ∧ bm ∈ legalMoves p)
    (T := fun _ => True) (P := fun r => r.score = -Gen.DRAW_SCORE)
    (fun _ _ hJ => by rw [hJ.2.2.1]; rfl) (fun _ _ _ => trivial)
    (by
      intro depth st bm score s2 m2 hd ⟨hH, hT2, _⟩ hnm hm2
      refine ⟨trivial, fun hpoll => ?_⟩
      rw [endPoll_depth_fst D (negamax_depth_eq hnm), decide_eq_false_iff_not] at hpoll
      obtain ⟨rfl, m3, hm3, hb3, hh3, hT3⟩ := hyp.root_call (by omega) (by omega) hH hT2 hnm
      rw [hm2] at hb3
      cases hb3
      exact ⟨⟨by rw [endPoll_snd]; exact hh3, by rw [endPoll_snd]; exact hT3, by rw [endPoll_snd]; exact hm2, hm3⟩,
        rfl⟩)
    _ 2 st bm infos res (by decide) ⟨hH, hT, hb, hbm⟩ h
  -- … and every iteration within the limit is reported
  have hlen := rootIter_depth_count (J := fun st => st.hist = H ∧ NoChildHit p st.tt) (d0 := 2)
    (by
      intro depth st score s2 h2 hle ⟨hH, hT2⟩ hnm
      rw [hDT] at hle
      obtain ⟨_, m3, _, hb3, hh3, hT3⟩ := hyp.root_call h2 hle hH hT2 hnm
      refine ⟨?_, by rw [endPoll_snd]; exact hh3, by rw [endPoll_snd]; exact hT3⟩
      rw [hb3]
      exact fun h => by cases h)
    _ 2 st (some bm) infos res ⟨hH, hT⟩ (by decide) (by omega) (by decide) h
  rw [hDT] at hlen
  exact ⟨⟨m, hm, hbest⟩, hlen, hnew⟩

theorem NoChildHit_new (p : Position) (mb : Nat)
    (h0 : ∀ m ∈ legalMoves p, ∀ c, p.makemove m true = some c → c.hash ≠ 0#64) :
    NoChildHit p (Table.new mb Gen.ttEntrySize) := by
  intro m hm c hmk
  rw [poll_new_hash]
  simp only [ne_eq, Option.some.injEq]
  exact fun h' => h0 m hm c hmk h'.symm

end Rawr.DM
