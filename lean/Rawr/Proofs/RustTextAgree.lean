import Rawr.Generated.RustText
import Rawr.Generated.StartPos
import Rawr.Proofs.RustImpAgree
import Rawr.Proofs.FlipLemmas
/-!
# The hand-written model of the FEN / UCI text side agrees with the functions regenerated from the Rust source

This file: `Square::fmt`, `Mv::to_uci`, `Mv::flipped`, and the `u8` additions and subtractions that stay in range
(`u8add_small`, `u8sub_small`), which the other files of the family rewrite with.
-/
namespace Rawr

/-! `u8` arithmetic that stays within range is the same in both builds -/
theorem u8add_small (ar : Arith) (a b : Nat) (h : a + b < 256) : u8add ar a b = some (a + b) := by
  simp [u8add, h]

theorem u8sub_small (ar : Arith) (a b : Nat) (h : b ≤ a) : u8sub ar a b = some (a - b) := by
  simp [u8sub, h]

private theorem files_lookup : ∀ k, k < 8 → ['a', 'b', 'c', 'd', 'e', 'f', 'g', 'h'][k]? = some (fileChar k) := by decide
private theorem ranks_lookup : ∀ k, k < 8 → ['1', '2', '3', '4', '5', '6', '7', '8'][k]? = some (rankChar k) := by decide
private theorem ranks_lookup_none (k : Nat) (h : 8 ≤ k) : ['1', '2', '3', '4', '5', '6', '7', '8'][k]? = none := by
  simp; omega

/-- `Square::fmt` appends the model's `sqName`; it indexes a table of 8 rank characters with `sq / 8`, so it panics
for `sq ≥ 64` (the model's `sqName` is total). -/
theorem agree_square_fmt (s : Nat) (acc : List Char) :
    R.square_fmt s acc = if s < 64 then some (acc ++ sqName s) else none := by
  unfold R.square_fmt
  have h8 : s % 8 < 8 := Nat.mod_lt _ (by decide)
  simp only [files_lookup _ h8]
  by_cases h : s < 64
  · have : s / 8 < 8 := by omega
    simp [ranks_lookup _ this, h, sqName]
  · have : 8 ≤ s / 8 := by omega
    simp [ranks_lookup_none _ this, h]

private theorem promo_match (pc : Nat) :
    (match pc with | 1 => ['n'] | 2 => ['b'] | 3 => ['r'] | 4 => ['q'] | _ => ([] : List Char)) = promoChars pc := by
  unfold promoChars; rfl

private theorem to_uci_aux (a b : Nat) (ha : a < 64) (hb : b < 64) (l : List Char) :
    (do let x ← R.square_fmt a []; let y ← R.square_fmt b []; pure ([] ++ x ++ y ++ l) : Option (List Char))
      = some (sqName a ++ sqName b ++ l) := by
  simp [agree_square_fmt, ha, hb]

/-- `Mv::to_uci` (Chess960 castling target rewriting, flipping for Black, promotion letter) is the model's
`toUciChars` for on-board squares; for squares ≥ 64 the Rust code panics in `Square::fmt`. -/
theorem agree_to_uci (m : Mv) (p : Position) (h1 : m.src < 64) (h2 : m.dst < 64) :
    R.to_uci m p = some (toUciChars p m) := by
  unfold R.to_uci toUciChars
  have ht : (if (!p.frc && p.c0.isSet m.dst) = true then (if fileOf m.dst > fileOf m.src then 6 else 2) else m.dst) < 64 := by
    split
    · split <;> decide
    · exact h2
  dsimp only [R.get_us]
  cases p.black
  · exact to_uci_aux _ _ h1 ht _
  · exact to_uci_aux _ _ (flipSq_lt h1) (flipSq_lt ht) _

/-- `Mv::flipped` (chess/mv.rs). -/
theorem agree_mv_flipped (m : Mv) : R.mv_flipped m = ⟨flipSq m.src, flipSq m.dst, m.promo⟩ := rfl

example : R.to_uci ⟨12, 28, 6⟩ Gen.startpos = some "e2e4".toList := by decide
end Rawr

#print axioms Rawr.agree_square_fmt
#print axioms Rawr.agree_to_uci
#print axioms Rawr.agree_mv_flipped
