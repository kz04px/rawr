import Rawr.Proofs.RustImpAgree
/-!
# eval.rs regenerated from the Rust source agrees with the model
-/
namespace Rawr

theorem agree_get_phase : @R.get_phase = @phase := rfl
theorem agree_taper : @R.taper = @taper := rfl
theorem agree_eval_us : @R.eval_us = @evalUsT genEvalTables := rfl
theorem agree_eval : @R.eval = @eval := by
  funext p; unfold R.eval eval evalT; rw [agree_eval_us, agree_from_flipped, agree_get_phase, agree_taper]

end Rawr

#print axioms Rawr.agree_eval
