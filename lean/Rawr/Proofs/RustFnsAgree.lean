import Rawr.Generated.RustFns
import Rawr.Model.Rays
import Rawr.Model.Eval
import Rawr.Model.MoveGen
/-!
# The hand-written model agrees with the definitions REGENERATED from the Rust source

`Rawr/Generated/RustFns.lean` is rewritten by `tools/rust2lean.py` from /repo on every run
(src/chess/bitboard.rs, src/chess/rays.rs, src/search/eval.rs helpers, `line_between` of
move_generator.rs and count_moves.rs). The theorems below say that each model definition IS the
regenerated one. A change to one of those Rust functions changes the generated definition and breaks
the corresponding theorem on the next run — for these functions the tie between model and code is
a translation, re-checked on every run, not a sample.
-/
namespace Rawr

theorem agree_fromSquare : @R.fromSquare = @bit := rfl
theorem agree_north : @R.north = @north := rfl
theorem agree_south : @R.south = @south := rfl
theorem agree_east : @R.east = @east := rfl
theorem agree_west : @R.west = @west := rfl
theorem agree_northEast : @R.northEast = @northEast := rfl
theorem agree_northWest : @R.northWest = @northWest := rfl
theorem agree_southEast : @R.southEast = @southEast := rfl
theorem agree_southWest : @R.southWest = @southWest := rfl
theorem agree_northNorth : @R.northNorth = @northNorth := rfl
theorem agree_adjacent : @R.adjacent = @adjacent := rfl

theorem agree_rayNE : @R.rayNE = @rayNE := by
  funext s o; simp only [R.rayNE, rayNE, rayFill, BitVec.zero_or, agree_northEast, agree_fromSquare]
theorem agree_rayNW : @R.rayNW = @rayNW := by
  funext s o; simp only [R.rayNW, rayNW, rayFill, BitVec.zero_or, agree_northWest, agree_fromSquare]
theorem agree_raySE : @R.raySE = @raySE := by
  funext s o; simp only [R.raySE, raySE, rayFill, BitVec.zero_or, agree_southEast, agree_fromSquare]
theorem agree_raySW : @R.raySW = @raySW := by
  funext s o; simp only [R.raySW, raySW, rayFill, BitVec.zero_or, agree_southWest, agree_fromSquare]
theorem agree_rayN : @R.rayN = @rayN := by
  funext s o; simp only [R.rayN, rayN, rayFill, BitVec.zero_or, agree_north, agree_fromSquare]
theorem agree_rayS : @R.rayS = @rayS := by
  funext s o; simp only [R.rayS, rayS, rayFill, BitVec.zero_or, agree_south, agree_fromSquare]
theorem agree_rayE : @R.rayE = @rayE := by
  funext s o; simp only [R.rayE, rayE, rayFill, BitVec.zero_or, agree_east, agree_fromSquare]
theorem agree_rayW : @R.rayW = @rayW := by
  funext s o; simp only [R.rayW, rayW, rayFill, BitVec.zero_or, agree_west, agree_fromSquare]

theorem agree_knights : @R.knights = @knights := by
  funext b; simp only [R.knights, knights, agree_north, agree_south, agree_east, agree_west, agree_northEast,
    agree_northWest, agree_southEast, agree_southWest]
theorem agree_pawns : @R.pawns = @pawnsAtt := by
  funext u b; simp only [R.pawns, pawnsAtt, agree_northEast, agree_northWest, agree_southEast, agree_southWest]

theorem agree_passedPawns : @R.passedPawns = @passedPawns := by
  funext u t; simp only [R.passedPawns, passedPawns, agree_south, agree_southEast, agree_southWest]
theorem agree_openFiles : @R.openFiles = @openFiles := rfl
theorem agree_kingShield : @R.kingShield = @kingShield := by
  funext k; simp only [R.kingShield, kingShield, agree_north, agree_northEast, agree_northWest, agree_fromSquare]

theorem agree_lineBetween_gen : @R.lineBetweenGen = @lineBetween := by
  funext a b; simp only [R.lineBetweenGen, lineBetween, agree_fromSquare]
theorem agree_lineBetween_count : @R.lineBetweenCount = @lineBetween := by
  funext a b; simp only [R.lineBetweenCount, lineBetween, agree_fromSquare]

end Rawr
