import Rawr.Proofs.PreludeGeom
/-!
# The shape of generated moves

Diagonal and orthogonal walks from one square are disjoint (`bishop_rook_disjoint`); `GenOk`, the shape of every
move produced by `moveGenerator` on a valid position (`genOk_of_gen`, a case analysis on `Gen`; `gen_shape` for the
members of the list); every generated move has the `MoveShape` that C04(a) assumes (`moveShape_of_genOk`).
-/

namespace Rawr
open Rawr.Position Rawr.Spec Rawr.ZH

/-- `omega` after exposing `Pc = Nat`. -/
macro "pomega" : tactic => `(tactic| ((try delta Pc at *); omega))

theorem walk_at {d : Int × Int} {s t : Nat} {occ : Nat → Bool}
    (h : t ∈ walk d.1 d.2 s occ) : ∃ n, 1 ≤ n ∧ Att.At s d n t := by
  obtain ⟨n, hn, _, hr, rfl⟩ := (Att.mem_walkFrom d.1 d.2 occ t 7 _ _).mp h
  have hon := hr.1 n hn (Nat.le_refl n)
  exact ⟨n, hn, file_sq hon, rank_sq hon⟩

/-- bishop and rook attack sets from the same square are disjoint: a square determines its direction. -/
theorem bishop_rook_disjoint (s : Nat) (hs : s < 64) (occ : BB) (t : Nat)
    (hb : (bishopMoves s occ).getLsbD t = true) : (rookMoves s occ).getLsbD t = false := by
  cases hr : (rookMoves s occ).getLsbD t
  · rfl
  · rw [C10_bishop_mem s hs] at hb
    rw [C10_rook_mem s hs] at hr
    simp only [Bool.and_eq_true, decide_eq_true_eq, walkSet4, List.any_eq_true, List.contains_eq_mem] at hb hr
    obtain ⟨_, d, hd, h1⟩ := hb
    obtain ⟨_, d', hd', h2⟩ := hr
    obtain ⟨n, hn, a1⟩ := walk_at h1
    obtain ⟨n', hn', a2⟩ := walk_at h2
    obtain ⟨rfl, _⟩ := Att.at_unique (Att.goodDir_diag d hd) (Att.goodDir_orth d' hd') hn hn' a1 a2
    exact (Att.diag_orth_disj hd hd').elim

/-- king-side castling as generated: king takes own rook. -/
def IsCastleK (p : Position) (m : Mv) : Prop :=
  p.usK = true ∧ m.src = lsb (p.p5 &&& p.c0) ∧ m.dst = fromCoords p.cf0 0 ∧ p.cf0 < 8 ∧
  (p.c0 &&& p.p3).getLsbD m.dst = true ∧ m.src < m.dst ∧ emptyOr p 6 m = true ∧ emptyOr p 5 m = true

def IsCastleQ (p : Position) (m : Mv) : Prop :=
  p.usQ = true ∧ m.src = lsb (p.p5 &&& p.c0) ∧ m.dst = fromCoords p.cf1 0 ∧ p.cf1 < 8 ∧
  (p.c0 &&& p.p3).getLsbD m.dst = true ∧ m.dst < m.src ∧ m.src < 8 ∧ emptyOr p 2 m = true ∧ emptyOr p 3 m = true

/-- pawn geometry: push, double push, capture towards the h-file / a-file, en passant. -/
def PawnGeom (p : Position) (src dst : Nat) : Prop :=
  (dst = src + 8 ∧ p.occ.getLsbD dst = false) ∨
  (rankOf src = 1 ∧ dst = src + 16 ∧ p.occ.getLsbD (src + 8) = false ∧ p.occ.getLsbD dst = false) ∨
  (dst = src + 9 ∧ fileOf dst = fileOf src + 1 ∧ p.c1.getLsbD dst = true) ∨
  (dst = src + 7 ∧ fileOf src = fileOf dst + 1 ∧ p.c1.getLsbD dst = true) ∨
  (p.ep = some dst ∧ ((dst = src + 9 ∧ fileOf dst = fileOf src + 1) ∨ (dst = src + 7 ∧ fileOf src = fileOf dst + 1)) ∧
    8 ≤ dst ∧ rankOf dst = 5 ∧ (p.c1 &&& p.p0).getLsbD (dst - 8) = true ∧ p.occ.getLsbD dst = false)

structure GenOk (p : Position) (g : GMv) : Prop where
  src_lt : g.mv.src < 64
  dst_lt : g.mv.dst < 64
  ne : g.mv.src ≠ g.mv.dst
  tag : p.pieceOn g.mv.src = some g.piece
  own : p.c0.isSet g.mv.src = true
  dst_own : p.c0.isSet g.mv.dst = true → g.piece = 5 ∧ (IsCastleK p g.mv ∨ IsCastleQ p g.mv)
  promo_mem : g.mv.promo = 6 ∨ g.mv.promo = 1 ∨ g.mv.promo = 2 ∨ g.mv.promo = 3 ∨ g.mv.promo = 4
  promo_iff : g.mv.promo ≠ 6 ↔ (g.piece = 0 ∧ rankOf g.mv.dst = 7)
  pawn : g.piece = 0 → PawnGeom p g.mv.src g.mv.dst
  king : g.piece = 5 → p.c0.isSet g.mv.dst = false → (adjacent (bit g.mv.src)).getLsbD g.mv.dst = true

theorem occ_false {p : Position} {i : Nat} (h : p.occ.getLsbD i = false) :
    p.c0.getLsbD i = false ∧ p.c1.getLsbD i = false := by
  simp only [Position.occ, BitVec.getLsbD_or, Bool.or_eq_false_iff] at h
  exact h

theorem piece_ok {p : Position} (F : VFacts p) {k src dst : Nat} (hk : k = 1 ∨ k = 2 ∨ k = 3 ∨ k = 4)
    (hsrc : (p.piece k &&& p.c0).getLsbD src = true)
    (hd : (prelude p).allowed.getLsbD dst = true) : GenOk p (gm k src dst 6) := by
  rw [BitVec.getLsbD_and, Bool.and_eq_true] at hsrc
  obtain ⟨hs, hc⟩ := hsrc
  have hd0 := Att.allowed_not_own F.cons (Att.kingFacts_of F).k64 hd
  refine ⟨BitVec.lt_of_getLsbD hc, BitVec.lt_of_getLsbD hd, ?_, pieceOn_of_bit F.cons hs, hc, ?_, Or.inl rfl, ?_, ?_, ?_⟩
  · intro e
    simp only [gm] at e
    rw [e, hd0] at hc; cases hc
  · intro h
    simp only [gm, BB.isSet, hd0] at h; cases h
  · simp only [gm]
    constructor
    · intro h; exact absurd rfl h
    · rintro ⟨h, _⟩; pomega
  · intro h; simp only [gm] at h; pomega
  · intro h; simp only [gm] at h; pomega

/-- a pawn arriving on `t` from `d` squares below, with an admissible promotion field. -/
theorem arrive_ok {p : Position} (F : VFacts p) {d t pr : Nat} (hp : PromoOk t pr)
    (hto : t < 64) (hd : d ≤ t) (hd0 : 0 < d) (hs : OwnPawn p (t - d)) (hdst : p.c0.getLsbD t = false)
    (hgeo : PawnGeom p (t - d) t) : GenOk p (gm 0 (t - d) t pr) := by
  unfold PromoOk at hp
  refine ⟨by simp only [gm]; pomega, hto, by simp only [gm]; pomega, pieceOn_of_bit (k := 0) F.cons hs.1, hs.2, ?_, ?_,
    ?_, fun _ => hgeo, ?_⟩
  · intro h
    simp only [gm, BB.isSet, hdst] at h
    cases h
  · simp only [gm]
    split at hp
    · pomega
    · exact Or.inl hp
  · simp only [gm]
    split at hp
    · next h7 => exact ⟨fun _ => ⟨trivial, h7⟩, fun _ => by pomega⟩
    · next h7 => exact ⟨fun hn => absurd hp hn, fun hh => absurd hh.2 h7⟩
  · intro h
    simp only [gm] at h
    pomega

/-- one move of a pawn with no promotion (double push, en passant). -/
theorem pawn_plain_ok {p : Position} (F : VFacts p) {d to : Nat}
    (hto : to < 64) (hd : d ≤ to) (hd0 : 0 < d) (h0 : p.p0.getLsbD (to - d) = true)
    (hc : p.c0.getLsbD (to - d) = true) (hdst : p.c0.getLsbD to = false) (h7 : rankOf to ≠ 7)
    (hgeo : PawnGeom p (to - d) to) : GenOk p (gm 0 (to - d) to 6) := by
  refine ⟨by simp only [gm]; pomega, hto, by simp only [gm]; pomega, pieceOn_of_bit (k := 0) F.cons h0, hc, ?_,
    Or.inl rfl, ?_, fun _ => hgeo, ?_⟩
  · intro h; simp only [gm, BB.isSet, hdst] at h; cases h
  · exact ⟨fun hn => absurd rfl hn, fun hh => absurd hh.2 h7⟩
  · intro h; simp only [gm] at h; pomega

theorem king_ok {p : Position} (F : VFacts p) {src dst : Nat}
    (hs : (p.p5 &&& p.c0).getLsbD src = true) (hd : dst ∈ kingTargetsSafe p src) : GenOk p (gm 5 src dst 6) := by
  obtain ⟨hlt, hadj, hd0⟩ := Att.kingTargetsSafe_sub hd
  rw [BitVec.getLsbD_and, Bool.and_eq_true] at hs
  refine ⟨BitVec.lt_of_getLsbD hs.2, hlt, ?_, pieceOn_of_bit (k := 5) F.cons hs.1, hs.2, ?_, Or.inl rfl, ?_, ?_, ?_⟩
  · intro e; simp only [gm] at e; rw [← e, hs.2] at hd0; cases hd0
  · intro h; simp only [gm, BB.isSet, hd0] at h; cases h
  · simp only [gm]
    exact ⟨fun hn => absurd rfl hn, fun hh => by pomega⟩
  · intro h; simp only [gm] at h; pomega
  · intro _ _; exact hadj

theorem lineBetween_mem (a b : Nat) (hb : b < 64) : (lineBetween a b).getLsbD b = true := by
  unfold lineBetween
  rw [BitVec.getLsbD_or, getLsbD_bit]
  simp [hb]

theorem emptyOr_of_castle {p : Position} {ksq rsq : Nat} {both : BB} {x : Nat} {m : Mv} (hx : x < 64)
    (hboth : both.getLsbD x = true) (hm : m.src = ksq ∧ m.dst = rsq)
    (h : (p.occ &&& both &&& ~~~bit ksq &&& ~~~bit rsq).isEmpty = true) : emptyOr p x m = true := by
  unfold emptyOr
  by_cases h1 : x = m.src
  · simp [h1]
  by_cases h2 : x = m.dst
  · simp [h2]
  have e : p.occ &&& both &&& ~~~bit ksq &&& ~~~bit rsq = 0#64 := by simpa [BB.isEmpty] using h
  have := congrArg (fun b => b.getLsbD x) e
  simp only [BitVec.getLsbD_and, BitVec.getLsbD_not, getLsbD_bit, hboth, hx, decide_true, Bool.true_and,
    Bool.and_true, BitVec.getLsbD_zero] at this
  rw [hm.1] at h1
  rw [hm.2] at h2
  simp only [h1, h2, decide_false, Bool.not_false, Bool.and_true] at this
  simp only [BB.isSet, Position.occ] at this ⊢
  simp [this]

/-- a castling move (king takes the rook on file `cf`); `hfacts` is what `VFacts` says of the right used. -/
theorem castle_ok {p : Position} (F : VFacts p) {right : Bool} {cf kTo rTo : Nat} (hkTo : kTo < 64) (hrTo : rTo < 64)
    (h : castleOk p (prelude p) right (fromCoords cf 0) kTo rTo = true)
    (hfacts : right = true → cf < 8 ∧ (p.c0 &&& p.p3).getLsbD cf = true ∧ lsb (p.p5 &&& p.c0) ≠ cf ∧
      (emptyOr p kTo ⟨lsb (p.p5 &&& p.c0), cf, 6⟩ = true → emptyOr p rTo ⟨lsb (p.p5 &&& p.c0), cf, 6⟩ = true →
        IsCastleK p ⟨lsb (p.p5 &&& p.c0), cf, 6⟩ ∨ IsCastleQ p ⟨lsb (p.p5 &&& p.c0), cf, 6⟩)) :
    GenOk p (gm 5 (prelude p).ksq (fromCoords cf 0) 6) := by
  unfold castleOk at h
  simp only [Bool.and_eq_true] at h
  obtain ⟨⟨⟨⟨hu, _⟩, _⟩, hempty⟩, _⟩ := h
  obtain ⟨hcf, hrook, hne, hcastle⟩ := hfacts hu
  have K := Att.kingFacts_of F
  have hfc : fromCoords cf 0 = cf := by simp [fromCoords]
  rw [prelude_ksq, hfc] at hempty ⊢
  have hr0 : p.c0.getLsbD cf = true := by
    rw [BitVec.getLsbD_and, Bool.and_eq_true] at hrook; exact hrook.1
  refine ⟨K.k64, by simp only [gm]; pomega, hne, pieceOn_of_bit (k := 5) F.cons K.p5, K.c0, ?_, Or.inl rfl, ?_, ?_, ?_⟩
  · intro _
    have hbk : (lineBetween (lsb (p.p5 &&& p.c0)) kTo ||| lineBetween cf rTo).getLsbD kTo = true := by
      rw [BitVec.getLsbD_or, lineBetween_mem _ kTo hkTo]; rfl
    have hbr : (lineBetween (lsb (p.p5 &&& p.c0)) kTo ||| lineBetween cf rTo).getLsbD rTo = true := by
      rw [BitVec.getLsbD_or, lineBetween_mem _ rTo hrTo, Bool.or_true]
    exact ⟨rfl, hcastle (emptyOr_of_castle hkTo hbk ⟨rfl, rfl⟩ hempty) (emptyOr_of_castle hrTo hbr ⟨rfl, rfl⟩ hempty)⟩
  · simp only [gm]
    exact ⟨fun hn => absurd rfl hn, fun hh => by pomega⟩
  · intro h; simp only [gm] at h; pomega
  · intro _ h; simp only [gm, BB.isSet, hr0] at h; cases h

theorem ep_ok {p : Position} (F : VFacts p) {ep d : Nat} (hep : p.ep = some ep)
    (hsrc : p.p0.getLsbD (ep - d) = true ∧ p.c0.getLsbD (ep - d) = true) (hle : d ≤ ep)
    (hfile : (d = 9 ∧ ep % 8 ≠ 0) ∨ (d = 7 ∧ ep % 8 ≠ 7)) : GenOk p (gm 0 (ep - d) ep 6) := by
  obtain ⟨h64, h5, hc0, hc1, hpawn⟩ := F.ep ep hep
  have hocc : p.occ.getLsbD ep = false := by simp [Position.occ, hc0, hc1]
  unfold rankOf at h5
  apply pawn_plain_ok F h64 hle (by omega) hsrc.1 hsrc.2 hc0 (by unfold rankOf; omega)
  refine Or.inr (Or.inr (Or.inr (Or.inr ⟨hep, ?_, by omega, h5, hpawn, hocc⟩)))
  unfold fileOf
  rcases hfile with ⟨rfl, h⟩ | ⟨rfl, h⟩
  · exact Or.inl ⟨by omega, by omega⟩
  · exact Or.inr ⟨by omega, by omega⟩

theorem genOk_of_gen {p : Position} (F : VFacts p) {pc s t pr : Nat} (h : Gen p pc s t pr) :
    GenOk p (gm pc s t pr) := by
  cases h with
  | push ht hp =>
    obtain ⟨h64, h8, hs, hocc⟩ := pushSet_facts ht
    exact arrive_ok F hp h64 h8 (by omega) hs (occ_false hocc).1 (.inl ⟨by omega, hocc⟩)
  | @dbl t ht =>
    obtain ⟨h64, h16, h3, hs, hocc8, hocc⟩ := dblSet_facts ht
    refine pawn_plain_ok F h64 h16 (by omega) hs.1 hs.2 (occ_false hocc).1 (by unfold rankOf; omega)
      (.inr (.inl ⟨by unfold rankOf; omega, by omega, ?_, hocc⟩))
    rw [show t - 16 + 8 = t - 8 by omega]
    exact hocc8
  | capNE ht hp =>
    obtain ⟨h64, h9, hf, hs, hc1⟩ := capNESet_facts ht
    exact arrive_ok F hp h64 h9 (by omega) hs (c0_of_c1 F.cons hc1)
      (.inr (.inr (.inl ⟨by omega, by unfold fileOf; omega, hc1⟩)))
  | capNW ht hp =>
    obtain ⟨h64, h7, hf, hs, hc1⟩ := capNWSet_facts ht
    exact arrive_ok F hp h64 h7 (by omega) hs (c0_of_c1 F.cons hc1)
      (.inr (.inr (.inr (.inl ⟨by omega, by unfold fileOf; omega, hc1⟩))))
  | epNE he hc =>
    obtain ⟨h9, hf, hs⟩ := epCondNE_facts hc
    exact ep_ok F he hs h9 (.inl ⟨rfl, hf⟩)
  | epNW he hc =>
    obtain ⟨h7, hf, hs⟩ := epCondNW_facts hc
    exact ep_ok F he hs h7 (.inr ⟨rfl, hf⟩)
  | piece hb e hs ht => exact e ▸ piece_ok F (sliderBlocks_pc hb) (SBlock.src_own hs) (SBlock.tgt_allowed ht)
  | king hs ht => exact king_ok F hs ht
  | castleK hc e =>
    subst e
    refine castle_ok F (by omega) (by omega) hc fun hu => ?_
    obtain ⟨hcf, hrook, hlt⟩ := F.rK hu
    rw [BitVec.and_comm p.c0 p.p5] at hlt
    exact ⟨hcf, hrook, by omega, fun e6 e5 => Or.inl ⟨hu, rfl, by simp [fromCoords], hcf, hrook, hlt, e6, e5⟩⟩
  | castleQ hc e =>
    subst e
    refine castle_ok F (by omega) (by omega) hc fun hu => ?_
    obtain ⟨hcf, hrook, hlt, hk8⟩ := F.rQ hu
    rw [BitVec.and_comm p.c0 p.p5] at hlt hk8
    exact ⟨hcf, hrook, by omega, fun e2 e3 => Or.inr ⟨hu, rfl, by simp [fromCoords], hcf, hrook, hlt, hk8, e2, e3⟩⟩

theorem gen_shape_of (p : Position) (F : VFacts p) : ∀ g ∈ moveGenerator p, GenOk p g :=
  fun g hg => genOk_of_gen F (mem_gen.mp (show gm g.piece g.mv.src g.mv.dst g.mv.promo ∈ moveGenerator p from hg))

theorem gen_shape (p : Position) (hV : ValidPos p = true) : ∀ g ∈ moveGenerator p, GenOk p g :=
  gen_shape_of p (vfacts_of_valid hV)

theorem promo6_of_not_pawn {p : Position} {g : GMv} (h : GenOk p g) (hp : g.piece ≠ 0) : g.mv.promo = 6 := by
  apply Classical.byContradiction
  intro hn
  exact hp (h.promo_iff.mp hn).1

theorem promo6_of_rank {p : Position} {g : GMv} (h : GenOk p g) (hr : rankOf g.mv.dst ≠ 7) : g.mv.promo = 6 := by
  apply Classical.byContradiction
  intro hn
  exact hr (h.promo_iff.mp hn).2

theorem moveShape_of_genOk {p : Position} (F : VFacts p) {g : GMv} (h : GenOk p g) : MoveShape p g.mv = true := by
  have hC := F.cons
  unfold MoveShape
  rw [h.tag]
  simp only [h.src_lt, h.dst_lt, h.own, decide_true, Bool.true_and]
  by_cases hd : p.c0.isSet g.mv.dst = true
  · rw [if_pos hd]
    obtain ⟨h5, hc⟩ := h.dst_own hd
    have hp6 : g.mv.promo = 6 := promo6_of_not_pawn h (by pomega)
    rcases hc with ⟨hu, hs, hdst, hcf, hrook, hlt, he6, he5⟩ | ⟨hu, hs, hdst, hcf, hrook, hlt, hk8, he2, he3⟩
    · simp [h5, hp6, hu, he6, he5, ← hdst, hlt]
    · have hne : ¬ (p.usK = true ∧ g.mv.dst = fromCoords p.cf0 0) := by
        rintro ⟨hK, e⟩
        have h1 := (F.rK hK).2.2
        rw [BitVec.and_comm p.c0 p.p5, ← hs] at h1
        have : fromCoords p.cf0 0 = p.cf0 := by simp [fromCoords]
        omega
      by_cases hK : p.usK = true
      · have hne' : g.mv.dst ≠ fromCoords p.cf0 0 := fun e => hne ⟨hK, e⟩
        simp [h5, hp6, hu, hK, hne', he2, he3, ← hdst, hlt]
      · have hK' : p.usK = false := by simpa using hK
        simp [h5, hp6, hu, hK', he2, he3, ← hdst, hlt]
  · rw [if_neg hd]
    have hd' : p.c0.getLsbD g.mv.dst = false := by simpa [BB.isSet] using hd
    rw [Bool.and_eq_true]
    constructor
    · by_cases hp : g.piece = 0
      · -- a capture target holds a piece
        have hcap : p.c1.getLsbD g.mv.dst = true → (p.pieceOn g.mv.dst).isNone = false := by
          intro hc1
          have := occ_bit hC g.mv.dst
          rw [hc1, Bool.or_true] at this
          cases hh : p.pieceOn g.mv.dst
          · rw [hh] at this; cases this
          · rfl
        rcases h.pawn hp with ⟨e, _⟩ | ⟨_, e, _⟩ | ⟨_, _, hc1⟩ | ⟨_, _, hc1⟩ | ⟨hep, _, h8, hr5, hpw, _⟩
        · have : fileOf g.mv.src = fileOf g.mv.dst := by unfold fileOf; omega
          simp [this]
        · have : fileOf g.mv.src = fileOf g.mv.dst := by unfold fileOf; omega
          simp [this]
        · simp [hcap hc1]
        · simp [hcap hc1]
        · have hp6 := promo6_of_rank h (by omega)
          simp [hep, h8, hp6, BB.isSet, hpw]
      · have : (g.piece == 0) = false := by simpa using hp
        simp [this]
    · rcases h.promo_mem with e | e | e | e | e
      · simp [e]
      all_goals
        have hp0 := (h.promo_iff.mp (by pomega)).1
        simp [e, hp0]

end Rawr
