import Rawr.Proofs.MakeMoveBoard
import Rawr.Proofs.MakeMoveFrame
/-! C02, engine side: the position `makemove` builds before the final `flip`, for non-castling and for
castling moves — no `unwrap` fails, the eight boards change by the XOR-deltas of `MoveFacts`, and every other
field is given explicitly (`Res`). One walk through the stages; the key step and the refinement both read `Res`, and
the board it shows (`nc_shows`, `c_shows`). -/
namespace Rawr.MM
open Rawr Rawr.Position Rawr.Spec Rawr.ZH

/-- everything about the position `S` that `makemove` reaches just before the full-move update and the
flip, relative to the start `p`: boards as XOR-deltas, the other fields in one equation. -/
structure Res (p : Position) (m : Mv) (i : Nat) (h : BB) (d0 d1 : BB) (dP : Nat → BB) (hm : Int)
    (S : Position) : Prop where
  c0 : S.c0 = p.c0 ^^^ d0
  c1 : S.c1 = p.c1 ^^^ d1
  P : ∀ k, S.piece k = p.piece k ^^^ dP k
  oth : others S = { others p with
    hash := h, halfmoves := hm,
    ep := if (i == 0 && m.dst - m.src == 16) = true then some (m.dst - 8) else none,
    usK := p.usK && (m.src != lsb (p.c0 &&& p.p5) && m.src != fromCoords p.cf0 0 && m.dst != fromCoords p.cf0 0),
    usQ := p.usQ && (m.src != lsb (p.c0 &&& p.p5) && m.src != fromCoords p.cf1 0 && m.dst != fromCoords p.cf1 0),
    themK := p.themK && (m.src != lsb (p.c1 &&& p.p5) && m.src != fromCoords p.cf2 7 && m.dst != fromCoords p.cf2 7),
    themQ := p.themQ && (m.src != lsb (p.c1 &&& p.p5) && m.src != fromCoords p.cf3 7 && m.dst != fromCoords p.cf3 7) }

section fields
variable {p : Position} {m : Mv} {i : Nat} {h d0 d1 : BB} {dP : Nat → BB} {hm : Int} {S : Position}
  (R : Res p m i h d0 d1 dP hm S)
include R

theorem Res.black : S.black = p.black := (congrArg Position.black R.oth :)

theorem Res.hash : S.hash = h := (congrArg Position.hash R.oth :)

theorem Res.ep : S.ep = if (i == 0 && m.dst - m.src == 16) = true then some (m.dst - 8) else none :=
  (congrArg Position.ep R.oth :)

theorem Res.usK : S.usK =
    (p.usK && (m.src != lsb (p.c0 &&& p.p5) && m.src != fromCoords p.cf0 0 && m.dst != fromCoords p.cf0 0)) :=
  (congrArg Position.usK R.oth :)

theorem Res.usQ : S.usQ =
    (p.usQ && (m.src != lsb (p.c0 &&& p.p5) && m.src != fromCoords p.cf1 0 && m.dst != fromCoords p.cf1 0)) :=
  (congrArg Position.usQ R.oth :)

theorem Res.themK : S.themK =
    (p.themK && (m.src != lsb (p.c1 &&& p.p5) && m.src != fromCoords p.cf2 7 && m.dst != fromCoords p.cf2 7)) :=
  (congrArg Position.themK R.oth :)

theorem Res.themQ : S.themQ =
    (p.themQ && (m.src != lsb (p.c1 &&& p.p5) && m.src != fromCoords p.cf3 7 && m.dst != fromCoords p.cf3 7)) :=
  (congrArg Position.themQ R.oth :)

theorem Res.half : S.halfmoves = hm := (congrArg Position.halfmoves R.oth :)

theorem Res.full : S.fullmoves = p.fullmoves := (congrArg Position.fullmoves R.oth :)

theorem Res.cf : S.cf0 = p.cf0 ∧ S.cf1 = p.cf1 ∧ S.cf2 = p.cf2 ∧ S.cf3 = p.cf3 ∧ S.frc = p.frc :=
  ⟨(congrArg Position.cf0 R.oth :), (congrArg Position.cf1 R.oth :), (congrArg Position.cf2 R.oth :),
    (congrArg Position.cf3 R.oth :), (congrArg Position.frc R.oth :)⟩

end fields

theorem nc_shows {p : Position} {m : Mv} {i c : Nat} {cap epc pr : Bool} (f : NCFacts p m i c cap epc pr)
    {h : BB} {hm : Int} {S : Position}
    (R : Res p m i h (bit m.src ||| bit m.dst) (ncD1 m cap epc) (ncDP m i c cap epc pr) hm S) :
    S.Shows (boardNC p m epc ⟨!p.black, kindOf (if pr = true then m.promo else i)⟩) := by
  show Rawr.Shows S.black _ _ _ _
  rw [R.black]
  exact (nc_showsB f).cast R.c0 R.c1 fun _ => R.P _

theorem c_shows {p : Position} {m : Mv} {kTo rTo : Nat} (f : CFacts p m kTo rTo) {h : BB} {hm : Int} {S : Position}
    (R : Res p m 5 h (cD0 m kTo rTo) 0#64 (cDP m kTo rTo) hm S) : S.Shows (boardC p m kTo rTo) := by
  show Rawr.Shows S.black _ _ _ _
  rw [R.black]
  exact (c_showsB f).cast R.c0 (R.c1.trans BitVec.xor_zero) fun _ => R.P _


/-- the rights update closes the stages: the boards of `mmPre` from those of the position `S7` it starts from;
the other fields are those of `others_mmPre`. -/
theorem rights_res {p : Position} {m : Mv} {i : Nat} {h : BB} {c : Option Pc} {e : Option Nat} {S7 : Position}
    {d0 d1 : BB} {dP : Nat → BB} (Etot : BoardEff { p with hash := h } S7 d0 d1 dP)
    (hT : mmPre p m i h c e = stRights S7 m (lsb (p.c0 &&& p.p5)) (lsb (p.c1 &&& p.p5)) (fromCoords p.cf0 0)
      (fromCoords p.cf1 0) (fromCoords p.cf2 7) (fromCoords p.cf3 7)) :
    Res p m i h d0 d1 dP (if (c.isSome || i == 0) = true then 0 else p.halfmoves + 1) (mmPre p m i h c e) := by
  refine ⟨?_, ?_, ?_, others_mmPre p m i h c e⟩
  all_goals rw [hT]
  · exact Etot.c0
  · exact Etot.c1
  · exact Etot.P

section nc
variable {p : Position} {m : Mv} {i c : Nat} {cap epc pr : Bool}

/-- the boards after relocation, capture, clock reset and en-passant removal. -/
theorem mid_eff (f : NCFacts p m i c cap epc pr) (h : BB) :
    BoardEff { p with hash := h } (mmMid p m i h (if cap = true then some c else none)
        (if epc = true then some m.dst else none))
      (bit m.src ||| bit m.dst) (ncD1 m cap epc) (ncDP m i c cap epc false) := by
  have hi := pieceOn_lt f.hpo
  have E1 := relocate_eff p m i h hi
  have E2 : BoardEff { p with hash := h }
      ((if cap = true then some c else none : Option Pc).elim (stRelocate p m i h) (capStep (stRelocate p m i h) m))
      (bit m.src ||| bit m.dst) (cnd (cap = true) (bit m.dst))
      (fun k => cnd (k = i) (bit m.src ||| bit m.dst) ^^^ cnd (cap = true ∧ k = c) (bit m.dst)) := by
    cases hcp : cap
    · exact E1.cast rfl (by simp [cnd]) (fun k => by simp [cnd])
    · exact (E1.trans (capStep_eff _ m c (pieceOn_lt (f.hc hcp)))).cast (by simp) (by simp [cnd])
        (fun k => by simp [cnd])
  have E3 := E2.trans (clock_eff _ i)
  unfold mmMid
  rcases Bool.eq_false_or_eq_true epc with hE | hE
  · have h8 := (f.hepc hE).1
    have E4 := E3.trans (epStep_eff _ m.dst)
    rw [south_bit h8 f.hd] at E4
    simp only [hE, if_true, Option.elim_some]
    exact E4.cast (by simp) (by simp [ncD1, cnd])
      (fun k => by rw [ncDP_stages _ _ _ _ _ _ _ f.hne]; simp [cnd, BitVec.xor_assoc])
  · simp only [hE, Bool.false_eq_true, if_false, Option.elim_none]
    exact E3.cast (by simp) (by simp [ncD1, cnd])
      (fun k => by rw [ncDP_stages _ _ _ _ _ _ _ f.hne]; simp [cnd])

/-- no `unwrap` of a non-castling move fails. -/
theorem mmFrom_nc (f : NCFacts p m i c cap epc pr) (h : BB) :
    mmFrom p m i h =
      some (mmBody p m i h (if cap = true then some c else none) (if epc = true then some m.dst else none)) := by
  have hc1 : p.c1.isSet m.dst = cap := f.hcap
  rw [mmFrom_eq, hc1, ← f.epcE]
  cases hcp : cap
  · rcases Bool.eq_false_or_eq_true epc with hE | hE
    · simp only [hE, f.hep hE, if_true, Bool.false_eq_true, if_false, Option.map_some, Option.bind_some]
    · simp only [hE, Bool.false_eq_true, if_false, Option.bind_some]
  · rcases Bool.eq_false_or_eq_true epc with hE | hE
    · simp only [hE, f.hep hE, f.hc hcp, if_true, Option.map_some, Option.bind_some]
    · simp only [hE, f.hc hcp, if_true, Bool.false_eq_true, if_false, Option.map_some, Option.bind_some]

/-- the pre-flip result of a non-castling move: no square holds both a king and a rook after the en-passant
removal, so the castling stage does nothing. -/
theorem nc_result (f : NCFacts p m i c cap epc pr) (hprE : pr = (m.promo != 6)) (h : BB) :
    ∃ S, mmFrom p m i h = some (stFull S).flip ∧
      Res p m i h (bit m.src ||| bit m.dst) (ncD1 m cap epc) (ncDP m i c cap epc pr)
        (if (cap || i == 0) = true then 0 else p.halfmoves + 1) S := by
  refine ⟨_, mmFrom_nc f h, ?_⟩
  have E := mid_eff f h
  generalize hs4 : mmMid p m i h (if cap = true then some c else none) (if epc = true then some m.dst else none) = s4
    at E
  have E5 := E.trans (double_eff s4 m i)
  have hno : ((stDouble s4 m i).p5 &&& (stDouble s4 m i).p3).isOcc = false := by
    show ((stDouble s4 m i).piece 5 &&& (stDouble s4 m i).piece 3).isOcc = false
    rw [E5.P 5, E5.P 3, BitVec.xor_zero, BitVec.xor_zero]
    exact nc_no_castle (p := p) f
  have e6 := castle_none (stDouble s4 m i) m (fromCoords p.cf0 0) (fromCoords p.cf1 0) hno
  have Etot : BoardEff { p with hash := h } (stPromo (stDouble s4 m i) m) (bit m.src ||| bit m.dst)
      (ncD1 m cap epc) (ncDP m i c cap epc pr) :=
    (E5.trans (promo_eff_pr _ m hprE f.hp6)).cast (by simp) (by simp)
      (fun k => by
        rw [ncDP_stages _ _ _ _ _ _ _ f.hne, ncDP_stages _ _ _ _ _ _ _ f.hne]
        simp [cnd, BitVec.xor_assoc])
  have hcap : (if cap = true then some c else none : Option Pc).isSome = cap := by
    cases cap <;> rfl
  have R := rights_res (m := m) (i := i) (c := if cap = true then some c else none)
    (e := if epc = true then some m.dst else none) Etot (by
      unfold mmPre stTail0
      simp only [hs4, e6])
  rw [hcap] at R
  exact R

end nc

section castle
variable {p : Position} {m : Mv} {kTo rTo : Nat}

theorem mmFrom_c (f : CFacts p m kTo rTo) (h : BB) : mmFrom p m 5 h = some (mmBody p m 5 h none none) := by
  have hc1 : p.c1.isSet m.dst = false := c1_of_c0 f.hC f.h0d
  rw [mmFrom_eq, hc1]
  rfl

/-- the pre-flip result of a castling move: after the relocation the king stands on the rook's square, so the
castling stage fires. -/
theorem c_result (f : CFacts p m kTo rTo) (hpr : m.promo = 6) (sd : CSide p m kTo rTo) (h : BB) :
    ∃ S, mmFrom p m 5 h = some (stFull S).flip ∧
      Res p m 5 h (cD0 m kTo rTo) 0#64 (cDP m kTo rTo) (p.halfmoves + 1) S := by
  refine ⟨_, mmFrom_c f h, ?_⟩
  have hC := f.hC
  have E : BoardEff { p with hash := h } (mmMid p m 5 h none none) (bit m.src ||| bit m.dst) 0#64
      (fun k => cnd (k = 5) (bit m.src ||| bit m.dst)) :=
    ((relocate_eff p m 5 h (by omega)).trans (clock_eff _ 5)).cast (by simp) (by simp) (fun k => by simp)
  generalize hs4 : mmMid p m 5 h none none = s4 at E
  have E5 := E.trans (double_eff s4 m 5)
  have hocc : ((stDouble s4 m 5).p5 &&& (stDouble s4 m 5).p3).isOcc = true := by
    show ((stDouble s4 m 5).piece 5 &&& (stDouble s4 m 5).piece 3).isOcc = true
    rw [E5.P 5, E5.P 3, BitVec.xor_zero, BitVec.xor_zero]
    apply isOcc_of_bit (x := m.dst)
    have g5 : (p.piece 5).getLsbD m.dst = false := by rw [piece_bit hC, f.hrook]; rfl
    have g3 : (p.piece 3).getLsbD m.dst = true := by rw [piece_bit hC, f.hrook]; rfl
    show (((p.piece 5 ^^^ cnd (5 = 5) (bit m.src ||| bit m.dst)) &&&
      (p.piece 3 ^^^ cnd (3 = 5) (bit m.src ||| bit m.dst))).getLsbD m.dst) = true
    simp only [BitVec.getLsbD_and, BitVec.getLsbD_xor, BitVec.getLsbD_or, getLsbD_cnd, getLsbD_bit, g5, g3]
    simp [f.hd]
  have e7 := promo_none (stCastle (stDouble s4 m 5) m (fromCoords p.cf0 0) (fromCoords p.cf1 0)) m hpr
  have Etot : BoardEff { p with hash := h } (stCastle (stDouble s4 m 5) m (fromCoords p.cf0 0) (fromCoords p.cf1 0))
      (cD0 m kTo rTo) 0#64 (cDP m kTo rTo) :=
    (E5.trans (sd.eff _ hocc)).cast
      (by
        simp only [cD0, BitVec.xor_zero, BitVec.xor_assoc, xor_cancel]
        ac_rfl)
      (by simp)
      (fun k => by
        simp only [cDP, cnd_xor, BitVec.xor_zero, BitVec.xor_assoc, xor_cancel]
        ac_rfl)
  refine rights_res (c := none) Etot ?_
  unfold mmPre stTail0
  simp only [hs4, e7]

end castle

end Rawr.MM
