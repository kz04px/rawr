import Rawr.Proofs.MakeMoveEff
/-! `makemove` without hypotheses on position or move. `mmFrom` is two look-ups that can fail (the captured piece,
the en-passant square), both decided by `p`, around a total function `mmBody`; every field that is not a board is
given explicitly for `mmPre`, the stages before the full-move update and the flip (`others_mmPre`), and seven of them
for `mmBody` (`mmBody_frame`; `makemove_frc` is its Chess960 flag); and the key handed in is carried along untouched (`mmFrom_wh`), so the `UPDATE_HASH`
flag only affects the stored key. -/
namespace Rawr.MM
open Rawr Rawr.Position Rawr.ZH

def wh (s : Position) (h : BB) : Position := { s with hash := h }

theorem setPiece_wh (s : Position) (i : Nat) (b h) : (wh s h).setPiece i b = wh (s.setPiece i b) h := by
  unfold Position.setPiece
  split <;> rfl

theorem piece_wh (s : Position) (i : Nat) (h) : (wh s h).piece i = s.piece i := by
  unfold Position.piece
  split <;> rfl

theorem relocate_wh (p : Position) (m : Mv) (i : Nat) (h h' : BB) :
    stRelocate p m i h = wh (stRelocate p m i h') h := by
  unfold stRelocate
  simp only []
  have e : ({ p with hash := h, c0 := p.c0 ^^^ (bit m.src ||| bit m.dst), halfmoves := p.halfmoves + 1 } : Position)
      = wh { p with hash := h', c0 := p.c0 ^^^ (bit m.src ||| bit m.dst), halfmoves := p.halfmoves + 1 } h := rfl
  rw [e, piece_wh, setPiece_wh]

theorem capStep_wh (s : Position) (m : Mv) (c : Nat) (h : BB) : capStep (wh s h) m c = wh (capStep s m c) h := by
  unfold capStep
  simp only []
  have e : ({ wh s h with c1 := (wh s h).c1 ^^^ bit m.dst, halfmoves := 0 } : Position)
      = wh { s with c1 := s.c1 ^^^ bit m.dst, halfmoves := 0 } h := rfl
  rw [e, piece_wh, setPiece_wh]

theorem clock_wh (s : Position) (i : Nat) (h : BB) : stClock (wh s h) i = wh (stClock s i) h := by
  unfold stClock
  split <;> rfl

theorem epStep_wh (s : Position) (e : Nat) (h : BB) : epStep (wh s h) e = wh (epStep s e) h := rfl

theorem double_wh (s : Position) (m : Mv) (i : Nat) (h : BB) : stDouble (wh s h) m i = wh (stDouble s m i) h := by
  unfold stDouble
  split <;> rfl

theorem castle_wh (s : Position) (m : Mv) (a b : Nat) (h : BB) :
    stCastle (wh s h) m a b = wh (stCastle s m a b) h := by
  unfold stCastle
  simp only []
  have e5 : (wh s h).p5 = s.p5 := rfl
  have e3 : (wh s h).p3 = s.p3 := rfl
  rw [e5, e3]
  split
  · rfl
  · split <;> rfl

theorem promo_wh (s : Position) (m : Mv) (h : BB) : stPromo (wh s h) m = wh (stPromo s m) h := by
  unfold stPromo
  split
  · simp only []
    have e : ({ wh s h with p0 := (wh s h).p0 ^^^ bit m.dst } : Position) = wh { s with p0 := s.p0 ^^^ bit m.dst } h := rfl
    rw [e, piece_wh, setPiece_wh]
  · rfl

theorem rights_wh (s : Position) (m : Mv) (a b c d e f : Nat) (h : BB) :
    stRights (wh s h) m a b c d e f = wh (stRights s m a b c d e f) h := rfl

theorem full_wh (s : Position) (h : BB) : stFull (wh s h) = wh (stFull s) h := by
  unfold stFull
  have e : (wh s h).black = s.black := rfl
  rw [e]
  split <;> rfl

theorem tail0_wh (p : Position) (m : Mv) (i : Nat) (s : Position) (h : BB) :
    stTail0 p m i (wh s h) = wh (stTail0 p m i s) h := by
  unfold stTail0
  simp only [double_wh, castle_wh, promo_wh, rights_wh]

theorem flip_wh (s : Position) (h : BB) : (wh s h).flip = wh s.flip h := rfl

/-- the stages once the two look-ups are made: `c` the piece captured on `dst` (if `dst` is the opponent's), `e` the
en-passant square (if a pawn leaves its file onto an empty square). `mmMid`: up to the en-passant removal; `mmPre`:
up to the rights update; `mmBody`: with the full-move update and the flip. -/
def mmMid (p : Position) (m : Mv) (i : Pc) (h : BB) (c : Option Pc) (e : Option Nat) : Position :=
  let s := stRelocate p m i h
  let s := stClock (c.elim s (capStep s m)) i
  e.elim s (epStep s)

def mmPre (p : Position) (m : Mv) (i : Pc) (h : BB) (c : Option Pc) (e : Option Nat) : Position :=
  stTail0 p m i (mmMid p m i h c e)

def mmBody (p : Position) (m : Mv) (i : Pc) (h : BB) (c : Option Pc) (e : Option Nat) : Position :=
  (stFull (mmPre p m i h c e)).flip

theorem others_mmPre (p : Position) (m : Mv) (i : Pc) (h : BB) (c : Option Pc) (e : Option Nat) :
    others (mmPre p m i h c e) = { others p with
      hash := h, halfmoves := if (c.isSome || i == 0) = true then 0 else p.halfmoves + 1,
      ep := if (i == 0 && m.dst - m.src == 16) = true then some (m.dst - 8) else none,
      usK := p.usK && (m.src != lsb (p.c0 &&& p.p5) && m.src != fromCoords p.cf0 0 && m.dst != fromCoords p.cf0 0),
      usQ := p.usQ && (m.src != lsb (p.c0 &&& p.p5) && m.src != fromCoords p.cf1 0 && m.dst != fromCoords p.cf1 0),
      themK := p.themK && (m.src != lsb (p.c1 &&& p.p5) && m.src != fromCoords p.cf2 7 && m.dst != fromCoords p.cf2 7),
      themQ := p.themQ && (m.src != lsb (p.c1 &&& p.p5) && m.src != fromCoords p.cf3 7 && m.dst != fromCoords p.cf3 7) } := by
  have h4 : others (mmMid p m i h c e) =
      { others p with hash := h, halfmoves := if (c.isSome || i == 0) = true then 0 else p.halfmoves + 1 } := by
    have h3 : others (stClock (c.elim (stRelocate p m i h) (capStep (stRelocate p m i h) m)) i) =
        { others p with hash := h, halfmoves := if (c.isSome || i == 0) = true then 0 else p.halfmoves + 1 } := by
      rw [others_clock]
      cases c
      · rw [Option.elim_none, others_relocate]
        cases (i == 0) <;> rfl
      · rw [Option.elim_some, others_capStep, others_relocate]
        cases (i == 0) <;> rfl
    unfold mmMid
    cases e
    · exact h3
    · exact h3
  unfold mmPre stTail0
  simp only []
  rw [others_rights, others_promo, others_castle, others_double, h4]
  rfl

/-- the key handed in is stored; `frc` is kept; the flip passes the move and swaps the castle files. -/
theorem mmBody_frame (p : Position) (m : Mv) (i : Pc) (h : BB) (c : Option Pc) (e : Option Nat) :
    (mmBody p m i h c e).hash = h ∧ (mmBody p m i h c e).frc = p.frc ∧ (mmBody p m i h c e).black = !p.black ∧
    (mmBody p m i h c e).cf0 = p.cf2 ∧ (mmBody p m i h c e).cf1 = p.cf3 ∧
    (mmBody p m i h c e).cf2 = p.cf0 ∧ (mmBody p m i h c e).cf3 = p.cf1 := by
  have o := others_full (mmPre p m i h c e)
  rw [others_mmPre] at o
  exact ⟨(congrArg Position.hash o :), (congrArg Position.frc o :), congrArg (!·) (congrArg Position.black o :),
    (congrArg Position.cf2 o :), (congrArg Position.cf3 o :), (congrArg Position.cf0 o :), (congrArg Position.cf1 o :)⟩

/-- `mmFrom` is `mmBody` after the two look-ups, which only read `p`. -/
theorem mmFrom_eq (p : Position) (m : Mv) (i : Pc) (h : BB) :
    mmFrom p m i h =
      (if p.c1.isSet m.dst then (p.pieceOn m.dst).map some else some none).bind fun c =>
      (if i == 0 && fileOf m.src != fileOf m.dst && (p.pieceOn m.dst).isNone then p.ep.map some else some none).bind
        fun e => some (mmBody p m i h c e) := by
  have hc1 : (stRelocate p m i h).c1 = p.c1 := by
    unfold stRelocate
    exact (setPiece_colours _ _ _).2
  have hep : ∀ c : Option Pc,
      (stClock (c.elim (stRelocate p m i h) (capStep (stRelocate p m i h) m)) i).ep = p.ep := by
    intro c
    cases c
    · exact ((congrArg Position.ep (others_clock _ i) :).trans (congrArg Position.ep (others_relocate p m i h) :))
    · exact ((congrArg Position.ep (others_clock _ i) :).trans
        ((congrArg Position.ep (others_capStep _ m _) :).trans (congrArg Position.ep (others_relocate p m i h) :)))
  unfold mmFrom
  simp only [Option.bind_eq_bind, Option.pure_def, hc1]
  cases p.c1.isSet m.dst
  · have h0 := hep none
    simp only [Option.elim_none] at h0
    simp only [Bool.false_eq_true, if_false, Option.bind_some]
    split
    · rw [h0]
      cases p.ep <;> rfl
    · rfl
  · simp only [if_true]
    cases hd : p.pieceOn m.dst with
    | none => rfl
    | some c =>
      have h0 := hep (some c)
      simp only [Option.elim_some] at h0
      simp only [Option.map_some, Option.bind_some]
      split
      · rw [h0]
        cases p.ep <;> rfl
      · rfl

theorem mmFrom_some {p : Position} {m : Mv} {i : Pc} {h : BB} {q : Position} (hq : mmFrom p m i h = some q) :
    ∃ c e, q = mmBody p m i h c e := by
  rw [mmFrom_eq] at hq
  simp only [Option.bind_eq_some_iff] at hq
  obtain ⟨c, _, e, _, hq⟩ := hq
  exact ⟨c, e, (Option.some.inj hq).symm⟩

theorem _root_.Rawr.makemove_frc {p : Position} {m : Mv} {u : Bool} {q : Position} (h : p.makemove m u = some q) :
    q.frc = p.frc := by
  obtain ⟨i, _, hash, _, hq⟩ := ZH.makemove_eq_some.mp h
  obtain ⟨c, e, rfl⟩ := mmFrom_some hq
  exact (mmBody_frame p m i hash c e).2.1

theorem mmBody_wh (p : Position) (m : Mv) (i : Pc) (h h' : BB) (c : Option Pc) (e : Option Nat) :
    mmBody p m i h c e = wh (mmBody p m i h' c e) h := by
  unfold mmBody mmPre mmMid
  simp only []
  rw [relocate_wh p m i h h']
  cases c <;> cases e <;>
    simp only [Option.elim_none, Option.elim_some, capStep_wh, clock_wh, epStep_wh, tail0_wh, full_wh, flip_wh]

/-- the stored key is carried along untouched: `mmFrom` with key `h` is `mmFrom` with key `h'`, the key replaced. -/
theorem mmFrom_wh (p : Position) (m : Mv) (i : Nat) (h h' : BB) :
    mmFrom p m i h = (mmFrom p m i h').map (fun q => wh q h) := by
  rw [mmFrom_eq, mmFrom_eq]
  simp only [Option.map_bind, Function.comp_def, Option.map_some, ← mmBody_wh]

theorem mmFrom_hash {p : Position} {m : Mv} {i : Nat} {h : BB} {q : Position} (hq : mmFrom p m i h = some q) :
    q.hash = h := by
  obtain ⟨c, e, rfl⟩ := mmFrom_some hq
  exact (mmBody_frame p m i h c e).1

end Rawr.MM
