import Rawr.Proofs.RustTextAgree
import Rawr.Proofs.TestPositions
import Rawr.Proofs.RustImpAgree_MakeMove
import Rawr.Proofs.RustImpAgree_MoveGen
/-!
# chess/perft.rs, uci/setoption.rs, uci/go.rs (`parse_go`) regenerated from the Rust source agree with the model
(`perft`, `doSetoption`, `parseGoLoop` / `parseGo` of Rawr/Model/Uci.lean)
-/
namespace Rawr

/-- **`Position::perft`** (chess/perft.rs) as the text-side translator regenerates it (`R.pos_perft`, with the `u8`
arithmetic of the build); the search-side translation of the same function is `R.perft` (`agree_perft`). -/
theorem agree_pos_perft (ar : Arith) : ∀ (fuel depth : Nat) (p : Position), depth < fuel →
    R.pos_perft fuel ar p depth = perft depth p := by
  intro fuel
  induction fuel with
  | zero => intro depth p h; omega
  | succ fuel ih =>
    intro depth p h
    unfold R.pos_perft
    match depth, h with
    | 0, _ => simp [perft]
    | 1, _ => simp [perft, agree_count_moves]
    | d + 2, h =>
      have hd : d + 1 < fuel := by omega
      have hu : u8sub ar (d + 2) 1 = some (d + 1) := u8sub_small ar _ _ (by omega)
      simp only [show ((d + 2 == 0) = false) from by simp, show ((d + 2 == 1) = false) from by simp, Bool.false_eq_true,
        if_false, agree_move_generator, agree_after_move, hu, bind, pure, Option.bind_some]
      rw [perft.eq_3 p (d + 1) (by omega)]
      unfold legalMoves
      have key : ∀ (l : List GMv) (acc : Nat),
          (forIn l acc (fun g r => (p.makemove g.mv false).bind fun np =>
              (R.pos_perft fuel ar np (d + 1)).bind fun x => some (ForInStep.yield (r + x)))) =
            (l.map (·.mv)).foldl (fun acc m =>
              match acc, p.makemove m false with
              | some a, some np => (perft (d + 1) np).map (a + ·)
              | _, _ => none) (some acc) := by
        intro l
        induction l with
        | nil => intro acc; rfl
        | cons g l ihl =>
          intro acc
          have hnone := perft_fold_none p (perft (d + 1))
          simp only [List.forIn_cons, List.map_cons, List.foldl_cons, bind]
          cases hm : p.makemove g.mv false with
          | none => simp only [Option.bind_none]; exact (hnone _).symm
          | some np =>
            simp only [Option.bind_some]
            rw [ih _ _ hd]
            cases hp : perft (d + 1) np with
            | none => simp only [Option.bind_none, Option.map_none]; exact (hnone _).symm
            | some x => simp only [Option.bind_some, Option.map_some]; exact ihl _
      rw [key]
      exact Option.bind_fun_some _

example : R.pos_perft 3 .trap Gen.startpos 2 = some 400 :=
  (agree_pos_perft .trap 3 2 Gen.startpos (by decide)).trans perft_startpos_2


/-! ## uci/setoption.rs
`setoption(stream, func)` calls the callback at most once; the translation returns the list of callback invocations.
The model's `doSetoption` is this argument extraction followed by the callback of listen.rs. -/
theorem agree_setoption (toks : List (List Char)) :
    (R.setoption toks).2 =
      (match toks with
       | n :: name :: v :: value :: _ => if n != str "name" || v != str "value" then [] else [(name, value)]
       | _ => []) := by
  have e1 : str "name" = ['n', 'a', 'm', 'e'] := by decide
  have e2 : str "value" = ['v', 'a', 'l', 'u', 'e'] := by decide
  unfold R.setoption
  rw [e1, e2]
  match toks with
  | [] => rfl
  | [a] => by_cases h : a = ['n', 'a', 'm', 'e'] <;> simp [h]
  | [a, b] => by_cases h : a = ['n', 'a', 'm', 'e'] <;> simp [h]
  | [a, b, c] =>
    by_cases h : a = ['n', 'a', 'm', 'e'] <;> by_cases h2 : c = ['v', 'a', 'l', 'u', 'e'] <;> simp [h, h2]
  | a :: b :: c :: d :: r =>
    by_cases h : a = ['n', 'a', 'm', 'e'] <;> by_cases h2 : c = ['v', 'a', 'l', 'u', 'e'] <;> simp [h, h2]

/-- the callback of listen.rs as the model's `doSetoption` applies it (`second`: the one of the second loop, which
resizes the table). -/
def Sess.cbF (second : Bool) (s : UState) (nv : List Char × List Char) : UState :=
  if nv.1 == str "Hash" || nv.1 == str "hash" then
    match parseUnsigned (2^64) nv.2 with
    | some size =>
      let h := max 1 (min size 4096)
      if second then { s with hashMb := h, tt := s.tt.resize h Gen.ttEntrySize } else { s with hashMb := h }
    | none => s
  else if nv.1 == str "UCI_Chess960" then
    let f := nv.2 == str "true"
    { s with frc := f, pos := { s.pos with frc := f } }
  else s

/-- the model's `doSetoption` is the extracted (name, value) pair fed to the callback of listen.rs. -/
theorem doSetoption_eq (s : UState) (toks : List (List Char)) (second : Bool) :
    doSetoption s toks second = (R.setoption toks).2.foldl (Sess.cbF second) s := by
  rw [agree_setoption]
  unfold doSetoption Sess.cbF
  match toks with
  | [] => rfl
  | [a] => rfl
  | [a, b] => rfl
  | [a, b, c] => rfl
  | a :: b :: c :: d :: r =>
    simp only []
    by_cases h : (a != str "name" || c != str "value") = true
    · simp [h]
    · simp only [h, Bool.false_eq_true, if_false, List.foldl_cons, List.foldl_nil]
      rfl

/-- the model's `GoKind` forgets the increments of `settings::Type::Time`. -/
def goToModel : T.GoType → GoKind
  | .time w b _ _ m => .time w b m
  | .movetime t => .movetime t
  | .depth d => .depth d
  | .nodes n => .nodes n
  | .infinite => .infinite
  | .perft d => .perft d
  | .splitPerft d => .split d

/-- the final selection of `parseGo`. -/
def goSelect (a : GoArgs) : Option GoKind :=
  match a.wtime, a.btime, a.depth, a.nodes, a.movetime, a.infinite, a.perft, a.split with
  | some wt, some bt, none, none, none, none, none, none => some (.time wt bt a.mtg)
  | none, none, some d, none, none, none, none, none => some (.depth d)
  | none, none, none, some n, none, none, none, none => some (.nodes n)
  | none, none, none, none, some m, none, none, none => some (.movetime m)
  | none, none, none, none, none, some _, none, none => some .infinite
  | none, none, none, none, none, none, some d, none => some (.perft d)
  | none, none, none, none, none, none, none, some d => some (.split d)
  | _, _, _, _, _, _, _, _ => none

theorem parseGo_eq (toks : List (List Char)) :
    parseGo toks = (parseGoLoop (toks.length + 1) toks {}).bind goSelect := by
  unfold parseGo
  cases parseGoLoop (toks.length + 1) toks {} <;> rfl

abbrev GoLoopState := Option (Option T.GoType × List (List Char)) × Bool × List (List Char) × Option Nat × Option Nat ×
  Option Nat × Option Nat × Option Nat × Option Int × Option Nat × Option Nat × Option Bool × Option Nat × Option Nat

/-- what `parse_go` does with the state after its loop (as a value of the model's type). -/
def goFin (r : GoLoopState) : Option (Option GoKind) :=
  match r.1 with
  | some e => some (e.1.map goToModel)
  | none =>
    if !r.2.1 then none else
    some (goSelect ⟨r.2.2.2.1, r.2.2.2.2.1, r.2.2.2.2.2.1, r.2.2.2.2.2.2.1, r.2.2.2.2.2.2.2.1, r.2.2.2.2.2.2.2.2.1,
      r.2.2.2.2.2.2.2.2.2.1, r.2.2.2.2.2.2.2.2.2.2.1, r.2.2.2.2.2.2.2.2.2.2.2.1, r.2.2.2.2.2.2.2.2.2.2.2.2.1,
      r.2.2.2.2.2.2.2.2.2.2.2.2.2⟩)

theorem parse_go_loop1_eq : ∀ (it : List Nat) (m : Nat) (stream : List (List Char)) (a : GoArgs),
    stream.length + 1 ≤ it.length → stream.length + 1 ≤ m →
    (R.parse_go_loop1 it stream a.wtime a.btime a.winc a.binc a.mtg a.depth a.nodes a.movetime a.infinite a.perft
        a.split).bind goFin
      = some ((parseGoLoop m stream a).bind goSelect) := by
  intro it
  induction it with
  | nil => intro m stream a h; simp at h
  | cons x it ih =>
    intro m stream a h1 h2
    obtain ⟨m', rfl⟩ : ∃ m', m = m' + 1 := ⟨m - 1, by omega⟩
    unfold parseGoLoop
    simp only [R.parse_go_loop1, List.forIn_cons] at ih ⊢
    -- `rw`, not `unfold`: the step function also occurs in the loop body of the remaining iterations
    rw [R.parse_go_loop1_step]
    -- what follows the tests of the key word goes into their branches, on both sides
    simp only [bind, pure, ite_bind, Option.bind_some, apply_ite some]
    cases stream with
    | nil => simp [goFin, goSelect, str]
    | cons k r =>
      have hl1 : r.tail.length + 1 ≤ it.length := by
        simp only [List.length_tail, List.length_cons] at h1 ⊢; omega
      have hl2 : r.tail.length + 1 ≤ m' := by
        simp only [List.length_tail, List.length_cons] at h2 ⊢; omega
      simp only [str, String.reduceToList, List.head?_cons, List.tail_cons, Option.getD_some, List.drop_succ_cons,
        List.drop_zero, List.headD_eq_head?_getD, List.drop_one]
      generalize r.head?.getD [] = n
      -- the same tests in the same order: a key word sets its field and the loop goes on
      refine ite_congr rfl (fun _ => ih m' _ { a with wtime := parseUnsigned (2^32) n } hl1 hl2) fun _ => ?_
      refine ite_congr rfl (fun _ => ih m' _ { a with btime := parseUnsigned (2^32) n } hl1 hl2) fun _ => ?_
      refine ite_congr rfl (fun _ => ih m' _ { a with winc := parseUnsigned (2^32) n } hl1 hl2) fun _ => ?_
      refine ite_congr rfl (fun _ => ih m' _ { a with binc := parseUnsigned (2^32) n } hl1 hl2) fun _ => ?_
      refine ite_congr rfl (fun _ => ih m' _ { a with mtg := parseUnsigned (2^32) n } hl1 hl2) fun _ => ?_
      refine ite_congr rfl (fun _ => ih m' _ { a with depth := parseI32 n } hl1 hl2) fun _ => ?_
      refine ite_congr rfl (fun _ => ih m' _ { a with nodes := parseUnsigned (2^64) n } hl1 hl2) fun _ => ?_
      refine ite_congr rfl (fun _ => ih m' _ { a with movetime := parseUnsigned (2^32) n } hl1 hl2) fun _ => ?_
      refine ite_congr rfl (fun _ => ih m' _ { a with infinite := some true } hl1 hl2) fun _ => ?_
      refine ite_congr rfl (fun _ => ih m' _ { a with perft := parseUnsigned 256 n } hl1 hl2) fun _ => ?_
      refine ite_congr rfl (fun _ => ih m' _ { a with split := parseUnsigned 256 n } hl1 hl2) fun _ => ?_
      exact ite_congr rfl (fun _ => rfl) fun _ => rfl

/-- **`parse_go`** (uci/go.rs): with enough fuel for the `loop` (one iteration per two tokens) the regenerated function
returns the model's `parseGo` (`Err(_)` = `none`; the model's `GoKind.time` forgets the increments). -/
theorem agree_parse_go (fuel : Nat) (toks : List (List Char)) (h : toks.length + 1 ≤ fuel) :
    (R.parse_go fuel toks).map (fun r => r.1.map goToModel) = some (parseGo toks) := by
  have hloop := parse_go_loop1_eq (List.range fuel) (toks.length + 1) toks {} (by simpa using h) (Nat.le_refl _)
  rw [parseGo_eq, ← hloop]
  unfold R.parse_go
  simp only [bind, pure]
  show Option.map _ (Option.bind (R.parse_go_loop1 (List.range fuel) toks none none none none none none none none none none none) _) = _
  cases R.parse_go_loop1 (List.range fuel) toks none none none none none none none none none none none with
  | none => rfl
  | some r =>
    obtain ⟨early, exited, stream, w, b, wi, bi, mtg, d, n, mt, inf, pf, sp⟩ := r
    cases early with
    | some e => rfl
    | none =>
      cases exited with
      | false => rfl
      | true =>
        simp only [Option.bind_some, goFin]
        cases w <;> cases b <;> cases d <;> cases n <;> cases mt <;> cases inf <;> cases pf <;> cases sp <;> rfl

example : (R.parse_go 9 ["wtime".toList, "1000".toList, "btime".toList, "2000".toList, "winc".toList, "5".toList]).map (·.1)
    = some (some (.time 1000 2000 (some 5) none none)) := by decide +kernel
example : (R.parse_go 9 ["depth".toList, "x".toList]).map (·.1) = some none := by decide +kernel
example : (R.parse_go 9 ["bogus".toList]).map (·.1) = some none := by decide +kernel
end Rawr

#print axioms Rawr.agree_pos_perft
#print axioms Rawr.agree_setoption
#print axioms Rawr.doSetoption_eq
#print axioms Rawr.agree_parse_go
