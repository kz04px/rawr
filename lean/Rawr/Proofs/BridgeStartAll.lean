import Rawr.Generated.StartPos
import Rawr.Proofs.BridgeStart
/-! Every Chess960 start position (both sides the same back rank, numbering of `GenPos.backRank960`; number 518
is the standard position) is in `D = V ∧ E ∧ M`, in either castling notation: each of the 960 back ranks
passes `RankOk`, a test on the list alone, by kernel evaluation. -/
namespace Rawr.Br

theorem rankOk_960 (n : Nat) (hn : n < 960) : RankOk (GenPos.backRank960 n) = true :=
  List.all_eq_true.mp (by decide +kernel : (List.range 960).all (fun n => RankOk (GenPos.backRank960 n)) = true) n
    (List.mem_range.mpr hn)

theorem start960_inD (n : Nat) (hn : n < 960) (frc : Bool) :
    InD (rel (GenPos.startFrom (GenPos.backRank960 n) (GenPos.backRank960 n)) frc) = true :=
  start_inD (rankOk_960 n hn) (rankOk_960 n hn) frc

/-- number 518 has the stored key of the engine's standard start position `Gen.startpos` (the other fields are not
compared). -/
example : (rel (GenPos.startFrom (GenPos.backRank960 518) (GenPos.backRank960 518)) false).hash = Gen.startpos.hash := by
  decide +kernel

end Rawr.Br

#print axioms Rawr.Br.start960_inD
