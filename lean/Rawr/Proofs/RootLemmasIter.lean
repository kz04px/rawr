import Rawr.Proofs.RootLemmasRange
import Rawr.Proofs.RootLemmasFrame
/-! Helper lemmas for C03 / C14: the root call of `negamax` (`ply = 0`, full window, `depth ≥ 1`, no null move) and the
iteration loop `rootIter` of `root::root`.

`negamax_root`: a returning root call is a `RootRun` (`Proofs/SearchNode.lean`): it either is stopped by its poll (only
when `stats.depth > 1`) or runs its move loop, and then writes a member of `legalMoves p` to `stats.best_move` unless
there is no legal move (`RootCallOk`). The driver lemmas assume only that.

`root_ok` is the core of C03 and C14: the table invariant is handed back, the move played is legal (none if there is
none), every reported score is in `(-K, K)` and every reported line is one legal move. `rootIter_records`: what the
end-of-iteration poll implies holds of every record; `rootIter_pv`: the move played heads the last line;
`rootIter_depth_count_of`: the number of records under a depth limit. -/
namespace Rawr

/-- what the driver lemmas below need of the root calls on `p`. -/
def RootCallOk (lim : Limit) (K : Int) (fuel : Nat) (p : Position) : Prop :=
  ∀ (st : SState) (depth v : Int) (st' : SState), TTIn K st.tt → 1 ≤ depth →
    negamax lim fuel p st (-Gen.INF) Gen.INF 0 depth false = some (v, st') →
    TTIn K st'.tt ∧
    ((RootStopped lim st ∧ v = 0 ∧ st' = (shouldStop lim (rootPollState st)).2) ∨
     (¬ RootStopped lim st ∧ (legalMoves p = [] → st'.best = st.best) ∧
       (legalMoves p ≠ [] → InR K v ∧ ∃ m ∈ legalMoves p, st'.best = some m)))

theorem negamax_root (lim : Limit) (G : Nat → Position → Prop) (hG : SearchDomC G) (K : Int)
    (hK1 : Gen.MATE_SCORE ≤ K) (hK2 : K ≤ Gen.INF) (fuel : Nat) (p : Position) (hGp : G fuel p)
    (hf : (fuel : Int) ≤ K + Gen.MATE_SCORE) : RootCallOk lim K fuel p := by
  intro st depth v st' htt hd h
  cases fuel with
  | zero => simp [negamax] at h
  | succ fuel =>
    have hrun := negamax_succ_run lim fuel p st (-Gen.INF) Gen.INF 0 depth false
    rw [h] at hrun
    have hloop : ∀ {ttm moves s3 a3 best bm}, sortNm p (legalMoves p) ttm = some moves →
        nmLoop (negamax lim fuel) p Gen.INF 0 (extDepth p depth) p.inCheck moves 0 (nodePoll lim 0 (st.enter 0)).2
          (-Gen.INF) (-Gen.INF) none = some (s3, a3, best, bm) → TTIn K (nodePoll lim 0 (st.enter 0)).2.tt →
        TTIn K s3.tt ∧ ((legalMoves p = [] ∧ s3 = (nodePoll lim 0 (st.enter 0)).2 ∧ bm = none) ∨
          (InR K best ∧ ∃ m ∈ legalMoves p, bm = some m)) := by
      intro ttm moves s3 a3 best bm hsort hl hprtt
      have hperm := sortNm_perm _ _ _ _ hsort
      obtain ⟨l1, l2⟩ := nmLoop_best (negamax lim fuel) p Gen.INF 0 _ p.inCheck (fun s => TTIn K s.tt)
        (fun _ s => TTIn K s.tt) (InR K) moves (fun v hv => by unfold InR at hv; omega) (fun _ _ h => h) (fun _ _ h => h)
        (fun m hm c hmk s a b d v s' hs _ hc =>
          have h2 := negamax_range lim G hG K hK1 hK2 fuel c s a b (0 + 1) d true v s'
            (hG.move _ _ _ _ hGp (hperm.mem_iff.1 hm) hmk) hs (by omega) (by omega) hc
          ⟨h2.2, h2.1.neg⟩) hprtt hl
      refine ⟨l1, ?_⟩
      rcases l2 with ⟨rfl, e1, e2⟩ | ⟨hb, m, hm, e⟩
      · exact Or.inl ⟨List.nil_perm.1 hperm, e1, e2⟩
      · exact Or.inr ⟨hb, m, hperm.mem_iff.1 hm, e⟩
    cases hrun.root (by unfold extDepth; split <;> omega) with
    | stopped hs =>
      rcases nodePoll_root lim st with ⟨hst, e⟩ | ⟨_, e, _⟩
      · rw [e]
        exact ⟨htt, Or.inl ⟨hst, rfl, rfl⟩⟩
      · rw [e] at hs
        cases hs
    | noMove hs hsort hl =>
      rcases nodePoll_root lim st with ⟨_, e⟩ | ⟨hns, _, e1, e2⟩
      · rw [e] at hs
        cases hs
      · rcases hloop hsort hl (by rw [e1]; exact htt) with ⟨l1, ⟨hnil, rfl, _⟩ | ⟨_, m, _, e⟩⟩
        · exact ⟨l1, Or.inr ⟨hns, fun _ => e2, fun hne => absurd hnil hne⟩⟩
        · cases e
    | store hs hsort hl hadd =>
      rcases nodePoll_root lim st with ⟨_, e⟩ | ⟨hns, _, e1, e2⟩
      · rw [e] at hs
        cases hs
      · rcases hloop hsort hl (by rw [e1]; exact htt) with ⟨l1, ⟨_, _, e⟩ | ⟨hb, m, hm, e⟩⟩
        · cases e
        · exact ⟨l1.add hb hadd, Or.inr ⟨hns, fun hnil => (by rw [hnil] at hm; cases hm), fun _ => ⟨hb, m, hm, e⟩⟩⟩

/-- what the driver knows before an iteration: before iteration 1 nothing; afterwards its local and `stats.best_move`
hold the same legal move. -/
def BestInv (p : Position) (depth : Int) (st : SState) (bestMove : Option Mv) : Prop :=
  (depth = 1 ∧ st.best = none ∧ bestMove = none) ∨
  (1 < depth ∧ ∃ m ∈ legalMoves p, bestMove = some m ∧ st.best = some m)

theorem RootCallOk.call {lim : Limit} {K : Int} {fuel : Nat} {p : Position} (hroot : RootCallOk lim K fuel p) (hK : 0 < K)
    {depth : Int} {st : SState} {bm : Option Mv} {score : Int} {s1 : SState}
    (htt : TTIn K st.tt) (hinv : BestInv p depth st bm)
    (hnm : negamax lim fuel p { st with depth := depth } (-Gen.INF) Gen.INF 0 depth false = some (score, s1)) :
    TTIn K s1.tt ∧ ((legalMoves p = [] ∧ s1.best = none) ∨ (InR K score ∧ ∃ m ∈ legalMoves p, s1.best = some m)) := by
  have hd1 : 1 ≤ depth := by rcases hinv with ⟨e, _⟩ | ⟨e, _⟩ <;> omega
  obtain ⟨htt1, hcall⟩ := hroot _ depth score s1 (by exact htt) hd1 hnm
  refine ⟨htt1, ?_⟩
  rcases hcall with ⟨⟨hgt, _⟩, rfl, e⟩ | ⟨_, hnil, hcons⟩
  · rcases hinv with ⟨e1, _⟩ | ⟨_, m, hm, _, e2⟩
    · have : (1 : Int) < depth := hgt
      omega
    · exact Or.inr ⟨by unfold InR; omega, m, hm, by rw [e]; exact e2⟩
  · by_cases hl : legalMoves p = []
    · rcases hinv with ⟨_, e1, _⟩ | ⟨_, m, hm, _⟩
      · exact Or.inl ⟨hl, by rw [hnil hl]; exact e1⟩
      · rw [hl] at hm; simp at hm
    · exact Or.inr (hcons hl)

theorem root_ok {lim : Limit} {K : Int} {fuel : Nat} {p : Position} (hroot : RootCallOk lim K fuel p) (hK : 0 < K)
    {hist : List BB} {tt : Table TTEntry} {res : RootResult} (htt : TTIn K tt) (h : root lim fuel p hist tt = some res) :
    TTIn K res.tt ∧ (legalMoves p ≠ [] → ∃ m ∈ legalMoves p, res.best = some m) ∧ (legalMoves p = [] → res.best = none) ∧
      ∀ r ∈ res.infos, InR K r.score ∧ ∃ m ∈ legalMoves p, r.pv = [m] := by
  obtain ⟨score, s1, hnm, hrest⟩ := root_first h
  obtain ⟨htt1, hb⟩ := hroot.call hK (st := ⟨hist, tt, 0, 0, 0, none, 0⟩) htt (Or.inl ⟨rfl, rfl, rfl⟩) hnm
  rcases hrest with ⟨hnone, rfl⟩ | ⟨m, hm, h⟩
  · -- iteration 1 leaves no best move: there is no legal move
    rcases hb with ⟨hl, _⟩ | ⟨_, m, _, e⟩
    · exact ⟨htt1, fun hne => absurd hl hne, fun _ => rfl, fun r hr => by cases hr⟩
    · rw [hnone] at e
      cases e
  · obtain ⟨hsc, hmleg⟩ : InR K score ∧ m ∈ legalMoves p := by
      rcases hb with ⟨_, e⟩ | ⟨hsc, m', hm', e⟩
      · rw [hm] at e
        cases e
      · rw [hm] at e
        cases e
        exact ⟨hsc, hm'⟩
    -- from iteration 2 on the driver holds a legal move, and so does `stats.best_move`
    obtain ⟨⟨_, m', ⟨_, hm', _⟩, hb'⟩, ⟨s, hs, _, htt'⟩, new, hinfos, hnew⟩ := rootIter_chain
      (J := fun st bm => TTIn K st.tt ∧ bm ∈ legalMoves p ∧ st.best = some bm) (T := fun st => TTIn K st.tt)
      (P := fun r => InR K r.score ∧ ∃ m ∈ legalMoves p, r.pv = [m])
      (fun _ _ hJ => by rw [hJ.2.2]; rfl) (fun _ _ hJ => hJ.1)
      (by
        intro depth st bm score s2 m2 hd ⟨htt, hbm, hbest⟩ hnm hm2
        obtain ⟨htt2, hb2⟩ := hroot.call hK htt (Or.inr ⟨hd, bm, hbm, rfl, hbest⟩) hnm
        refine ⟨htt2, fun _ => ?_⟩
        rcases hb2 with ⟨_, e⟩ | ⟨hsc, m3, hm3, e⟩
        · rw [hm2] at e
          cases e
        · rw [hm2] at e
          cases e
          exact ⟨⟨by rw [endPoll_snd]; exact htt2, hm3, by rw [endPoll_snd]; exact hm2⟩, hsc, m2, hm3, rfl⟩)
      127 2 s1 m _ res (by decide) ⟨htt1, hmleg, hm⟩ h
    refine ⟨by rw [htt']; exact hs, fun _ => ⟨m', hm', hb'⟩, fun hl => (by rw [hl] at hm'; cases hm'), fun r hr => ?_⟩
    rw [hinfos, List.reverse_singleton, List.singleton_append] at hr
    rcases List.mem_cons.1 hr with rfl | hr
    · exact ⟨hsc, m, hmleg, rfl⟩
    · exact hnew r hr

theorem rootIter_records (lim : Limit) (fuel : Nat) (p : Position) (Q : InfoRec → Prop)
    (hQ : ∀ (s : SState) (score : Int) (m : Mv), (1 < s.depth → (shouldStop lim s).1 = false) → Q (mkInfo s score m)) :
    ∀ (k : Nat) (depth : Int) (st : SState) (bestMove : Option Mv) (infos : List InfoRec) (res : RootResult),
      rootIter lim fuel p k depth st bestMove infos = some res →
      ∀ r ∈ res.infos, r ∈ infos ∨ Q r := by
  intro k
  induction k with
  | zero =>
    intro depth st bestMove infos res h
    simp only [rootIter, Option.some.injEq] at h
    intro r hr
    rw [← h] at hr
    exact Or.inl (by simpa using hr)
  | succ k ih =>
    intro depth st bestMove infos res h
    rcases rootIter_step h with ⟨_, hres⟩ | ⟨_, score, s1, hnm, hrest⟩
    · intro r hr; rw [hres] at hr; exact Or.inl (by simpa using hr)
    · rcases hrest with ⟨_, hres⟩ | ⟨m, _, ⟨_, hres⟩ | ⟨hpoll, hrec⟩⟩
      · intro r hr; rw [hres] at hr; exact Or.inl (by simpa using hr)
      · intro r hr; rw [hres] at hr; exact Or.inl (by simpa using hr)
      · intro r hr
        rcases ih _ _ _ _ _ hrec r hr with h1 | h1
        · rcases List.mem_cons.1 h1 with e | h2
          · right
            rw [e]
            apply hQ
            intro hgt
            have hd : s1.depth = depth := negamax_depth_eq hnm
            rw [endPoll_fst_of_gt lim depth s1 (by omega)] at hpoll
            exact hpoll
          · exact Or.inl h2
        · exact Or.inr h1

theorem rootIter_pv (lim : Limit) (fuel : Nat) (p : Position) :
    ∀ (k : Nat) (depth : Int) (st : SState) (bestMove : Option Mv) (infos : List InfoRec) (res : RootResult),
      bestMove = (infos.head?).bind (·.pv.head?) → (infos ≠ [] → st.best.isSome = true) →
      rootIter lim fuel p k depth st bestMove infos = some res →
      res.best = (res.infos.getLast?).bind (·.pv.head?) := by
  intro k
  induction k with
  | zero =>
    intro depth st bestMove infos res hb _ h
    simp only [rootIter, Option.some.injEq] at h
    rw [← h]; simp only [List.getLast?_reverse]; exact hb
  | succ k ih =>
    intro depth st bestMove infos res hb hsome h
    rcases rootIter_step h with ⟨_, hres⟩ | ⟨_, score, s1, hnm, hrest⟩
    · rw [hres]; simp only [List.getLast?_reverse]; exact hb
    · have hfr := (negamax_fr lim fuel _ _ _ _ _ _ _ _ _ hnm).2.2
      rcases hrest with ⟨hnone, hres⟩ | ⟨m, hm, ⟨_, hres⟩ | ⟨_, hrec⟩⟩
      · rw [hres]; simp only [List.getLast?_reverse]
        cases infos with
        | nil => rfl
        | cons r rs =>
          have := hfr (hsome (by simp))
          rw [hnone] at this; simp at this
      · rw [hres]; simp only [List.getLast?_reverse]; exact hb
      · refine ih _ _ _ _ _ ?_ ?_ hrec
        · rfl
        · intro _; rw [endPoll_snd, hm]; rfl

theorem rootIter_depth_count_of {D : Int} {K : Int} {fuel : Nat} {p : Position}
    (hroot : RootCallOk (.depth D) K fuel p) (hlegal : legalMoves p ≠ []) :
    ∀ (k : Nat) (depth : Int) (st : SState) (bestMove : Option Mv) (infos : List InfoRec) (res : RootResult),
      TTIn K st.tt → 1 ≤ depth → depth ≤ depthTarget D + 1 → (k : Int) + depth ≥ Gen.MAX_DEPTH + 1 →
      rootIter (.depth D) fuel p k depth st bestMove infos = some res →
      res.infos.length = infos.length + (depthTarget D + 1 - depth).toNat := by
  intro k depth st bm infos res htt h1
  refine rootIter_depth_count (J := fun st => TTIn K st.tt) (d0 := 1) ?_ k depth st bm infos res htt h1
  -- an iteration within the limit is not stopped by its poll, so it leaves a legal best move
  intro depth st score s1 h1 hT htt hnm
  obtain ⟨htt1, hcall⟩ := hroot _ depth score s1 (by exact htt) h1 hnm
  refine ⟨?_, by rw [endPoll_snd]; exact htt1⟩
  rcases hcall with ⟨⟨hgt, hs⟩, _⟩ | ⟨_, _, hcons⟩
  · have hgt' : 1 < depth := hgt
    have hs' : depth > D := of_decide_eq_true hs
    have := (depthTarget_spec D).2.2.2
    omega
  · obtain ⟨m, _, e⟩ := (hcons hlegal).2
    rw [e]
    exact fun h => by cases h

theorem rootIter_depth_lt_two (D : Int) (hD : D < 2) (fuel k : Nat) (p : Position) (st : SState) (bm : Option Mv)
    (infos : List InfoRec) (v : Int) (s1 : SState) (m : Mv)
    (hn : negamax (.depth D) (fuel + 1) p { st with depth := 1 } (-Gen.INF) Gen.INF 0 1 false = some (v, s1))
    (hb : s1.best = some m) :
    ∃ res, rootIter (.depth D) (fuel + 1) p (k + 2) 1 st bm infos = some res ∧ res.best = some m ∧
      res.infos.length = infos.length + 1 := by
  -- iteration 1 is reported; the root call of iteration 2 is stopped by its poll (`2 > D`) and keeps `s1.best`,
  -- and the poll after it ends the loop
  have h2 := negamax_root_stopped (.depth D) fuel p { s1 with depth := 2 } 2 (by unfold extDepth; split <;> omega)
    ⟨show (1 : Int) < 2 by decide, decide_eq_true (show (2 : Int) > D from hD)⟩
  unfold rootPollState at h2
  have hmax : ¬ (1 : Int) ≥ Gen.MAX_DEPTH := by decide
  have hmax2 : ¬ (2 : Int) ≥ Gen.MAX_DEPTH := by decide
  simp only [hb] at h2
  simp only [rootIter, hmax, hn, hb, if_false, Int.lt_irrefl, gt_iff_lt, Bool.false_eq_true, Int.reduceAdd, hmax2, h2]
  simp only [shouldStop, gt_iff_lt, hD, decide_true, if_true, Int.reduceLT]
  exact ⟨_, rfl, rfl, by simp⟩

end Rawr
