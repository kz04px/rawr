import Rawr.Proofs.UciShape
import Rawr.Props.C13
/-! The `go` command in normal form: `doGo` is `goRun` of the parsed command (`doGo_eq`: nothing, the `perft` lines, the
`split` lines, or the search closure `goSearch`), it reads `pos`, `hist`, `tt` and only a search writes (`hist`, `tt`).
Shape of its output: a search request is answered by `info` lines and exactly one `bestmove` line; `go perft` / `go split`
print neither `bestmove` nor `readyok`; a `go` line that does not parse prints nothing. -/
namespace Rawr

/-- the five kinds of `go` that start a search (`settings::Type::{Time,Depth,Nodes,Movetime,Infinite}`). -/
def GoKind.isSearch : GoKind → Bool
  | .time .. | .movetime _ | .depth _ | .nodes _ | .infinite => true
  | .perft _ | .split _ => false

/-- `parseGo` is a function into `Option`: `none` stands for `Err("Uh oh")` (the line is ignored), and the model of
`parse_go` has no panic. That the regenerated `parse_go` returns on every token list is `C15_code_parse_go_total`. -/
theorem parseGo_total (toks : List (List Char)) : parseGo toks = none ∨ ∃ k, parseGo toks = some k := by
  cases parseGo toks with
  | none => exact Or.inl rfl
  | some k => exact Or.inr ⟨k, rfl⟩

theorem foldl_none {α γ : Type} (f : Option γ → α → Option γ) (hn : ∀ a, f none a = none) (xs : List α) :
    xs.foldl f none = none := by
  induction xs with
  | nil => rfl
  | cons x xs ih => rw [List.foldl_cons, hn, ih]

theorem foldl_opt_inv {α γ : Type} (Q : γ → Prop) (f : Option γ → α → Option γ)
    (hn : ∀ a, f none a = none) (hf : ∀ c a c', Q c → f (some c) a = some c' → Q c')
    (xs : List α) (init c : γ) (hi : Q init) (h : xs.foldl f (some init) = some c) : Q c := by
  induction xs generalizing init with
  | nil => simp only [List.foldl_nil, Option.some.injEq] at h; subst h; exact hi
  | cons x xs ih =>
    rw [List.foldl_cons] at h
    cases hx : f (some init) x with
    | none => rw [hx, foldl_none f hn] at h; cases h
    | some c' => rw [hx] at h; exact ih c' (hf _ _ _ hi hx) h

theorem foldl_opt_isSome_iff {α γ : Type} {G : α → Prop} (f : Option γ → α → Option γ)
    (hn : ∀ a, f none a = none) (hf : ∀ a c, (f (some c) a).isSome = true ↔ G a) (xs : List α) (init : γ) :
    (xs.foldl f (some init)).isSome = true ↔ ∀ a ∈ xs, G a := by
  induction xs generalizing init with
  | nil => simp
  | cons x xs ih =>
    rw [List.foldl_cons, List.forall_mem_cons, ← hf x init]
    cases f (some init) x with
    | none => rw [foldl_none f hn]; simp
    | some c => rw [ih]; simp

theorem perftNodes_neutral (n : Nat) : Neutral s!"nodes {n}" := by
  simp only [toString_str]
  exact neutral_append _ _ (by decide +kernel)

theorem promoChars_cases (pc : Nat) :
    promoChars pc = ['n'] ∨ promoChars pc = ['b'] ∨ promoChars pc = ['r'] ∨ promoChars pc = ['q'] ∨ promoChars pc = [] := by
  unfold promoChars
  split <;> simp

theorem toUciChars_shape (p : Position) (m : Mv) :
    ∃ a b c d, toUciChars p m = a :: b :: c :: d :: promoChars m.promo :=
  ⟨_, _, _, _, rfl⟩

theorem splitLine_neutral (p : Position) (m : Mv) (n : Nat) : Neutral s!"{mvStr p m} {n}" := by
  simp only [toString_str, mvStr, toUci]
  obtain ⟨a, b, c, d, e⟩ := toUciChars_shape p m
  have h : (String.ofList (toUciChars p m) ++ " " ++ toString n).toList =
      a :: b :: c :: d :: (promoChars m.promo ++ ' ' :: (toString n).toList) := by
    rw [e]
    simp [String.toList_append]
  generalize String.ofList (toUciChars p m) ++ " " ++ toString n = line at h ⊢
  rcases promoChars_cases m.promo with e | e | e | e | e <;> rw [e] at h
  · exact neutral_of_fifth (e := 'n') h (by decide) (by decide)
  · exact neutral_of_fifth (e := 'b') h (by decide) (by decide)
  · exact neutral_of_fifth (e := 'r') h (by decide) (by decide)
  · exact neutral_of_fifth (e := 'q') h (by decide) (by decide)
  · exact neutral_of_fifth (e := ' ') h (by decide) (by decide)

variable {ar : Arith} {clock : Nat → Bool} {s s' : UState} {toks : List (List Char)} {out : List String}

/-- the search closure of `go`. -/
def goSearch (s : UState) (lim : Limit) : Option (UState × List String) :=
  match root lim 1000 s.pos s.hist s.tt with
  | none => none
  | some res =>
    let infos := res.infos.map (infoLine s.pos)
    let bm := match res.best with | some m => "bestmove " ++ mvStr s.pos m | none => "bestmove 0000"
    some ({ s with hist := res.hist, tt := res.tt }, infos ++ [bm])

def GoKind.limit (clock : Nat → Bool) : GoKind → Limit
  | .depth d => .depth d
  | .nodes n => .nodes n
  | .infinite => .infinite
  | _ => .clock clock

/- in `Rawr.Sess`, the namespace of the session agreement (`Proofs/RustSessionAgree_*`), which relates these four to the
regenerated `perft` / `split` loops -/
namespace Sess

/-- the `perft` branch of `doGo`: the lines, `none` = panic. -/
def perftStep (p : Position) (d : Nat) (acc : Option (List String)) (i : Nat) : Option (List String) :=
  match acc, perft i p with
  | some l, some n => some (l ++ [s!"info depth {i} nodes {n} time ?"] ++ (if i == d then [s!"nodes {n}"] else []))
  | _, _ => none

def perftLines (p : Position) (d : Nat) : Option (List String) := (List.range' 1 d).foldl (perftStep p d) (some [])

/-- the `split` branch of `doGo`. -/
def splitStep (p : Position) (d1 : Nat) (acc : Option (List String × Nat)) (m : Mv) : Option (List String × Nat) :=
  match acc, p.makemove m false with
  | some (l, tot), some np => (perft d1 np).map fun n => (l ++ [s!"{mvStr p m} {n}"], tot + n)
  | _, _ => none

def splitLines (p : Position) (d : Nat) : Option (List String) :=
  ((legalMoves p).foldl (splitStep p (d - 1)) (some ([], 0))).map fun r => r.1 ++ ["time ?", s!"nodes {r.2}"]

end Sess
open Sess

/-- what `go` does, by the parsed command: it reads `pos`, `hist`, `tt` and writes `hist`, `tt` (a search only). -/
def goRun (clock : Nat → Bool) (s : UState) : Option GoKind → Option (UState × List String)
  | none => some (s, [])
  | some (.perft d) => (perftLines s.pos d).map fun l => (s, l)
  | some (.split d) => (splitLines s.pos d).map fun l => (s, l)
  | some k => goSearch s (k.limit clock)

theorem doGo_eq (ar : Arith) (clock : Nat → Bool) (s : UState) (toks : List (List Char)) :
    doGo ar clock s toks = goRun clock s (parseGo toks) := by
  unfold doGo
  cases parseGo toks with
  | none => rfl
  | some k =>
    cases k with
    | perft d =>
      -- the model counts `i + 1` for `i` in `range d`
      simp only [goRun, perftLines]
      rw [show List.range' 1 d = (List.range d).map (· + 1) from by apply List.ext_getElem <;> simp [Nat.add_comm],
        List.foldl_map]
      rfl
    | split d => simp only [goRun, splitLines, Option.map_map]; rfl
    | time | movetime | depth | nodes | infinite =>
      simp only [goRun, goSearch, GoKind.limit]
      generalize root _ _ _ _ _ = r
      cases r <;> rfl

theorem goRun_search {k : GoKind} (hk : k.isSearch = true) : goRun clock s (some k) = goSearch s (k.limit clock) := by
  cases k with
  | perft | split => cases hk
  | _ => rfl

theorem goSearch_shape {lim : Limit} (h : goSearch s lim = some (s', out)) : SearchShape out := by
  unfold goSearch at h
  split at h
  · cases h
  · next res _ =>
    cases h
    refine ⟨_, _, rfl, ?_, ?_⟩
    · intro l hl
      obtain ⟨i, _, rfl⟩ := List.mem_map.1 hl
      exact infoLine_isInfo _ _
    · split
      · exact isBest_append _
      · decide

theorem goSearch_isSome (lim : Limit) :
    (goSearch s lim).isSome = (root lim 1000 s.pos s.hist s.tt).isSome := by
  unfold goSearch
  cases root lim 1000 s.pos s.hist s.tt <;> rfl

theorem perftLines_neutral {p : Position} {d : Nat} {L : List String} (h : perftLines p d = some L) :
    ∀ x ∈ L, Neutral x := by
  refine foldl_opt_inv (fun (l : List String) => ∀ x ∈ l, Neutral x) _ (fun _ => rfl) ?_ _ [] _ (by simp) h
  intro c i c' hc hstep
  unfold perftStep at hstep
  split at hstep
  · next l0 n0 e1 _ =>
    cases e1
    cases hstep
    intro x hx
    simp only [List.mem_append, List.mem_singleton] at hx
    rcases hx with (hx | rfl) | hx
    · exact hc x hx
    · simp only [toString_str, String.append_assoc]
      exact neutral_append _ _ (by decide +kernel)
    · split at hx
      · simp only [List.mem_singleton] at hx; subst hx; exact perftNodes_neutral n0
      · cases hx
  · cases hstep

theorem splitLines_neutral {p : Position} {d : Nat} {L : List String} (h : splitLines p d = some L) :
    ∀ x ∈ L, Neutral x := by
  obtain ⟨⟨l, tot⟩, hl, rfl⟩ := Option.map_eq_some_iff.1 h
  have hq : ∀ x ∈ l, Neutral x := by
    refine foldl_opt_inv (fun (c : List String × Nat) => ∀ x ∈ c.1, Neutral x) _ (fun _ => rfl) ?_ _ ([], 0) (l, tot)
      (by simp) hl
    intro c a c' hc hstep
    unfold splitStep at hstep
    split at hstep
    · next l0 t0 np e1 _ =>
      cases e1
      obtain ⟨n, _, ⟨⟩⟩ := Option.map_eq_some_iff.1 hstep
      intro x hx
      rcases List.mem_append.1 hx with hx | hx
      · exact hc x hx
      · rw [List.mem_singleton.1 hx]; exact splitLine_neutral _ _ _
    · cases hstep
  intro x hx
  simp only [List.mem_append, List.mem_cons, List.not_mem_nil, or_false] at hx
  rcases hx with hx | rfl | rfl
  · exact hq x hx
  · exact neutral_of_secondOk (by decide +kernel)
  · exact perftNodes_neutral tot

/-- **a well-formed search request is answered by `info` lines followed by exactly ONE `bestmove` line.** -/
theorem doGo_one_bestmove {k : GoKind} (hp : parseGo toks = some k) (hk : k.isSearch = true)
    (h : doGo ar clock s toks = some (s', out)) : SearchShape out := by
  rw [doGo_eq, hp, goRun_search hk] at h
  exact goSearch_shape h

theorem goRun_neutral {k : Option GoKind} (hk : ∀ k', k = some k' → k'.isSearch = false)
    (h : goRun clock s k = some (s', out)) : s' = s ∧ ∀ l ∈ out, Neutral l := by
  cases k with
  | none => cases h; exact ⟨rfl, nofun⟩
  | some k =>
    cases k with
    | perft d =>
      simp only [goRun, Option.map_eq_some_iff, Prod.mk.injEq] at h
      obtain ⟨l, hl, rfl, rfl⟩ := h
      exact ⟨rfl, perftLines_neutral hl⟩
    | split d =>
      simp only [goRun, Option.map_eq_some_iff, Prod.mk.injEq] at h
      obtain ⟨l, hl, rfl, rfl⟩ := h
      exact ⟨rfl, splitLines_neutral hl⟩
    | time | movetime | depth | nodes | infinite => cases hk _ rfl

theorem goRun_inv {k : Option GoKind} (h : UInv s) {r : UState × List String} (hr : goRun clock s k = some r) :
    UInv r.1 := by
  by_cases hk : ∀ k', k = some k' → k'.isSearch = false
  · rw [(goRun_neutral (s' := r.1) (out := r.2) hk hr).1]; exact h
  · obtain ⟨k', rfl, hk'⟩ : ∃ k', k = some k' ∧ k'.isSearch = true := by
      simpa using hk
    rw [goRun_search hk', goSearch] at hr
    split at hr
    · cases hr
    · next res hres =>
      cases hr
      exact ⟨by rw [← h.len]; exact root_preserves_tt_len _ _ _ _ _ _ hres, h.frc⟩

end Rawr
