import Rawr.Proofs.AbsView
import Rawr.Proofs.MoveFacts
/-! C02: the boards `makemove` leaves before the flip are the ones the board after the move spells out. The board before
the move is written square by square as `Spec.apply` writes it (`boardNC`: the mover leaves, the pawn captured en passant
goes, the mover or what it promotes to arrives, the victim's square in the engine's terms so that no pawn geometry is
needed; `boardC`: king and rook leave, then land); each write toggles the bits `Shows.write` names, and the toggles add
up to the XOR-deltas of `MoveFacts` (`nc_showsB`, `c_showsB`). Board consistency of the result and the absolute board it
denotes are the two readings of that one statement. -/
namespace Rawr.MM
open Rawr Rawr.Position Rawr.Spec Rawr.ZH Rawr.FenRel

/-- what `abs` shows on the image of a mover-relative square. -/
theorem abs_board_rel {p : Position} {x : Nat} (hx : x < 64) :
    (abs p).board (absSq p.black x) = match p.pieceOn x with
      | none => none
      | some k => if p.c0.getLsbD x = true then some ⟨!p.black, kindOf k⟩
        else if p.c1.getLsbD x = true then some ⟨p.black, kindOf k⟩ else none := by
  show absBoard p _ = _
  unfold absBoard
  rw [if_pos (absSq_lt _ hx), absSq_absSq]
  rfl

theorem abs_board_own {p : Position} {x i : Nat} (hx : x < 64)
    (h0 : p.c0.getLsbD x = true) (hpo : p.pieceOn x = some i) :
    (abs p).board (absSq p.black x) = some ⟨!p.black, kindOf i⟩ := by
  rw [abs_board_rel hx, hpo]
  simp only [h0, if_true]

section nc
variable {p : Position} {m : Mv} {i c : Nat} {cap epc pr : Bool}

/-- the board after a non-castling move that lands `v` on the target. -/
def boardNC (p : Position) (m : Mv) (epc : Bool) (v : Piece) : Board :=
  setSq (if epc = true
    then setSq (setSq (abs p).board (absSq p.black m.src) none) (absSq p.black (m.dst - 8)) none
    else setSq (abs p).board (absSq p.black m.src) none) (absSq p.black m.dst) (some v)

theorem nc_dst (f : NCFacts p m i c cap epc pr) :
    (abs p).board (absSq p.black m.dst) = if cap = true then some ⟨p.black, kindOf c⟩ else none := by
  rw [abs_board_rel f.hd]
  cases hc : cap
  · rw [f.hnc hc]
    rfl
  · rw [f.hc hc]
    simp only [f.h0d, f.hcap, hc, Bool.false_eq_true, if_false, if_true]

theorem nc_victim (f : NCFacts p m i c cap epc pr) (hE : epc = true) :
    (abs p).board (absSq p.black (m.dst - 8)) = some ⟨p.black, .pawn⟩ := by
  obtain ⟨_, g1, g2⟩ := f.hepc hE
  rw [abs_board_rel (by have := f.hd; omega), g2]
  simp only [c0_of_c1 f.hC g1, g1, Bool.false_eq_true, if_false, if_true]
  rfl

/-- the change of the board of the kind `k`: on `dst` the content changes from what stood there to what lands. -/
theorem ncDP_kind (f : NCFacts p m i c cap epc pr) (k : Kind) :
    ncDP m i c cap epc pr (kindIdx k) =
      cnd (kindOf i == k) (bit m.src) ^^^ cnd (epc && (Kind.pawn == k)) (bit (m.dst - 8)) ^^^
        cnd ((cap && (kindOf c == k)) != (kindOf (if pr = true then m.promo else i) == k)) (bit m.dst) := by
  have hc : (cap && decide (kindIdx k = c)) = (cap && (kindOf c == k)) := by
    cases hc : cap
    · rfl
    · rw [kindIdx_eq (pieceOn_lt (f.hc hc))]
  -- the mover arrives; what stood there goes; a promoting pawn is replaced
  have tgt : (decide (kindIdx k = i) ^^ (cap && decide (kindIdx k = c)) ^^ (pr && decide (kindIdx k = 0)) ^^
      (pr && decide (kindIdx k = m.promo))) =
      ((cap && (kindOf c == k)) != (kindOf (if pr = true then m.promo else i) == k)) := by
    rw [hc, kindIdx_eq (pieceOn_lt f.hpo), kindIdx_eq (show 0 < 6 by omega)]
    cases hp : pr
    · simp only [Bool.false_eq_true, if_false, Bool.false_and, Bool.xor_false]
      generalize (cap && (kindOf c == k)) = a, (kindOf i == k) = b
      cases a <;> cases b <;> rfl
    · simp only [if_true, Bool.true_and, f.hpr hp, kindIdx_eq (f.hp6 hp)]
      generalize (cap && (kindOf c == k)) = a, (kindOf m.promo == k) = b
      cases a <;> cases b <;> cases k <;> rfl
  rw [ncDP, tgt, kindIdx_eq (pieceOn_lt f.hpo), kindIdx_eq (show 0 < 6 by omega)]
  rfl

/-- the boards after a non-castling move show the board with the mover (or what it promotes to) moved and the man it
captures, on the target or en passant, gone. -/
theorem nc_showsB (f : NCFacts p m i c cap epc pr) :
    Shows p.black (p.c0 ^^^ (bit m.src ||| bit m.dst)) (p.c1 ^^^ ncD1 m cap epc)
      (fun k => p.piece (kindIdx k) ^^^ ncDP m i c cap epc pr (kindIdx k))
      (boardNC p m epc ⟨!p.black, kindOf (if pr = true then m.promo else i)⟩) := by
  have hd8 : m.dst - 8 < 64 := by have := f.hd; omega
  have ne : ∀ {x y : Nat}, x ≠ y → absSq p.black x ≠ absSq p.black y := fun h e => h (absSq_inj _ e)
  have o1 := abs_board_own f.hs f.h0s f.hpo
  have S : p.Shows (abs p).board := shows_abs f.hC
  unfold boardNC
  cases hE : epc
  · have w := (S.write f.hs none).write f.hd (some ⟨!p.black, kindOf (if pr = true then m.promo else i)⟩)
    -- what stood on the two squares when they were written
    rw [o1, setSq_ne (ne (Ne.symm f.hne)), nc_dst f] at w
    refine w.cast ?_ ?_ fun k => ?_
    · rw [bit_or_bit f.hne]
      cases cap <;> simp [colP_own, colP_opp', colP_none, cnd, BitVec.xor_assoc]
    · cases cap <;> simp [ncD1, colP_own, colP_opp, colP_none, cnd]
    · rw [ncDP_kind (hE ▸ f)]
      cases cap <;> simp [kindP_some, kindP_none, cnd, BitVec.xor_assoc]
  · have hse := f.src_ne_ep hE
    have hde : m.dst ≠ m.dst - 8 := by have := (f.hepc hE).1; omega
    have w := ((S.write f.hs none).write hd8 none).write f.hd
      (some ⟨!p.black, kindOf (if pr = true then m.promo else i)⟩)
    -- what stood on the three squares when they were written
    rw [o1, setSq_ne (ne (Ne.symm hse)), nc_victim f hE, setSq_ne (ne hde), setSq_ne (ne (Ne.symm f.hne)),
      nc_dst f] at w
    refine w.cast ?_ ?_ fun k => ?_
    · rw [bit_or_bit f.hne]
      cases cap <;> simp [colP_own, colP_opp', colP_none, cnd, BitVec.xor_assoc]
    · cases cap <;> simp [ncD1, colP_own, colP_opp, colP_none, cnd] <;> ac_rfl
    · rw [ncDP_kind (hE ▸ f)]
      cases cap <;> simp [kindP_some, kindP_none, BitVec.xor_assoc]

/-- after relocation, capture and en-passant removal no square holds both a king and a rook:
the castling stage does nothing. -/
theorem nc_no_castle (f : NCFacts p m i c cap epc pr) :
    ((p.piece 5 ^^^ ncDP m i c cap epc false 5) &&& (p.piece 3 ^^^ ncDP m i c cap epc false 3)).isOcc = false :=
  (nc_showsB (pr := false) { f with hpr := nofun, hp6 := nofun }).kind_disj (j := .king) (k := .rook) nofun

end nc

section castle
variable {p : Position} {m : Mv} {kTo rTo : Nat}

def boardC (p : Position) (m : Mv) (kTo rTo : Nat) : Board :=
  setSq (setSq (setSq (setSq (abs p).board (absSq p.black m.src) none) (absSq p.black m.dst) none)
    (absSq p.black kTo) (some ⟨!p.black, .king⟩)) (absSq p.black rTo) (some ⟨!p.black, .rook⟩)

/-- a square that is the king's, the rook's or empty is empty once both have left. -/
theorem c_vacated (f : CFacts p m kTo rTo) {x : Nat} (hx : x < 64) (e : x = kTo ∨ x = rTo) :
    setSq (setSq (abs p).board (absSq p.black m.src) none) (absSq p.black m.dst) none (absSq p.black x) = none := by
  unfold setSq
  split
  · rfl
  · split
    · rfl
    · next h2 h1 =>
      have h1' : x ≠ m.src := fun e => h1 (e ▸ rfl)
      have h2' : x ≠ m.dst := fun e => h2 (e ▸ rfl)
      rw [abs_board_rel hx, (f.target_empty h1' h2' e).2.2]

/-- the boards after castling show the board with king and rook taken off and put down again. -/
theorem c_showsB (f : CFacts p m kTo rTo) :
    Shows p.black (p.c0 ^^^ cD0 m kTo rTo) p.c1 (fun k => p.piece (kindIdx k) ^^^ cDP m kTo rTo (kindIdx k))
      (boardC p m kTo rTo) := by
  have ne : ∀ {x y : Nat}, x ≠ y → absSq p.black x ≠ absSq p.black y := fun h e => h (absSq_inj _ e)
  have S : p.Shows (abs p).board := shows_abs f.hC
  have w := (((S.write f.hs none).write f.hd none).write f.hk (some ⟨!p.black, .king⟩)).write f.hr
    (some ⟨!p.black, .rook⟩)
  -- what stood on the four squares when they were written
  rw [abs_board_own f.hs f.h0s f.hpo, setSq_ne (ne (Ne.symm f.hne)), abs_board_own f.hd f.h0d f.hrook,
    c_vacated f f.hk (.inl rfl), setSq_ne (ne (Ne.symm f.hkr)), c_vacated f f.hr (.inr rfl)] at w
  refine w.cast ?_ ?_ fun k => ?_
  · simp only [cD0, colP_own, colP_none, BitVec.xor_assoc]
    rfl
  · simp only [colP_opp, colP_none, bne_self_eq_false, cnd, Bool.false_eq_true, if_false, BitVec.xor_zero]
  · cases k <;> simp [cDP, kindP, kindIdx, kindOf, cnd, BitVec.xor_assoc]

end castle

end Rawr.MM
