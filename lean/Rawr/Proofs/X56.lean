/-!
# The rank flip of a square as a fact about numbers

`s ^^^ 56` keeps the file of `s` and reverses its rank (`x56_eq`); it is how `flipSq`, `maybeFlip`, `absSq` and
`mirrorB` are all computed. Nothing is imported: the proofs about the specification alone (`SpecMirror`) use these
facts without the engine model.
-/
namespace Rawr

theorem x56_lt {s : Nat} (h : s < 64) : s ^^^ 56 < 64 := Nat.xor_lt_two_pow (n := 6) h (by decide)

theorem x56_x56 (s : Nat) : s ^^^ 56 ^^^ 56 = s := by rw [Nat.xor_assoc, Nat.xor_self, Nat.xor_zero]

theorem x56_lt_iff (s : Nat) : s ^^^ 56 < 64 ↔ s < 64 :=
  ⟨fun h => by have := x56_lt h; rwa [x56_x56] at this, x56_lt⟩

theorem x56_inj {s t : Nat} (h : s ^^^ 56 = t ^^^ 56) : s = t := by
  rw [← x56_x56 s, h, x56_x56]

theorem x56_eq_iff (x s : Nat) : x ^^^ 56 = s ↔ x = s ^^^ 56 :=
  ⟨fun h => by rw [← h, x56_x56], fun h => by rw [h, x56_x56]⟩

theorem x56_beq (x y : Nat) : (x ^^^ 56 == y ^^^ 56) = (x == y) := by
  rw [Bool.eq_iff_iff, beq_iff_eq, beq_iff_eq]
  exact ⟨x56_inj, fun h => by rw [h]⟩

/-- file kept, rank reversed. -/
theorem x56_eq : ∀ s, s < 64 → s ^^^ 56 = s % 8 + 8 * (7 - s / 8) := by decide

theorem x56_mod8 (s : Nat) : (s ^^^ 56) % 8 = s % 8 := by
  simpa using Nat.xor_mod_two_pow (a := s) (b := 56) (n := 3)

theorem x56_perm : ((List.range 64).map (· ^^^ 56)).Perm (List.range 64) := by decide +kernel

end Rawr
