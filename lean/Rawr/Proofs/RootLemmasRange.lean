import Rawr.Proofs.DrawLemmas
/-! The range lemma (C03, C14, C12).

`negamax_envelope`: every score returned by an interior `negamax` call lies strictly inside `(-K, K)`, except that a node
checkmated at `ply = MATE_SCORE - K` answers `-K`, provided (`RangeDom`)
* the table satisfies an invariant under which a hit returns a score in `(-K, K)` and such a score may be stored,
* the static evaluation and the quiescence values of the positions the search visits are within `±B`, `B + 300 < K`,
* the ply counter cannot run past `K + MATE_SCORE` (`ply + fuel ≤ K + MATE_SCORE`): a mated node answers
  `-MATE_SCORE + ply`.

`negamax_range` is the case `K ≥ MATE_SCORE` (no exception at `ply ≥ 1`) over the invariant `TTIn K` and a family
`SearchDomC G`, with `B = EB = 174416`, the constant `C17_bounds_all_V1` proves for every position with consistent boards.
The case `K = MATE_SCORE - 1` is `DM.negamax_range` (`Proofs/MateLemmas.lean`). -/
namespace Rawr

def InR (K v : Int) : Prop := -K < v ∧ v < K

theorem InR.neg {K v : Int} (h : InR K v) : InR K (-v) := by
  unfold InR at *; omega

theorem InR.mono {K K' v : Int} (h : InR K v) (hk : K ≤ K') : InR K' v := by
  unfold InR at *; omega

def TTIn (K : Int) (t : Table TTEntry) : Prop := ∀ e ∈ t.entries, InR K e.score

theorem TTIn.poll {K : Int} {t : Table TTEntry} {key : Nat} {e : TTEntry} (hK : 0 < K) (h : TTIn K t)
    (hp : t.poll key = some e) : InR K e.score := by
  unfold Table.poll at hp
  split at hp
  · simp only [Option.some.injEq] at hp
    subst hp
    exact ⟨by show -K < (0 : Int); omega, by show (0 : Int) < K; omega⟩
  · exact h e (Array.mem_of_getElem? hp)

theorem TTIn.add {K : Int} {t t' : Table TTEntry} {key : Nat} {e : TTEntry} (h : TTIn K t)
    (he : InR K e.score) (ha : t.add key e = some t') : TTIn K t' := by
  unfold Table.add at ha
  split at ha
  · simp only [Option.some.injEq] at ha; subst ha; exact h
  · simp only [Option.some.injEq] at ha; subst ha
    intro x hx
    rcases Array.mem_or_eq_of_mem_setIfInBounds hx with h1 | h1
    · exact h x h1
    · subst h1; exact he

theorem TTIn.replicate {K : Int} (hK : 0 < K) (n : Nat) : TTIn K ⟨Array.replicate n default⟩ := by
  intro e he
  have : e = default := (Array.mem_replicate.1 he).2
  subst this
  exact ⟨by show -K < (0 : Int); omega, by show (0 : Int) < K; omega⟩

/-- the evaluation bound `C17_bounds_all_V1` proves for every position with consistent boards. -/
def EB : Int := 174416

def VIn (v : Int) : Prop := -EB ≤ v ∧ v ≤ EB

/-- a (fuel-indexed) family of positions closed under the captures quiescence makes, on which the static
evaluation is within `±EB`. -/
structure QDom (Q : Nat → Position → Prop) : Prop where
  eval : ∀ n q, Q (n + 1) q → VIn (eval q)
  capt : ∀ n q m q', Q (n + 1) q → m ∈ legalCaptures q → q.makemove m false = some q' → Q n q'

theorem QDom.qEvalOk {Q : Nat → Position → Prop} (hQ : QDom Q) : ∀ (n : Nat) (q : Position), Q n q → DM.QEvalOk EB n q
  | 0, _, _ => trivial
  | n + 1, q, h => ⟨hQ.eval n q h, fun m hm q' hmk => hQ.qEvalOk n q' (hQ.capt n q m q' h hm hmk)⟩

theorem qsearch_range (Q : Nat → Position → Prop) (hQ : QDom Q)
    (fuel : Nat) (q : Position) (st : QState) (a b ply v : Int) (st' : QState)
    (hq : Q fuel q) (h : qsearch fuel q st a b ply = some (v, st')) : VIn v :=
  DM.qsearch_range EB fuel q st a b ply v st' (hQ.qEvalOk fuel q hq) h

/-- what `negamax` consults at a node beside its children: the static evaluation and quiescence. -/
def QOk (q : Position) : Prop :=
  VIn (eval q) ∧ ∀ st a b ply v st', qsearch qFuel q st a b ply = some (v, st') → VIn v

/-- a (fuel-indexed) family of positions closed under the moves `negamax` makes (legal moves and the null
move), on which evaluation and quiescence answer within `±EB`. The null-move clause asks for closure even in check,
which the valid positions do not have (after a null move played in check the side that "just moved" is in check):
on them only `SearchDomC` holds. -/
structure SearchDom (G : Nat → Position → Prop) : Prop where
  move : ∀ n q m q', G (n + 1) q → m ∈ legalMoves q → q.makemove m true = some q' → G n q'
  null : ∀ n q, G (n + 1) q → G n q.makenull
  qok : ∀ n q, G (n + 1) q → QOk q

/-- `SearchDom` with the null-move clause restricted to positions not in check: the only situation in which `negamax`
makes a null move (`… && !in_check && …`). This is the domain to assume of a search on real positions: `V ∧ E` with
counter room satisfies it (`searchDomC_VE`, `Props/C03_rules.lean`), and the lemmas of this file and of
`RootLemmasIter.lean` ask for no more. -/
structure SearchDomC (G : Nat → Position → Prop) : Prop where
  move : ∀ n q m q', G (n + 1) q → m ∈ legalMoves q → q.makemove m true = some q' → G n q'
  null : ∀ n q, G (n + 1) q → q.inCheck = false → G n q.makenull
  qok : ∀ n q, G (n + 1) q → QOk q

theorem SearchDom.toC {G : Nat → Position → Prop} (h : SearchDom G) : SearchDomC G :=
  ⟨h.move, fun n q hq _ => h.null n q hq, h.qok⟩

theorem EB_nonneg : (0 : Int) ≤ EB := by decide
theorem EB_mate : EB + 300 ≤ Gen.MATE_SCORE - 2 := by decide
theorem EB_lt_INF : EB < Gen.INF := by decide

/-- What the range lemma asks of the positions `G` the search visits and of the invariant `I` of the table: the plies the search
makes stay in `G`; evaluation and quiescence answer within `±B`; an entry that a position of `G` hits holds a score in `(-K, K)`;
a position of `G` that has a legal move may store a score in `(-K, K)`. -/
structure RangeDom (G : Nat → Position → Prop) (B K : Int) (I : Table TTEntry → Prop) : Prop where
  move : ∀ n q m q', G (n + 1) q → m ∈ legalMoves q → q.makemove m true = some q' → G n q'
  null : ∀ n q, G (n + 1) q → q.inCheck = false → isEndgame q = false → G n q.makenull
  eval : ∀ n q, G (n + 1) q → -B ≤ eval q ∧ eval q ≤ B
  qs : ∀ n q, G (n + 1) q → ∀ st a b ply v st', qsearch qFuel q st a b ply = some (v, st') → -B ≤ v ∧ v ≤ B
  hit : ∀ n q T e, G (n + 1) q → I T → T.poll q.hash.toNat = some e → e.hash = q.hash → InR K e.score
  store : ∀ n q T T' bm best d fl, G (n + 1) q → legalMoves q ≠ [] → I T → InR K best →
    T.add q.hash.toNat ⟨q.hash, bm, best, d, fl⟩ = some T' → I T'

/-- The range lemma for interior nodes. A checkmated node at `ply` answers `-MATE_SCORE + ply`, which lies in `(-K, K)` from
`ply = MATE_SCORE - K + 1` on; at `ply = MATE_SCORE - K` it is `-K`, the one exception. (For `K ≥ MATE_SCORE` there is none at
`ply ≥ 1`; `K = MATE_SCORE - 1` is the range lemma of C12.) -/
theorem negamax_envelope (lim : Limit) {G : Nat → Position → Prop} {B K : Int} {I : Table TTEntry → Prop}
    (hD : RangeDom G B K I) (hB : B + 300 < K) (hK2 : K ≤ Gen.INF) :
    ∀ (fuel : Nat) (p : Position) (st : SState) (α β ply depth : Int) (cn : Bool) (v : Int) (st' : SState),
      G fuel p → I st.tt → Gen.MATE_SCORE - K ≤ ply → ply + fuel ≤ K + Gen.MATE_SCORE →
      negamax lim fuel p st α β ply depth cn = some (v, st') →
      I st'.tt ∧ (InR K v ∨ ((legalMoves p = [] ∧ p.inCheck = true) ∧ ply = Gen.MATE_SCORE - K ∧ v = -K)) := by
  have hDr : Gen.DRAW_SCORE = -50 := rfl
  intro fuel
  induction fuel with
  | zero => intro p st α β ply depth cn v st' _ _ _ _ h; simp [negamax] at h
  | succ fuel ih =>
    intro p st α β ply depth cn v st' hGp hI hlo hbound h
    have hev := hD.eval _ _ hGp
    -- a call one ply down answers in range: the exception is at one ply only
    have hsub : ∀ {q s a b d c w s'}, G fuel q → I s.tt → negamax lim fuel q s a b (ply + 1) d c = some (w, s') →
        I s'.tt ∧ InR K w := by
      intro q s a b d c w s' hq hs hc
      obtain ⟨h1, h2 | ⟨_, h2, _⟩⟩ := ih q s a b (ply + 1) d c w s' hq hs (by omega) (by omega) hc
      · exact ⟨h1, h2⟩
      · omega
    have hrun := negamax_succ_run lim fuel p st α β ply depth cn
    rw [h] at hrun
    cases hrun with
    | ttCut hp hc =>
      obtain ⟨hk, rfl, _⟩ := ttProbe_some hc
      exact ⟨hI, Or.inl (hD.hit _ _ _ _ hGp hI hp hk)⟩
    | quiesce _ _ _ hq =>
      have := hD.qs _ _ hGp _ _ _ _ _ _ hq
      exact ⟨hI, Or.inl (by unfold InR; omega)⟩
    | inner _ _ hdpos hin =>
      have hprI : I (nodePoll lim ply (st.enter ply)).2.tt := by
        rw [(nodePoll_fields lim ply _).2.1]
        exact hI
      have hpass : ∀ {b s2}, NullPass (negamax lim fuel) p (nodePoll lim ply (st.enter ply)).2 b ply
          (extDepth p depth) cn s2 → I s2.tt := by
        intro b s2 hpass
        cases hpass with
        | skip => exact hprI
        | low ht hn => exact (hsub (hD.null _ _ hGp ht.2.2.2.1 ht.2.2.2.2) (by exact hprI) hn).1
      have hloop : ∀ {ttm moves s2 a b s3 a3 best bm}, sortNm p (legalMoves p) ttm = some moves → I s2.tt →
          nmLoop (negamax lim fuel) p b ply (extDepth p depth) p.inCheck moves 0 s2 a (-Gen.INF) none =
            some (s3, a3, best, bm) →
          I s3.tt ∧ ((legalMoves p = [] ∧ bm = none) ∨ (legalMoves p ≠ [] ∧ bm ≠ none ∧ InR K best)) := by
        intro ttm moves s2 a b s3 a3 best bm hsort h2 hl
        have hperm := sortNm_perm p _ _ _ hsort
        obtain ⟨h3, ⟨rfl, _, hbm⟩ | ⟨hb, m, hm, rfl⟩⟩ := nmLoop_best (negamax lim fuel) p b ply _ p.inCheck
          (fun s => I s.tt) (fun _ s => I s.tt) (InR K) moves (fun v hv => by unfold InR at hv; omega)
          (fun _ _ h => h) (fun _ _ h => h)
          (fun m hm c hmk s a b d v s' hs _ hc =>
            have h2 := hsub (hD.move _ _ _ _ hGp (hperm.mem_iff.1 hm) hmk) hs hc
            ⟨h2.1, h2.2.neg⟩) h2 hl
        · exact ⟨h3, Or.inl ⟨hperm.symm.eq_nil, hbm⟩⟩
        · refine ⟨h3, Or.inr ⟨fun hl => ?_, fun e => (by cases e), hb⟩⟩
          rw [hl] at hperm
          rw [hperm.eq_nil] at hm
          cases hm
      cases hin with
      | stopped | draw => exact ⟨hprI, Or.inl (by unfold InR; omega)⟩
      | futility => exact ⟨hprI, Or.inl (by unfold InR; omega)⟩
      | nullCut _ _ ht hn =>
        have h3 := hsub (hD.null _ _ hGp ht.2.2.2.1 ht.2.2.2.2) (by exact hprI) hn
        exact ⟨h3.1, Or.inl h3.2.neg⟩
      | noMove _ _ hp hsort hl =>
        obtain ⟨l1, ⟨hnil, _⟩ | ⟨_, hbm, _⟩⟩ := hloop hsort (hpass hp) hl
        · refine ⟨l1, ?_⟩
          by_cases hc : p.inCheck = true
          · rw [if_pos hc]
            by_cases hex : ply = Gen.MATE_SCORE - K
            · exact Or.inr ⟨⟨hnil, hc⟩, hex, by omega⟩
            · exact Or.inl (by unfold InR; omega)
          · rw [if_neg hc]
            exact Or.inl (by unfold InR; omega)
        · exact absurd rfl hbm
      | store _ _ hp hsort hl hadd =>
        obtain ⟨l1, ⟨_, hbm⟩ | ⟨hne, _, hb⟩⟩ := hloop hsort (hpass hp) hl
        · cases hbm
        · exact ⟨hD.store _ _ _ _ _ _ _ _ hGp hne l1 hb hadd, Or.inl hb⟩

theorem SearchDomC.rangeDom {G : Nat → Position → Prop} (hG : SearchDomC G) {K : Int} (hK : 0 < K) :
    RangeDom G EB K (TTIn K) where
  move := hG.move
  null := fun n q h hc _ => hG.null n q h hc
  eval := fun n q h => (hG.qok n q h).1
  qs := fun n q h => (hG.qok n q h).2
  hit := fun _ _ _ _ _ hT hp _ => hT.poll hK hp
  store := fun _ _ _ _ _ _ _ _ _ _ hT hb hadd => hT.add hb hadd

/-- for `K ≥ MATE_SCORE`, over a table with all scores in `(-K, K)`: no exception at `ply ≥ 1`. -/
theorem negamax_range (lim : Limit) (G : Nat → Position → Prop) (hG : SearchDomC G) (K : Int)
    (hK : Gen.MATE_SCORE ≤ K) (hK2 : K ≤ Gen.INF)
    (fuel : Nat) (p : Position) (st : SState) (α β ply depth : Int) (cn : Bool) (v : Int) (st' : SState)
    (hGp : G fuel p) (htt : TTIn K st.tt) (hply : 1 ≤ ply) (hbound : ply + fuel ≤ K + Gen.MATE_SCORE)
    (h : negamax lim fuel p st α β ply depth cn = some (v, st')) : InR K v ∧ TTIn K st'.tt := by
  have hM : Gen.MATE_SCORE = 1000000 := rfl
  have hEB := EB_mate
  obtain ⟨h1, h2 | ⟨_, h2, _⟩⟩ := negamax_envelope lim (hG.rangeDom (by omega)) (by omega) hK2
    fuel p st α β ply depth cn v st' hGp htt (by omega) hbound h
  · exact ⟨h2, h1⟩
  · omega

end Rawr
