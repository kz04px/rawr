import Rawr.Proofs.TerminationMono
import Rawr.Props.C19
/-! Termination: the search structure alone (no chess).

* `QDomT G μ`: on the set `G` of positions every capture list fits the ordering buffer, every generated capture
  can be made, leads into `G` again and lowers the measure `μ`. Then `qminimax` and `qsearch` answer on every
  fuel above `μ p` (`qminimax_total`, `qsearch_total`).
* `NDomT G Φ`: on the fuel-indexed family `G` every move list fits, quiescence answers, the clock is not
  negative, every generated move can be made, leads into `G` one index lower, and either lowers the potential
  `Φ` or keeps it and advances the half-move clock by one; the null move (asked only where the model tries it:
  out of check and not `isEndgame`) stays in `G` and does not raise `Φ`. Then `negamax` answers on every fuel
  above `rank B (depth + 1) (Φ p) (clk ply halfmoves)` (`negamax_total`), and the driver answers
  (`rootIter_total`, `root_total`). -/
namespace Rawr.Term

structure QDomT (G : Position → Prop) (μ : Position → Nat) : Prop where
  fit : ∀ q, G q → (legalCaptures q).length ≤ Gen.orderBufQsearch
  step : ∀ q m, G q → m ∈ legalCaptures q → ∃ q', q.makemove m false = some q' ∧ G q' ∧ μ q' < μ q

theorem qminimax_total {G : Position → Prop} {μ : Position → Nat} (hD : QDomT G μ) :
    ∀ (f : Nat) (p : Position), G p → μ p < f → ∃ v, qminimax f p = some v := by
  intro f
  induction f with
  | zero => intro p _ h; omega
  | succ f ih =>
    intro p hG hμ
    rw [qminimax_succ]
    rw [AB.foldMax_isSome_iff]
    intro m hm
    obtain ⟨q', hmk, hG', hlt⟩ := hD.step p m hG hm
    obtain ⟨v, hv⟩ := ih q' hG' (by omega)
    exact ⟨-v, by simp only [qcv, hmk, hv]⟩

theorem qtreeOk {G : Position → Prop} {μ : Position → Nat} (hD : QDomT G μ) :
    ∀ (f : Nat) (p : Position), G p → QTreeOk f p := by
  intro f
  induction f with
  | zero => intro p _; trivial
  | succ f ih =>
    intro p hG
    refine ⟨hD.fit p hG, fun m hm np hmk => ?_⟩
    obtain ⟨q', hmk', hG', _⟩ := hD.step p m hG hm
    rw [hmk] at hmk'
    cases hmk'
    exact ih _ hG'

theorem qsearch_total {G : Position → Prop} {μ : Position → Nat} (hD : QDomT G μ)
    (f : Nat) (p : Position) (hG : G p) (hμ : μ p < f) (st : QState) (α β ply : Int) :
    ∃ r, qsearch f p st α β ply = some r := by
  obtain ⟨v, hv⟩ := qminimax_total hD f p hG hμ
  obtain ⟨r, st', h⟩ := C19_qsearch_defined f p st α β ply v hv (qtreeOk hD f p hG)
  exact ⟨_, h⟩

/-- the clock coordinate: the root (which ignores the fifty-move rule) counts as one more than any clock. -/
def clk (ply hm : Int) : Nat := if ply = 0 then 101 else (100 - hm).toNat

/-- lexicographic rank of (depth bound, potential, clock), for potentials up to `B`. (Not `Spec.rank`, the rank of a
square, which `TerminationSpec.lean` writes unqualified in this namespace.) -/
def rank (B : Nat) (e : Int) (φ c : Nat) : Nat := e.toNat * (102 * (B + 1)) + φ * 102 + c

theorem rank_child_lt (B : Nat) (e ec : Int) (φ φc c cc : Nat) (he : ec ≤ e)
    (h : (φc < φ ∧ cc ≤ 101) ∨ (φc ≤ φ ∧ cc < c)) : rank B ec φc cc < rank B e φ c := by
  unfold rank
  have h2 := Nat.mul_le_mul_right (102 * (B + 1)) (Int.toNat_le_toNat he)
  omega

theorem rank_null_lt (B : Nat) (e ec : Int) (φ φc c cc : Nat) (he : ec + 1 ≤ e) (he0 : 0 < e)
    (hφ : φc ≤ B) (hc : cc ≤ 101) : rank B ec φc cc < rank B e φ c := by
  unfold rank
  have h2 := Nat.mul_le_mul_right (102 * (B + 1)) (show ec.toNat + 1 ≤ e.toNat by omega)
  rw [Nat.succ_mul] at h2
  omega

theorem rank_mono_depth (B : Nat) (e e' : Int) (φ c : Nat) (he : e ≤ e') : rank B e φ c ≤ rank B e' φ c := by
  unfold rank
  have h2 := Nat.mul_le_mul_right (102 * (B + 1)) (Int.toNat_le_toNat he)
  omega

structure NDomT (G : Nat → Position → Prop) (Φ : Position → Nat) : Prop where
  fit : ∀ n q, G n q → (legalMoves q).length ≤ Gen.orderBufNegamax
  qs : ∀ n q, G n q → ∀ st α β ply, ∃ r, qsearch qFuel q st α β ply = some r
  clock : ∀ n q, G n q → 0 ≤ q.halfmoves
  step : ∀ n q m, G (n + 1) q → m ∈ legalMoves q → ∃ q', q.makemove m true = some q' ∧ G n q' ∧
    (Φ q' < Φ q ∨ (Φ q' ≤ Φ q ∧ q'.halfmoves = q.halfmoves + 1))
  null : ∀ n q, G (n + 1) q → q.inCheck = false → isEndgame q = false → G n q.makenull ∧ Φ q.makenull ≤ Φ q

theorem negamax_total (lim : Limit) {G : Nat → Position → Prop} {Φ : Position → Nat} (hD : NDomT G Φ)
    (B : Nat) : ∀ (f : Nat) (p : Position) (st : SState) (α β ply depth : Int) (cn : Bool),
      0 ≤ ply → G f p → Φ p ≤ B → rank B (depth + 1) (Φ p) (clk ply p.halfmoves) < f →
      ∃ r, negamax lim f p st α β ply depth cn = some r := by
  intro f
  induction f with
  | zero => intro p st α β ply depth cn _ _ _ h; omega
  | succ f ih =>
    intro p st α β ply depth cn hply hG hB hrank
    have hhm : 0 ≤ p.halfmoves := hD.clock _ _ hG
    have hd'le : extDepth p depth ≤ depth + 1 := by unfold extDepth; split <;> omega
    have hclkc : ∀ hm : Int, clk (ply + 1) hm = (100 - hm).toNat := by
      intro hm; unfold clk; rw [if_neg (by omega)]
    have hrun := negamax_succ_run lim f p st α β ply depth cn
    generalize negamax lim (f + 1) p st α β ply depth cn = res at hrun
    have hnull : ∀ s b, NullTried p ply (extDepth p depth) cn →
        nullCall (negamax lim f) p s b ply (extDepth p depth) ≠ none := by
      intro s b ⟨_, _, hd2, hnc, hne⟩
      obtain ⟨hGn, hΦn⟩ := hD.null _ _ hG hnc hne
      refine ne_none_of_ex (ih _ _ _ _ _ _ _ (by omega) hGn (by omega) ?_)
      refine Nat.lt_of_lt_of_le (rank_null_lt B (depth + 1) _ (Φ p) _ (clk ply p.halfmoves) _ (by omega)
        (by omega) (by omega) ?_) (by omega)
      rw [hclkc]
      show (100 - (0 : Int)).toNat ≤ 101
      decide
    cases hrun with
    | quiesceFail _ _ _ hq => exact absurd hq (ne_none_of_ex (hD.qs _ _ hG _ _ _ _))
    | inner _ _ hdpos hin =>
      cases hin with
      | nullFail _ _ ht hn => exact absurd hn (hnull _ _ ht)
      | sortFail _ _ _ hs => exact absurd hs (ne_none_of_ex (sortNm_isSome _ _ _ (hD.fit _ _ hG)))
      | loopFail _ hdr _ hs hl =>
        refine absurd hl (ne_none_of_ex (nmLoop_total _ _ _ _ _ _ (fun _ => True) (fun _ _ => True) _
          (fun _ _ _ => trivial) (fun _ _ _ => trivial) (fun m hm => ?_) _ _ _ _ _ trivial))
        -- what the rule-draw test leaves: a non-root node has clock < 100
        have hclk : ply ≠ 0 → p.halfmoves < 100 := fun h0 => Int.not_le.1 fun h => hdr ⟨h0, Or.inl h⟩
        obtain ⟨q', hmk, hG', hΦ⟩ := hD.step _ _ _ hG ((sortNm_perm _ _ _ _ hs).mem_iff.mp hm)
        refine ⟨q', hmk, fun st a b d _ hcd => ?_⟩
        have hd : d ≤ extDepth p depth - 1 := by
          rcases hcd with h | h <;> omega
        have hhm' : 0 ≤ q'.halfmoves := hD.clock _ _ hG'
        suffices h : ∃ r, negamax lim f q' st a b (ply + 1) d true = some r by
          obtain ⟨⟨v, s'⟩, e⟩ := h
          exact ⟨v, s', e, trivial⟩
        refine ih _ _ _ _ _ _ _ (by omega) hG' (by omega) ?_
        refine Nat.lt_of_lt_of_le (rank_child_lt B (depth + 1) _ (Φ p) _ (clk ply p.halfmoves) _ (by omega) ?_)
          (by omega)
        rw [hclkc]
        rcases hΦ with hlt | ⟨hle, hhalf⟩
        · left; exact ⟨hlt, by omega⟩
        · right
          refine ⟨hle, ?_⟩
          unfold clk
          by_cases h0 : ply = 0
          · rw [if_pos h0]; omega
          · rw [if_neg h0]; have := hclk h0; omega
      | _ => exact ⟨_, rfl⟩
    | _ => exact ⟨_, rfl⟩

theorem rootIter_total (lim : Limit) (fuel : Nat) (p : Position)
    (h : ∀ (d : Int) (st : SState), 1 ≤ d → d < Gen.MAX_DEPTH →
      ∃ r, negamax lim fuel p st (-Gen.INF) Gen.INF 0 d false = some r) (k : Nat) :
    ∀ (depth : Int) (st : SState) (bm : Option Mv) (infos : List InfoRec), 1 ≤ depth →
      ∃ r, rootIter lim fuel p k depth st bm infos = some r := by
  induction k with
  | zero => intro depth st bm infos _; exact ⟨_, rfl⟩
  | succ k ih =>
    intro depth st bm infos hd
    simp only [rootIter]
    refine ex_ite (fun _ => ⟨_, rfl⟩) (fun hlt => ?_)
    generalize hr1 : negamax lim fuel _ _ _ _ _ _ _ = r1
    have hr : ∃ x, r1 = some x := by rw [← hr1]; exact h _ _ hd (by omega)
    obtain ⟨⟨v, s1⟩, rfl⟩ := hr
    simp only []
    cases s1.best with
    | none => exact ⟨_, rfl⟩
    | some b =>
      simp only []
      generalize (if depth > 1 then shouldStop lim s1 else (false, s1)) = pr
      obtain ⟨stop, s2⟩ := pr
      simp only []
      exact ex_ite (fun _ => ⟨_, rfl⟩) (fun _ => ih _ _ _ _ (by omega))

/-- fuel sufficient for every iteration of the driver on a position of potential `φ ≤ B`. -/
def rootFuel (B φ : Nat) : Nat := rank B Gen.MAX_DEPTH φ 101 + 1

theorem root_total (lim : Limit) {G : Nat → Position → Prop} {Φ : Position → Nat} (hD : NDomT G Φ)
    (B : Nat) (p : Position) (hist : List BB) (tt : Table TTEntry) (hB : Φ p ≤ B)
    (hG : G (rootFuel B (Φ p)) p) : ∃ r, root lim (rootFuel B (Φ p)) p hist tt = some r := by
  refine rootIter_total lim _ p (fun d st h1 h2 => ?_) _ _ _ _ _ (by decide)
  refine negamax_total lim hD B _ p st _ _ 0 d false (by omega) hG hB ?_
  have : clk 0 p.halfmoves = 101 := rfl
  rw [this]
  unfold rootFuel
  have := rank_mono_depth B (d + 1) Gen.MAX_DEPTH (Φ p) 101 (by omega)
  omega

end Rawr.Term
