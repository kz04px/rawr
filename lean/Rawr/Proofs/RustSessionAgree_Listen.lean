import Rawr.Proofs.RustSessionAgree_Step
/-!
# uci/listen.rs `listen` regenerated from the Rust source agrees with the model's `listen`

`R.listen fuel ar sfuel clock version stdin` runs both command loops of listen.rs on the list `stdin` of input lines and
returns the unread lines and the printed byte stream (`none`: the process panics, or `fuel` — the bound on the number of
loop iterations — is exhausted).  The model's `listen ar o lines` returns the printed lines.

`agree_listen`: for `fuel > lines.length + 1` and under the side conditions `ListenOk` (those of the commands, `StepOk`,
along the model's run),

    (R.listen fuel ar 1000 clock version lines).map (fun r => Sess.transcript r.2) = listen ar o lines

where `Sess.transcript` cuts the printed stream into lines and canonicalises `time <t>`, `nps <n>`, `id name Rawr
<version>` exactly as the model prints them (RustSessionAgree_Canon.lean).
-/
namespace Rawr.Sess

theorem strLen_succ_ne (l : List Char) : (match some (strLen l + 1) with | some 0 => true | some _ => false | none => true) = false := rfl

/-- end of input in the second loop: `Ok(0) => break`. -/
theorem loop5_step_eof (fuel : Nat) (ar : Arith) (clk : Nat → Nat) (x : Nat) (ex : Bool) (input : List Char)
    (pos : Position) (hist : List BB) (tt : Table TTEntry) (out : List Char) (hash : Nat) (frc : Bool) :
    R.listen_loop5_step fuel ar 1000 clk x ex input [] true pos hist tt out hash frc =
      some (ForInStep.done (true, [], [], true, pos, hist, tt, out, hash, frc)) := by
  unfold R.listen_loop5_step
  simp [T.readLineRes, T.readLineStr]

/-- a line is read: the iteration continues as if the line (and its `'\n'`) had been in `input`. -/
theorem loop5_step_read (fuel : Nat) (ar : Arith) (clk : Nat → Nat) (x : Nat) (ex : Bool) (input l : List Char)
    (ls : List (List Char)) (pos : Position) (hist : List BB) (tt : Table TTEntry) (out : List Char) (hash : Nat) (frc : Bool) :
    R.listen_loop5_step fuel ar 1000 clk x ex input (l :: ls) true pos hist tt out hash frc =
      R.listen_loop5_step fuel ar 1000 clk x ex (l ++ ['\n']) ls false pos hist tt out hash frc := by
  unfold R.listen_loop5_step
  simp only [T.readLineRes, T.readLineStr, if_true, Bool.false_eq_true, if_false, List.tail_cons, List.nil_append, bind, pure]
  rfl

/-- the side conditions of the commands along the model's run of the second loop. -/
def SessOk (G : Nat → Position → Prop) (fuel : Nat) (ar : Arith) (clk : Nat → Nat) (o : Nat → Bool) :
    List (List Char) → UState → Prop
  | [], _ => True
  | l :: ls, s => StepOk G fuel ar clk o s (splitWs l) ∧
      ∀ s' L, stepSecond ar o s l = some (s', L, false) → SessOk G fuel ar clk o ls s'

/-- relation between the model's second loop and the regenerated one. -/
@[irreducible] def LoopRel (m : Option (List String)) (x : Option St5) : Prop :=
  match m with
  | none => x = none
  | some L => ∃ t : St5, x = some t ∧ t.1 = true ∧ Out t.2.2.2.2.2.2.2.1 L

theorem _root_.Rawr.agree_listen_loop5 (G : Nat → Position → Prop) (hI : ∀ n p, G (n + 1) p → MovesOnBoard p)
    (hM : ∀ n p, G (n + 1) p → G n p)
    (hS : ∀ n p m np, G (n + 1) p → m ∈ legalMoves p → p.makemove m true = some np → G n np)
    (fuel : Nat) (ar : Arith) (clk : Nat → Nat) (o : Nat → Bool) :
    ∀ (lines : List (List Char)) (it : List Nat) (input : List Char) (stdin : List (List Char)) (got : Bool) (s : UState)
      (out : List Char) (acc : List String),
      lines.length < it.length →
      ((got = true ∧ stdin = lines) ∨ (got = false ∧ ∃ l0 ls, lines = l0 :: ls ∧ stdin = ls ∧ splitWs l0 = splitWs input)) →
      SessOk G fuel ar clk o lines s → Out out acc →
      LoopRel (secondLoop ar o lines s acc)
        (R.listen_loop5 fuel ar 1000 clk it input stdin got s.pos s.hist.reverse s.tt out s.hashMb s.frc) := by
  intro lines
  induction lines with
  | nil =>
    intro it input stdin got s out acc hlen hst _ ho
    rcases hst with ⟨rfl, rfl⟩ | ⟨_, l0, ls, h, _⟩
    · cases it with
      | nil => simp at hlen
      | cons x it =>
        unfold LoopRel
        simp only [secondLoop, R.listen_loop5, List.forIn_cons, loop5_step_eof, bind, Option.bind_some]
        exact ⟨_, rfl, rfl, ho⟩
    · cases h
  | cons l ls ih =>
    intro it input stdin got s out acc hlen hst hok ho
    cases it with
    | nil => simp at hlen
    | cons x it =>
      have hlen' : ls.length < it.length := by simpa using hlen
      obtain ⟨hstep, hrest⟩ := hok
      -- the step, in both cases, is the dispatch on the tokens of `l`
      have key : ∃ input', StepRel out false input' ls (stepSecond ar o s l)
          (R.listen_loop5_step fuel ar 1000 clk x false input stdin got s.pos s.hist.reverse s.tt out s.hashMb s.frc) := by
        rcases hst with ⟨rfl, rfl⟩ | ⟨rfl, l0, ls', h, rfl, hsp⟩
        · refine ⟨l ++ ['\n'], ?_⟩
          rw [loop5_step_read, stepSecond_toks, ← splitWs_nl l]
          exact agree_listen_loop5_step G hI hM hS fuel ar clk o x false _ ls s out (by rw [splitWs_nl]; exact hstep)
        · injection h with h1 h2
          subst h1; subst h2
          refine ⟨input, ?_⟩
          rw [stepSecond_toks, hsp]
          exact agree_listen_loop5_step G hI hM hS fuel ar clk o x false _ _ s out (by rw [← hsp]; exact hstep)
      obtain ⟨input', hrel⟩ := key
      simp only [secondLoop, R.listen_loop5, List.forIn_cons]
      unfold StepRel at hrel
      cases hm : stepSecond ar o s l with
      | none =>
        rw [hm] at hrel
        simp only [] at hrel
        unfold LoopRel
        simp only [hrel, bind, Option.bind_none]
      | some r =>
        obtain ⟨s', L, q⟩ := r
        rw [hm] at hrel
        cases q with
        | true =>
          simp only [] at hrel
          obtain ⟨e, hL⟩ := hrel
          unfold LoopRel
          simp only [e, bind, Option.bind_some, if_true, hL, List.append_nil]
          exact ⟨_, rfl, rfl, ho⟩
        | false =>
          simp only [] at hrel
          obtain ⟨y, e, hy⟩ := hrel
          have := ih it input' ls true s' (out ++ y) (acc ++ L) hlen' (Or.inl ⟨rfl, rfl⟩) (hrest s' L hm) (ho.append hy)
          simp only [e, bind, Option.bind_some, Bool.false_eq_true, if_false, st5]
          exact this

abbrev St2 := Option (List (List Char) × List Char) × Bool × List Char × List (List Char) × Bool × Nat × Bool × Position

/-- relation between the model's first loop and the regenerated one (`out`: the banner). -/
@[irreducible] def FirstRel (out : List Char) (s0 : UState) (m : Option (UState × Bool × List (List Char))) (x : Option St2) : Prop :=
  match m with
  | none => ∃ t : St2, x = some t ∧ ∃ stdin, t.1 = some (stdin, out)
  | some (s', got, rest) => ∃ input stdin, x = some (none, true, input, stdin, got, s'.hashMb, s'.frc, s'.pos) ∧
      s'.hist = s0.hist ∧ s'.tt = s0.tt ∧
      ((got = true ∧ stdin = rest) ∨ (got = false ∧ ∃ l0 ls, rest = l0 :: ls ∧ stdin = ls ∧ splitWs l0 = splitWs input))

theorem loop2_step_eof (out : List Char) (x : Nat) (early : Option (List (List Char) × List Char)) (ex : Bool)
    (input : List Char) (got : Bool) (hash : Nat) (frc : Bool) (pos : Position) :
    R.listen_loop2_step out x early ex input [] got hash frc pos =
      some (ForInStep.done (none, true, [], [], got, hash, frc, pos)) := by
  unfold R.listen_loop2_step
  simp [T.readLineRes, T.readLineStr]

theorem loop2_step_line (out : List Char) (x : Nat) (early : Option (List (List Char) × List Char)) (ex : Bool)
    (input l : List Char) (ls : List (List Char)) (got : Bool) (s : UState) :
    R.listen_loop2_step out x early ex input (l :: ls) got s.hashMb s.frc s.pos =
      (if ((splitWs l).headD [] == ['i', 's', 'r', 'e', 'a', 'd', 'y']) = true then
        some (ForInStep.done (none, true, l ++ ['\n'], ls, true, s.hashMb, s.frc, s.pos))
      else if ((splitWs l).headD [] == ['s', 'e', 't', 'o', 'p', 't', 'i', 'o', 'n']) = true then
        some (ForInStep.yield (early, ex, l ++ ['\n'], ls, got, (doSetoption s ((splitWs l).tail) false).hashMb,
          (doSetoption s ((splitWs l).tail) false).frc, (doSetoption s ((splitWs l).tail) false).pos))
      else if ((splitWs l).headD [] == ['q', 'u', 'i', 't']) = true then
        some (ForInStep.done (some (ls, out), ex, l ++ ['\n'], ls, got, s.hashMb, s.frc, s.pos))
      else some (ForInStep.done (none, true, l ++ ['\n'], ls, got, s.hashMb, s.frc, s.pos))) ∧
    (doSetoption s ((splitWs l).tail) false).hist = s.hist ∧ (doSetoption s ((splitWs l).tail) false).tt = s.tt := by
  have e := agree_listen_loop1 (R.setoption ((splitWs l).tail)).2 s
  refine ⟨?_, doSetoption_hist _ _ _, doSetoption_tt _ _⟩
  unfold R.listen_loop2_step
  simp only [T.readLineRes, T.readLineStr, bind, pure, Option.bind_some, List.nil_append, List.tail_cons, splitWs_nl,
    ← headD_getD, doSetoption_eq, e]

theorem _root_.Rawr.agree_listen_loop2 (out : List Char) (s0 : UState) :
    ∀ (lines : List (List Char)) (it : List Nat) (input : List Char) (s : UState),
      lines.length < it.length → s.hist = s0.hist → s.tt = s0.tt →
      FirstRel out s0 (firstLoop lines s) (R.listen_loop2 out it input lines false s.hashMb s.frc s.pos) := by
  intro lines
  induction lines with
  | nil =>
    intro it input s hlen h1 h2
    cases it with
    | nil => simp at hlen
    | cons x it =>
      unfold FirstRel
      simp only [firstLoop, R.listen_loop2, List.forIn_cons, loop2_step_eof, bind, Option.bind_some]
      exact ⟨[], [], rfl, h1, h2, Or.inr ⟨by trivial, [], [], rfl, rfl, rfl⟩⟩
  | cons l ls ih =>
    intro it input s hlen h1 h2
    cases it with
    | nil => simp at hlen
    | cons x it =>
      have hlen' : ls.length < it.length := by simpa using hlen
      obtain ⟨estep, hh, ht⟩ := loop2_step_line out x none false input l ls false s
      simp only [firstLoop, R.listen_loop2, List.forIn_cons, estep, str, String.reduceToList, List.drop_one, bind,
        ite_bind, Option.bind_some]
      -- the model and the regenerated code dispatch on the same comparisons, in the same order
      refine ite_rel (fun _ => ?_) fun _ => ?_
      · unfold FirstRel
        exact ⟨_, _, rfl, h1, h2, Or.inl ⟨rfl, rfl⟩⟩
      refine ite_rel (fun _ => ih it (l ++ ['\n']) _ hlen' (hh.trans h1) (ht.trans h2)) fun _ => ?_
      refine ite_rel (fun _ => ?_) fun _ => ?_
      · unfold FirstRel
        exact ⟨_, rfl, _, rfl⟩
      · unfold FirstRel
        exact ⟨_, _, rfl, h1, h2, Or.inr ⟨rfl, l, ls, rfl, rfl, (splitWs_nl l).symm⟩⟩

/-- what `listen` prints before the first loop. -/
def bannerOut (version : Option (List Char)) : List Char :=
  T.line ("id name Rawr " ++ String.ofList (version.getD ['u', 'n', 'k', 'n', 'o', 'w', 'n'])) ++ T.line "id author kz04px" ++
  T.line ("option name UCI_Chess960 type check default " ++ toString false) ++
  T.line ("option name Hash type spin default " ++ toString 16 ++ " min 1 max 4096") ++ T.line "uciok"

theorem idname_out (v : List Char) (hv : '\n' ∉ v) :
    Out (T.line ("id name Rawr " ++ String.ofList v)) ["id name Rawr ?"] := by
  have e : ("id name Rawr " ++ String.ofList v).toList = pfxId ++ v := by
    simp only [String.toList_append, String.toList_ofList]
    rfl
  refine Out.line1 _ _ ?_ ?_
  · rw [e]
    simp only [List.mem_append, not_or]
    exact ⟨by decide, hv⟩
  · have p : pfxId.isPrefixOf (pfxId ++ v) = true := by
      rw [List.isPrefixOf_iff_prefix]; exact List.prefix_append _ _
    rw [e, canonLine, p]
    rfl

theorem banner_out (version : Option (List Char)) (hv : '\n' ∉ version.getD ['u', 'n', 'k', 'n', 'o', 'w', 'n']) :
    Out (bannerOut version) (banner false 16) := by
  -- the other four lines are fixed strings that the canonicalisation keeps; `listen.rs` and the model spell them differently
  have h := (idname_out _ hv).append (Out.unlines ["id author kz04px",
    "option name UCI_Chess960 type check default " ++ toString false,
    "option name Hash type spin default " ++ toString 16 ++ " min 1 max 4096", "uciok"] (by decide +kernel) (by decide +kernel))
  have hm : banner false 16 = ["id name Rawr ?"] ++ ["id author kz04px",
    "option name UCI_Chess960 type check default " ++ toString false,
    "option name Hash type spin default " ++ toString 16 ++ " min 1 max 4096", "uciok"] := by decide +kernel
  rw [hm]
  simpa only [bannerOut, T.unlines, List.flatMap_cons, List.flatMap_nil, List.append_nil, List.append_assoc] using h

theorem listen_finish (m : Option (List String)) (x : Option St5) (h : LoopRel m x) :
    Option.map (fun r => transcript r.2)
      (x.bind fun r10 =>
        if (!r10.1) = true then (none : Option Unit).bind fun _ => some (r10.2.2.1, r10.2.2.2.2.2.2.2.1)
        else some (r10.2.2.1, r10.2.2.2.2.2.2.2.1)) = m := by
  unfold LoopRel at h
  rcases m with _ | L
  · simp only [] at h
    rw [h]; rfl
  · simp only [] at h
    obtain ⟨t, e2, hex, ho⟩ := h
    obtain ⟨t1, t2, t3, t4, t5, t6, t7, t8, t9, t10⟩ := t
    simp only at hex ho
    subst hex
    rw [e2]
    simp only [Option.bind_some, Bool.not_true, Bool.false_eq_true, if_false, Option.map_some]
    rw [ho.transcript]

/-- `SessOk` of the lines and the state the model's first loop hands to the second (the table resized as `listen` does
between the loops). -/
def ListenOk (G : Nat → Position → Prop) (fuel : Nat) (ar : Arith) (clk : Nat → Nat) (o : Nat → Bool) (lines : List (List Char)) : Prop :=
  ∀ pos s got rest, setFen ar false (str "startpos") = some pos →
    firstLoop lines { hashMb := 16, frc := false, pos := pos, hist := [pos.hash], tt := Table.new 0 Gen.ttEntrySize } = some (s, got, rest) →
    SessOk G fuel ar clk o rest { s with tt := s.tt.resize s.hashMb Gen.ttEntrySize }

theorem str_startpos : str "startpos" = ['s', 't', 'a', 'r', 't', 'p', 'o', 's'] := by decide

/-- **`uci::listen::listen`**: the canonical transcript of what the regenerated code prints on the input lines is the
model's output; the regenerated code panics exactly when the model does.  `G` is a family of position invariants as in
`agree_moves_ix`; `fuel` bounds the number of loop iterations; the version string has no newline. -/
theorem _root_.Rawr.agree_listen (G : Nat → Position → Prop) (hI : ∀ n p, G (n + 1) p → MovesOnBoard p)
    (hM : ∀ n p, G (n + 1) p → G n p)
    (hS : ∀ n p m np, G (n + 1) p → m ∈ legalMoves p → p.makemove m true = some np → G n np)
    (fuel : Nat) (ar : Arith) (clk : Nat → Nat) (o : Nat → Bool) (version : Option (List Char)) (lines : List (List Char))
    (hfuel : lines.length + 1 < fuel) (hv : '\n' ∉ version.getD ['u', 'n', 'k', 'n', 'o', 'w', 'n'])
    (hok : ListenOk G fuel ar clk o lines) :
    (R.listen fuel ar 1000 clk version lines).map (fun r => transcript r.2) = listen ar o lines := by
  obtain ⟨n, rfl⟩ : ∃ n, fuel = n + 2 := ⟨fuel - 2, by omega⟩
  unfold R.listen listen
  simp only [bind, pure, agree_from_fen, Table.agree_tt_new _ _ ttsize_ne, Option.bind_some, List.nil_append, ← str_startpos,
    Rawr.setFen_startpos]
  have hb := banner_out version hv
  generalize hbo : bannerOut version = bo at hb
  unfold bannerOut at hbo
  simp only [hbo]
  let s0 : UState := { hashMb := 16, frc := false, pos := Gen.startpos, hist := [Gen.startpos.hash], tt := Table.new 0 Gen.ttEntrySize }
  have hfirst := agree_listen_loop2 bo s0 lines (List.range (n + 2)) [] s0 (by simp; omega) rfl rfl
  change FirstRel bo s0 (firstLoop lines s0) (R.listen_loop2 bo (List.range (n + 2)) [] lines false 16 false Gen.startpos) at hfirst
  generalize hfl : firstLoop lines s0 = fl at hfirst ⊢
  unfold FirstRel at hfirst
  rcases fl with _ | ⟨s, got, rest⟩
  · simp only [] at hfirst
    obtain ⟨t, e, stdin, ht⟩ := hfirst
    simp only [e, Option.bind_some, ht, Option.map_some]
    rw [hb.transcript]
  · simp only [] at hfirst
    obtain ⟨input, stdin, e, hh, htt, hcase⟩ := hfirst
    have hsess := hok Gen.startpos s got rest (Rawr.setFen_startpos ar) hfl
    have hlen : rest.length < (List.range (n + 2)).length := by
      have := (firstLoop_inv (fun _ => True) (fun _ _ h => h) lines s0 s got rest trivial hfl).2.2
      simp; omega
    have hout : Out (bo ++ (if got then T.line "readyok" else [])) (banner false 16 ++ (if got then ["readyok"] else [])) := by
      cases got
      · simpa using hb
      · exact hb.append readyok_out
    have hloop := agree_listen_loop5 G hI hM hS (n + 2) ar clk o rest (List.range (n + 2)) input stdin got
      { s with tt := s.tt.resize s.hashMb Gen.ttEntrySize } _ _ hlen hcase hsess hout
    have hhist : s.hist.reverse = [Gen.startpos.hash] := by rw [hh]; rfl
    have htt' : s.tt = Table.new 0 Gen.ttEntrySize := htt
    simp only [e, Option.bind_some, Bool.not_true, Bool.false_eq_true, if_false, Table.agree_tt_resize _ _ _ ttsize_ne]
    simp only [hhist, htt'] at hloop
    rw [htt']
    cases got
    · simp only [Bool.false_eq_true, if_false, List.append_nil] at hloop ⊢
      exact listen_finish _ _ hloop
    · simp only [if_true] at hloop ⊢
      exact listen_finish _ _ hloop

end Rawr.Sess

#print axioms Rawr.agree_listen
#print axioms Rawr.agree_listen_loop2
#print axioms Rawr.agree_listen_loop5
