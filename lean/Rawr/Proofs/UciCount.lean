import Rawr.Proofs.UciStep
/-! Counting `readyok` and `bestmove` lines: one step, the second loop, the whole of `listen` (through `listen_eq`). -/
namespace Rawr

def isReadyLine (l : List Char) : Bool := cmdOf l == str "isready"
def isQuitLine (l : List Char) : Bool := cmdOf l == str "quit"
/-- a well-formed search request: `go` followed by arguments that `parse_go` accepts as one of
time / movetime / depth / nodes / infinite. -/
def isSearchLine (l : List Char) : Bool :=
  cmdOf l == str "go" && (match parseGo (argsOf l) with | some k => k.isSearch | none => false)

variable {ar : Arith} {clock : Nat → Bool} {s s' : UState} {l : List Char} {o : List String} {q : Bool}

theorem applyTokens_out_neutral {ts : List (List Char)} {pos : Position} {hist : List BB}
    {r : Position × List BB × List String} (h : applyTokens ts pos hist [] = some r) : ∀ l ∈ r.2.2, Neutral l := by
  rw [applyTokens_out h]
  exact reports_neutral ts pos

theorem stepSecond_quits (h : stepSecond ar clock s l = some (s', o, q)) : q = isQuitLine l := by
  by_cases hq : cmdOf l = str "quit"
  · rw [stepSecond_quit ar clock s l hq] at h
    cases h
    simp only [isQuitLine, hq, BEq.rfl]
  · rw [isQuitLine, beq_eq_false_iff_ne.2 hq]
    revert h
    apply stepSecond_cases ar clock s l (P := fun r => r = some (s', o, q) → q = false)
    case ucinewgame => rintro _ ⟨⟩; rfl
    case isready => rintro _ ⟨⟩; rfl
    case print => rintro _ ⟨⟩; rfl
    case go => intro _ h; obtain ⟨_, _, ⟨⟩⟩ := Option.map_eq_some_iff.1 h; rfl
    case position => intro _ h; obtain ⟨_, _, ⟨⟩⟩ := Option.map_eq_some_iff.1 h; rfl
    case moves => intro _ h; obtain ⟨_, _, ⟨⟩⟩ := Option.map_eq_some_iff.1 h; rfl
    case setoption => rintro _ ⟨⟩; rfl
    case history => rintro _ ⟨⟩; rfl
    case eval => rintro _ ⟨⟩; rfl
    case quit => exact fun c => absurd c hq
    case other => rintro _ ⟨⟩; rfl

theorem stepSecond_search (hl : isSearchLine l = true) (h : stepSecond ar clock s l = some (s', o, q)) :
    SearchShape o ∧ q = false := by
  unfold isSearchLine at hl
  rw [Bool.and_eq_true, beq_iff_eq] at hl
  obtain ⟨hc, hk⟩ := hl
  rw [stepSecond_go ar clock s l hc, Option.map_eq_some_iff] at h
  obtain ⟨⟨s1, o1⟩, hgo, ⟨⟩⟩ := h
  cases hp : parseGo (argsOf l) with
  | none => rw [hp] at hk; cases hk
  | some k =>
    rw [hp] at hk
    exact ⟨doGo_one_bestmove hp hk hgo, rfl⟩

theorem stepSecond_silent (h1 : isReadyLine l = false) (h2 : isSearchLine l = false)
    (h : stepSecond ar clock s l = some (s', o, q)) : ∀ x ∈ o, Neutral x := by
  revert h
  apply stepSecond_cases ar clock s l (P := fun r => r = some (s', o, q) → ∀ x ∈ o, Neutral x)
  case ucinewgame => rintro _ ⟨⟩; nofun
  case isready =>
    intro c
    rw [isReadyLine, c, BEq.rfl] at h1
    cases h1
  case print => rintro _ ⟨⟩; exact displayPos_neutral s.pos
  case go =>
    intro c h
    obtain ⟨⟨s1, o1⟩, hgo, ⟨⟩⟩ := Option.map_eq_some_iff.1 h
    rw [isSearchLine, c, BEq.rfl, Bool.true_and] at h2
    exact (goRun_neutral (fun k hk => by rw [hk] at h2; exact h2) hgo).2
  case position =>
    intro _ h
    obtain ⟨_, hrun, ⟨⟩⟩ := Option.map_eq_some_iff.1 h
    obtain ⟨_, _, hap⟩ := Option.bind_eq_some_iff.1 hrun
    exact applyTokens_out_neutral hap
  case moves =>
    intro _ h
    obtain ⟨_, hap, ⟨⟩⟩ := Option.map_eq_some_iff.1 h
    exact applyTokens_out_neutral hap
  case setoption => rintro _ ⟨⟩; nofun
  case history =>
    rintro _ ⟨⟩ x hx
    obtain ⟨k, _, rfl⟩ := List.mem_map.1 hx
    exact hexLine_neutral k
  case eval =>
    rintro _ ⟨⟩ x hx
    rw [List.mem_singleton.1 hx]
    exact intRepr_neutral _
  case quit => rintro _ ⟨⟩; nofun
  case other => rintro _ ⟨⟩; nofun

theorem stepSecond_shape (h : stepSecond ar clock s l = some (s', o, q)) :
    nReady o = (if isReadyLine l then 1 else 0) ∧ nBest o = (if isSearchLine l then 1 else 0) ∧
      q = isQuitLine l := by
  have hq := stepSecond_quits h
  cases hr : isReadyLine l with
  | true =>
    have hc : cmdOf l = str "isready" := beq_iff_eq.1 hr
    have hs : isSearchLine l = false := by
      simp only [isSearchLine, hc, str_beq, String.reduceBEq, Bool.false_and]
    rw [stepSecond_isready ar clock s l hc] at h
    cases h
    rw [hs]
    exact ⟨by decide, by decide, hq⟩
  | false =>
    cases hs : isSearchLine l with
    | true => exact ⟨(stepSecond_search hs h).1.counts.1, (stepSecond_search hs h).1.counts.2, hq⟩
    | false =>
      have n := counts_of_neutral (stepSecond_silent hr hs h)
      exact ⟨n.1, n.2, hq⟩

/-- the lines the second loop acts on: those before the first `quit` line. -/
def beforeQuit (ls : List (List Char)) : List (List Char) := ls.takeWhile fun l => !isQuitLine l
def readyCount (ls : List (List Char)) : Nat := (beforeQuit ls).countP isReadyLine
def searchCount (ls : List (List Char)) : Nat := (beforeQuit ls).countP isSearchLine

theorem steps_shape {ls : List (List Char)}
    (h : steps ar clock s ls = some (s', o, q)) :
    nReady o = readyCount ls ∧ nBest o = searchCount ls ∧ q = ls.any isQuitLine := by
  induction ls generalizing s s' o q with
  | nil => simp only [steps] at h; cases h; exact ⟨rfl, rfl, rfl⟩
  | cons l ls ih =>
    simp only [steps] at h
    split at h
    · cases h
    · next s1 o1 hs =>
      cases h
      have hq : isQuitLine l = true := (stepSecond_quits hs).symm
      rw [stepSecond_quit ar clock s l (beq_iff_eq.1 hq)] at hs
      cases hs
      simp only [readyCount, searchCount, beforeQuit, List.takeWhile_cons, hq, List.any_cons, Bool.true_or,
        Bool.not_true, Bool.false_eq_true, if_false, List.countP_nil]
      exact ⟨rfl, rfl, trivial⟩
    · next s1 o1 hs =>
      obtain ⟨a, b, c⟩ := stepSecond_shape hs
      have hq : isQuitLine l = false := c.symm
      split at h
      · cases h
      · next s2 o2 q2 h2 =>
        cases h
        obtain ⟨a2, b2, c2⟩ := ih h2
        rw [nReady_append, nBest_append, a, b, a2, b2, c2]
        simp only [readyCount, searchCount, beforeQuit, List.takeWhile_cons, hq, List.any_cons, Bool.false_or,
          Bool.not_false, if_true, List.countP_cons]
        refine ⟨by omega, by omega, trivial⟩

/-- what the first loop of `listen` does with the script, independently of the state: `none` = `quit` (the
process ends silently), otherwise (an `isready` ended the loop?, the lines left for the second loop).
`setoption` lines are consumed; `isready` ends the loop and is answered after the resize; any other line ends
the loop and is processed AGAIN by the second loop; at end of input the second loop processes one empty line. -/
def firstSyn : List (List Char) → Option (Bool × List (List Char))
  | [] => some (false, [[]])
  | l :: ls =>
    if cmdOf l == str "isready" then some (true, ls)
    else if cmdOf l == str "setoption" then firstSyn ls
    else if cmdOf l == str "quit" then none
    else some (false, l :: ls)

theorem firstLoop_syn (ls : List (List Char)) (s : UState) :
    (firstLoop ls s).map (fun r => (r.2.1, r.2.2)) = firstSyn ls := by
  induction ls generalizing s with
  | nil => rfl
  | cons l ls ih =>
    unfold firstLoop firstSyn cmdOf
    simp only
    split
    · rfl
    · split
      · exact ih _
      · split <;> rfl

/-- number of `readyok` lines the script is to be answered with. -/
def expectedReady (lines : List (List Char)) : Nat :=
  match firstSyn lines with
  | none => 0
  | some (r, rest) => (if r then 1 else 0) + readyCount rest

/-- number of well-formed search requests the engine processes. -/
def expectedBest (lines : List (List Char)) : Nat :=
  match firstSyn lines with
  | none => 0
  | some (_, rest) => searchCount rest

theorem banner_counts : nReady (banner false 16) = 0 ∧ nBest (banner false 16) = 0 := by
  decide +kernel

theorem listen_shape {lines : List (List Char)} {out : List String} (h : listen ar clock lines = some out) :
    nReady out = expectedReady lines ∧ nBest out = expectedBest lines := by
  rw [listen_eq] at h
  have hsyn : (afterFirst lines).map (fun r => (r.2.1, r.2.2)) = firstSyn lines := by
    rw [afterFirst, Option.map_map]
    exact firstLoop_syn lines initState
  unfold expectedReady expectedBest
  rw [← hsyn]
  cases haf : afterFirst lines with
  | none =>
    rw [haf] at h
    cases h
    exact banner_counts
  | some x =>
    obtain ⟨s, r, rest⟩ := x
    rw [haf] at h
    obtain ⟨⟨s', o, q⟩, hst, rfl⟩ := Option.map_eq_some_iff.1 h
    obtain ⟨a, b, _⟩ := steps_shape hst
    simp only [Option.map_some, nReady_append, nBest_append, banner_counts.1, banner_counts.2, a, b]
    cases r
    · exact ⟨by simp [nReady], by simp [nBest]⟩
    · refine ⟨by simp [nReady], ?_⟩
      have : nBest ["readyok"] = 0 := by decide
      simp [this]

end Rawr
