import Rawr.Proofs.UciState
import Rawr.Proofs.FenRound
import Rawr.Proofs.MakeMoveFrame
/-! The move tokens of `position … moves` / `moves`, and the `position` command. A declarative description
`Denotes pos t m` of "token `t` denotes the legal move `m`" and the proof that the selection made by `uci::moves::moves`
(`denote`) is exactly that; the three things one token can do (`applyToken_cases`); the positions reached by a token list
and its reports (`trace`, `reports`, `applyTokens_eq`). The `position` command in normal form (`positionArgs`, `positionRun`,
`doPosition_eq`: it reads `pos.frc`, writes `pos` and `hist`), `setFen_startpos`, and `applyTokens_frc`: C05, C15, C16 and
the session agreement all go through these. -/
namespace Rawr

/-- the rook file designated by a conventional castling string of the MOVER's colour
(`e1g1`/`e1c1` when White is to move, `e8g8`/`e8c8` when Black is), `none` for every other token. -/
def castleFile (pos : Position) (t : List Char) : Option Nat :=
  if t = str "e1g1" then (if pos.black then none else some pos.cf0)
  else if t = str "e1c1" then (if pos.black then none else some pos.cf1)
  else if t = str "e8g8" then (if pos.black then some pos.cf0 else none)
  else if t = str "e8c8" then (if pos.black then some pos.cf1 else none)
  else none

/-- `m` is the first legal move (in generation order) whose `to_uci` string is `t`. -/
def FirstPrinting (pos : Position) (t : List Char) (m : Mv) : Prop :=
  ∃ as bs, legalMoves pos = as ++ m :: bs ∧ toUciChars pos m = t ∧ ∀ x ∈ as, toUciChars pos x ≠ t

/-- no legal move prints as `t`, `t` is a conventional castling string of the mover's colour and
`m` = king E1 takes own rook on the designated file is legal. -/
def CastleAlias (pos : Position) (t : List Char) (m : Mv) : Prop :=
  (∀ x ∈ legalMoves pos, toUciChars pos x ≠ t) ∧
  ∃ file, castleFile pos t = some file ∧ m = ⟨4, fromCoords file 0, 6⟩ ∧ m ∈ legalMoves pos ∧
    pos.c0.isSet m.dst = true

def Denotes (pos : Position) (t : List Char) (m : Mv) : Prop := FirstPrinting pos t m ∨ CastleAlias pos t m

theorem FirstPrinting.mem {pos : Position} {t : List Char} {m : Mv} (h : FirstPrinting pos t m) :
    m ∈ legalMoves pos := by
  obtain ⟨as, bs, e, _⟩ := h
  rw [e]; simp

theorem FirstPrinting.prints {pos : Position} {t : List Char} {m : Mv} (h : FirstPrinting pos t m) :
    toUciChars pos m = t := by
  obtain ⟨as, bs, _, e, _⟩ := h
  exact e

theorem Denotes.mem {pos : Position} {t : List Char} {m : Mv} (h : Denotes pos t m) : m ∈ legalMoves pos := by
  rcases h with h | h
  · exact h.mem
  · obtain ⟨_, _, _, _, h, _⟩ := h; exact h

theorem find_iff_first (pos : Position) (t : List Char) (m : Mv) :
    ((legalMoves pos).find? fun m => toUciChars pos m == t) = some m ↔ FirstPrinting pos t m := by
  rw [List.find?_eq_some_iff_append]
  constructor
  · rintro ⟨h1, as, bs, e, h2⟩
    refine ⟨as, bs, e, by simpa using h1, ?_⟩
    intro x hx
    have := h2 x hx
    simpa using this
  · rintro ⟨as, bs, e, h1, h2⟩
    refine ⟨by simpa using h1, as, bs, e, ?_⟩
    intro x hx
    have := h2 x hx
    simpa using this

theorem castleSel_eq_some (pos : Position) (ws : Bool) (file : Nat) (m : Mv) :
    castleSel pos ws file = some m ↔
      ws = !pos.black ∧ m = ⟨4, fromCoords file 0, 6⟩ ∧ m ∈ legalMoves pos ∧ pos.c0.isSet m.dst = true := by
  unfold castleSel
  simp only
  split
  · next h =>
    simp only [Bool.and_eq_true, beq_iff_eq, List.contains_iff_mem] at h
    constructor
    · intro e; cases e; exact ⟨h.1.1, rfl, h.2, h.1.2⟩
    · rintro ⟨_, e, _, _⟩; rw [e]
  · next h =>
    simp only [Bool.and_eq_true, beq_iff_eq, List.contains_iff_mem] at h
    constructor
    · intro e; cases e
    · rintro ⟨a, e, b, c⟩
      subst e
      exact absurd ⟨⟨a, c⟩, b⟩ h

theorem castleChain_ite {c : Prop} [Decidable c] {a b : Option Mv} {a' b' : Option Nat} {Q : Nat → Prop} {m : Mv}
    (ha : a = some m ↔ ∃ f, a' = some f ∧ Q f) (hb : b = some m ↔ ∃ f, b' = some f ∧ Q f) :
    (if c then a else b) = some m ↔ ∃ f, (if c then a' else b') = some f ∧ Q f := by
  split
  · exact ha
  · exact hb

/-- the castling branch of the selection, described through `castleFile`. -/
theorem castleChain_iff (pos : Position) (t : List Char) (m : Mv) :
    (if t == str "e1g1" then castleSel pos true pos.cf0
      else if t == str "e1c1" then castleSel pos true pos.cf1
      else if t == str "e8g8" then castleSel pos false pos.cf0
      else if t == str "e8c8" then castleSel pos false pos.cf1
      else none) = some m ↔
    ∃ file, castleFile pos t = some file ∧ m = ⟨4, fromCoords file 0, 6⟩ ∧ m ∈ legalMoves pos ∧
      pos.c0.isSet m.dst = true := by
  -- a White string selects when White is to move, a Black string when Black is
  have kw : ∀ file, castleSel pos true file = some m ↔ ∃ f, (if pos.black then none else some file) = some f ∧
      m = ⟨4, fromCoords f 0, 6⟩ ∧ m ∈ legalMoves pos ∧ pos.c0.isSet m.dst = true := fun file => by
    rw [castleSel_eq_some]
    cases pos.black <;> simp
  have kb : ∀ file, castleSel pos false file = some m ↔ ∃ f, (if pos.black then some file else none) = some f ∧
      m = ⟨4, fromCoords f 0, 6⟩ ∧ m ∈ legalMoves pos ∧ pos.c0.isSet m.dst = true := fun file => by
    rw [castleSel_eq_some]
    cases pos.black <;> simp
  unfold castleFile
  simp only [beq_iff_eq]
  exact castleChain_ite (kw _) (castleChain_ite (kw _) (castleChain_ite (kb _) (castleChain_ite (kb _) (by simp))))

theorem denote_eq_some_iff (pos : Position) (t : List Char) (m : Mv) :
    denote pos t = some m ↔ Denotes pos t m := by
  rcases Option.eq_none_or_eq_some ((legalMoves pos).find? fun m => toUciChars pos m == t) with hf | ⟨m0, hf⟩
  · simp only [denote, hf]
    rw [castleChain_iff]
    have hn : ∀ x ∈ legalMoves pos, toUciChars pos x ≠ t := by
      intro x hx
      have := List.find?_eq_none.1 hf x hx
      simpa using this
    constructor
    · intro h; exact Or.inr ⟨hn, h⟩
    · rintro (h | h)
      · exact absurd h.prints (hn m h.mem)
      · exact h.2
  · simp only [denote, hf, Option.some.injEq]
    have f0 := (find_iff_first pos t m0).1 hf
    constructor
    · intro e; subst e; exact Or.inl f0
    · rintro (h | h)
      · have := (find_iff_first pos t m).2 h
        rw [hf] at this
        exact Option.some.inj this
      · exact absurd f0.prints (h.1 m0 f0.mem)

theorem denote_eq_none_iff (pos : Position) (t : List Char) :
    denote pos t = none ↔ ∀ m, ¬ Denotes pos t m := by
  constructor
  · intro h m hm
    rw [← denote_eq_some_iff, h] at hm
    cases hm
  · intro h
    cases hd : denote pos t with
    | none => rfl
    | some m => exact absurd ((denote_eq_some_iff pos t m).1 hd) (h m)

theorem applyToken_cases (pos : Position) (hist : List BB) (t : List Char) :
    (∃ m np, Denotes pos t m ∧ pos.makemove m true = some np ∧ applyToken pos hist t = some (np, np.hash :: hist, [])) ∨
    (∃ m, Denotes pos t m ∧ pos.makemove m true = none ∧ applyToken pos hist t = none) ∨
    ((∀ m, ¬ Denotes pos t m) ∧
      applyToken pos hist t = some (pos, hist, ["info string unknown move " ++ String.ofList t])) := by
  rw [applyToken_eq]
  cases hd : denote pos t with
  | none => exact .inr (.inr ⟨(denote_eq_none_iff pos t).1 hd, rfl⟩)
  | some m =>
    have hm := (denote_eq_some_iff pos t m).1 hd
    simp only
    cases hmk : pos.makemove m true with
    | none => exact .inr (.inl ⟨m, hm, hmk, rfl⟩)
    | some np => exact .inl ⟨m, np, hm, hmk, rfl⟩

theorem applyToken_frc {pos : Position} {hist : List BB} {t : List Char} {r : Position × List BB × List String}
    (h : applyToken pos hist t = some r) : r.1.frc = pos.frc := by
  rcases applyToken_cases pos hist t with ⟨m, np, _, hmk, e⟩ | ⟨m, _, _, e⟩ | ⟨_, e⟩
  · rw [e] at h
    cases h
    exact makemove_frc hmk
  · rw [e] at h
    cases h
  · rw [e] at h
    cases h
    rfl

theorem applyTokens_frc {ts : List (List Char)} {pos : Position} {hist : List BB} {out : List String}
    {r : Position × List BB × List String} (h : applyTokens ts pos hist out = some r) : r.1.frc = pos.frc := by
  induction ts generalizing pos hist out with
  | nil => simp only [applyTokens] at h; cases h; rfl
  | cons t ts ih =>
    simp only [applyTokens] at h
    split at h
    · cases h
    · next p1 h1 o1 h1eq =>
      rw [ih h]
      exact applyToken_frc h1eq

theorem Denotes.unique {pos : Position} {t : List Char} {m m' : Mv} (h : Denotes pos t m) (h' : Denotes pos t m') :
    m = m' := by
  rw [← denote_eq_some_iff] at h h'
  rw [h] at h'
  exact Option.some.inj h'

/-- positions reached after each accepted token, in order (`none` = `makemove` panics on a selected move). -/
def trace : List (List Char) → Position → Option (List Position)
  | [], _ => some []
  | t :: ts, pos =>
    match denote pos t with
    | none => trace ts pos
    | some m =>
      match pos.makemove m true with
      | none => none
      | some np => (trace ts np).map (np :: ·)

/-- the unknown-move reports of a token list, in order. -/
def reports : List (List Char) → Position → List String
  | [], _ => []
  | t :: ts, pos =>
    match denote pos t with
    | none => ("info string unknown move " ++ String.ofList t) :: reports ts pos
    | some m =>
      match pos.makemove m true with
      | none => []
      | some np => reports ts np

theorem applyTokens_eq_foldlM (ts : List (List Char)) (pos : Position) (hist : List BB) (out : List String) :
    applyTokens ts pos hist out =
      ts.foldlM (fun (st : Position × List BB × List String) t =>
        (applyToken st.1 st.2.1 t).map fun r => (r.1, r.2.1, st.2.2 ++ r.2.2)) (pos, hist, out) := by
  induction ts generalizing pos hist out with
  | nil => rfl
  | cons t ts ih =>
    simp only [applyTokens, List.foldlM_cons]
    cases applyToken pos hist t with
    | none => rfl
    | some r =>
      obtain ⟨p, h, o⟩ := r
      simp only [Option.map_some, Option.bind_eq_bind, Option.bind_some]
      exact ih p h (out ++ o)

theorem applyTokens_eq (ts : List (List Char)) (pos : Position) (hist : List BB) (out : List String) :
    applyTokens ts pos hist out =
      (trace ts pos).map fun tr =>
        (tr.getLastD pos, (tr.map (·.hash)).reverse ++ hist, out ++ reports ts pos) := by
  induction ts generalizing pos hist out with
  | nil => simp [applyTokens, trace, reports]
  | cons t ts ih =>
    simp only [applyTokens, applyToken_eq, trace, reports]
    cases hd : denote pos t with
    | none =>
      simp only
      rw [ih]
      cases trace ts pos with
      | none => rfl
      | some tr => simp
    | some m =>
      simp only
      cases hm : pos.makemove m true with
      | none => rfl
      | some np =>
        simp only
        rw [ih]
        cases trace ts np with
        | none => rfl
        | some tr =>
          simp only [Option.map_some, List.append_nil, Option.some.injEq, Prod.mk.injEq, List.map_cons,
            List.reverse_cons, List.append_assoc, List.singleton_append, and_true]
          cases tr <;> simp [List.getLastD]

theorem applyTokens_out {ts : List (List Char)} {pos : Position} {hist : List BB} {r : Position × List BB × List String}
    (h : applyTokens ts pos hist [] = some r) : r.2.2 = reports ts pos := by
  rw [applyTokens_eq, Option.map_eq_some_iff] at h
  obtain ⟨tr, _, rfl⟩ := h
  exact List.nil_append _

theorem reports_mem : ∀ (ts : List (List Char)) (pos : Position), ∀ l ∈ reports ts pos,
    ∃ t ∈ ts, l = "info string unknown move " ++ String.ofList t := by
  intro ts
  induction ts with
  | nil => intro pos l hl; simp [reports] at hl
  | cons t ts ih =>
    intro pos l hl
    simp only [reports] at hl
    split at hl
    · rcases List.mem_cons.1 hl with rfl | hl
      · exact ⟨t, by simp, rfl⟩
      · obtain ⟨u, hu, e⟩ := ih pos l hl
        exact ⟨u, by simp [hu], e⟩
    · split at hl
      · simp at hl
      · obtain ⟨u, hu, e⟩ := ih _ l hl
        exact ⟨u, by simp [hu], e⟩

theorem setFen_startpos (ar : Arith) : setFen ar false (str "startpos") = some Gen.startpos :=
  have e1 : setFen ar false (str "startpos") = setFenCore ar false startFen := if_pos (BEq.rfl (a := "startpos".toList))
  have e2 : setFen ar false startFen = setFenCore ar false startFen := if_neg (by decide +kernel)
  (e1.trans e2.symm).trans (setFen_startFen_ar ar)

/-- the FEN string (already trimmed as `str::trim` does) and the move tokens of a `position` command, as `uci::position` cuts them. -/
def positionArgs (toks : List (List Char)) : List Char × List (List Char) :=
  let (fen, rest) : List Char × List (List Char) :=
    match toks with
    | t :: rest =>
      if t == str "startpos" then (str "startpos", rest.drop 1)
      else if t == str "fen" then
        let fenToks := rest.takeWhile (· != str "moves")
        let after := (rest.dropWhile (· != str "moves")).drop 1
        (fenToks.foldl (fun a b => a ++ b ++ [' ']) [], after)
      else ([], [])
    | [] => ([], [])
  (rustTrim fen, rest)

/-- what a `position` command computes: it reads nothing of the state but the Chess960 flag of the position. -/
def positionRun (ar : Arith) (frc : Bool) (toks : List (List Char)) : Option (Position × List BB × List String) :=
  (setFen ar frc (positionArgs toks).1).bind fun p => applyTokens (positionArgs toks).2 { p with frc := frc } [p.hash] []

theorem doPosition_eq (ar : Arith) (s : UState) (toks : List (List Char)) :
    doPosition ar s toks =
      (positionRun ar s.pos.frc toks).map fun r => ({ s with pos := { r.1 with frc := s.frc }, hist := r.2.1 }, r.2.2) := by
  have e : doPosition ar s toks =
      match setFen ar s.pos.frc (positionArgs toks).1 with
      | none => none
      | some p =>
        match applyTokens (positionArgs toks).2 { p with frc := s.pos.frc } [p.hash] [] with
        | none => none
        | some (p, hist, out) => some ({ s with pos := { p with frc := s.frc }, hist := hist }, out) := by
    unfold doPosition positionArgs
    rfl
  rw [e, positionRun]
  cases setFen ar s.pos.frc (positionArgs toks).1 with
  | none => rfl
  | some p =>
    simp only [Option.bind_some]
    cases applyTokens (positionArgs toks).2 { p with frc := s.pos.frc } [p.hash] [] <;> rfl

theorem doPosition_some {ar : Arith} {s : UState} {toks : List (List Char)} {r : UState × List String}
    (h : doPosition ar s toks = some r) :
    ∃ p hist, positionRun ar s.pos.frc toks = some (p, hist, r.2) ∧ r.1 = { s with pos := { p with frc := s.frc }, hist := hist } := by
  rw [doPosition_eq, Option.map_eq_some_iff] at h
  obtain ⟨⟨p, hist, out⟩, h, rfl⟩ := h
  exact ⟨p, hist, h, rfl⟩

end Rawr
