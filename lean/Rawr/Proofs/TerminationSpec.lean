import Rawr.Proofs.SpecSanityCount
/-! Termination at the level of the specification (no engine model): the potential.

`pot b` (`wsum (pieceW true) b`) adds, for every man on `b`, one and for a pawn the number of ranks it still has to go.
`apply_potential`: a legal move of a valid position either lowers `pot`, or keeps it (≤) and advances the half-move
clock by exactly one. The number of men is `SpecS.menCount`; it falls by one exactly on a capture (`SpecS.men_apply`). -/
namespace Rawr.Term
open Rawr.Spec Rawr.SV

/-- weight of a piece: one, plus (when `adv`) the ranks a pawn still has to go. -/
def pieceW (adv : Bool) (pc : Piece) (s : Nat) : Nat :=
  1 + (if adv = true ∧ pc.kind = .pawn then (if pc.white = true then 7 - s / 8 else s / 8) else 0)

def pot (b : Board) : Nat := wsum (pieceW true) b

theorem pieceW_pos (adv : Bool) (pc : Piece) (s : Nat) : 1 ≤ pieceW adv pc s := by unfold pieceW; omega

theorem pieceW_nonpawn (adv : Bool) (pc : Piece) (s : Nat) (h : pc.kind ≠ .pawn) : pieceW adv pc s = 1 := by
  unfold pieceW; rw [if_neg (fun hc => h hc.2)]

theorem pieceW_pawn (pc : Piece) (s : Nat) (hk : pc.kind = .pawn) :
    pieceW true pc s = 1 + (if pc.white = true then 7 - s / 8 else s / 8) := by
  unfold pieceW; rw [if_pos ⟨rfl, hk⟩]

theorem pieceW_false (pc : Piece) (s : Nat) : pieceW false pc s = 1 := by
  unfold pieceW; rw [if_neg (fun hc => by cases hc.1)]

theorem pieceW_le (adv : Bool) (pc : Piece) (s : Nat) (hs : s < 64) : pieceW adv pc s ≤ 8 := by
  unfold pieceW; split <;> (try split) <;> omega

theorem rank_bounds {s : Nat} (h : s < 64) : 0 ≤ rank s ∧ rank s < 8 := Att.rank_bounds h

/-- a pawn's weight goes down with every pawn move (promotion included). -/
theorem pawn_weight_lt {a : APos} {s t : Nat} {pr : Option Kind} {pc : Piece}
    (nl : NormalLegal a s t pr pc) (hk : pc.kind = .pawn) :
    pieceW true (newPiece pr pc) t < pieceW true pc s := by
  have hs := nl.hs
  have ht := nl.ht
  have hrk : rank t = rank s + pdir pc.white ∨ rank t = rank s + 2 * pdir pc.white := by
    rcases nl.pawnRank hk with h | h
    · exact Or.inl h
    · exact Or.inr h.1
  -- what arrives weighs at most as much as the pawn would on `t`
  have hle : pieceW true (newPiece pr pc) t ≤ pieceW true pc t := by
    cases pr with
    | none => exact Nat.le_refl _
    | some k =>
      have hkk : k ≠ .pawn := fun e => absurd (e ▸ (nl.prK k rfl).2.1) (by decide)
      rw [show newPiece (some k) pc = ⟨pc.white, k⟩ from rfl, pieceW_nonpawn _ _ _ (by exact hkk)]
      exact pieceW_pos _ _ _
  refine Nat.lt_of_le_of_lt hle ?_
  rw [pieceW_pawn _ _ hk, pieceW_pawn _ _ hk]
  unfold rank pdir at hrk
  by_cases hwh : pc.white = true
  · simp only [if_pos hwh] at hrk ⊢; omega
  · simp only [if_neg hwh] at hrk ⊢; omega

theorem pot_castle {a : APos} {ks : Bool} {rf k : Nat} (hv : ValidFacts a) (cf : CastleFacts a ks rf k) :
    pot (apply a (.castle ks)).board = pot a.board := by
  have := wsum_castle (pieceW true) hv cf
  simp only [pieceW_nonpawn _ _ _ (show (⟨a.whiteToMove, .king⟩ : Piece).kind ≠ .pawn by simp),
    pieceW_nonpawn _ _ _ (show (⟨a.whiteToMove, .rook⟩ : Piece).kind ≠ .pawn by simp)] at this
  unfold pot
  omega

/-- the clock is reset exactly by the moves that lower the potential: pawn moves and captures. -/
theorem apply_potential {a : APos} {mv : Move} (hval : Valid a = true) (hl : mv ∈ legalMoves a) :
    pot (apply a mv).board < pot a.board ∨
      (pot (apply a mv).board ≤ pot a.board ∧ (apply a mv).half = a.half + 1) := by
  have hv := (valid_iff a).mp hval
  rcases legal_cases hl with ⟨s, t, pr, pc, rfl, nl, _⟩ | ⟨ks, rfl, hc⟩
  · have e := wsum_newBoard (pieceW true) hv nl
    rw [apply_board nl.hpc]
    by_cases hk : pc.kind = .pawn
    · left
      have := pawn_weight_lt nl hk
      unfold pot
      omega
    · rw [nl.pr_none hk] at e ⊢
      simp only [newPiece, pieceW_nonpawn _ _ _ hk] at e
      cases hcap : a.board t with
      | some y =>
        left
        have := pieceW_pos true y t
        rw [cellW_some hcap] at e
        unfold pot
        omega
      | none =>
        right
        refine ⟨by unfold pot; omega, ?_⟩
        rw [apply_normal nl.hpc]
        simp only [beq_eq_false_iff_ne.mpr hk, hcap]
        rfl
  · obtain ⟨rf, k, cf⟩ := castle_facts hc
    exact Or.inr ⟨Nat.le_of_eq (pot_castle hv cf), (apply_castle_fields cf.hr cf.hk).2.2.2.2.1⟩

theorem pot_le (b : Board) : pot b ≤ 512 := by
  unfold pot wsum
  have : ∀ n, n ≤ 64 → wsumN (cellW (pieceW true) b) n ≤ n * 8 := by
    intro n
    induction n with
    | zero => intro _; exact Nat.le_refl _
    | succ n ih =>
      intro hn
      simp only [wsumN]
      have : cellW (pieceW true) b n ≤ 8 := by
        cases hb : b n with
        | none => rw [cellW_none hb]; omega
        | some pc => rw [cellW_some hb]; exact pieceW_le _ _ _ (by omega)
      have := ih (by omega)
      omega
  exact this 64 (Nat.le_refl _)

end Rawr.Term
