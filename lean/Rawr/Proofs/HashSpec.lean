import Rawr.Proofs.HashLemmas
import Rawr.Proofs.AbsCell
/-! C04(c): `calculateHashK K p = Spec.zobristAbs K (abs p)` for board-consistent `p`; the piece part of the
key as a function of the absolute board (`boardKey`) and its change when one square is written. -/
namespace Rawr.ZH
open Rawr Rawr.Position Rawr.Spec Rawr.FenRel

/-- the key of what stands on square `s`. -/
def cellK (K : ZKeys) (o : Option Piece) (s : Nat) : BB :=
  match o with
  | some pc => K.piece (pieceKeyIndex pc s)
  | none => 0#64

def boardKey (K : ZKeys) (B : Board) : BB := xorSum (fun s => cellK K (B s) s) (List.range 64)

theorem boardKey_congr (K : ZKeys) {B B' : Board} (h : ∀ s, s < 64 → B s = B' s) : boardKey K B = boardKey K B' :=
  xorSum_congr fun s hs => by rw [h s (List.mem_range.mp hs)]

theorem boardKey_setSq (K : ZKeys) (B : Board) {s : Nat} (hs : s < 64) (v : Option Piece) :
    boardKey K (setSq B s v) = boardKey K B ^^^ cellK K (B s) s ^^^ cellK K v s := by
  unfold boardKey
  rw [BitVec.xor_assoc, ← xorSum_single_range (cellK K (B s) s ^^^ cellK K v s) hs, ← xorSum_xor]
  refine xorSum_congr fun x _ => ?_
  unfold setSq
  by_cases h : x = s
  · subst h
    rw [if_pos rfl, if_pos rfl, ← BitVec.xor_assoc, BitVec.xor_self, BitVec.zero_xor]
  · rw [if_neg h, if_neg h, BitVec.xor_zero]

/-- the piece part of the recomputed key is the key of the board shown: on every square the twelve (colour, kind) boards
contribute the key of what stands there. -/
theorem pieceKey_eq_boardKey (K : ZKeys) {p : Position} (h : Consistent p) :
    pieceKey K p.black p.c0 p.c1 p.piece = boardKey K (absBoard p) := by
  have S := shows_abs h
  unfold pieceKey LA boardKey
  simp only [← xorSum_xor]
  refine xorSum_congr fun a ha => ?_
  have hs := absSq_lt p.black (List.mem_range.mp ha)
  have k0 : (p.piece 0).getLsbD _ = _ := S.kind _ hs .pawn
  have k1 : (p.piece 1).getLsbD _ = _ := S.kind _ hs .knight
  have k2 : (p.piece 2).getLsbD _ = _ := S.kind _ hs .bishop
  have k3 : (p.piece 3).getLsbD _ = _ := S.kind _ hs .rook
  have k4 : (p.piece 4).getLsbD _ = _ := S.kind _ hs .queen
  have k5 : (p.piece 5).getLsbD _ = _ := S.kind _ hs .king
  simp only [BitVec.getLsbD_and, S.c0 _ hs, S.c1 _ hs, k0, k1, k2, k3, k4, k5, absSq_absSq]
  rcases absBoard p a with _ | ⟨w, k⟩
  · simp [colP, kindP, cellK]
  · cases w <;> cases k <;> cases p.black <;> simp [colP, kindP, cellK, pieceKeyIndex, zIndex, kindIndex]

theorem spec_fold (b : Board) (g : Piece → Nat → BB) (l : List Nat) :
    l.foldl (fun h s => match b s with | some pc => h ^^^ g pc s | none => h) 0#64 =
      xorSum (fun s => match b s with | some pc => g pc s | none => 0#64) l := by
  unfold xorSum
  congr 1
  funext h s
  split <;> simp [*]

def specEpKey (K : ZKeys) : Option Nat → BB
  | some e => K.ep (e % 8)
  | none => 0#64

theorem zobristAbs_eq (K : ZKeys) (a : APos) :
    zobristAbs K a =
      boardKey K a.board ^^^
      (specEpKey K a.ep ^^^ cnd a.wK.isSome (K.castling 0) ^^^ cnd a.wQ.isSome (K.castling 1) ^^^
        cnd a.bK.isSome (K.castling 2) ^^^ cnd a.bQ.isSome (K.castling 3) ^^^
        cnd (!a.whiteToMove) K.turn) := by
  have ht : ∀ h : BB, (if a.whiteToMove then h else h ^^^ K.turn) = h ^^^ cnd (!a.whiteToMove) K.turn := by
    intro h
    cases a.whiteToMove <;> simp [cnd]
  unfold zobristAbs
  simp only [squares, ite_xor_eq, ht]
  cases a.ep <;> simp only [specEpKey, BitVec.xor_assoc, BitVec.zero_xor] <;>
    exact congrArg (· ^^^ _) (spec_fold a.board (fun pc s => K.piece (pieceKeyIndex pc s)) (List.range 64))

theorem metaKey_abs (K : ZKeys) (p : Position) :
    metaKey K p.black p.ep p.usK p.usQ p.themK p.themQ =
      (specEpKey K (abs p).ep ^^^ cnd (abs p).wK.isSome (K.castling 0) ^^^
        cnd (abs p).wQ.isSome (K.castling 1) ^^^ cnd (abs p).bK.isSome (K.castling 2) ^^^
        cnd (abs p).bQ.isSome (K.castling 3) ^^^ cnd (!(abs p).whiteToMove) K.turn) := by
  have hep : specEpKey K (abs p).ep = epKey K p.ep := by
    simp only [abs]
    cases p.ep with
    | none => rfl
    | some e =>
      cases p.black
      · rfl
      · simp only [Option.map_some, specEpKey, epKey, absSq, if_true, fileOf, x56_mod8]
  have opt : ∀ (b : Bool) (f : Nat), (if b then some f else none : Option Nat).isSome = b := by
    intro b f
    cases b <;> rfl
  rw [hep]
  unfold metaKey abs
  cases p.black <;>
    simp only [opt, col, Bool.false_eq_true, if_false, if_true, Bool.not_true, Bool.not_false] <;>
    ac_rfl

theorem calc_eq_spec (K : ZKeys) (p : Position) (h : Consistent p) :
    calculateHashK K p = zobristAbs K (abs p) := by
  rw [calc_eq, zobristAbs_eq, pieceKey_eq_boardKey K h, metaKey_abs]
  rfl

/-- the specification key looks only at the board, the side to move, which rights are present and the
en-passant file. -/
theorem zobristAbs_congr (K : ZKeys) (a b : APos) (hb : ∀ s, s < 64 → a.board s = b.board s)
    (ht : a.whiteToMove = b.whiteToMove)
    (hwK : a.wK.isSome = b.wK.isSome) (hwQ : a.wQ.isSome = b.wQ.isSome)
    (hbK : a.bK.isSome = b.bK.isSome) (hbQ : a.bQ.isSome = b.bQ.isSome)
    (hep : a.ep.map (· % 8) = b.ep.map (· % 8)) : zobristAbs K a = zobristAbs K b := by
  rw [zobristAbs_eq, zobristAbs_eq, ht, hwK, hwQ, hbK, hbQ]
  have h1 : specEpKey K a.ep = specEpKey K b.ep := by
    cases ha : a.ep <;> cases hb' : b.ep <;> simp [ha, hb'] at hep <;> simp [specEpKey, hep]
  rw [h1]
  exact congrArg (· ^^^ _) (boardKey_congr K hb)

end Rawr.ZH
