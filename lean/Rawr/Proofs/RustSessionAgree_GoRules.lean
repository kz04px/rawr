import Rawr.Proofs.RustSessionAgree_Rules
import Rawr.Proofs.RustSearchAgree_Rules
/-!
# `go` on the positions the properties quantify over

`agree_go` needs (`GoOk`) that the ordering code of the search cannot hit an empty origin square (`OrderOkN`) and that the
moves the driver reports — the principal variation of every iteration and the best move — are between on-board squares
(`Mv::to_uci` panics otherwise).  Both hold for a position in `V ∧ E` with counter room for the search (`VE 1000`) and a
table with bounded scores (`TTBounded`, preserved by the search, true of a new / cleared / resized table):
`orderOkN_of_VE`, and `root_reports_legal` below (every reported move is a generated move of the root position: the
record clause of `root_ok`, `Proofs/RootLemmasIter.lean`).

`agree_go_rules`: **`uci::go::go`** for every command line, with no hypothesis but these two, the iteration bound and —
for `go wtime .. / movetime ..` only — that the model's stop oracle is the one the clock implements.
-/
namespace Rawr.Sess

/-- **the moves `root` reports are generated moves of the root position** (`V ∧ E`, counter room, bounded table). -/
theorem root_reports_legal (lim : Limit) (fuel : Nat) (p : Position) (hist : List BB) (tt : Table TTEntry) (res : RootResult)
    (hV : ValidPos p = true) (hE : Spec.EpConsistent (abs p) = true) (htt : TTBounded tt)
    (hf : (fuel : Int) ≤ Gen.INF + Gen.MATE_SCORE)
    (hh : p.halfmoves + fuel + 64 < 2147483648) (hfm : p.fullmoves + fuel + 64 < 2147483648)
    (h : root lim fuel p hist tt = some res) :
    (∀ r ∈ res.infos, ∀ x ∈ r.pv, x ∈ legalMoves p) ∧ (∀ m, res.best = some m → m ∈ legalMoves p) := by
  obtain ⟨_, h1, h2, h3⟩ := root_ok (negamax_root lim VE searchDomC_VE Gen.INF MATE_le_INF (Int.le_refl _) fuel p
    ⟨hV, hE, hh, hfm⟩ hf) (by decide) htt h
  constructor
  · intro r hr x hx
    obtain ⟨_, m, hm, e⟩ := h3 r hr
    rw [e, List.mem_singleton] at hx
    rw [hx]; exact hm
  · intro m hm
    by_cases hl : legalMoves p = []
    · rw [h2 hl] at hm; cases hm
    · obtain ⟨m', hm', e⟩ := h1 hl
      rw [e] at hm; injection hm with hm; rw [← hm]; exact hm'

/-- the oracle condition of `GoOk`: only the time controls constrain the model's stop oracle. -/
def OracleOk (clk : Nat → Nat) (o : Nat → Bool) (p : Position) : T.GoType → Prop
  | .time w b _ _ mtg => o = fun k => decide (clk k / 1000000 ≥ (if !p.black then w else b) / max (mtg.getD 30) 1)
  | .movetime t => o = fun k => decide (clk k / 1000000 ≥ t)
  | _ => True

theorem goOk_rules (fuel : Nat) (clk : Nat → Nat) (o : Nat → Bool) (s : UState) (u : T.GoType)
    (hV : ValidPos s.pos = true) (hE : Spec.EpConsistent (abs s.pos) = true) (htt : TTBounded s.tt)
    (hh : s.pos.halfmoves + 1000 + 64 < 2147483648) (hfm : s.pos.fullmoves + 1000 + 64 < 2147483648)
    (hfuel : 256 ≤ fuel) (hd : ∀ d, u = .perft d ∨ u = .splitPerft d → d < 256) (ho : OracleOk clk o s.pos u) :
    GoOk fuel clk o s u := by
  have hB := movesOnBoard_of_valid hV
  have search : ∀ lim, toLimit (fun k => clk k / 1000000) s.pos (T.toSettings u) = some lim → goLimit o (goToModel u) = some lim →
      OrderOkN 1000 s.pos ∧ toLimit (fun k => clk k / 1000000) s.pos (T.toSettings u) = goLimit o (goToModel u) ∧
      ∀ lim res, goLimit o (goToModel u) = some lim → root lim 1000 s.pos s.hist s.tt = some res → ResOnBoard res := by
    intro lim h1 h2
    refine ⟨orderOkN_of_VE 1000 s.pos ⟨hV, hE, hh, hfm⟩, h1.trans h2.symm, ?_⟩
    intro lim' res _ hres
    obtain ⟨hp, hb⟩ := root_reports_legal lim' 1000 s.pos s.hist s.tt res hV hE htt (by decide) hh hfm hres
    exact ⟨fun r hr m hm => hB m (hp r hr m hm), fun m hm => hB m (hb m hm)⟩
  cases u with
  | perft d => have := hd d (Or.inl rfl); show d < fuel; omega
  | splitPerft d => have := hd d (Or.inr rfl); exact ⟨by omega, hB⟩
  | time w b wi bi m =>
    have ho' : o = fun k => decide (clk k / 1000000 ≥ (if !s.pos.black then w else b) / max (m.getD 30) 1) := ho
    exact search _ rfl (by rw [ho']; rfl)
  | movetime t =>
    have ho' : o = fun k => decide (clk k / 1000000 ≥ t) := ho
    exact search _ rfl (by rw [ho']; rfl)
  | depth d => exact search _ rfl rfl
  | nodes n => exact search _ rfl rfl
  | infinite => exact search _ rfl rfl

theorem parseUnsigned_lt (b : Nat) (s : List Char) (n : Nat) (h : parseUnsigned b s = some n) : n < b := by
  unfold parseUnsigned at h
  -- whatever digits are read, the value is returned only after the test against the bound
  rcases ite_cases h with ⟨_, h⟩ | ⟨_, h⟩
  · cases h
  · rcases ite_cases h with ⟨c, h⟩ | ⟨_, h⟩
    · injection h with h
      exact h ▸ c
    · cases h

theorem parseGoLoop_small : ∀ (fuel : Nat) (toks : List (List Char)) (a a' : GoArgs),
    ((∀ d, a.perft = some d → d < 256) ∧ (∀ d, a.split = some d → d < 256)) → parseGoLoop fuel toks a = some a' →
    (∀ d, a'.perft = some d → d < 256) ∧ (∀ d, a'.split = some d → d < 256) := by
  intro fuel
  induction fuel with
  | zero => intro toks a a' hinv h; simp only [parseGoLoop, Option.some.injEq] at h; rw [← h]; exact hinv
  | succ fuel ih =>
    intro toks a a' hinv h
    rw [parseGoLoop] at h
    -- the nine keywords that set a field other than `perft` and `split`
    iterate 9
      rcases ite_cases h with ⟨_, h1⟩ | ⟨_, h⟩
      · refine ih _ _ _ ?_ h1
        exact hinv
    rcases ite_cases h with ⟨_, h1⟩ | ⟨_, h⟩
    · refine ih _ _ _ ?_ h1
      exact ⟨fun d hd => parseUnsigned_lt _ _ _ hd, hinv.2⟩
    rcases ite_cases h with ⟨_, h1⟩ | ⟨_, h⟩
    · refine ih _ _ _ ?_ h1
      exact ⟨hinv.1, fun d hd => parseUnsigned_lt _ _ _ hd⟩
    rcases ite_cases h with ⟨_, h1⟩ | ⟨_, h⟩
    · cases h1; exact hinv
    · cases h

theorem parseGo_small (toks : List (List Char)) (d : Nat) (h : parseGo toks = some (.perft d) ∨ parseGo toks = some (.split d)) :
    d < 256 := by
  rw [parseGo_eq] at h
  cases hl : parseGoLoop (toks.length + 1) toks {} with
  | none => rw [hl] at h; rcases h with h | h <;> cases h
  | some a =>
    have hs := parseGoLoop_small _ _ _ a ⟨fun d hd => (by cases hd), fun d hd => (by cases hd)⟩ hl
    rw [hl] at h
    simp only [Option.bind_some, goSelect] at h
    rcases h with h | h
    · split at h <;> simp only [Option.some.injEq, reduceCtorEq, GoKind.perft.injEq] at h
      subst h
      exact hs.1 _ (by assumption)
    · split at h <;> simp only [Option.some.injEq, reduceCtorEq, GoKind.split.injEq] at h
      subst h
      exact hs.2 _ (by assumption)

/-- the depth of a `perft` / `split` command that go.rs parsed fits `u8`. -/
theorem parse_go_small {fuel : Nat} {toks st : List (List Char)} {u : T.GoType} (hfuel : toks.length + 1 ≤ fuel)
    (hp : R.parse_go fuel toks = some (some u, st)) (d : Nat) (hd : u = .perft d ∨ u = .splitPerft d) : d < 256 := by
  have hpg := agree_parse_go fuel toks hfuel
  rw [hp] at hpg
  simp only [Option.map_some, Option.some.injEq] at hpg
  apply parseGo_small toks d
  rcases hd with rfl | rfl
  · left; exact hpg.symm
  · right; exact hpg.symm

/-- **`uci::go::go`** on a valid position (`V ∧ E`, room for 1000 + 64 plies in the counters) with a bounded table. -/
theorem _root_.Rawr.agree_go_rules (fuel : Nat) (ar : Arith) (clk : Nat → Nat) (o : Nat → Bool) (s : UState) (toks : List (List Char))
    (hfuel : toks.length + 1 ≤ fuel) (hfuel2 : 256 ≤ fuel)
    (hV : ValidPos s.pos = true) (hE : Spec.EpConsistent (abs s.pos) = true) (htt : TTBounded s.tt)
    (hh : s.pos.halfmoves + 1000 + 64 < 2147483648) (hfm : s.pos.fullmoves + 1000 + 64 < 2147483648)
    (ho : ∀ u st, R.parse_go fuel toks = some (some u, st) → OracleOk clk o s.pos u) :
    GoRel s (doGo ar o s toks) (R.go fuel ar 1000 clk toks s.pos s.hist.reverse s.tt) :=
  agree_go fuel ar clk o s toks hfuel fun u st hp =>
    goOk_rules fuel clk o s u hV hE htt hh hfm hfuel2 (parse_go_small hfuel hp) (ho u st hp)

theorem ttBounded_fresh (mb : Nat) : TTBounded ((Table.new 0 Gen.ttEntrySize : Table TTEntry).resize mb Gen.ttEntrySize) := by
  have h0 : (Table.new 0 Gen.ttEntrySize : Table TTEntry) = ⟨#[]⟩ := by
    unfold Table.new Table.resize Table.numEntries; simp
  rw [h0]
  unfold Table.resize
  simp only [Array.size_empty, Nat.le_zero_eq, Nat.sub_zero, Array.empty_append]
  split
  · rename_i h; rw [h]; exact TTIn.replicate (by decide) 0
  · exact TTIn.replicate (by decide) _

theorem listenOk_goScript (ar : Arith) (clk : Nat → Nat) (o : Nat → Bool) :
    ListenOk VE 300 ar clk o ["isready".toList, "go depth 1".toList, "quit".toList] := by
  intro pos s got rest hsf hfl
  rw [setFen_startpos] at hsf
  injection hsf with hsf
  subst hsf
  have hf : firstLoop ["isready".toList, "go depth 1".toList, "quit".toList]
      { hashMb := 16, frc := false, pos := Gen.startpos, hist := [Gen.startpos.hash], tt := Table.new 0 Gen.ttEntrySize } =
      some ({ hashMb := 16, frc := false, pos := Gen.startpos, hist := [Gen.startpos.hash], tt := Table.new 0 Gen.ttEntrySize },
        true, ["go depth 1".toList, "quit".toList]) := by
    simp only [firstLoop]
    rfl
  rw [hf] at hfl
  simp only [Option.some.injEq, Prod.mk.injEq] at hfl
  obtain ⟨rfl, rfl, rfl⟩ := hfl
  have hcmd : (splitWs "go depth 1".toList).headD [] = str "go" := by decide +kernel
  refine ⟨⟨fun _ => ⟨by decide +kernel, fun u st hp => ?_⟩, fun e => absurd e (ne_str hcmd (by decide)),
    fun e => absurd e (ne_str hcmd (by decide)), fun e => ?_⟩,
    fun s' L _ => ⟨stepOk_plain VE 300 ar clk o s' (c := "quit") (by decide +kernel) (by decide), fun _ _ _ => trivial⟩⟩
  · have hVE := startpos_VE
    refine goOk_rules 300 clk o _ u hVE.1 hVE.2.1 (ttBounded_fresh 16) hVE.2.2.1 hVE.2.2.2 (by decide)
      (parse_go_small (by decide +kernel) hp) ?_
    have hpg := agree_parse_go 300 ((splitWs "go depth 1".toList).drop 1) (by decide +kernel)
    rw [hp] at hpg
    simp only [Option.map_some, Option.some.injEq] at hpg
    have : parseGo ((splitWs "go depth 1".toList).drop 1) = some (.depth 1) := by rfl
    rw [this] at hpg
    cases u <;> simp only [goToModel, Option.some.injEq, reduceCtorEq] at hpg <;> trivial
  · rcases e with e | e | e <;> exact absurd e (ne_str hcmd (by decide))

/-- so the canonical transcript of the regenerated listen.rs on it — banner, `readyok`, the `info` line with `time ?`,
`bestmove ..` — is the model's. -/
example (ar : Arith) (clk : Nat → Nat) (o : Nat → Bool) :
    (R.listen 300 ar 1000 clk none ["isready".toList, "go depth 1".toList, "quit".toList]).map (fun r => transcript r.2) =
      listen ar o ["isready".toList, "go depth 1".toList, "quit".toList] :=
  agree_listen VE VE_onBoard (fun n _ h => VE_le h (Nat.le_succ n)) searchDomC_VE.move 300 ar clk o none _ (by decide) (by decide) (listenOk_goScript ar clk o)

end Rawr.Sess

#print axioms Rawr.agree_go_rules
