import Rawr.Model.Uci
import Rawr.Proofs.Hashtable
/-! The second loop of `listen` as a state machine: `steps` iterates `stepSecond` and concatenates the outputs
(`secondLoop_eq`); the selection of a move by a token (`castleSel`, `denote`); the invariant `UInv` of the loop (table length =
configured size, `pos.frc = frc`); what `setoption` and the first loop can do to the state. `cmdOf` / `argsOf` are the
command word and the arguments of a line: `stepSecond` and `firstLoop` are read through them (`stepSecond_*` in
`Proofs/UciStep.lean`, `firstLoop_cons_*` here). -/
namespace Rawr

def cmdOf (line : List Char) : List Char := (splitWs line).headD []
def argsOf (line : List Char) : List (List Char) := (splitWs line).drop 1

/-- comparing command words is comparing string literals, which `String.reduceBEq` evaluates. -/
theorem str_beq (a b : String) : (str a == str b) = (a == b) := by
  unfold str
  rw [Bool.eq_iff_iff, beq_iff_eq, beq_iff_eq, String.toList_inj]

/-- run the second loop over `lines`: final state, concatenated output, "has quit". `none` = panic. -/
def steps (ar : Arith) (clock : Nat → Bool) : UState → List (List Char) → Option (UState × List String × Bool)
  | s, [] => some (s, [], false)
  | s, l :: ls =>
    match stepSecond ar clock s l with
    | none => none
    | some (s', o, true) => some (s', o, true)
    | some (s', o, false) =>
      match steps ar clock s' ls with
      | none => none
      | some (s'', o', q) => some (s'', o ++ o', q)

theorem secondLoop_eq (ar : Arith) (clock : Nat → Bool) (ls : List (List Char)) (s : UState) (out : List String) :
    secondLoop ar clock ls s out = (steps ar clock s ls).map fun r => out ++ r.2.1 := by
  induction ls generalizing s out with
  | nil => simp [secondLoop, steps]
  | cons l ls ih =>
    unfold secondLoop steps
    cases h : stepSecond ar clock s l with
    | none => rfl
    | some r =>
      obtain ⟨s', o, q⟩ := r
      cases q with
      | true => simp
      | false =>
        simp only [Bool.false_eq_true, if_false]
        rw [ih]
        cases steps ar clock s' ls with
        | none => rfl
        | some r => simp [List.append_assoc]

theorem steps_append (ar : Arith) (clock : Nat → Bool) (s : UState) (a b : List (List Char)) :
    steps ar clock s (a ++ b) =
      match steps ar clock s a with
      | none => none
      | some (s', o, true) => some (s', o, true)
      | some (s', o, false) => (steps ar clock s' b).map fun r => (r.1, o ++ r.2.1, r.2.2) := by
  induction a generalizing s with
  | nil =>
    simp only [List.nil_append, steps, List.nil_append]
    cases steps ar clock s b with
    | none => rfl
    | some r => rfl
  | cons l ls ih =>
    simp only [List.cons_append, steps]
    cases h : stepSecond ar clock s l with
    | none => rfl
    | some r =>
      obtain ⟨s', o, q⟩ := r
      cases q with
      | true => rfl
      | false =>
        simp only
        rw [ih]
        cases h2 : steps ar clock s' ls with
        | none => rfl
        | some r2 =>
          obtain ⟨s2, o2, q2⟩ := r2
          cases q2 with
          | true => rfl
          | false =>
            simp only
            cases steps ar clock s2 b with
            | none => rfl
            | some r3 => simp [List.append_assoc]

/-- the closure `castling` of `uci::moves::moves`. -/
def castleSel (pos : Position) (whiteString : Bool) (file : Nat) : Option Mv :=
  let mv : Mv := ⟨4, fromCoords file 0, 6⟩
  if whiteString == !pos.black && pos.c0.isSet mv.dst && (legalMoves pos).contains mv then some mv else none

/-- the move a token selects (`mv` in `uci::moves::moves`). -/
def denote (pos : Position) (t : List Char) : Option Mv :=
  match (legalMoves pos).find? fun m => toUciChars pos m == t with
  | some m => some m
  | none =>
    if t == str "e1g1" then castleSel pos true pos.cf0
    else if t == str "e1c1" then castleSel pos true pos.cf1
    else if t == str "e8g8" then castleSel pos false pos.cf0
    else if t == str "e8c8" then castleSel pos false pos.cf1
    else none

theorem applyToken_eq (pos : Position) (hist : List BB) (t : List Char) :
    applyToken pos hist t =
      match denote pos t with
      | none => some (pos, hist, ["info string unknown move " ++ String.ofList t])
      | some m =>
        match pos.makemove m true with
        | none => none
        | some np => some (np, np.hash :: hist, []) := by
  unfold applyToken denote castleSel
  generalize legalMoves pos = L
  generalize pos.makemove = mk
  rfl

structure UInv (s : UState) : Prop where
  len : s.tt.len = Table.numEntries s.hashMb Gen.ttEntrySize
  frc : s.pos.frc = s.frc

/-- the state `ucinewgame` leads to from every state with these option values whose table has the configured size
(`stepSecond_ucinewgame_fresh` in `Props/C16.lean`). -/
def fresh (hashMb : Nat) (frc : Bool) : UState :=
  { hashMb := hashMb, frc := frc, pos := { Gen.startpos with frc := frc },
    hist := [Gen.startpos.hash], tt := Table.new hashMb Gen.ttEntrySize }

theorem fresh_inv (hashMb : Nat) (frc : Bool) : UInv (fresh hashMb frc) :=
  ⟨Table.len_new _ _, rfl⟩

/-- what `setoption` can do to the state: nothing, set the hash size (the second loop resizes the table at once), set the
Chess960 flag of state and position. -/
theorem doSetoption_cases {P : UState → Prop} (s : UState) (toks : List (List Char)) (second : Bool) (keep : P s)
    (hash : ∀ h, P (if second then { s with hashMb := h, tt := s.tt.resize h Gen.ttEntrySize } else { s with hashMb := h }))
    (frc : ∀ f, P { s with frc := f, pos := { s.pos with frc := f } }) : P (doSetoption s toks second) := by
  unfold doSetoption
  split
  · split
    · exact keep
    · split
      · split
        · exact hash _
        · exact keep
      · split
        · exact frc _
        · exact keep
  · exact keep

theorem doSetoption_inv {s : UState} (h : UInv s) (toks : List (List Char)) : UInv (doSetoption s toks true) :=
  doSetoption_cases s toks true h (fun _ => ⟨Table.len_resize _ _ _, h.frc⟩) fun _ => ⟨h.len, rfl⟩

theorem doSetoption_frc {s : UState} (h : s.pos.frc = s.frc) (toks : List (List Char)) (b : Bool) :
    (doSetoption s toks b).pos.frc = (doSetoption s toks b).frc :=
  doSetoption_cases (P := fun t => t.pos.frc = t.frc) s toks b h (fun _ => by split <;> exact h) fun _ => rfl

theorem doSetoption_hist (s : UState) (toks : List (List Char)) (second : Bool) : (doSetoption s toks second).hist = s.hist :=
  doSetoption_cases (P := fun t => t.hist = s.hist) s toks second rfl (fun _ => by split <;> rfl) fun _ => rfl

theorem doSetoption_tt (s : UState) (toks : List (List Char)) : (doSetoption s toks false).tt = s.tt :=
  doSetoption_cases (P := fun t => t.tt = s.tt) s toks false rfl (fun _ => rfl) fun _ => rfl

/-- the first loop on a line, by its command word: `isready` ends it, `setoption` is consumed, `quit` ends the process. -/
theorem firstLoop_cons_isready {l : List Char} (h : cmdOf l = str "isready") (ls : List (List Char)) (s : UState) :
    firstLoop (l :: ls) s = some (s, true, ls) := by
  unfold cmdOf at h
  simp only [firstLoop, h, BEq.rfl, ↓reduceIte]

theorem firstLoop_cons_setoption {l : List Char} (h : cmdOf l = str "setoption") (ls : List (List Char)) (s : UState) :
    firstLoop (l :: ls) s = firstLoop ls (doSetoption s (argsOf l) false) := by
  unfold cmdOf at h
  simp only [firstLoop, argsOf, h, str_beq, String.reduceBEq, BEq.rfl, Bool.false_eq_true, ↓reduceIte]

theorem firstLoop_cons_quit {l : List Char} (h : cmdOf l = str "quit") (ls : List (List Char)) (s : UState) :
    firstLoop (l :: ls) s = none := by
  unfold cmdOf at h
  simp only [firstLoop, h, str_beq, String.reduceBEq, Bool.false_eq_true, ↓reduceIte]

/-- `[]` among the lines left stands for the end of input. -/
theorem firstLoop_inv (P : UState → Prop) (hP : ∀ s toks, P s → P (doSetoption s toks false)) :
    ∀ (lines : List (List Char)) (s s' : UState) (g : Bool) (rest : List (List Char)),
      P s → firstLoop lines s = some (s', g, rest) →
      P s' ∧ (∀ l ∈ rest, l ∈ lines ∨ l = []) ∧ rest.length ≤ lines.length + 1 := by
  intro lines
  induction lines with
  | nil =>
    intro s s' g rest hs h
    simp only [firstLoop, Option.some.injEq, Prod.mk.injEq] at h
    rw [← h.1, ← h.2.2]
    exact ⟨hs, fun l hl => Or.inr (by simpa using hl), Nat.le_refl _⟩
  | cons l ls ih =>
    intro s s' g rest hs h
    simp only [firstLoop] at h
    split at h
    · simp only [Option.some.injEq, Prod.mk.injEq] at h
      rw [← h.1, ← h.2.2]
      exact ⟨hs, fun x hx => Or.inl (List.mem_cons_of_mem _ hx), by simp; omega⟩
    · split at h
      · obtain ⟨h1, h2, h3⟩ := ih _ _ _ _ (hP _ _ hs) h
        exact ⟨h1, fun x hx => (h2 x hx).imp (List.mem_cons_of_mem _) id, by simp; omega⟩
      · split at h
        · cases h
        · simp only [Option.some.injEq, Prod.mk.injEq] at h
          rw [← h.1, ← h.2.2]
          exact ⟨hs, fun x hx => Or.inl hx, by simp⟩

end Rawr
