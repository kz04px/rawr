import Rawr.Model.Fen
import Rawr.Abs
import Rawr.Spec.Fen
import Rawr.Proofs.Leapers
/-! Shared definitions for the FEN proofs (C06, C07): the bitboards spelled out by a coordinate board. -/
namespace Rawr
open Spec

/-- square `s` of `b` holds a piece of colour `white`. -/
def isCol (b : Board) (white : Bool) (s : Nat) : Bool :=
  match b s with | some pc => pc.white == white | none => false

/-- square `s` of `b` holds a piece of kind `k`. -/
def isKind (b : Board) (k : Kind) (s : Nat) : Bool :=
  match b s with | some pc => pc.kind == k | none => false

/-- `q` with the eight boards replaced by the ones `b` spells out in absolute coordinates
(`c0` = White's pieces, `c1` = Black's): what the board loop of `set_fen` builds before the optional flip. -/
def placeAbs (b : Board) (q : Position) : Position :=
  { q with
    c0 := geomBB (isCol b true), c1 := geomBB (isCol b false),
    p0 := geomBB (isKind b .pawn), p1 := geomBB (isKind b .knight), p2 := geomBB (isKind b .bishop),
    p3 := geomBB (isKind b .rook), p4 := geomBB (isKind b .queen), p5 := geomBB (isKind b .king) }

def BoardsEmpty (q : Position) : Prop :=
  q.c0 = 0#64 ∧ q.c1 = 0#64 ∧ q.p0 = 0#64 ∧ q.p1 = 0#64 ∧ q.p2 = 0#64 ∧ q.p3 = 0#64 ∧ q.p4 = 0#64 ∧ q.p5 = 0#64

end Rawr
