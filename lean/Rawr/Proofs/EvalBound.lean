import Rawr.Model.Eval
import Rawr.Proofs.FlipLemmas
/-! Bounds for the evaluation over the extracted tables. `Score.Bnd s B C` (both components within `±B`, `eg - mg` within `±C`)
is closed under `add`, `sub`, `mul_nat` and carries a budget per man through `eval_us`: `evalUsT_bnd`, under `PieceDisj`. The
phase is bounded from the number of officers (`phase_bnd`, with `OnMen` and `sum_count_officers_le`), and
`taper_bnd` puts the two together; `I32` is the range everything has to stay in. The means: population-count inequalities,
sums of bounded `Score`s, truncating division. -/
namespace Rawr

theorem countP6_le (f0 f1 f2 f3 f4 f5 g : Nat → Bool) (l : List Nat)
    (h : ∀ x ∈ l, (f0 x).toNat + (f1 x).toNat + (f2 x).toNat + (f3 x).toNat + (f4 x).toNat +
      (f5 x).toNat ≤ (g x).toNat) :
    l.countP f0 + l.countP f1 + l.countP f2 + l.countP f3 + l.countP f4 + l.countP f5
      ≤ l.countP g := by
  induction l with
  | nil => simp
  | cons x l ih =>
    have hx := h x List.mem_cons_self
    have ih' := ih (fun y hy => h y (List.mem_cons_of_mem _ hy))
    have e : ∀ f : Nat → Bool, (x :: l).countP f = l.countP f + (f x).toNat := by
      intro f
      rw [List.countP_cons]
      cases f x <;> rfl
    rw [e f0, e f1, e f2, e f3, e f4, e f5, e g]
    omega

theorem bool6 : ∀ a0 a1 a2 a3 a4 a5 c : Bool,
    (a0 && a1) = false → (a0 && a2) = false → (a0 && a3) = false → (a0 && a4) = false →
    (a0 && a5) = false → (a1 && a2) = false → (a1 && a3) = false → (a1 && a4) = false →
    (a1 && a5) = false → (a2 && a3) = false → (a2 && a4) = false → (a2 && a5) = false →
    (a3 && a4) = false → (a3 && a5) = false → (a4 && a5) = false →
    (a0 && c).toNat + (a1 && c).toNat + (a2 && c).toNat + (a3 && c).toNat + (a4 && c).toNat +
      (a5 && c).toNat ≤ c.toNat := by decide

/-- The six piece boards are pairwise disjoint (part of `Consistent`, V.1). -/
def PieceDisj (p : Position) : Prop :=
  p.p0 &&& p.p1 = 0#64 ∧ p.p0 &&& p.p2 = 0#64 ∧ p.p0 &&& p.p3 = 0#64 ∧ p.p0 &&& p.p4 = 0#64 ∧
  p.p0 &&& p.p5 = 0#64 ∧ p.p1 &&& p.p2 = 0#64 ∧ p.p1 &&& p.p3 = 0#64 ∧ p.p1 &&& p.p4 = 0#64 ∧
  p.p1 &&& p.p5 = 0#64 ∧ p.p2 &&& p.p3 = 0#64 ∧ p.p2 &&& p.p4 = 0#64 ∧ p.p2 &&& p.p5 = 0#64 ∧
  p.p3 &&& p.p4 = 0#64 ∧ p.p3 &&& p.p5 = 0#64 ∧ p.p4 &&& p.p5 = 0#64

theorem PieceDisj.flip {p : Position} (h : PieceDisj p) : PieceDisj p.flip := by
  unfold PieceDisj at *
  simp only [Position.flip_p0, Position.flip_p1, Position.flip_p2, Position.flip_p3,
    Position.flip_p4, Position.flip_p5, ← flipBB_and_distrib]
  obtain ⟨h1, h2, h3, h4, h5, h6, h7, h8, h9, h10, h11, h12, h13, h14, h15⟩ := h
  simp only [h1, h2, h3, h4, h5, h6, h7, h8, h9, h10, h11, h12, h13, h14, h15, flipBB_zero,
    and_self]

/-- With pairwise disjoint piece boards, the men of the six kinds inside a board `c` number at most
`count c`. -/
theorem sum_count_pieces_le {p : Position} (h : PieceDisj p) (c : BB) :
    count (p.p0 &&& c) + count (p.p1 &&& c) + count (p.p2 &&& c) + count (p.p3 &&& c) +
      count (p.p4 &&& c) + count (p.p5 &&& c) ≤ count c := by
  simp only [count_eq_countP]
  apply countP6_le
  intro x _
  obtain ⟨h1, h2, h3, h4, h5, h6, h7, h8, h9, h10, h11, h12, h13, h14, h15⟩ := h
  simp only [BitVec.getLsbD_and]
  exact bool6 _ _ _ _ _ _ _ (and_zero_bit h1 x) (and_zero_bit h2 x)
    (and_zero_bit h3 x) (and_zero_bit h4 x) (and_zero_bit h5 x)
    (and_zero_bit h6 x) (and_zero_bit h7 x) (and_zero_bit h8 x)
    (and_zero_bit h9 x) (and_zero_bit h10 x) (and_zero_bit h11 x)
    (and_zero_bit h12 x) (and_zero_bit h13 x) (and_zero_bit h14 x)
    (and_zero_bit h15 x)

/-- Both components lie in `[-B, B]` and their difference `eg - mg` in `[-C, C]`. -/
def Score.Bnd (s : Score) (B C : Int) : Prop :=
  -B ≤ s.1 ∧ s.1 ≤ B ∧ -B ≤ s.2 ∧ s.2 ≤ B ∧ -C ≤ s.2 - s.1 ∧ s.2 - s.1 ≤ C

instance (s : Score) (B C : Int) : Decidable (s.Bnd B C) := by
  unfold Score.Bnd; exact inferInstance

theorem Score.Bnd.mono {s : Score} {A B C D : Int} (h : s.Bnd A C) (hAB : A ≤ B) (hCD : C ≤ D) :
    s.Bnd B D := by
  unfold Score.Bnd at *; omega

theorem Score.Bnd.add {s t : Score} {A B C D : Int} (hs : s.Bnd A C) (ht : t.Bnd B D) :
    (s.add t).Bnd (A + B) (C + D) := by
  unfold Score.Bnd Score.add at *; simp only; omega

theorem Score.Bnd.sub {s t : Score} {A B C D : Int} (hs : s.Bnd A C) (ht : t.Bnd B D) :
    (s.sub t).Bnd (A + B) (C + D) := by
  unfold Score.Bnd Score.sub at *; simp only; omega

theorem int_mul_bnd {x y : Int} {A B : Nat} (hx : -(A : Int) ≤ x ∧ x ≤ A)
    (hy : -(B : Int) ≤ y ∧ y ≤ B) :
    -((A * B : Nat) : Int) ≤ x * y ∧ x * y ≤ ((A * B : Nat) : Int) := by
  have h1 : x.natAbs ≤ A := by omega
  have h2 : y.natAbs ≤ B := by omega
  have h3 : (x * y).natAbs ≤ A * B := by
    rw [Int.natAbs_mul]; exact Nat.mul_le_mul h1 h2
  omega

theorem Score.Bnd.mul_nat {t : Score} {M K : Nat} (ht : t.Bnd M K) (n : Nat) :
    (t.mul (n : Int)).Bnd ((M * n : Nat) : Int) ((K * n : Nat) : Int) := by
  unfold Score.Bnd Score.mul at *
  have hn : -(n : Int) ≤ (n : Int) ∧ (n : Int) ≤ n := by omega
  have a := int_mul_bnd (x := t.1) (y := n) (A := M) (B := n) ⟨ht.1, ht.2.1⟩ hn
  have b := int_mul_bnd (x := t.2) (y := n) (A := M) (B := n) ⟨ht.2.2.1, ht.2.2.2.1⟩ hn
  have c := int_mul_bnd (x := t.2 - t.1) (y := n) (A := K) (B := n) ⟨ht.2.2.2.2.1, ht.2.2.2.2.2⟩ hn
  rw [Int.sub_mul] at c
  simp only
  omega

/-- Adding `l.length` scores, each within `±M` (difference `±K`), to a score within `±B` (`±C`). -/
theorem foldl_add_bnd (f : Nat → Score) (M K : Nat) (l : List Nat)
    (hf : ∀ x ∈ l, (f x).Bnd M K) :
    ∀ (s : Score) (B C : Int), s.Bnd B C →
      (l.foldl (fun s x => s.add (f x)) s).Bnd (B + ((l.length * M : Nat) : Int))
        (C + ((l.length * K : Nat) : Int)) := by
  induction l with
  | nil => intro s B C h; simpa using h
  | cons x l ih =>
    intro s B C h
    rw [List.foldl_cons]
    have h1 := ih (fun y hy => hf y (List.mem_cons_of_mem _ hy)) (s.add (f x)) (B + M) (C + K)
      (h.add (hf x List.mem_cons_self))
    refine h1.mono ?_ ?_
    · rw [List.length_cons, Nat.add_mul]; omega
    · rw [List.length_cons, Nat.add_mul]; omega

theorem tdiv_eq (a c : Int) : a.tdiv c = if 0 ≤ a then a / c else -((-a) / c) := by
  split
  · next h => exact Int.tdiv_eq_ediv_of_nonneg h
  · next h =>
    have : (-a).tdiv c = (-a) / c := Int.tdiv_eq_ediv_of_nonneg (by omega)
    rw [← this, Int.neg_tdiv, Int.neg_neg]

/-! ### the extracted tables

`(900, 0)` piece values, `(90, 0)` passed pawns, `(25, 0)` open file, `(20, 20)` shield,
`(173, 137)` square tables: maximal absolute entry and maximal `|eg - mg|`. -/

theorem gen_passed_bnd (r : Nat) : (genEvalTables.passed r).Bnd (90 : Nat) (0 : Nat) := by
  unfold genEvalTables
  simp only
  by_cases h : r < 8
  · revert r; decide
  · rw [Array.getElem?_eq_none (by simpa [Gen.evPassedPawns] using h)]; decide

theorem gen_pieceValue_bnd (i : Nat) : (genEvalTables.pieceValue i).Bnd (900 : Nat) (0 : Nat) := by
  unfold genEvalTables
  simp only
  by_cases h : i < 6
  · revert i; decide
  · rw [Array.getElem?_eq_none (by simpa [Gen.evPieceValues] using h)]; decide

theorem gen_pst_bnd (i sq : Nat) : (genEvalTables.pst i sq).Bnd (173 : Nat) (137 : Nat) := by
  unfold genEvalTables
  simp only
  have hall : Gen.evPst.toList.all (fun s => decide (Score.Bnd s (173 : Nat) (137 : Nat))) = true := by
    decide +kernel
  cases h : Gen.evPst[i * 64 + sq]? with
  | none => decide
  | some v =>
    have hm : v ∈ Gen.evPst.toList := Array.mem_toList_iff.mpr (Array.mem_of_getElem? h)
    exact of_decide_eq_true (List.all_eq_true.mp hall v hm)

theorem gen_rook_bnd : genEvalTables.rookOpenFile.Bnd (25 : Nat) (0 : Nat) := by decide
theorem gen_shield_bnd : genEvalTables.kingPawnShield.Bnd (20 : Nat) (20 : Nat) := by decide

/-- One iteration of the `for i in 0..6` loop of `eval_us`. -/
def kindStep (T : EvalTables) (p : Position) (s : Score) (i : Nat) : Score :=
  (toList (p.piece i &&& p.c0)).foldl (fun s sq => s.add (T.pst i sq))
    (s.add ((T.pieceValue i).mul (count (p.piece i &&& p.c0))))

theorem kindStep_bnd (p : Position) (s : Score) (i : Nat) (B C : Int) (h : s.Bnd B C) :
    (kindStep genEvalTables p s i).Bnd (B + ((count (p.piece i &&& p.c0) * 1073 : Nat) : Int))
      (C + ((count (p.piece i &&& p.c0) * 137 : Nat) : Int)) := by
  have h1 := h.add ((gen_pieceValue_bnd i).mul_nat (count (p.piece i &&& p.c0)))
  have h2 := foldl_add_bnd (genEvalTables.pst i) 173 137 (toList (p.piece i &&& p.c0))
    (fun x _ => gen_pst_bnd i x) _ _ _ h1
  rw [length_toList] at h2
  unfold kindStep
  exact h2.mono (by omega) (by omega)

theorem count_passedPawns_le (us them : BB) : count (passedPawns us them) ≤ count us := by
  unfold passedPawns
  exact count_and_le_left _ _

/-- The part of `eval_us` before the loop over the kinds. -/
def evalUsPre (T : EvalTables) (p : Position) : Score :=
  (((toList (passedPawns (p.p0 &&& p.c0) (p.p0 &&& p.c1))).foldl
      (fun (s : Score) sq => s.add (T.passed (rankOf sq))) (0, 0)).add
    (T.kingPawnShield.mul (count (kingShield (lsb (p.p5 &&& p.c0)) &&& (p.p0 &&& p.c0))))).add
    (T.rookOpenFile.mul (count (openFiles p.p0 &&& p.c0 &&& p.p3)))

theorem evalUsT_eq (T : EvalTables) (p : Position) :
    evalUsT T p = (List.range 6).foldl (kindStep T p) (evalUsPre T p) := rfl

theorem evalUsPre_bnd (p : Position) :
    (evalUsPre genEvalTables p).Bnd ((count p.c0 * 135 : Nat) : Int)
      ((count p.c0 * 20 : Nat) : Int) := by
  have h0 : Score.Bnd (0, 0) 0 0 := by decide
  have h1 := foldl_add_bnd (fun sq => genEvalTables.passed (rankOf sq)) 90 0
    (toList (passedPawns (p.p0 &&& p.c0) (p.p0 &&& p.c1))) (fun x _ => gen_passed_bnd _) _ _ _ h0
  rw [length_toList] at h1
  have h2 := h1.add (gen_shield_bnd.mul_nat
    (count (kingShield (lsb (p.p5 &&& p.c0)) &&& (p.p0 &&& p.c0))))
  have h3 := h2.add (gen_rook_bnd.mul_nat (count (openFiles p.p0 &&& p.c0 &&& p.p3)))
  unfold evalUsPre
  have c1 := count_passedPawns_le (p.p0 &&& p.c0) (p.p0 &&& p.c1)
  have c1' := count_and_le_right p.p0 p.c0
  have c2 := count_and_le_right (kingShield (lsb (p.p5 &&& p.c0))) (p.p0 &&& p.c0)
  have c3 := count_and_le_left (openFiles p.p0 &&& p.c0) p.p3
  have c3' := count_and_le_right (openFiles p.p0) p.c0
  exact h3.mono (by omega) (by omega)

/-- `eval_us` with pairwise disjoint piece boards: each component is at most `1208` per man of the
side (`900 + 173` material and square, `90` passed pawn, `20` shield, `25` open file), and the
difference `eg - mg` at most `157` per man (`137` square, `20` shield). -/
theorem evalUsT_bnd {p : Position} (hd : PieceDisj p) :
    (evalUsT genEvalTables p).Bnd ((count p.c0 * 1208 : Nat) : Int)
      ((count p.c0 * 157 : Nat) : Int) := by
  have k0 := kindStep_bnd p _ 0 _ _ (evalUsPre_bnd p)
  have k1 := kindStep_bnd p _ 1 _ _ k0
  have k2 := kindStep_bnd p _ 2 _ _ k1
  have k3 := kindStep_bnd p _ 3 _ _ k2
  have k4 := kindStep_bnd p _ 4 _ _ k3
  have k5 := kindStep_bnd p _ 5 _ _ k4
  rw [evalUsT_eq, show List.range 6 = [0, 1, 2, 3, 4, 5] from by decide]
  have c4 := sum_count_pieces_le hd p.c0
  simp only [Position.piece] at k5
  exact k5.mono (by omega) (by omega)

/-- Knights, bishops, rooks and queens stand on occupied squares. -/
def OnMen (p : Position) : Prop :=
  (p.p1 ||| p.p2 ||| p.p3 ||| p.p4) &&& ~~~(p.c0 ||| p.c1) = 0#64

theorem count_le_and_of_onMen {p : Position} (h : OnMen p) (b : BB)
    (hb : ∀ i, b.getLsbD i = true → (p.p1 ||| p.p2 ||| p.p3 ||| p.p4).getLsbD i = true) :
    count b ≤ count (b &&& (p.c0 ||| p.c1)) := by
  apply count_le_of_imp
  intro i hi
  have h1 := hb i hi
  have h2 := and_zero_bit h i
  rw [h1, Bool.true_and] at h2
  by_cases h64 : i < 64
  · rw [BitVec.getLsbD_not, Bool.and_eq_false_iff] at h2
    rw [BitVec.getLsbD_and, hi, Bool.true_and]
    rcases h2 with h2 | h2
    · simp [h64] at h2
    · cases hc : (p.c0 ||| p.c1).getLsbD i
      · rw [hc] at h2; exact absurd h2 (by decide)
      · rfl
  · exact absurd (BitVec.lt_of_getLsbD hi) h64

theorem sum_count_officers_le_occ {p : Position} (hd : PieceDisj p) (ho : OnMen p) :
    count p.p1 + count p.p2 + count p.p3 + count p.p4 ≤ count (p.c0 ||| p.c1) := by
  have h := sum_count_pieces_le hd (p.c0 ||| p.c1)
  have g1 := count_le_and_of_onMen ho p.p1 (fun i hi => by simp [BitVec.getLsbD_or, hi])
  have g2 := count_le_and_of_onMen ho p.p2 (fun i hi => by simp [BitVec.getLsbD_or, hi])
  have g3 := count_le_and_of_onMen ho p.p3 (fun i hi => by simp [BitVec.getLsbD_or, hi])
  have g4 := count_le_and_of_onMen ho p.p4 (fun i hi => by simp [BitVec.getLsbD_or, hi])
  omega

theorem sum_count_officers_le {p : Position} (hd : PieceDisj p) (ho : OnMen p) :
    count p.p1 + count p.p2 + count p.p3 + count p.p4 ≤ count p.c0 + count p.c1 :=
  Nat.le_trans (sum_count_officers_le_occ hd ho) (count_or_le p.c0 p.c1)

theorem count_add_le_64 {a b : BB} (h : a &&& b = 0#64) : count a + count b ≤ 64 := by
  have key : List.countP (fun i => a.getLsbD i) (List.range 64) +
      List.countP (fun i => b.getLsbD i) (List.range 64) + List.countP (fun _ => false) (List.range 64) +
      List.countP (fun _ => false) (List.range 64) + List.countP (fun _ => false) (List.range 64) +
      List.countP (fun _ => false) (List.range 64) ≤ List.countP (fun _ => true) (List.range 64) := by
    apply countP6_le
    intro x _
    have := and_zero_bit h x
    revert this
    cases a.getLsbD x <;> cases b.getLsbD x <;> decide
  rw [count_eq_countP, count_eq_countP]
  simp only [List.countP_false, List.countP_true, List.length_range] at key
  omega

def I32 (x : Int) : Prop := -2147483648 ≤ x ∧ x ≤ 2147483647

/-- with at most `n` officers the phase is at least that of `n` queens (`-1108` for 32, `-2474` for 64) and at most that of
none: truncating division is monotone. -/
theorem phase_bnd {p : Position} {n : Nat} (h : count p.p1 + count p.p2 + count p.p3 + count p.p4 ≤ n) :
    ((24 - 4 * (n : Int)) * 256 + 12).tdiv 24 ≤ phase p ∧ phase p ≤ 256 := by
  unfold phase
  simp only
  constructor
  · exact Int.tdiv_le_tdiv (by decide) (by omega)
  · show _ ≤ (24 * 256 + 12 : Int).tdiv 24
    exact Int.tdiv_le_tdiv (by decide) (by omega)

/-- `taper` of a score within `±D` (difference `±E`) at a phase in `[-L, 256]`, `L ≥ 256`: the two
products, the numerator (crudely, for `i32`, and finely via `256·mg + phase·(eg − mg)`) and the
quotient. -/
theorem taper_bnd {s : Score} {D E L : Nat} (hs : s.Bnd D E) {ph : Int}
    (hp : -(L : Int) ≤ ph ∧ ph ≤ 256) (hL : 256 ≤ L) :
    (-((D * (256 + L) : Nat) : Int) ≤ s.1 * (256 - ph) ∧
      s.1 * (256 - ph) ≤ ((D * (256 + L) : Nat) : Int)) ∧
    (-((D * L : Nat) : Int) ≤ s.2 * ph ∧ s.2 * ph ≤ ((D * L : Nat) : Int)) ∧
    (-((D * 256 + E * L : Nat) : Int) ≤ s.1 * (256 - ph) + s.2 * ph ∧
      s.1 * (256 - ph) + s.2 * ph ≤ ((D * 256 + E * L : Nat) : Int)) ∧
    (-(((D * 256 + E * L) / 256 : Nat) : Int) ≤ taper s ph ∧
      taper s ph ≤ (((D * 256 + E * L) / 256 : Nat) : Int)) := by
  unfold Score.Bnd at hs
  have ha : -((256 + L : Nat) : Int) ≤ 256 - ph ∧ 256 - ph ≤ ((256 + L : Nat) : Int) := by
    omega
  have hb : -((L : Nat) : Int) ≤ ph ∧ ph ≤ ((L : Nat) : Int) := by
    omega
  have a := int_mul_bnd (x := s.1) (y := 256 - ph) (A := D) (B := 256 + L) ⟨hs.1, hs.2.1⟩ ha
  have b := int_mul_bnd (x := s.2) (y := ph) (A := D) (B := L) ⟨hs.2.2.1, hs.2.2.2.1⟩ hb
  have c := int_mul_bnd (x := s.2 - s.1) (y := ph) (A := E) (B := L)
    ⟨hs.2.2.2.2.1, hs.2.2.2.2.2⟩ hb
  -- the numerator regrouped: `256·mg + phase·(eg − mg)`
  have e : s.1 * (256 - ph) + s.2 * ph = s.1 * 256 + (s.2 - s.1) * ph := by
    rw [Int.mul_sub, Int.sub_mul]
    omega
  unfold taper
  rw [tdiv_eq]
  generalize s.1 * (256 - ph) = X at *
  generalize s.2 * ph = Y at *
  generalize (s.2 - s.1) * ph = Z at *
  clear ha hb
  refine ⟨a, b, ⟨by omega, by omega⟩, ?_⟩
  split <;> constructor <;> omega

end Rawr
