import Rawr.Proofs.RustSearchAgree_Negamax
import Rawr.Proofs.SearchHist
/-!
# Agreement for root.rs

`R.root` takes the clock as a function `clock : Nat → Nat` (elapsed milliseconds at the k-th reading), the Rust
`settings::Type` and returns the `Result`, the history, the table and the list of printed `Info` records.
The model's `root` takes a `Limit`; `toLimit` is the `Limit` that the closure `should_stop` of root.rs implements
(including the time budget `ustime / max(mtg.unwrap_or(30), 1)`, which the model leaves to its stop oracle).

The body of the driver loop is read once, in `root_loop1_cons`: one iteration in the model's vocabulary. The agreement
(`root_loop_eq`, `agree_root`) and what the reported records look like (`root_loop1_infos`, `root_infos`) rest on it.
-/
namespace Rawr

/-- the `Limit` implemented by the `should_stop` closure of root.rs (`none`: the closure panics). -/
def toLimit (clock : Nat → Nat) (p : Position) : R.Settings → Option Limit
  | .Time w b _ _ mtg => some (.clock fun k => decide (clock k ≥ (if !p.black then w else b) / max (mtg.getD 30) 1))
  | .Movetime t => some (.clock fun k => decide (clock k ≥ t))
  | .Depth d => some (.depth d)
  | .Nodes n => some (.nodes n)
  | .Infinite => some .infinite
  | .Perft _ => none
  | .SplitPerft _ => none

theorem agree_root_should_stop (clock : Nat → Nat) (p : Position) (s : R.Settings) (lim : Limit)
    (h : toLimit clock p s = some lim) : R.root_should_stop p s clock = fun st => some (shouldStop lim st) := by
  funext st
  cases s <;> simp only [toLimit, Option.some.injEq, reduceCtorEq] at h <;> subst h <;> rfl

/-- the closure panics exactly on the perft settings (which uci/go.rs never passes to `root`). -/
theorem root_should_stop_perft (clock : Nat → Nat) (p : Position) (s : R.Settings) (h : toLimit clock p s = none)
    (st : SState) : R.root_should_stop p s clock st = none := by
  cases s <;> simp only [toLimit, reduceCtorEq] at h <;> rfl

/-- an `Info` record as the model keeps it (the model has no position, mate and time fields). -/
def infoToModel (i : R.Info) : InfoRec :=
  ⟨i.depth.getD 0, i.seldepth.getD 0, i.nodes.getD 0, i.score.getD 0, i.hashfull.map Int.toNat, i.pv⟩

def postLoop (x : Option (Option (Except String Mv) × SState × List R.Info × Option Mv)) : Option RootResult :=
  match x with
  | none => none
  | some (some e, st, infos, _) => some ⟨e.toOption, infos.map infoToModel, st.hist, st.tt⟩
  | some (none, st, infos, bm) =>
    match bm with
    | none => none
    | some b => some ⟨some b, infos.map infoToModel, st.hist, st.tt⟩

theorem rangeI_cons (lo hi : Int) (h : lo < hi) : R.rangeI lo hi = lo :: R.rangeI (lo + 1) hi := by
  unfold R.rangeI
  obtain ⟨n, hn⟩ : ∃ n : Nat, (hi - lo).toNat = n + 1 := ⟨(hi - lo).toNat - 1, by omega⟩
  have hn' : (hi - (lo + 1)).toNat = n := by omega
  rw [hn, hn', List.range_succ_eq_map]
  simp only [List.map_cons, List.map_map, Int.natCast_zero, Int.add_zero]
  congr 1
  apply List.map_congr_left
  intro k _
  simp only [Function.comp, Nat.succ_eq_add_one, Int.natCast_add, Int.natCast_one]
  omega

theorem rangeI_nil (lo hi : Int) (h : hi ≤ lo) : R.rangeI lo hi = [] := by
  unfold R.rangeI
  have : (hi - lo).toNat = 0 := by omega
  rw [this]; rfl

theorem shouldStop_best (lim : Limit) (st : SState) : (shouldStop lim st).2.best = st.best := rfl

/-- the `Info` record that root.rs reports after an iteration: `s` the state after the end-of-iteration poll, `el` the
clock reading taken before it. -/
def rootInfo (p : Position) (el : Nat) (s : SState) (score : Int) (b : Mv) : R.Info :=
  { pos := p, depth := some s.depth, seldepth := some s.seldepth, nodes := some s.nodes, score := some score,
    mate := none, elapsed := some el, hashfull := s.tt.hashfull.map Int.ofNat, pv := [b] }

theorem infoToModel_rootInfo (p : Position) (el : Nat) (s : SState) (score : Int) (b : Mv) :
    infoToModel (rootInfo p el s score b) = ⟨s.depth, s.seldepth, s.nodes, score, s.tt.hashfull, [b]⟩ := by
  simp only [infoToModel, rootInfo, Option.getD_some, Option.map_map]
  cases s.tt.hashfull <;> rfl

section
variable {clock : Nat → Nat} {p : Position} {s : R.Settings} {lim : Limit} {fuel : Nat}
  (hlim : toLimit clock p s = some lim) (hok : OrderOkN fuel p)
include hlim hok

theorem root_loop1_cons (d : Int) (tl : List Int) (st : SState) (infos : List R.Info) (bm : Option Mv) :
    R.root_loop1 p s fuel clock (d :: tl) st infos bm =
      match negamax lim fuel p { st with depth := d } (-Gen.INF) Gen.INF 0 d false with
      | none => none
      | some (score, s1) =>
        match s1.best with
        | none => some (some (.error "No bestmove"), s1, infos, bm)
        | some b =>
          if (endPoll lim d s1).1 then some (none, (endPoll lim d s1).2, infos, bm)
          else R.root_loop1 p s fuel clock tl (endPoll lim d s1).2
            (infos ++ [rootInfo p (clock s1.polls) (endPoll lim d s1).2 score b]) (some b) := by
  rw [R.root_loop1]
  simp only [agree_root_should_stop clock p s lim hlim, agree_negamax lim fuel p hok, Gen.INF, ← apply_ite some]
  cases negamax lim fuel p { st with depth := d } (-10000000) 10000000 0 d false with
  | none => rfl
  | some r =>
    obtain ⟨score, s1⟩ := r
    simp only
    cases hb : s1.best with
    | none => rfl
    | some b =>
      -- the poll leaves `best` alone, so the second look at it finds `b` again
      have hb2 := (congrArg SState.best (endPoll_snd lim d s1)).trans hb
      unfold endPoll at hb2 ⊢
      generalize (if d > 1 then shouldStop lim s1 else (false, s1)) = X at hb2 ⊢
      simp only [Option.isNone, Bool.false_eq_true, if_false, hb2, Table.agree_tt_hashfull]
      rfl

theorem root_loop_eq :
    ∀ (n : Nat) (d : Int) (st : SState) (bm : Option Mv) (infos : List R.Info),
      d + n = 128 → 1 ≤ d → (2 ≤ d → bm.isSome = true) →
      postLoop (R.root_loop1 p s fuel clock (R.rangeI d 128) st infos bm) =
        rootIter lim fuel p (n + 1) d st bm ((infos.map infoToModel).reverse) := by
  intro n
  induction n with
  | zero =>
    intro d st bm infos hd h1 h2
    obtain rfl : d = 128 := by omega
    rw [rangeI_nil _ _ (by omega)]
    unfold R.root_loop1 rootIter postLoop
    simp only [Gen.MAX_DEPTH, ge_iff_le, Int.le_refl, if_true, List.reverse_reverse]
    cases bm with
    | none => simp at h2
    | some b => rfl
  | succ n ih =>
    intro d st bm infos hd h1 h2
    rw [rangeI_cons _ _ (by omega), root_loop1_cons hlim hok, rootIter,
      if_neg (by unfold Gen.MAX_DEPTH; omega)]
    simp only []
    cases negamax lim fuel p { st with depth := d } (-Gen.INF) Gen.INF 0 d false with
    | none => rfl
    | some r =>
      obtain ⟨score, s1⟩ := r
      simp only
      cases s1.best with
      | none => simp only [postLoop, Except.toOption, List.reverse_reverse]
      | some b =>
        simp only
        -- a stop is reported from the second iteration on, when a best move has been kept
        have hstop : (endPoll lim d s1).1 = true → 2 ≤ d := fun h => by
          false_or_by_contra
          rw [endPoll_fst_of_le lim d s1 (by omega)] at h
          cases h
        unfold endPoll at hstop ⊢
        generalize (if d > 1 then shouldStop lim s1 else (false, s1)) = X at hstop ⊢
        obtain ⟨stop, s2⟩ := X
        cases stop with
        | true =>
          obtain ⟨b', rfl⟩ := Option.isSome_iff_exists.1 (h2 (hstop rfl))
          simp only [if_true, postLoop, List.reverse_reverse]
        | false =>
          simp only [Bool.false_eq_true, if_false]
          rw [ih (d + 1) s2 (some b) _ (by omega) (by omega) (fun _ => rfl), List.map_append, List.reverse_append]
          simp only [List.map_cons, List.map_nil, List.reverse_cons, List.reverse_nil, List.nil_append, List.cons_append,
            infoToModel_rootInfo]

/-- every record the driver loop reports is one handed in or a `rootInfo`. -/
theorem root_loop1_infos (Q : R.Info → Prop) (hQ : ∀ el s' score b, Q (rootInfo p el s' score b)) :
    ∀ (l : List Int) (st : SState) (infos : List R.Info) (bm : Option Mv)
      (r : Option (Except String Mv) × SState × List R.Info × Option Mv),
      (∀ i ∈ infos, Q i) → R.root_loop1 p s fuel clock l st infos bm = some r → ∀ i ∈ r.2.2.1, Q i := by
  intro l
  induction l with
  | nil =>
    intro st infos bm r hq h
    cases h
    exact hq
  | cons d tl ih =>
    intro st infos bm r hq h
    rw [root_loop1_cons hlim hok] at h
    split at h
    · cases h
    · split at h
      · cases h; exact hq
      · split at h
        · cases h; exact hq
        · refine ih _ _ _ _ (fun i hi => ?_) h
          rcases List.mem_append.1 hi with hi | hi
          · exact hq i hi
          · rw [List.mem_singleton.1 hi]; exact hQ _ _ _ _

theorem root_infos (Q : R.Info → Prop) (hQ : ∀ el s' score b, Q (rootInfo p el s' score b)) {hist : List BB}
    {tt : Table TTEntry} {rr : Except String Mv × List BB × Table TTEntry × List R.Info}
    (h : R.root clock p hist tt s fuel = some rr) :
    ∀ i ∈ rr.2.2.2, Q i := by
  unfold R.root at h
  simp only at h
  generalize hl : R.root_loop1 p s fuel clock _ _ _ _ = lr at h
  rcases lr with _ | ⟨_ | e, st, infos, bm⟩
  · cases h
  · have hs := root_loop1_infos hlim hok Q hQ _ _ _ _ _ (by simp) hl
    cases bm with
    | none => cases h
    | some b => cases h; exact hs
  · cases h
    exact root_loop1_infos hlim hok Q hQ _ _ _ _ _ (by simp) hl

end

theorem agree_root (clock : Nat → Nat) (p : Position) (s : R.Settings) (lim : Limit) (fuel : Nat)
    (hlim : toLimit clock p s = some lim) (hok : OrderOkN fuel p) (hist : List BB) (tt : Table TTEntry) :
    (R.root clock p hist tt s fuel).map
        (fun r => (⟨r.1.toOption, r.2.2.2.map infoToModel, r.2.1, r.2.2.1⟩ : RootResult)) =
      root lim fuel p hist tt := by
  have h := root_loop_eq hlim hok 127 1 ⟨hist, tt, 0, 0, 0, none, 0⟩ none [] (by omega) (by omega)
    (fun h => by omega)
  unfold root
  rw [show Gen.MAX_DEPTH.toNat = 127 + 1 from by decide]
  rw [show (([] : List R.Info).map infoToModel).reverse = [] from rfl] at h
  rw [← h]
  unfold R.root
  simp only
  generalize R.root_loop1 p s fuel clock _ _ _ _ = lr
  rcases lr with _ | ⟨_ | e, st, infos, bm⟩
  · rfl
  · cases bm <;> rfl
  · rfl

end Rawr

#print axioms Rawr.agree_root_should_stop
#print axioms Rawr.agree_root
