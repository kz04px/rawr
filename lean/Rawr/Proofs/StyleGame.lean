import Rawr.Proofs.StyleStep
/-!
# `analyse_game` and `analyse_pgn` preserve the statistics invariant

`Inv` is the invariant of the tool's accumulated `Stats`: it contains every condition of `is_valid`
(`isValid_of_inv`), the list lengths (index safety) and the facts the score bounds need beyond `is_valid`.
It holds of `Stats()` and is preserved by `analyse_game` on every well-formed game (`WFGame`), which
moreover cannot raise.
-/
namespace Rawr.Style

structure GameInv (s : Stats) : Prop where
  games : s.numGames = s.numWins + s.numDraws + s.numLosses
  wins : s.numWins = s.numWinAhead + s.numWinEqual + s.numWinBehind
  lens : s.numGames = s.shortGames + s.mediumGames + s.longGames + s.extremeGames
  lenGL : s.gameLength.length = 1024
  lenFM : s.finalMaterial.length = 207
  chain : ∀ r, 3 ≤ r → r ≤ 6 → s.earlyPawnPushes.getD (r + 1) 0 ≤ s.earlyPawnPushes.getD r 0
  earlySum : s.earlyPawnPushes.sum ≤ enumMinSum 40 s.gameLength
  pushPos : 0 < s.totalPawnPushes → 0 < enumMinSum 40 s.gameLength

structure Inv (s : Stats) : Prop where
  step : StepInv s
  game : GameInv s

/-- the model spells `min` as `Nat.min`; `omega` knows `min`. -/
theorem nat_min (a b : Nat) : Nat.min a b = min a b := rfl

theorem runLoop_spec (side : Color) : ∀ (plies : List Ply) (L : Loop), StepInv L.stats →
    L.ply + plies.length < 1024 → (∀ p ∈ plies, pawnRankOk side p = true) →
    ∃ L', runLoop side L plies = .ok L' ∧ L'.ply = L.ply + plies.length ∧ StepInv L'.stats ∧
      Frame L.stats L'.stats ∧
      (∀ r, L'.stats.earlyPawnPushes.getD r 0 =
              L.stats.earlyPawnPushes.getD r 0 + earlyPushesFrom side r L.ply plies) ∧
      L'.stats.earlyPawnPushes.sum ≤
        L.stats.earlyPawnPushes.sum + (Nat.min (L.ply + plies.length) 40 - Nat.min L.ply 40) ∧
      L'.stats.totalPawnPushes ≤ L.stats.totalPawnPushes + plies.length
  | [], L, hI, _, _ => by
    refine ⟨L, rfl, by simp, hI, Frame.refl _, ?_, ?_, by simp⟩
    · intro r; simp [earlyPushesFrom]
    · simp
  | p :: ps, L, hI, hlen, hwf => by
    have hlen' : L.ply + (ps.length + 1) < 1024 := by simpa using hlen
    obtain ⟨L1, h1, hI1, hF1, hE1, hS1, hT1'⟩ :=
      step_spec side L p hI (by omega) (hwf p (by simp))
    have hply1 := step_ply h1
    obtain ⟨L2, h2, hply2, hI2, hF2, hE2, hS2, hT2'⟩ :=
      runLoop_spec side ps L1 hI1 (by omega) (fun q hq => hwf q (by simp [hq]))
    refine ⟨L2, ?_, ?_, hI2, Frame.trans hF1 hF2, ?_, ?_, ?_⟩
    · simp only [runLoop, h1, h2]
    · rw [hply2, hply1]; simp; omega
    · intro r
      rw [hE2 r, hE1 r, hply1]
      simp only [earlyPushesFrom]
      omega
    · rw [hply1] at hS2
      simp only [List.length_cons, nat_min] at hS2 ⊢
      split at hS1 <;> omega
    · simp only [List.length_cons]; omega

def UpToImbalance (s t : Stats) : Prop :=
  ∃ a b c d, t = { s with numQvRR := a, numRRvQ := b, numQv3minor := c, num3minorvQ := d }

theorem UpToImbalance.ite {s t : Stats} (ht : UpToImbalance s t) (g : Bool) {f : Stats → Stats}
    (hf : ∀ t, UpToImbalance s t → UpToImbalance s (f t)) : UpToImbalance s (if g then f t else t) := by
  cases g
  · exact ht
  · exact hf t ht

/-- each of the four conditional increments keeps the shape. -/
theorem imbalanceSummary_eq (s : Stats) (L : Loop) : UpToImbalance s (imbalanceSummary s L) := by
  have h0 : UpToImbalance s s := ⟨_, _, _, _, rfl⟩
  have h1 := h0.ite L.hasQvRR (f := fun t => { t with numQvRR := t.numQvRR + 1 })
    fun _ ⟨_, _, _, _, e⟩ => e ▸ ⟨_, _, _, _, rfl⟩
  have h2 := h1.ite L.hasRRvQ (f := fun t => { t with numRRvQ := t.numRRvQ + 1 })
    fun _ ⟨_, _, _, _, e⟩ => e ▸ ⟨_, _, _, _, rfl⟩
  have h3 := h2.ite L.hasQv3minor (f := fun t => { t with numQv3minor := t.numQv3minor + 1 })
    fun _ ⟨_, _, _, _, e⟩ => e ▸ ⟨_, _, _, _, rfl⟩
  exact h3.ite L.has3minorvQ (f := fun t => { t with num3minorvQ := t.num3minorvQ + 1 })
    fun _ ⟨_, _, _, _, e⟩ => e ▸ ⟨_, _, _, _, rfl⟩

theorem castleSummary_eq (s : Stats) (us them : Castled) :
    ∃ a b, castleSummary s us them = { s with castleSame := a, castleOpposite := b } := by
  unfold castleSummary
  cases us <;> cases them <;> exact ⟨_, _, rfl⟩

theorem finishGame_eq (s : Stats) (ply : Nat) (h : ply < s.gameLength.length) :
    ∃ a b c d, a + b + c + d = 1 ∧ s.finishGame ply = .ok
      { s with gameLength := bump s.gameLength ply, shortGames := s.shortGames + a,
               mediumGames := s.mediumGames + b, longGames := s.longGames + c,
               extremeGames := s.extremeGames + d } := by
  unfold Stats.finishGame
  by_cases h80 : ply < 80
  · refine ⟨1, 0, 0, 0, rfl, ?_⟩
    simp only [h80, incAt_ok h, bind, Except.bind, pure, Except.pure, if_true]
    rfl
  · by_cases h100 : ply < 100
    · refine ⟨0, 1, 0, 0, rfl, ?_⟩
      simp only [h80, h100, incAt_ok h, bind, Except.bind, pure, Except.pure, if_true, if_false]
      rfl
    · by_cases h140 : ply < 140
      · refine ⟨0, 0, 1, 0, rfl, ?_⟩
        simp only [h80, h100, h140, incAt_ok h, bind, Except.bind, pure, Except.pure, if_true, if_false]
        rfl
      · refine ⟨0, 0, 0, 1, rfl, ?_⟩
        simp only [h80, h100, h140, incAt_ok h, bind, Except.bind, pure, Except.pure, if_false]
        rfl

theorem resultSummary_eq {s s' : Stats} {result : Result} {side : Color} {mu mt : Nat}
    (h : resultSummary s result side mu mt = s') :
    ∃ w dr lo wa we wb, w + dr + lo = 1 ∧ wa + we + wb = w ∧
      s' =
        { s with numWins := s.numWins + w, numDraws := s.numDraws + dr, numLosses := s.numLosses + lo,
                 numWinAhead := s.numWinAhead + wa, numWinEqual := s.numWinEqual + we,
                 numWinBehind := s.numWinBehind + wb } := by
  have hm : b2n (decide (mu > mt)) + b2n (decide (mu = mt)) + b2n (decide (mu < mt)) = 1 := by
    unfold b2n
    rcases Nat.lt_trichotomy mu mt with h | h | h
    · have h1 : ¬ mu > mt := by omega
      have h2 : ¬ mu = mt := by omega
      simp [h, h1, h2]
    · simp [h]
    · have h1 : ¬ mu = mt := by omega
      have h2 : ¬ mu < mt := by omega
      simp [h, h1, h2]
  subst h
  unfold resultSummary
  cases result
  · by_cases hs : (side == WHITE) = true
    · exact ⟨1, 0, 0, _, _, _, rfl, hm, by simp only [hs, if_true]; rfl⟩
    · exact ⟨0, 0, 1, 0, 0, 0, rfl, rfl, by simp only [hs]; rfl⟩
  · by_cases hs : (side == BLACK) = true
    · exact ⟨1, 0, 0, _, _, _, rfl, hm, by simp only [hs, if_true]; rfl⟩
    · exact ⟨0, 0, 1, 0, 0, 0, rfl, rfl, by simp only [hs]; rfl⟩
  · exact ⟨0, 1, 0, 0, 0, 0, rfl, rfl, rfl⟩

/-- everything after the move loop, as one update of the statistics. -/
theorem finishAnalysis_eq (g : Game) (side : Color) (L : Loop) (hGL : L.ply < L.stats.gameLength.length)
    (hFM : g.finalWhite.material + g.finalBlack.material < L.stats.finalMaterial.length) :
    ∃ (qa qb qc qd cs co a b c d w dr lo wa we wb : Nat) (fm : List Nat),
      a + b + c + d = 1 ∧ w + dr + lo = 1 ∧ wa + we + wb = w ∧ fm.length = L.stats.finalMaterial.length ∧
      finishAnalysis g side L = .ok
        { L.stats with
          numQvRR := qa, numRRvQ := qb, numQv3minor := qc, num3minorvQ := qd,
          castleSame := cs, castleOpposite := co,
          gameLength := bump L.stats.gameLength L.ply,
          shortGames := L.stats.shortGames + a, mediumGames := L.stats.mediumGames + b,
          longGames := L.stats.longGames + c, extremeGames := L.stats.extremeGames + d,
          numGames := L.stats.numGames + 1,
          numWins := L.stats.numWins + w, numDraws := L.stats.numDraws + dr, numLosses := L.stats.numLosses + lo,
          numWinAhead := L.stats.numWinAhead + wa, numWinEqual := L.stats.numWinEqual + we,
          numWinBehind := L.stats.numWinBehind + wb,
          finalMaterial := fm } := by
  obtain ⟨qa, qb, qc, qd, h1⟩ := imbalanceSummary_eq L.stats L
  obtain ⟨cs, co, h2⟩ := castleSummary_eq (imbalanceSummary L.stats L) L.usCastled L.themCastled
  conv at h2 => rhs; rw [h1]
  obtain ⟨a, b, c, d, habcd, h3⟩ := finishGame_eq (castleSummary (imbalanceSummary L.stats L) L.usCastled L.themCastled)
    L.ply (by rw [h2]; exact hGL)
  conv at h3 => rhs; rw [h2]
  simp only [finishAnalysis, h3]
  generalize hmu : (if (side == WHITE) = true then g.finalWhite.material else g.finalBlack.material) = mu
  generalize hmt : (if (side == WHITE) = true then g.finalBlack.material else g.finalWhite.material) = mt
  have hsum : mu + mt = g.finalWhite.material + g.finalBlack.material := by
    subst hmu; subst hmt; split <;> omega
  generalize h4 : resultSummary _ g.result side mu mt = s4
  obtain ⟨w, dr, lo, wa, we, wb, hw, hwa, rfl⟩ := resultSummary_eq h4
  rw [incAt_ok (by rw [hsum]; exact hFM)]
  exact ⟨qa, qb, qc, qd, cs, co, a, b, c, d, w, dr, lo, wa, we, wb, _, habcd, hw, hwa, length_bump _ _, rfl⟩

theorem analyseGame_inv (g : Game) (side : Color) (s : Stats) (hI : Inv s) (hwf : WFGame side g) :
    ∃ s', analyseGame g side s = .ok s' ∧ Inv s' ∧ s'.numGames = s.numGames + 1 := by
  obtain ⟨L, hL, hply, hSI, hF, hE, hS, hT'⟩ :=
    runLoop_spec side g.plies { stats := s } hI.step (by simpa using hwf.short) hwf.pawnRank
  have hply' : L.ply = g.plies.length := by simpa using hply
  dsimp only at hF hE hS hT'
  have hGL : L.ply < L.stats.gameLength.length := by
    rw [hF.gameLength, hI.game.lenGL, hply']; exact hwf.short
  have hFM : g.finalWhite.material + g.finalBlack.material < L.stats.finalMaterial.length := by
    rw [hF.finalMaterial, hI.game.lenFM]; have := hwf.material; omega
  obtain ⟨qa, qb, qc, qd, cs, co, a, b, c, d, w, dr, lo, wa, we, wb, fm, habcd, hw, hwa, hfm, hfin⟩ :=
    finishAnalysis_eq g side L hGL hFM
  refine ⟨_, (by simp only [analyseGame, hL]; exact hfin), ⟨?_, ?_⟩, ?_⟩
  · exact ⟨hSI.moves, hSI.chk, hSI.caps, hSI.capDist, hSI.ncapDist, hSI.lenCD, hSI.lenNCD, hSI.lenNQ, hSI.lenE,
      hSI.lenM, hSI.lenL, hSI.e0, hSI.e1, hSI.m0, hSI.m1, hSI.l0, hSI.l1, hSI.towards, hSI.rook, hSI.bishop⟩
  · have hG := hI.game
    have hms : enumMinSum 40 (bump L.stats.gameLength L.ply) =
        enumMinSum 40 s.gameLength + Nat.min g.plies.length 40 := by
      rw [enumMinSum_bump 40 _ _ hGL, hF.gameLength, hply']
    constructor <;> dsimp only
    · rw [hF.numGames, hF.numWins, hF.numDraws, hF.numLosses]; have := hG.games; omega
    · rw [hF.numWins, hF.numWinAhead, hF.numWinEqual, hF.numWinBehind]; have := hG.wins; omega
    · rw [hF.numGames, hF.shortGames, hF.mediumGames, hF.longGames, hF.extremeGames]; have := hG.lens; omega
    · rw [length_bump, hF.gameLength]; exact hG.lenGL
    · rw [hfm, hF.finalMaterial]; exact hG.lenFM
    · intro r h3 h6
      rw [hE (r + 1), hE r]
      have h1 := hG.chain r h3 h6
      have h2 := hwf.chain r h3 h6
      simp only [earlyPushes] at h2
      omega
    · rw [hms]
      have h1 := hG.earlySum
      simp only [Nat.zero_add, nat_min] at hS ⊢
      omega
    · intro hpos
      rw [hms, nat_min]
      by_cases h0 : 0 < s.totalPawnPushes
      · have := hG.pushPos h0; omega
      · omega
  · dsimp only; rw [hF.numGames]

theorem isValid_of_inv {s : Stats} (h : Inv s) : isValid s = .ok true := by
  have hS := h.step
  have hG := h.game
  unfold isValid
  rw [if_neg (by have := hG.games; omega), if_neg (by have := hS.moves; omega), if_neg (by have := hS.chk; omega),
    if_neg (by have := hG.games; omega), if_neg (by have := hG.wins; omega), if_neg (by have := hG.lens; omega),
    if_neg (by have := hS.caps; omega)]
  simp only [getAt_ok (show 0 < s.earlyPawnPushes.length by rw [hS.lenE]; omega),
    getAt_ok (show 1 < s.earlyPawnPushes.length by rw [hS.lenE]; omega),
    getAt_ok (show 0 < s.midPawnPushes.length by rw [hS.lenM]; omega),
    getAt_ok (show 1 < s.midPawnPushes.length by rw [hS.lenM]; omega),
    getAt_ok (show 0 < s.latePawnPushes.length by rw [hS.lenL]; omega),
    getAt_ok (show 1 < s.latePawnPushes.length by rw [hS.lenL]; omega),
    hS.e0, hS.e1, hS.m0, hS.m1, hS.l0, hS.l1, Nat.lt_irrefl, if_false]
  rw [if_neg (by have := hS.towards; omega)]

theorem sum_replicate_zero : ∀ n : Nat, (List.replicate n 0).sum = 0
  | 0 => rfl
  | n + 1 => by rw [List.replicate_succ, List.sum_cons, sum_replicate_zero n]

theorem getD_replicate_zero : ∀ (n i : Nat), (List.replicate n 0).getD i 0 = 0
  | 0, _ => rfl
  | _ + 1, 0 => rfl
  | n + 1, i + 1 => by
    rw [List.replicate_succ, List.getD_cons_succ]; exact getD_replicate_zero n i

theorem enumMinSumFrom_replicate_zero (c : Nat) : ∀ (n k : Nat), enumMinSumFrom c k (List.replicate n 0) = 0
  | 0, _ => rfl
  | n + 1, k => by
    rw [List.replicate_succ, enumMinSumFrom, enumMinSumFrom_replicate_zero c n (k + 1)]
    simp

theorem inv_fresh : Inv Stats.fresh := by
  refine ⟨⟨rfl, rfl, rfl, sum_replicate_zero 8, sum_replicate_zero 8, List.length_replicate, List.length_replicate,
    List.length_replicate, List.length_replicate, List.length_replicate, List.length_replicate,
    getD_replicate_zero 8 0, getD_replicate_zero 8 1, getD_replicate_zero 8 0, getD_replicate_zero 8 1,
    getD_replicate_zero 8 0, getD_replicate_zero 8 1, Nat.le_refl _, Nat.le_refl _, Nat.le_refl _⟩,
    ⟨rfl, rfl, rfl, List.length_replicate, List.length_replicate, ?_, ?_, ?_⟩⟩
  · intro r _ _
    show (List.replicate 8 0).getD (r + 1) 0 ≤ (List.replicate 8 0).getD r 0
    rw [getD_replicate_zero, getD_replicate_zero]
    exact Nat.le_refl _
  · show (List.replicate 8 0).sum ≤ enumMinSumFrom 40 0 (List.replicate 1024 0)
    rw [sum_replicate_zero, enumMinSumFrom_replicate_zero]
    exact Nat.le_refl _
  · intro h
    exact absurd h (Nat.lt_irrefl 0)

/-- every well-formed job list is analysed without an exception, and the result satisfies the invariant
(hence `assert(is_valid(stats))` holds after every game). -/
theorem analysePgn_inv : ∀ (jobs : List (Game × Color)) (s : Stats), Inv s →
    (∀ j ∈ jobs, WFGame j.2 j.1) →
    ∃ s', analysePgn jobs s = .ok s' ∧ Inv s' ∧ s'.numGames = s.numGames + jobs.length
  | [], s, hI, _ => ⟨s, rfl, hI, by simp⟩
  | (g, side) :: js, s, hI, hwf => by
    obtain ⟨s1, h1, hI1, hn1⟩ := analyseGame_inv g side s hI (hwf (g, side) (by simp))
    obtain ⟨s2, h2, hI2, hn2⟩ := analysePgn_inv js s1 hI1 (fun j hj => hwf j (by simp [hj]))
    refine ⟨s2, ?_, hI2, ?_⟩
    · simp only [analysePgn, h1, isValid_of_inv hI1, h2]
    · rw [hn2, hn1]; simp; omega

end Rawr.Style
