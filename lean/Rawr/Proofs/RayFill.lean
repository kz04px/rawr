import Rawr.Model.Rays
import Rawr.Proofs.BBSet
import Rawr.Proofs.Coords
/-!
# The eight unrolled 7-step fills of rays.rs are coordinate walks

Generic in the direction: a step function that distributes over unions and maps the single square `s`
to the single square one `(df, dr)` step away (or to nothing at the board edge) yields, after the
seven unrolled fill steps of `rayFill`, exactly `Spec.walk df dr s blockers`. At the end, `walk_fuel`: seven steps
are all a walk on the board can take.
-/
namespace Rawr
open Spec

/-- `k + 1` fill steps from the set `b` (`rayFill` is `fill 6` from a single square). -/
def fill (step : BB → BB) (bl : BB) : Nat → BB → BB
  | 0, b => step b
  | k + 1, b => fill step bl k b ||| step (fill step bl k b &&& ~~~bl)

theorem fill_succ (step : BB → BB) (bl : BB) (k : Nat) (b : BB) :
    fill step bl (k + 1) b = fill step bl k b ||| step (fill step bl k b &&& ~~~bl) := rfl

theorem or_or_self_right (a b : BB) : a ||| b ||| b = a ||| b := by
  rw [BitVec.or_assoc, BitVec.or_self]

theorem fill_zero {step : BB → BB} (h : Linear step) (bl : BB) (k : Nat) :
    fill step bl k 0#64 = 0#64 := by
  induction k with
  | zero => exact h.1
  | succ k ih => simp only [fill, ih, BitVec.zero_and, h.1, BitVec.or_zero]

theorem fill_absorb {step : BB → BB} (bl : BB) (k : Nat) (c : BB) :
    fill step bl k c ||| step c = fill step bl k c := by
  induction k with
  | zero => exact BitVec.or_self
  | succ k ih =>
    simp only [fill]
    rw [BitVec.or_assoc, BitVec.or_comm (step _) (step c), ← BitVec.or_assoc, ih]

theorem fill_succ_front {step : BB → BB} (h : Linear step) (bl : BB) (k : Nat) (b : BB) :
    fill step bl (k + 1) b = step b ||| fill step bl k (step b &&& ~~~bl) := by
  induction k with
  | zero => rfl
  | succ k ih =>
    rw [fill_succ step bl (k + 1), ih, fill_succ step bl k (step b &&& ~~~bl)]
    rw [BitVec.and_or_distrib_right, h.2]
    have ha := fill_absorb (step := step) bl k (step b &&& ~~~bl)
    generalize step (fill step bl k (step b &&& ~~~bl) &&& ~~~bl) = Y
    generalize fill step bl k (step b &&& ~~~bl) = X at ha ⊢
    generalize step (step b &&& ~~~bl) = Z at ha ⊢
    -- `X` absorbs `Z`
    rw [BitVec.or_assoc, ← BitVec.or_assoc X, ha]

def stepBB (df dr : Int) (s : Nat) : BB :=
  if onBoard (file s + df) (rank s + dr) then bit (sq (file s + df) (rank s + dr)) else 0#64

theorem getLsbD_stepBB (df dr : Int) (s t : Nat) :
    (stepBB df dr s).getLsbD t
      = (decide (t < 64) && decide (file t = file s + df ∧ rank t = rank s + dr)) := by
  unfold stepBB
  by_cases hon : onBoard (file s + df) (rank s + dr) = true
  · rw [if_pos hon, getLsbD_bit]
    congr 1
    rw [Bool.eq_iff_iff, decide_eq_true_iff, decide_eq_true_iff]
    constructor
    · rintro rfl
      exact ⟨file_sq hon, rank_sq hon⟩
    · rintro ⟨hf, hr⟩
      rw [← hf, ← hr, Att.sq_file_rank]
  · rw [if_neg hon, BitVec.getLsbD_zero]
    by_cases ht : t < 64
    · have := Att.onBoard_file_rank ht
      rw [Bool.eq_iff_iff, Bool.and_eq_true, decide_eq_true_iff, decide_eq_true_iff]
      constructor
      · intro h; cases h
      · rintro ⟨_, hf, hr⟩
        rw [hf, hr] at this
        exact absurd this hon
    · simp [ht]

theorem bit_and_not (t : Nat) (bl : BB) :
    bit t &&& ~~~bl = if bl.getLsbD t then 0#64 else bit t := by
  apply BitVec.eq_of_getLsbD_eq
  intro i hi
  rw [BitVec.getLsbD_and, BitVec.getLsbD_not, getLsbD_bit]
  by_cases hb : bl.getLsbD t = true
  · simp only [hb, if_true]
    by_cases h : i = t
    · subst h; simp [hb]
    · simp [h]
  · simp only [hb, if_false, Bool.false_eq_true]
    rw [getLsbD_bit]
    by_cases h : i = t
    · subst h
      have hb' : bl.getLsbD i = false := by simpa using hb
      rw [hb']; simp [hi]
    · simp [h]

theorem fill_eq_walk {step : BB → BB} {df dr : Int} (hlin : Linear step)
    (hstep : ∀ s, s < 64 → step (bit s) = stepBB df dr s) (bl : BB) :
    ∀ (k s : Nat), s < 64 →
      fill step bl k (bit s) = setBB (walkFrom df dr bl.getLsbD (k + 1) (file s) (rank s)) := by
  intro k
  induction k with
  | zero =>
    intro s hs
    simp only [fill, hstep s hs, stepBB, walkFrom]
    split
    · split <;> simp [setBB_cons, setBB_nil]
    · rfl
  | succ k ih =>
    intro s hs
    rw [fill_succ_front hlin, hstep s hs, walkFrom]
    dsimp only
    unfold stepBB
    by_cases hb : onBoard (file s + df) (rank s + dr) = true
    · simp only [hb, if_true]
      rw [bit_and_not]
      by_cases hbl : bl.getLsbD (sq (file s + df) (rank s + dr)) = true
      · simp only [hbl, if_true, fill_zero hlin, setBB_cons, setBB_nil]
      · simp only [hbl, if_false, Bool.false_eq_true, setBB_cons]
        rw [ih _ (onBoard_lt hb), file_sq hb, rank_sq hb]
    · simp only [hb, if_false, Bool.false_eq_true, fill_zero hlin, setBB_nil, BitVec.zero_and,
        BitVec.or_zero]

/-- `rays::ray_*` over any step function with the two properties. -/
theorem rayFill_eq_walk {step : BB → BB} {df dr : Int} (hlin : Linear step)
    (hstep : ∀ s, s < 64 → step (bit s) = stepBB df dr s) (s : Nat) (hs : s < 64) (bl : BB) :
    rayFill step s bl = setBB (walk df dr s bl.getLsbD) :=
  fill_eq_walk hlin hstep bl 6 s hs

theorem north_bit : ∀ s : Fin 64, north (bit s) = stepBB 0 1 s := by decide +kernel
theorem south_bit : ∀ s : Fin 64, south (bit s) = stepBB 0 (-1) s := by decide +kernel
theorem east_bit : ∀ s : Fin 64, east (bit s) = stepBB 1 0 s := by decide +kernel
theorem west_bit : ∀ s : Fin 64, west (bit s) = stepBB (-1) 0 s := by decide +kernel
theorem northEast_bit : ∀ s : Fin 64, northEast (bit s) = stepBB 1 1 s := by decide +kernel
theorem northWest_bit : ∀ s : Fin 64, northWest (bit s) = stepBB (-1) 1 s := by decide +kernel
theorem southEast_bit : ∀ s : Fin 64, southEast (bit s) = stepBB 1 (-1) s := by decide +kernel
theorem southWest_bit : ∀ s : Fin 64, southWest (bit s) = stepBB (-1) (-1) s := by decide +kernel

theorem rayN_eq_walk (s : Nat) (hs : s < 64) (bl : BB) :
    rayN s bl = setBB (walk 0 1 s bl.getLsbD) :=
  rayFill_eq_walk linear_north (fun s h => north_bit ⟨s, h⟩) s hs bl
theorem rayS_eq_walk (s : Nat) (hs : s < 64) (bl : BB) :
    rayS s bl = setBB (walk 0 (-1) s bl.getLsbD) :=
  rayFill_eq_walk linear_south (fun s h => south_bit ⟨s, h⟩) s hs bl
theorem rayE_eq_walk (s : Nat) (hs : s < 64) (bl : BB) :
    rayE s bl = setBB (walk 1 0 s bl.getLsbD) :=
  rayFill_eq_walk linear_east (fun s h => east_bit ⟨s, h⟩) s hs bl
theorem rayW_eq_walk (s : Nat) (hs : s < 64) (bl : BB) :
    rayW s bl = setBB (walk (-1) 0 s bl.getLsbD) :=
  rayFill_eq_walk linear_west (fun s h => west_bit ⟨s, h⟩) s hs bl
theorem rayNE_eq_walk (s : Nat) (hs : s < 64) (bl : BB) :
    rayNE s bl = setBB (walk 1 1 s bl.getLsbD) :=
  rayFill_eq_walk linear_northEast (fun s h => northEast_bit ⟨s, h⟩) s hs bl
theorem rayNW_eq_walk (s : Nat) (hs : s < 64) (bl : BB) :
    rayNW s bl = setBB (walk (-1) 1 s bl.getLsbD) :=
  rayFill_eq_walk linear_northWest (fun s h => northWest_bit ⟨s, h⟩) s hs bl
theorem raySE_eq_walk (s : Nat) (hs : s < 64) (bl : BB) :
    raySE s bl = setBB (walk 1 (-1) s bl.getLsbD) :=
  rayFill_eq_walk linear_southEast (fun s h => southEast_bit ⟨s, h⟩) s hs bl
theorem raySW_eq_walk (s : Nat) (hs : s < 64) (bl : BB) :
    raySW s bl = setBB (walk (-1) (-1) s bl.getLsbD) :=
  rayFill_eq_walk linear_southWest (fun s h => southWest_bit ⟨s, h⟩) s hs bl

/-! The 7-step bound in `Spec.walk` is not a truncation: from a square of the board, walking with any larger number of
steps gives the same list, since the eighth point of a ray is off the 8 × 8 board and a walk stops at the first point
off the board. -/

theorem walkFrom_fuel (a b : Int) (occ : Nat → Bool) : ∀ (n m : Nat) (f r : Int), n ≤ m →
    onBoard (f + a * ((n + 1 : Nat) : Int)) (r + b * ((n + 1 : Nat) : Int)) = false →
    walkFrom a b occ m f r = walkFrom a b occ n f r := by
  intro n
  induction n with
  | zero =>
    intro m f r _ h
    simp only [Nat.zero_add, Int.natCast_one, Int.mul_one] at h
    cases m with
    | zero => rfl
    | succ m => simp only [walkFrom, h, Bool.false_eq_true, if_false]
  | succ n ih =>
    intro m f r hm h
    obtain ⟨m', rfl⟩ : ∃ m', m = m' + 1 := ⟨m - 1, by omega⟩
    have e1 : f + a + a * ((n + 1 : Nat) : Int) = f + a * ((n + 1 + 1 : Nat) : Int) := by
      simp only [Int.natCast_add, Int.natCast_one, Int.mul_add, Int.mul_one]; omega
    have e2 : r + b + b * ((n + 1 : Nat) : Int) = r + b * ((n + 1 + 1 : Nat) : Int) := by
      simp only [Int.natCast_add, Int.natCast_one, Int.mul_add, Int.mul_one]; omega
    simp only [walkFrom]
    rw [ih m' _ _ (by omega) (by rw [e1, e2]; exact h)]

theorem walk_fuel {d : Int × Int} (hd : Att.GoodDir d) (s : Nat) (hs : s < 64) (occ : Nat → Bool)
    (m : Nat) (hm : 7 ≤ m) : walkFrom d.1 d.2 occ m (file s) (rank s) = walk d.1 d.2 s occ := by
  obtain ⟨ha, hb, hab⟩ := hd
  refine walkFrom_fuel d.1 d.2 occ 7 m _ _ hm (Bool.eq_false_iff.mpr fun h => ?_)
  rw [Att.onBoard_iff] at h
  have fs := Att.file_bounds s
  have rs := Att.rank_bounds hs
  -- eight steps in a direction with a non-zero component change that coordinate by eight
  rcases hab with h0 | h0
  · rcases ha with e | e | e
    · rw [e] at h; omega
    · exact h0 e
    · rw [e] at h; omega
  · rcases hb with e | e | e
    · rw [e] at h; omega
    · exact h0 e
    · rw [e] at h; omega

end Rawr
