import Rawr.Proofs.GenShape
/-! No move is generated twice (`moveGenerator p` and `legalMoves p` have no duplicates). -/
namespace Rawr
open Rawr.Position Rawr.Spec Rawr.ZH

/-- the number (0–15) of the generator block a move comes from, computed from the move. -/
def classKey (p : Position) (g : GMv) : Nat :=
  match g.piece with
  | 0 => if g.mv.dst - g.mv.src = 8 then 0 else if g.mv.dst - g.mv.src = 16 then 1
         else if p.c1.getLsbD g.mv.dst then (if g.mv.dst - g.mv.src = 9 then 2 else 3) else 4
  | 1 => 5
  | 2 => if (prelude p).bpinned.getLsbD g.mv.src then 6 else 7
  | 3 => if (prelude p).rpinned.getLsbD g.mv.src then 8 else 9
  | 4 => if (prelude p).pinned.getLsbD g.mv.src then
           (if (bishopMoves g.mv.src p.occ).getLsbD g.mv.dst then 10 else 11) else 12
  | _ => if p.c0.getLsbD g.mv.dst then (if p.usK && g.mv.dst == p.cf0 then 14 else 15) else 13

theorem not_pinned {p : Position} {i : Nat} (h : (~~~(prelude p).pinned).getLsbD i = true) :
    (prelude p).pinned.getLsbD i = false ∧ (prelude p).bpinned.getLsbD i = false ∧
      (prelude p).rpinned.getLsbD i = false := by
  simp only [BitVec.getLsbD_not, Bool.and_eq_true, Bool.not_eq_true'] at h
  have h2 := h.2
  rw [Att.prelude_pinned_eq, BitVec.getLsbD_or, Bool.or_eq_false_iff] at h2
  exact ⟨h.2, h2⟩

theorem keyed_arrive {p : Position} {d n : Nat} {T : BB}
    (h : ∀ t pr, T.getLsbD t = true → classKey p (gm 0 (t - d) t pr) = n) :
    (arriveBlock d T).Nodup ∧ ∀ a ∈ arriveBlock d T, classKey p a = n := by
  refine ⟨nodup_arriveBlock d T, fun a ha => ?_⟩
  obtain ⟨t, pr, ht, _, rfl⟩ := mem_arriveBlock.mp ha
  exact h t pr ht

theorem keyed_sblock {p : Position} {b : SBlock} {n : Nat}
    (h : ∀ s t, (b.src p).getLsbD s = true → (b.tgt p s).getLsbD t = true → classKey p (gm b.pc s t 6) = n) :
    (b.moves p).Nodup ∧ ∀ a ∈ b.moves p, classKey p a = n := by
  refine ⟨nodup_pieceBlock _ _ _ fun _ => toList_nodup _, fun a ha => ?_⟩
  obtain ⟨s, t, hs, ht, rfl⟩ := mem_pieceBlock.mp ha
  exact h s t hs ((mem_toList _ _).mp ht)

theorem gen_keyed (p : Position) (F : VFacts p) : Keyed (classKey p) 0 (genBlocks p) := by
  have pin : ∀ {i : Nat}, (prelude p).bpinned.getLsbD i = true ∨ (prelude p).rpinned.getLsbD i = true →
      (prelude p).pinned.getLsbD i = true := fun h => by
    rw [Att.prelude_pinned_eq, BitVec.getLsbD_or, Bool.or_eq_true]
    exact h
  simp only [genBlocks, sliderBlocks, List.map_cons, List.map_nil, List.cons_append, List.nil_append, Keyed, and_true]
  refine ⟨keyed_arrive ?k0, ⟨nodup_dblBlock _, ?k1⟩, keyed_arrive ?k2, keyed_arrive ?k3, ⟨?n4, ?k4⟩,
    keyed_sblock ?k5, keyed_sblock ?k6, keyed_sblock ?k7, keyed_sblock ?k8, keyed_sblock ?k9, keyed_sblock ?k10,
    keyed_sblock ?k11, keyed_sblock ?k12,
    ⟨nodup_pieceBlock _ _ _ fun _ => List.Pairwise.filter _ (toList_nodup _), ?k13⟩,
    ⟨nodup_optMove _ _, ?k14⟩, ⟨nodup_optMove _ _, ?k15⟩⟩
  case k0 =>
    intro t pr ht
    have := (pushSet_facts ht).2.1
    simp [classKey, gm, show t - (t - 8) = 8 by omega]
  case k1 =>
    intro a ha
    obtain ⟨t, ht, rfl⟩ := mem_dblBlock.mp ha
    have := (dblSet_facts ht).2.1
    simp [classKey, gm, show t - (t - 16) = 16 by omega]
  case k2 =>
    intro t pr ht
    obtain ⟨_, h9, _, _, hc1⟩ := capNESet_facts ht
    simp [classKey, gm, show t - (t - 9) = 9 by omega, hc1]
  case k3 =>
    intro t pr ht
    obtain ⟨_, h7, _, _, hc1⟩ := capNWSet_facts ht
    simp [classKey, gm, show t - (t - 7) = 7 by omega, hc1]
  case n4 =>
    unfold epBlock
    split
    · exact List.Pairwise.nil
    · rename_i e _
      refine List.nodup_append.mpr ⟨nodup_optMove _ _, nodup_optMove _ _, fun a ha b hb e' => ?_⟩
      obtain ⟨h1, rfl⟩ := mem_optMove.mp ha
      obtain ⟨_, rfl⟩ := mem_optMove.mp hb
      have := (epCondNE_facts h1).1
      have := (gm_inj_iff.mp e').2.1
      omega
  case k4 =>
    intro a ha
    obtain ⟨e, he, ⟨hc, rfl⟩ | ⟨hc, rfl⟩⟩ := mem_epBlock.mp ha
    · have := (epCondNE_facts hc).1
      simp [classKey, gm, show e - (e - 9) = 9 by omega, (F.ep e he).2.2.2.1]
    · have := (epCondNW_facts hc).1
      simp [classKey, gm, show e - (e - 7) = 7 by omega, (F.ep e he).2.2.2.1]
  case k5 =>
    intro s t _ _
    rfl
  case k6 =>
    intro s t hs _
    simp only [SBlock.src, BitVec.getLsbD_and, Bool.and_eq_true] at hs
    simp [classKey, gm, hs.2]
  case k7 =>
    intro s t hs _
    rw [SBlock.src, BitVec.getLsbD_and, Bool.and_eq_true] at hs
    simp [classKey, gm, (not_pinned hs.2).2.1]
  case k8 =>
    intro s t hs _
    simp only [SBlock.src, BitVec.getLsbD_and, Bool.and_eq_true] at hs
    simp [classKey, gm, hs.2]
  case k9 =>
    intro s t hs _
    rw [SBlock.src, BitVec.getLsbD_and, Bool.and_eq_true] at hs
    simp [classKey, gm, (not_pinned hs.2).2.2]
  case k10 =>
    intro s t hs ht
    simp only [SBlock.src, SBlock.tgt, BitVec.getLsbD_and, Bool.and_eq_true] at hs ht
    simp [classKey, gm, pin (.inl hs.2), ht.1.1]
  case k11 =>
    intro s t hs ht
    simp only [SBlock.src, SBlock.tgt, BitVec.getLsbD_and, Bool.and_eq_true] at hs ht
    have hnb : (bishopMoves s p.occ).getLsbD t = false := by
      cases h : (bishopMoves s p.occ).getLsbD t
      · rfl
      · have := bishop_rook_disjoint s (BitVec.lt_of_getLsbD hs.2) p.occ t h
        rw [ht.1.1] at this
        cases this
    simp [classKey, gm, pin (.inr hs.2), hnb]
  case k12 =>
    intro s t hs _
    rw [SBlock.src, BitVec.getLsbD_and, Bool.and_eq_true] at hs
    simp [classKey, gm, (not_pinned hs.2).1]
  case k13 =>
    intro a ha
    obtain ⟨s, t, _, ht, rfl⟩ := mem_pieceBlock.mp ha
    simp [classKey, gm, (Att.kingTargetsSafe_sub ht).2.2]
  case k14 =>
    intro a ha
    obtain ⟨hc, rfl⟩ := mem_optMove.mp ha
    have hu := Att.castleOk_right hc
    have hrook := (F.rK hu).2.1
    rw [BitVec.getLsbD_and, Bool.and_eq_true] at hrook
    simp [classKey, gm, fromCoords, hrook.1, hu]
  case k15 =>
    intro a ha
    obtain ⟨hc, rfl⟩ := mem_optMove.mp ha
    obtain ⟨_, hrook, hlt, _⟩ := F.rQ (Att.castleOk_right hc)
    rw [BitVec.getLsbD_and, Bool.and_eq_true] at hrook
    have hne : ¬ (p.usK = true ∧ p.cf1 = p.cf0) := fun ⟨hK, e⟩ => by
      have := (F.rK hK).2.2
      omega
    simp [classKey, gm, fromCoords, hrook.1, hne]

theorem gen_nodup_of (p : Position) (F : VFacts p) : (moveGenerator p).Nodup := by
  rw [moveGenerator_eq]
  exact (gen_keyed p F).nodup.1

theorem gen_nodup_callback (p : Position) (hV : ValidPos p = true) : (moveGenerator p).Nodup :=
  gen_nodup_of p (vfacts_of_valid hV)

/-- the last clause of C01. -/
theorem gen_nodup (p : Position) (hV : ValidPos p = true) : (legalMoves p).Nodup := by
  unfold legalMoves
  apply nodup_map_inj _ (gen_nodup_callback p hV)
  intro a ha b hb e
  have h1 := (gen_shape p hV a ha).tag
  have h2 := (gen_shape p hV b hb).tag
  rw [e, h2] at h1
  cases a; cases b
  simp only at e h1
  simp only [Option.some.injEq] at h1
  rw [e, h1]

end Rawr
