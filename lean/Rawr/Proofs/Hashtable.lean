import Rawr.Model.Hashtable
/-! Helper lemmas for C18: every operation of the `Table` model described through the
slot-content function `Table.slot` (`default` outside the table) and `Table.len`. -/
set_option linter.unusedSectionVars false
namespace Rawr
namespace Table
variable {α : Type} [Inhabited α] [DecidableEq α]

def slot (t : Table α) (i : Nat) : α := t.entries[i]?.getD default

theorem slot_of_lt (t : Table α) {i : Nat} (h : i < t.len) : t.slot i = t.entries[i]'h := by
  unfold len at h
  simp [slot, h]

theorem slot_of_ge (t : Table α) {i : Nat} (h : t.len ≤ i) : t.slot i = default := by
  unfold len at h
  simp [slot, h]

theorem ext_slot {t u : Table α} (hl : t.len = u.len) (hs : ∀ i, i < t.len → t.slot i = u.slot i) :
    t = u := by
  cases t with | mk a => cases u with | mk b =>
  congr
  apply Array.ext hl
  intro i h1 h2
  have := hs i h1
  rw [slot_of_lt _ h1, slot_of_lt _ (by simpa [len] using h2)] at this
  exact this

theorem len_resize (t : Table α) (mb es : Nat) : (t.resize mb es).len = numEntries mb es := by
  unfold resize len
  simp only
  split
  · simp; omega
  · simp; omega

theorem slot_resize (t : Table α) (mb es i : Nat) :
    (t.resize mb es).slot i = if i < numEntries mb es then t.slot i else default := by
  unfold resize slot
  simp only
  split
  · rename_i h
    by_cases hi : i < numEntries mb es
    · have h1 : i < min (numEntries mb es) t.entries.size := by omega
      have h2 : i < t.entries.size := by omega
      simp [hi, h1, h2]
    · have h1 : ¬ i < min (numEntries mb es) t.entries.size := by omega
      simp [hi, h1]
  · rename_i h
    by_cases hi : i < numEntries mb es
    · simp only [hi, if_true]
      by_cases h2 : i < t.entries.size
      · simp [Array.getElem?_append, h2]
      · simp only [Array.getElem?_append, h2, Array.getElem?_replicate, if_false]
        split <;> simp [h2]
    · have h2 : ¬ i < t.entries.size := by omega
      have h3 : ¬ i - t.entries.size < numEntries mb es - t.entries.size := by omega
      simp [hi, Array.getElem?_append, h2, h3]

theorem len_new (mb es : Nat) : (new mb es : Table α).len = numEntries mb es := len_resize _ _ _

theorem slot_new (mb es i : Nat) : (new mb es : Table α).slot i = default := by
  unfold new
  rw [slot_resize]
  split
  · simp [slot]
  · rfl

theorem len_clear (t : Table α) : t.clear.len = t.len := by simp [clear, len]

theorem slot_clear (t : Table α) (i : Nat) : t.clear.slot i = default := by
  simp only [clear, slot, Array.getElem?_replicate]
  split <;> rfl

theorem clear_eq_new (t : Table α) (mb es : Nat) (h : t.len = numEntries mb es) : t.clear = Table.new mb es :=
  ext_slot (by rw [len_clear, len_new, h]) fun i _ => by rw [slot_clear, slot_new]

theorem idx_eq (t : Table α) (key : Nat) :
    t.idx key = if t.len = 0 then none else some (key % t.len) := rfl

/-- Holds for the zero-slot table as well: `key % 0 = key` is outside the table, where `slot` reads
`default`, which is what `poll` answers. -/
theorem poll_eq (t : Table α) (key : Nat) : t.poll key = some (t.slot (key % t.len)) := by
  unfold poll
  by_cases h : t.len = 0
  · have h' : t.entries.size = 0 := h
    simp only [h', if_true]
    rw [slot_of_ge _ (by omega)]
  · have h' : ¬ t.entries.size = 0 := h
    simp only [h', if_false]
    have hk : key % t.len < t.len := Nat.mod_lt _ (Nat.pos_of_ne_zero h)
    rw [slot_of_lt _ hk]
    exact Array.getElem?_eq_getElem hk

theorem add_eq (t : Table α) (key : Nat) (e : α) :
    t.add key e = some (if t.len = 0 then t else ⟨t.entries.setIfInBounds (key % t.len) e⟩) := by
  unfold add
  by_cases h : t.len = 0
  · have h' : t.entries.size = 0 := h
    simp only [h, h', if_true]
  · have h' : ¬ t.entries.size = 0 := h
    simp only [h, h', if_false]
    rfl

/-- The zero-slot table: every lookup answers `default`, every store is ignored. -/
theorem poll_zero (t : Table α) (key : Nat) (h : t.len = 0) : t.poll key = some default := by
  rw [poll_eq, slot_of_ge _ (by omega)]

theorem add_zero (t : Table α) (key : Nat) (e : α) (h : t.len = 0) : t.add key e = some t := by
  rw [add_eq]; simp only [h, if_true]

theorem add_ne_none (t : Table α) (key : Nat) (e : α) : ∃ t', t.add key e = some t' :=
  ⟨_, add_eq t key e⟩

theorem poll_ne_none (t : Table α) (key : Nat) : ∃ e, t.poll key = some e :=
  ⟨_, poll_eq t key⟩

theorem len_add {t t' : Table α} {key : Nat} {e : α} (h : t.add key e = some t') :
    t'.len = t.len := by
  rw [add_eq] at h
  cases h
  split
  · rfl
  · simp [len]

theorem slot_add {t t' : Table α} {key : Nat} {e : α} (h : t.add key e = some t') (i : Nat) :
    t'.slot i = if t.len ≠ 0 ∧ i = key % t.len then e else t.slot i := by
  rw [add_eq] at h
  cases h
  by_cases hn : t.len = 0
  · simp only [hn, if_true, ne_eq, not_true_eq_false, false_and, if_false]
  · have hk : key % t.len < t.entries.size := Nat.mod_lt _ (Nat.pos_of_ne_zero hn)
    simp only [hn, if_false, ne_eq, not_false_eq_true, true_and, slot, Array.getElem?_setIfInBounds]
    by_cases hi : i = key % t.len
    · subst hi; simp [hk]
    · have : ¬ key % t.len = i := fun h => hi h.symm
      simp [hi, this]

theorem poll_add_cases {t t' : Table α} {key : Nat} {e : α} (h : t.add key e = some t') (k : Nat) :
    t'.poll k = some e ∨ t'.poll k = t.poll k := by
  rw [poll_eq, poll_eq, len_add h, slot_add h]
  split
  · exact Or.inl rfl
  · exact Or.inr rfl

theorem toList_extract_eq_map (a : Array α) (n : Nat) (h : n ≤ a.size) :
    (a.extract 0 n).toList = (List.range n).map fun i => a[i]?.getD default := by
  apply List.ext_getElem
  · simp; omega
  · intro i h1 h2
    simp at h1 h2
    have : i < a.size := by omega
    simp [this]

theorem hashfull_eq (t : Table α) :
    t.hashfull = if min t.len 1000 = 0 then none
      else some ((List.range (min t.len 1000)).filter fun i => t.slot i ≠ default).length := by
  unfold hashfull
  simp only [len]
  by_cases h : min t.entries.size 1000 = 0
  · simp only [h, if_true]
  · simp only [h, if_false]
    rw [toList_extract_eq_map _ _ (Nat.min_le_left _ _), List.filter_map, List.length_map]
    rfl

end Table
end Rawr
