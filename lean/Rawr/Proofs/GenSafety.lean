import Rawr.Proofs.GenAllowed
/-!
# C01, the safety lemma for every move that is neither a king move, nor en passant, nor castling

Mover's frame: `B := relBoard p`, `k := lsb (p.p5 &&& p.c0)` (`= (prelude p).ksq`). An own non-king piece
on `f` goes to a square `t` not holding an own piece; nothing else changes except that an enemy piece
on `t` disappears.  Then (`safe_after_move`, absolute board; `safe_after_move_rel`, mover's frame)

  the mover's king is NOT attacked on the board after the move  ↔
    `(prelude p).allowed.isSet t`  ∧  `PinOk p f t`

where `PinOk p f t` says: for every line `d` on which `f` is pinned (`f` is the first piece seen from the
king along `d`, the next piece `s` behind it is an enemy slider moving along `d`), `t` lies on the pin line
king..pinner (`RayHit B k d t ∨ RayHit B f d t`).  `GenPins.lean` relates `PinOk` to the generator's
`pinned`, `bpinned/bxrays`, `rpinned/rxrays`.  The proof goes through `PinCut`, the same condition counted in steps
from the king (`At`, `pt`): `safe_core` (any board; en passant uses it too) and `pinOk_iff_pinCut`.
-/
namespace Rawr.Att
open Spec

/-- `t` is on every pin line of `f` (there is at most one). -/
def PinOk (p : Position) (f t : Nat) : Prop :=
  ∀ d ∈ dirs8, ∀ s, RayHit (relBoard p) (lsb (p.p5 &&& p.c0)) d f → RayHit (relBoard p) f d s →
    (sliders p d).getLsbD s = true →
    RayHit (relBoard p) (lsb (p.p5 &&& p.c0)) d t ∨ RayHit (relBoard p) f d t

/-- every enemy slider that sees `k` once `f` is lifted (and did not before) has `t` on its line. -/
def PinCut (B : Board) (k f t : Nat) : Prop :=
  ∀ s, s < 64 → ∀ q : Piece, B s = some q → q.white = false → s ≠ t →
    ∀ d n, KindDir q.kind d → 1 ≤ n → At k d n s →
      (∀ i : Nat, 1 ≤ i → i < n → (pt k d i = f ∨ B (pt k d i) = none)) →
      (∃ j : Nat, 1 ≤ j ∧ j < n ∧ pt k d j = f) →
      ∃ i : Nat, 1 ≤ i ∧ i < n ∧ pt k d i = t

/-- the semantic core: lift `f`, put `pc` on `t`. -/
theorem safe_core (B : Board) (k f t : Nat) (pc : Piece) (hpc : pc.white = true)
    (hf : ∃ qf : Piece, B f = some qf ∧ qf.white = true) :
    attackedBy (setSq (setSq B f none) t (some pc)) false k = false ↔ Chk B k t ∧ PinCut B k f t := by
  have hX : ∀ s (q : Piece), q.white = false → (setSq B f none s = some q ↔ B s = some q) := by
    intro s q hw
    rw [setSq_none_some]
    refine ⟨fun h => h.2, fun h => ⟨fun e => ?_, h⟩⟩
    obtain ⟨qf, hqf, hwf⟩ := hf
    rw [e, hqf] at h
    injection h with h; rw [h, hw] at hwf; cases hwf
  rw [attacked_after_place _ t k pc hpc]
  constructor
  · intro H
    constructor
    · intro s hs q hB hw hst
      obtain ⟨h1, h2⟩ := H s hs q ((hX s q hw).mpr hB) hw hst
      refine ⟨h1, fun d n hkd hh => h2 d n hkd ?_⟩
      exact (hit_lift B f k d n s).mpr ⟨hh.1, hh.2.1, fun i a b => Or.inr (hh.2.2 i a b)⟩
    · intro s hs q hB hw hst d n hkd hn hat hcond _
      exact (H s hs q ((hX s q hw).mpr hB) hw hst).2 d n hkd ((hit_lift B f k d n s).mpr ⟨hn, hat, hcond⟩)
  · rintro ⟨hchk, hpin⟩ s hs q hXs hw hst
    have hB := (hX s q hw).mp hXs
    refine ⟨(hchk s hs q hB hw hst).1, ?_⟩
    intro d n hkd hh
    obtain ⟨hn, hat, hcond⟩ := (hit_lift B f k d n s).mp hh
    by_cases hj : ∃ j : Nat, 1 ≤ j ∧ j < n ∧ pt k d j = f
    · exact hpin s hs q hB hw hst d n hkd hn hat hcond hj
    · apply (hchk s hs q hB hw hst).2 d n hkd
      refine ⟨hn, hat, fun i a b => ?_⟩
      rcases hcond i a b with h | h
      · exact absurd ⟨i, a, b, h⟩ hj
      · exact h

theorem pinOk_iff_pinCut {p : Position} (hV : ValidPos p = true) {f t : Nat}
    (hfo : relBoard p f ≠ none) :
    PinOk p f t ↔ PinCut (relBoard p) (lsb (p.p5 &&& p.c0)) f t := by
  have hC := valid_consistent hV
  have k64 := (kingFacts hV).k64
  constructor
  · intro hok s hs q hB hw hst d n hkd hn hat hcond hj
    have gd := kindDir_goodDir hkd
    have hd8 := kindDir_dirs8 hkd
    obtain ⟨j, hjn, h1, h2⟩ := (hit_lift_through _ gd k64 hs).mp ⟨(hit_lift _ f _ d n s).mpr ⟨hn, hat, hcond⟩, hj⟩
    have hsl := (sliders_iff hC hd8 s hs).mpr ⟨q, hB, hw, hkd⟩
    -- `t` is seen from the king before `f`, or from `f` before `s`
    rcases hok d hd8 s ((rayHit_iff_hit _ gd _ _).mpr ⟨j, h1⟩) ((rayHit_iff_hit _ gd _ _).mpr ⟨_, h2⟩) hsl
      with h | h
    · obtain ⟨i, hi⟩ := (rayHit_iff_hit _ gd _ _).mp h
      exact ⟨i, hi.1, Nat.lt_of_le_of_lt (hit_le hi h1.1 h1.2.1 hfo) hjn, at_pt hi.2.1⟩
    · obtain ⟨i, hi⟩ := (rayHit_iff_hit _ gd _ _).mp h
      have hle := hit_le hi h2.1 h2.2.1 (by rw [hB]; nofun)
      have hne : i ≠ n - j := fun e => hst (at_eq h2.2.1 (e ▸ hi.2.1))
      exact ⟨j + i, Nat.le_trans hi.1 (Nat.le_add_left i j), by omega, at_pt (at_add h1.2.1 hi.2.1)⟩
  · intro hcut d hd8 s hr1 hr2 hsl
    have gd := goodDir_dirs8 d hd8
    have hs : s < 64 := BitVec.lt_of_getLsbD hsl
    obtain ⟨j, h1⟩ := (rayHit_iff_hit _ gd _ _).mp hr1
    obtain ⟨m, h2⟩ := (rayHit_iff_hit _ gd _ _).mp hr2
    obtain ⟨q, hB, hw, hkd⟩ := (sliders_iff hC hd8 s hs).mp hsl
    by_cases hst : s = t
    · right; rw [← hst]; exact hr2
    · have hm1 := h2.1
      obtain ⟨hh, hj⟩ := (hit_lift_through (relBoard p) (n := j + m) gd k64 hs).mpr
        ⟨j, by omega, h1, by rw [Nat.add_sub_cancel_left]; exact h2⟩
      obtain ⟨hn, hat, hcond⟩ := (hit_lift _ f _ d _ s).mp hh
      obtain ⟨i, hi1, hin, hpi⟩ := hcut s hs q hB hw hst d (j + m) hkd hn hat hcond hj
      have att : At (lsb (p.p5 &&& p.c0)) d i t := hpi ▸ (at_le gd k64 hs hat (Nat.le_of_lt hin)).1
      -- an inner point of the whole line is one of the first part, or `f`, or one of the second part
      rcases Nat.lt_or_ge j i with h | h
      · right
        exact (rayHit_iff_hit _ gd _ _).mpr ⟨i - j, hit_prefix h2 (by omega) (by omega) (at_sub h1.2.1 att (Nat.le_of_lt h))⟩
      · left
        exact (rayHit_iff_hit _ gd _ _).mpr ⟨i, hit_prefix h1 hi1 h att⟩

theorem safe_after_move_rel {p : Position} (hV : ValidPos p = true) {f t : Nat} (hf : f < 64) (ht : t < 64)
    (hus : p.c0.getLsbD f = true) (hto : p.c0.getLsbD t = false)
    (pc : Piece) (hpc : pc.white = true) :
    attackedBy (setSq (setSq (relBoard p) f none) t (some pc)) false (lsb (p.p5 &&& p.c0)) = false ↔
      ((prelude p).allowed.getLsbD t = true ∧ PinOk p f t) := by
  have hC := valid_consistent hV
  obtain ⟨qf, hqf, hwf⟩ := own_piece hC hf hus
  have hfo : relBoard p f ≠ none := by rw [hqf]; exact fun e => by cases e
  rw [safe_core _ _ f t pc hpc ⟨qf, hqf, hwf⟩, allowed_iff hV t ht, pinOk_iff_pinCut hV hfo]
  constructor
  · rintro ⟨h1, h2⟩; exact ⟨⟨hto, h1⟩, h2⟩
  · rintro ⟨⟨_, h1⟩, h2⟩; exact ⟨h1, h2⟩

theorem framePiece_framePiece (b : Bool) (pc : Piece) : framePiece b (framePiece b pc) = pc := by
  obtain ⟨w, kd⟩ := pc
  cases b <;> cases w <;> rfl

/-- The safety lemma on the absolute board. `f`: an own piece other than the king (the king's square is not
excluded by a hypothesis: for `f = k` the left-hand side speaks about the vacated square, which is not what
a king move needs — use `C01_king_steps` there); `t` not an own piece (so `t ≠ f`); `pc`: the piece standing on `t`
afterwards (the moved piece or the promotion piece), of the mover's colour. -/
theorem safe_after_move {p : Position} (hV : ValidPos p = true) {f t : Nat} (hf : f < 64) (ht : t < 64)
    (hus : p.c0.isSet f = true) (hto : p.c0.isSet t = false)
    (pc : Piece) (hpc : pc.white = !p.black) :
    Spec.attackedBy
        (setSq (setSq (abs p).board (absSq p.black f) none) (absSq p.black t) (some pc))
        p.black (absSq p.black (prelude p).ksq) = false ↔
      ((prelude p).allowed.isSet t = true ∧ PinOk p f t) := by
  have k64 := (kingFacts hV).k64
  have hpc' : (framePiece p.black pc).white = true := by
    obtain ⟨w, kd⟩ := pc
    dsimp only at hpc; subst hpc
    cases p.black <;> rfl
  unfold BB.isSet at *
  rw [← safe_after_move_rel hV hf ht hus hto (framePiece p.black pc) hpc']
  have e : frameB p.black (setSq (setSq (relBoard p) f none) t (some (framePiece p.black pc)))
      = setSq (setSq (abs p).board (absSq p.black f) none) (absSq p.black t) (some pc) := by
    rw [frameB_setSq, frameB_setSq, ← absBoard_frame]
    simp only [Option.map_none, Option.map_some, framePiece_framePiece]
  rw [← e]
  have := attackedBy_frame p.black (setSq (setSq (relBoard p) f none) t (some (framePiece p.black pc)))
    false (lsb (p.p5 &&& p.c0)) k64
  rw [absCol_false] at this
  show attackedBy _ p.black (absSq p.black (lsb (p.p5 &&& p.c0))) = false ↔ _
  rw [this]

/-- White: Ke1 (4), Be2 (12), Nd1 (3); Black: Kh8 (63), Re7 (52), Bb4 (25) — the bishop e2 is pinned on the
e-file, the bishop b4 gives check. -/
def safetyPos : Position :=
  let q : Position :=
    { Position.dflt with
      c0 := (bit 4 ||| bit 12 ||| bit 3), c1 := (bit 63 ||| bit 52 ||| bit 25),
      p1 := bit 3, p2 := (bit 12 ||| bit 25), p3 := bit 52, p5 := (bit 4 ||| bit 63) }
  { q with hash := q.calculateHash }

theorem safetyPos_valid : ValidPos safetyPos = true := by decide +kernel

/-- the hypotheses of the safety lemma hold for Nd1–c3 (3 → 18, blocks the check): both sides are true. -/
example : Spec.attackedBy
      (setSq (setSq (abs safetyPos).board (absSq safetyPos.black 3) none) (absSq safetyPos.black 18)
        (some ⟨true, .knight⟩)) safetyPos.black (absSq safetyPos.black (prelude safetyPos).ksq) = false ↔
    ((prelude safetyPos).allowed.isSet 18 = true ∧ PinOk safetyPos 3 18) :=
  safe_after_move safetyPos_valid (f := 3) (t := 18) (by decide) (by decide)
    (by decide +kernel) (by decide +kernel) ⟨true, .knight⟩ (by decide +kernel)

example : (prelude safetyPos).allowed.isSet 18 = true ∧ (prelude safetyPos).allowed.isSet 19 = false ∧
    (prelude safetyPos).pinned.isSet 12 = true ∧ (prelude safetyPos).pinned.isSet 3 = false ∧
    Spec.attackedBy
      (setSq (setSq (abs safetyPos).board 3 none) 18 (some ⟨true, .knight⟩)) false 4 = false ∧
    Spec.attackedBy
      (setSq (setSq (abs safetyPos).board 12 none) 18 (some ⟨true, .bishop⟩)) false 4 = true := by
  decide +kernel

/-- c3 (18) is `allowed` (it blocks the check), but the piece on e2 is pinned on the e-file: `PinOk` fails
for e2 → c3 (the lemma does not depend on how the piece moves). -/
example : ¬ PinOk safetyPos 12 18 := by
  intro h
  have := (safe_after_move safetyPos_valid (f := 12) (t := 18) (by decide) (by decide)
    (by decide +kernel) (by decide +kernel) ⟨true, .bishop⟩ (by decide +kernel)).mpr
    ⟨by decide +kernel, h⟩
  revert this
  decide +kernel

#print axioms safe_after_move
#print axioms safe_after_move_rel
#print axioms allowed_iff
#print axioms allAttackers_iff

end Rawr.Att
