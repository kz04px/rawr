import Rawr.Proofs.RustSearchAgree_Root
import Rawr.Proofs.RustSearchAgree_Valid
import Rawr.Props.C03_rules
import Rawr.Proofs.TerminationMono
/-!
# The search agreement theorems on the positions the properties quantify over

`agree_qsearch`, `agree_negamax`, `agree_root` assume that the ordering code cannot hit `piece.unwrap()` on an empty
origin square in the tree the search walks (`QOrderOk fuel p` / `OrderOkN fuel p`).  Here that is PROVED for every
valid position (`ValidPos`, `EpConsistent`) whose move counters leave room for `fuel + 64` plies, by walking the same
tree as the C03 proof: `VE` is closed under generated moves and under the null move when not in check
(`searchDomC_VE`), the positions quiescence visits are valid up to the stored key (`QVE`, `qdom_QVE`), and a valid
position (with or without a correct key) has the board facts `VFacts` from which the generator shape lemmas give
`SrcOk`.  The `_rules` corollaries have no other hypothesis.
-/
namespace Rawr
open Br

/-- the board facts do not mention the stored key. -/
theorem vfacts_of_nohash {p : Position} (hV : Term.ValidH p) : VFacts p :=
  let F := vfacts_of_valid hV
  ⟨F.cons, F.king1, F.rK, F.rQ, F.ep⟩

theorem qOrderOk_of_QVE : ∀ (n : Nat) (q : Position), QVE n q → QOrderOk n q := by
  intro n
  induction n with
  | zero => intro q _; trivial
  | succ n ih =>
    intro q h
    exact ⟨srcOk_of_vfacts (vfacts_of_nohash h.1), fun m hm r hk => ih r (qdom_QVE.capt n q m r h hm hk)⟩

/-- **the side condition of the agreement theorems holds on `V ∧ E` with counter room.** -/
theorem orderOkN_of_VE : ∀ (n : Nat) (q : Position), VE n q → OrderOkN n q := by
  intro n
  induction n with
  | zero => intro q _; trivial
  | succ n ih =>
    intro q h
    exact ⟨srcOk_of_vfacts (vfacts_of_valid h.1), qOrderOk_of_QVE qFuel q h.qve,
      fun m hm r hk => ih r (searchDomC_VE.move n q m r h hm hk),
      fun hc => ih _ (searchDomC_VE.null n q h hc)⟩

theorem agree_qsearch_rules (fuel : Nat) (p : Position) (hV : ValidPos p = true)
    (hE : Spec.EpConsistent (abs p) = true)
    (hh : p.halfmoves + fuel + 64 < 2147483648) (hf : p.fullmoves + fuel + 64 < 2147483648)
    (st : QState) (alpha beta ply : Int) :
    R.qsearch fuel p st alpha beta ply = qsearch fuel p st alpha beta ply :=
  agree_qsearch fuel p (qOrderOk_of_QVE fuel p ⟨Term.validH_of_valid hV, hE, by omega, by omega⟩) st alpha beta ply

theorem agree_negamax_rules (lim : Limit) (fuel : Nat) (p : Position) (hV : ValidPos p = true)
    (hE : Spec.EpConsistent (abs p) = true)
    (hh : p.halfmoves + fuel + 64 < 2147483648) (hf : p.fullmoves + fuel + 64 < 2147483648)
    (st : SState) (alpha beta ply depth : Int) (canNull : Bool) :
    R.negamax (fun s => some (shouldStop lim s)) fuel p st alpha beta ply depth canNull =
      negamax lim fuel p st alpha beta ply depth canNull :=
  agree_negamax lim fuel p (orderOkN_of_VE fuel p ⟨hV, hE, hh, hf⟩) st alpha beta ply depth canNull

/-- the driver: regenerated (projected to what the model keeps) = model on every valid position with counter room,
for every search setting (`toLimit` is `none` only for the perft settings, which uci/go.rs never hands to `root`). -/
theorem agree_root_rules (clock : Nat → Nat) (p : Position) (s : R.Settings) (lim : Limit) (fuel : Nat)
    (hlim : toLimit clock p s = some lim) (hV : ValidPos p = true) (hE : Spec.EpConsistent (abs p) = true)
    (hh : p.halfmoves + fuel + 64 < 2147483648) (hf : p.fullmoves + fuel + 64 < 2147483648)
    (hist : List BB) (tt : Table TTEntry) :
    (R.root clock p hist tt s fuel).map
        (fun r => (⟨r.1.toOption, r.2.2.2.map infoToModel, r.2.1, r.2.2.1⟩ : RootResult)) =
      root lim fuel p hist tt :=
  agree_root clock p s lim fuel hlim (orderOkN_of_VE fuel p ⟨hV, hE, hh, hf⟩) hist tt

/-! non-vacuity: the start position satisfies the hypotheses (for the fuel the UCI driver uses, 1000) -/

example (lim : Limit) (st : SState) (a b ply d : Int) (cn : Bool) :
    R.negamax (fun s => some (shouldStop lim s)) 1000 Gen.startpos st a b ply d cn =
      negamax lim 1000 Gen.startpos st a b ply d cn :=
  agree_negamax_rules lim 1000 Gen.startpos startpos_VE.1 startpos_VE.2.1 startpos_VE.2.2.1 startpos_VE.2.2.2 st a b ply d cn

example (clock : Nat → Nat) (hist : List BB) (tt : Table TTEntry) :
    (R.root clock Gen.startpos hist tt (.Depth 3) 1000).map
        (fun r => (⟨r.1.toOption, r.2.2.2.map infoToModel, r.2.1, r.2.2.1⟩ : RootResult)) =
      root (.depth 3) 1000 Gen.startpos hist tt :=
  agree_root_rules clock Gen.startpos (.Depth 3) (.depth 3) 1000 rfl startpos_VE.1 startpos_VE.2.1 startpos_VE.2.2.1
    startpos_VE.2.2.2 hist tt

/-! non-vacuity: the regenerated search and driver compute (depth limit 1 from the start position, 3-slot table).
Both examples read their value off `negamax_startpos_d1`, the model's search with fuel 3; the driver's call has
fuel 4 and its second iteration is stopped by the first poll. -/

theorem negamax_startpos_d1 :
    (negamax (.depth 1) 3 Gen.startpos ⟨[], ⟨#[default, default, default]⟩, 1, 0, 0, none, 0⟩
      (-10000000) 10000000 0 1 false).map (fun r => (r.1, r.2.nodes, r.2.best)) = some (64, 20, some ⟨6, 21, 6⟩) := by
  decide +kernel

example : (R.negamax (fun s => some (shouldStop (.depth 1) s)) 3 Gen.startpos ⟨[], ⟨#[default, default, default]⟩, 1, 0, 0, none, 0⟩
    (-10000000) 10000000 0 1 false).map (fun r => (r.1, r.2.nodes)) = some (64, 20) := by
  rw [agree_negamax_rules _ _ _ startpos_VE.1 startpos_VE.2.1 (by decide) (by decide)]
  obtain ⟨r, hr, he⟩ := Option.map_eq_some_iff.mp negamax_startpos_d1
  rw [hr]
  exact congrArg (fun x => some (x.1, x.2.1)) he

example : (R.root (fun _ => 0) Gen.startpos [] ⟨#[default, default, default]⟩ (.Depth 1) 4).map
    (fun r => (r.1.toOption, r.2.2.2.length)) = some (some ⟨6, 21, 6⟩, 1) := by
  obtain ⟨⟨v, s1⟩, hn, he⟩ := Option.map_eq_some_iff.mp negamax_startpos_d1
  obtain ⟨res, hres, hb, hl⟩ := rootIter_depth_lt_two 1 (by decide) 3 126 Gen.startpos ⟨[], _, 0, 0, 0, none, 0⟩ none []
    v s1 _ (Term.negamax_fuel_mono hn (by decide)) (congrArg (·.2.2) he)
  have h := agree_root_rules (fun _ => 0) Gen.startpos (.Depth 1) (.depth 1) 4 rfl startpos_VE.1 startpos_VE.2.1
    (by decide) (by decide) [] ⟨#[default, default, default]⟩
  rw [show root (.depth 1) 4 Gen.startpos [] _ = some res from hres] at h
  obtain ⟨r, hr, rfl⟩ := Option.map_eq_some_iff.mp h
  rw [hr]
  exact congrArg some (Prod.ext hb ((List.length_map _).symm.trans hl))

end Rawr

#print axioms Rawr.orderOkN_of_VE
#print axioms Rawr.agree_qsearch_rules
#print axioms Rawr.agree_negamax_rules
#print axioms Rawr.agree_root_rules
