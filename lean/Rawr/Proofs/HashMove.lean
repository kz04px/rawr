import Rawr.Proofs.MakeMoveRes
import Rawr.Proofs.HashSpec
import Rawr.Proofs.BoolTac
/-! C04(a): for a position satisfying `KeyHyps` and a move of `MoveShape`, `makemove` and `predict_hash` succeed, and
the key predicted and the key recomputed after the move differ from the current stored / recomputed key by the same
amount. The recomputed key is read off the description `Res` of the result: the piece part through the absolute
board (`boardKey_setSq`, one write per square the move touches), the en-passant / rights / turn part through
`RFacts`. -/
namespace Rawr.ZH
open Rawr Rawr.Position Rawr.Spec Rawr.MM

section
variable {p : Position} {m : Mv} {i c : Nat} {cap epc pr : Bool}

theorem predict_nc (K : ZKeys) (kh : KeyHyps p = true) (f : NCFacts p m i c cap epc pr)
    (hprE : pr = (m.promo != 6)) :
    predictHashK K p m =
      some (p.hash ^^^ ncKeyDelta K p.black m i c cap epc pr ^^^ metaDelta K p m i ^^^ K.turn) := by
  obtain ⟨nK, nQ⟩ := nc_noK kh f
  have hK : (i == 5 && p.usK && m.dst == fromCoords p.cf0 0) = false := by
    rw [Bool.and_assoc, nK, Bool.and_false]
  have hQ : (i == 5 && p.usQ && m.dst == fromCoords p.cf1 0) = false := by
    rw [Bool.and_assoc, nQ, Bool.and_false]
  have hpr : ∀ (a b h : BB), (if (m.promo != 6) = true then h ^^^ a ^^^ b else h) = h ^^^ cnd pr a ^^^ cnd pr b := by
    intro a b h
    rw [← hprE]
    cases pr <;> simp [cnd]
  have hc1 : p.c1.isSet m.dst = cap := f.hcap
  unfold predictHashK
  simp only [f.hpo, Option.bind_eq_bind, Option.bind_some, Option.pure_def, hc1, hpr, ← f.epcE, hK, hQ,
    Bool.false_eq_true, if_false, xorIf_eq]
  simp only [ncKeyDelta, metaDelta, kU, kT]
  cases hcp : cap
  · simp only [Bool.false_eq_true, if_false]
    refine congrArg some ?_
    cases p.ep <;> simp only [epKey, cnd, if_false, BitVec.xor_zero, BitVec.zero_xor] <;> xor_ac
  · rw [f.hc hcp]
    simp only [if_true, Option.bind_some]
    refine congrArg some ?_
    cases p.ep <;> simp only [epKey, cnd, if_true, BitVec.zero_xor] <;> xor_ac
end

/-- the key `predict_hash` computes for a castling move, king side (first alternative) or queen side. -/
theorem predict_castle {p : Position} {m : Mv} {kTo rTo : Nat} (K : ZKeys) (f : CFacts p m kTo rTo)
    (hpr : m.promo = 6) (hside : CSide p m kTo rTo) :
    predictHashK K p m =
      some (p.hash ^^^ cKeyDelta K p.black m kTo rTo ^^^ metaDelta K p m 5 ^^^ K.turn) := by
  have h1d : p.c1.isSet m.dst = false := c1_of_c0 f.hC f.h0d
  have h50 : ((5 : Nat) == 0) = false := rfl
  have h55 : ((5 : Nat) == 5) = true := rfl
  have h66 : ((6 : Nat) != 6) = false := rfl
  have hdd : (m.dst == m.dst) = true := by simp
  -- `predict_hash` toggles the king's keys on `src` and `dst` twice
  have twice : ∀ x y r : BB, x ^^^ x ^^^ (y ^^^ y ^^^ r) = r := fun x y r => by
    rw [BitVec.xor_self, BitVec.zero_xor, BitVec.xor_self, BitVec.zero_xor]
  -- the king-side branch of `predict_hash` is taken exactly on the king side
  have hc : ((5 : Nat) == 5 && p.usK && m.dst == fromCoords p.cf0 0) = (kTo == 6) := by
    rcases hside with ⟨rfl, -, hu, hdst, -⟩ | ⟨rfl, -, hnK, -, -, -⟩
    · rw [hu, hdst, hdd]; rfl
    · rw [Bool.and_assoc, hnK]; rfl
  unfold predictHashK
  simp only [f.hpo, Option.bind_eq_bind, Option.bind_some, Option.pure_def, h1d, hpr, h50, h66, hc,
    Bool.false_and, Bool.false_eq_true, if_false, xorIf_eq]
  rcases hside with ⟨rfl, rfl, hu, hdst, -⟩ | ⟨rfl, rfl, -, hu, hdst, -⟩
  all_goals
    simp only [h55, show ((6 : Nat) == 6) = true from rfl, show ((2 : Nat) == 6) = false from rfl, hu, hdst, hdd,
      Bool.true_and, Bool.and_true, Bool.and_self, if_true, Bool.false_eq_true, if_false]
    refine congrArg some ?_
    simp only [cKeyDelta, metaDelta, kU, hdst, hu, h50, h55, Bool.false_and, Bool.true_and, Bool.and_true]
    refine Eq.trans ?_ (twice (K.piece (zIndex p.black 5 (maybeFlip m.src p.black)))
      (K.piece (zIndex p.black 5 (maybeFlip m.dst p.black))) _)
    cases p.ep <;> simp only [epKey, cnd, Bool.false_eq_true, if_false, BitVec.xor_zero, BitVec.zero_xor] <;> xor_ac

theorem cellK_us (K : ZKeys) (t : Bool) {i : Nat} (hi : i < 6) (x : Nat) :
    cellK K (some ⟨!t, kindOf i⟩) (absSq t x) = kU K t i x := by
  simp only [cellK, kU, pieceKeyIndex, zIndex, kindIndex_kindOf hi, absSq_eq_maybeFlip]
  cases t <;> rfl

theorem cellK_them (K : ZKeys) (t : Bool) {i : Nat} (hi : i < 6) (x : Nat) :
    cellK K (some ⟨t, kindOf i⟩) (absSq t x) = kT K t i x := by
  simp only [cellK, kT, pieceKeyIndex, zIndex, kindIndex_kindOf hi, absSq_eq_maybeFlip]
  cases t <;> rfl

section nc
variable {p : Position} {m : Mv} {i c : Nat} {cap epc pr : Bool}

/-- the piece key after a non-castling move, read off the board. -/
theorem nc_pieceKey (f : NCFacts p m i c cap epc pr) (K : ZKeys)
    {h : BB} {hm : Int} {S : Position}
    (R : Res p m i h (bit m.src ||| bit m.dst) (ncD1 m cap epc) (ncDP m i c cap epc pr) hm S) :
    pieceKey K p.black S.c0 S.c1 S.piece =
      pieceKey K p.black p.c0 p.c1 p.piece ^^^ ncKeyDelta K p.black m i c cap epc pr := by
  have hi := pieceOn_lt f.hpo
  have hd8 : m.dst - 8 < 64 := by have := f.hd; omega
  have lt := fun {x} (hx : x < 64) => absSq_lt p.black hx
  have ne : ∀ {x y : Nat}, x ≠ y → absSq p.black x ≠ absSq p.black y := fun h e => h (absSq_inj _ e)
  -- what stood on the three squares
  have bs : (abs p).board (absSq p.black m.src) = some ⟨!p.black, kindOf i⟩ := abs_board_own f.hs f.h0s f.hpo
  have bd : cellK K ((abs p).board (absSq p.black m.dst)) (absSq p.black m.dst) = cnd (cap = true) (kT K p.black c m.dst) := by
    rw [nc_dst f]
    cases hc : cap
    · rfl
    · simp only [if_true, cnd]
      exact cellK_them K _ (pieceOn_lt (f.hc hc)) _
  have be : epc = true → (abs p).board (absSq p.black (m.dst - 8)) = some ⟨p.black, kindOf 0⟩ := nc_victim f
  have sh := nc_shows f R
  have hb := fun a ha => sh.absBoard (a := a) ha
  unfold boardNC at hb
  have e := pieceKey_eq_boardKey K sh.consistent
  rw [R.black] at e
  rw [e, boardKey_congr K hb, pieceKey_eq_boardKey K f.hC, boardKey_setSq K _ (lt f.hd)]
  have hj : (if pr = true then m.promo else i) < 6 := by
    split
    · exact f.hp6 ‹_›
    · exact hi
  rw [cellK_us K _ hj]
  show _ = boardKey K (abs p).board ^^^ _
  have key : kU K p.black i m.dst ^^^ cnd (pr = true) (kU K p.black 0 m.dst) ^^^ cnd (pr = true) (kU K p.black m.promo m.dst)
      = kU K p.black (if pr = true then m.promo else i) m.dst := by
    cases hp : pr
    · simp [cnd]
    · rw [f.hpr hp]; simp [cnd]
  unfold ncKeyDelta
  rw [← key]
  cases hE : epc
  · simp only [Bool.false_eq_true, if_false]
    rw [boardKey_setSq K _ (lt f.hs), bs, cellK_us K _ hi, setSq, if_neg (ne (Ne.symm f.hne)), bd]
    simp only [cellK, cnd, if_false, BitVec.xor_zero]
    xor_ac
  · have hse := f.src_ne_ep hE
    have hde : m.dst ≠ m.dst - 8 := by have := (f.hepc hE).1; omega
    simp only [if_true]
    rw [boardKey_setSq K _ (lt hd8), boardKey_setSq K _ (lt f.hs), bs, cellK_us K _ hi, setSq, setSq, setSq,
      if_neg (ne (Ne.symm hse)), if_neg (ne hde), if_neg (ne (Ne.symm f.hne)), bd, be hE, cellK_them K _ (by omega)]
    simp only [cellK, cnd, if_true, BitVec.xor_zero]
    xor_ac

end nc

section castle
variable {p : Position} {m : Mv} {kTo rTo : Nat}

/-- the piece key after castling, read off the board. -/
theorem c_pieceKey (f : CFacts p m kTo rTo) (K : ZKeys) {h : BB} {hm : Int} {S : Position}
    (R : Res p m 5 h (cD0 m kTo rTo) 0#64 (cDP m kTo rTo) hm S) :
    pieceKey K p.black S.c0 S.c1 S.piece =
      pieceKey K p.black p.c0 p.c1 p.piece ^^^ cKeyDelta K p.black m kTo rTo := by
  have lt := fun {x} (hx : x < 64) => absSq_lt p.black hx
  have ne : ∀ {x y : Nat}, x ≠ y → absSq p.black x ≠ absSq p.black y := fun h e => h (absSq_inj _ e)
  have bs := abs_board_own f.hs f.h0s f.hpo
  have bd := abs_board_own f.hd f.h0d f.hrook
  have hk : cellK K (some ⟨!p.black, .king⟩) (absSq p.black kTo) = kU K p.black 5 kTo := cellK_us K _ (i := 5) (by omega) _
  have hr : cellK K (some ⟨!p.black, .rook⟩) (absSq p.black rTo) = kU K p.black 3 rTo := cellK_us K _ (i := 3) (by omega) _
  have sh := c_shows f R
  have hb := fun a ha => sh.absBoard (a := a) ha
  unfold boardC at hb
  have e := pieceKey_eq_boardKey K sh.consistent
  rw [R.black] at e
  rw [e, boardKey_congr K hb, pieceKey_eq_boardKey K f.hC, boardKey_setSq K _ (lt f.hr),
    boardKey_setSq K _ (lt f.hk), boardKey_setSq K _ (lt f.hd), boardKey_setSq K _ (lt f.hs),
    setSq_ne (ne (Ne.symm f.hkr)), c_vacated f f.hr (.inr rfl), c_vacated f f.hk (.inl rfl),
    setSq_ne (ne (Ne.symm f.hne)), bs, bd,
    cellK_us K _ (by omega), cellK_us K _ (by omega), hk, hr]
  show _ = boardKey K (abs p).board ^^^ _
  simp only [cellK, cKeyDelta, BitVec.xor_zero]
  xor_ac

end castle

/-- the key of the position `makemove` returns, from the description `Res` of the position before the flip: if the
board stages changed the piece key by `Δ`, the recomputed key changes by `Δ`, `metaDelta` and the turn key. -/
theorem key_of_res (K : ZKeys) {p S : Position} {m : Mv} {i : Nat} {h Δ d0 d1 : BB} {dP : Nat → BB} {hm : Int}
    (r : RFacts p m i) (R : Res p m i h d0 d1 dP hm S)
    (HP : pieceKey K p.black S.c0 S.c1 S.piece = pieceKey K p.black p.c0 p.c1 p.piece ^^^ Δ) :
    (stFull S).flip.hash = h ∧
    calculateHashK K (stFull S).flip = calculateHashK K p ^^^ Δ ^^^ metaDelta K p m i ^^^ K.turn := by
  have e1 : epKey K S.ep = cnd (i == 0 && m.dst - m.src == 16) (K.ep (fileOf m.dst)) := by
    rw [R.ep]
    cases h : (i == 0 && m.dst - m.src == 16)
    · rfl
    · have h16 : m.dst - m.src = 16 := eq_of_beq (Bool.and_eq_true_iff.mp h).2
      simp [epKey, cnd, fileOf_sub8 (show 8 ≤ m.dst by omega)]
  have e2 := rightU (K.castling (2 * col p.black)) p.usK (i == 5) (m.src == fromCoords p.cf0 0)
    (m.dst == fromCoords p.cf0 0) r.a2K r.a3K
  have e3 := rightU (K.castling (2 * col p.black + 1)) p.usQ (i == 5) (m.src == fromCoords p.cf1 0)
    (m.dst == fromCoords p.cf1 0) r.a2Q r.a3Q
  have e4 := rightT (K.castling (2 * col (!p.black))) p.themK (m.src == fromCoords p.cf2 7)
    (m.dst == fromCoords p.cf2 7) r.b2K
  have e5 := rightT (K.castling (2 * col (!p.black) + 1)) p.themQ (m.src == fromCoords p.cf3 7)
    (m.dst == fromCoords p.cf3 7) r.b2Q
  rw [full_hash, full_calc]
  refine ⟨R.hash, ?_⟩
  rw [calc_flip, calc_eq, calc_eq K p]
  simp only [R.black, R.usK, R.usQ, R.themK, R.themQ, HP, metaKey, metaDelta, e1, bne, r.a1, r.b1, Bool.not_false,
    Bool.true_and]
  rw [e2, e3, e4, e5]
  generalize epKey K p.ep = x0
  have h0 : ∀ a : BB, a = x0 ^^^ x0 ^^^ a := fun a => by rw [BitVec.xor_self, BitVec.zero_xor]
  refine (h0 _).trans ?_
  ac_rfl

/-- the common conclusion: the predicted key is `p.hash ^^^ Δ`, the position after the move has stored
key `h` and recomputed key `calculateHashK K p ^^^ Δ`. -/
def StepOK (K : ZKeys) (p : Position) (m : Mv) (h : BB) (q : Position) : Prop :=
  q.hash = h ∧ ∃ Δ : BB, predictHashK K p m = some (p.hash ^^^ Δ) ∧
    calculateHashK K q = calculateHashK K p ^^^ Δ

theorem StepOK.of {K : ZKeys} {p : Position} {m : Mv} {h : BB} {q : Position} {Δ₁ Δ₂ : BB}
    (hp : predictHashK K p m = some (p.hash ^^^ Δ₁ ^^^ Δ₂ ^^^ K.turn))
    (hs : q.hash = h ∧ calculateHashK K q = calculateHashK K p ^^^ Δ₁ ^^^ Δ₂ ^^^ K.turn) : StepOK K p m h q :=
  ⟨hs.1, Δ₁ ^^^ (Δ₂ ^^^ K.turn), by rw [hp, BitVec.xor_assoc, BitVec.xor_assoc],
    by rw [hs.2, BitVec.xor_assoc, BitVec.xor_assoc]⟩

/-- the part of `makemove` after the look-ups, whatever key `h` it is handed: it succeeds, stores `h`, and the key
recomputed from its result is the recomputed key of `p` changed by what `predict_hash` toggles. -/
theorem step_from (K : ZKeys) {p : Position} {m : Mv} (kh : KeyHyps p = true) (hm : MoveShape p m = true)
    {i : Nat} (hpo : p.pieceOn m.src = some i) (h : BB) :
    ∃ q, mmFrom p m i h = some q ∧ StepOK K p m h q := by
  refine shape_cases kh hm hpo (fun kTo rTo hi hpr f sd => ?_) (fun f => ?_)
  · subst hi
    obtain ⟨S, hS, R⟩ := c_result f hpr sd h
    exact ⟨_, hS, .of (predict_castle K f hpr sd)
      (key_of_res K (rfacts_of kh f.hs f.h0s f.hpo (fun _ _ => rfl) (fun _ _ => rfl)) R (c_pieceKey f K R))⟩
  · obtain ⟨S, hS, R⟩ := nc_result f rfl h
    exact ⟨_, hS, .of (predict_nc K kh f rfl)
      (key_of_res K (rfacts_of kh f.hs f.h0s f.hpo (nc_h3 kh f).1 (nc_h3 kh f).2) R (nc_pieceKey f K R))⟩

theorem shape_piece {p : Position} {m : Mv} (hm : MoveShape p m = true) : ∃ i, p.pieceOn m.src = some i := by
  unfold MoveShape at hm
  cases hpo : p.pieceOn m.src with
  | none => rw [hpo] at hm; simp at hm
  | some i => exact ⟨i, rfl⟩

/-- `makemove` (with or without key update) on a shaped move: no `unwrap` of `makemove` or of `predict_hash` fails;
stored key and recomputed key of the result. -/
theorem makemove_total (K : ZKeys) {p : Position} {m : Mv} (kh : KeyHyps p = true) (hm : MoveShape p m = true)
    (u : Bool) :
    ∃ h q, (if u then p.predictHash m else some p.hash) = some h ∧ p.makemove m u = some q ∧ StepOK K p m h q := by
  obtain ⟨i, hpo⟩ := shape_piece hm
  obtain ⟨_, _, _, Δ, hΔ, _⟩ := step_from genKeys kh hm hpo p.hash
  have hh : (if u then p.predictHash m else some p.hash) = some (if u then p.hash ^^^ Δ else p.hash) := by
    cases u
    · rfl
    · exact hΔ
  obtain ⟨q, hq, ok⟩ := step_from K kh hm hpo (if u then p.hash ^^^ Δ else p.hash)
  exact ⟨_, q, hh, makemove_eq_some.mpr ⟨i, hpo, _, hh, hq⟩, ok⟩

theorem makemove_step (K : ZKeys) {p : Position} {m : Mv} {u : Bool} {q : Position}
    (kh : KeyHyps p = true) (hm : MoveShape p m = true) (hq : p.makemove m u = some q) :
    ∃ h, (if u then p.predictHash m else some p.hash) = some h ∧ StepOK K p m h q := by
  obtain ⟨h, q', hh, hq', ok⟩ := makemove_total K kh hm u
  cases hq'.symm.trans hq
  exact ⟨h, hh, ok⟩

/-- C04(a) for the engine's table. -/
theorem move_preserves {p : Position} {m : Mv} {q : Position}
    (kh : KeyHyps p = true) (hm : MoveShape p m = true) (hinv : p.hash = p.calculateHash)
    (hq : p.makemove m true = some q) :
    p.predictHash m = some q.hash ∧ q.hash = q.calculateHash := by
  obtain ⟨h, hh, hqh, Δ, h1, h2⟩ := makemove_step genKeys kh hm hq
  simp only [if_true] at hh
  have e : h = p.hash ^^^ Δ := by
    have : p.predictHash m = some (p.hash ^^^ Δ) := h1
    rw [hh] at this
    exact Option.some.inj this
  refine ⟨by rw [hqh, hh], ?_⟩
  show q.hash = calculateHashK genKeys q
  rw [hqh, h2, e, hinv]
  rfl

end Rawr.ZH
