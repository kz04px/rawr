import Rawr.Proofs.SpecLegal
import Rawr.Proofs.IteRules
/-!
# `Spec.legalMoves` lists no move twice (for every absolute position)
-/
namespace Rawr.Att
open Spec

def dstOf : Move → Nat
  | .normal _ t _ => t
  | .castle _ => 64

def srcOf : Move → Nat
  | .normal s _ _ => s
  | .castle _ => 64

section pawns
open SV SpecS

theorem nodup_promoList (last : Int) (s t : Nat) : (promoList last s t).Nodup := by
  unfold promoList
  split
  · apply nodup_map_inj _ (by decide)
    intro a _ b _ e
    injection e with _ _ e
    injection e
  · exact List.nodup_cons.mpr ⟨List.not_mem_nil, List.Pairwise.nil⟩

theorem dst_promoList {last : Int} {s t : Nat} {m : Move} (h : m ∈ promoList last s t) : dstOf m = t := by
  unfold promoList at h
  split at h
  · rw [List.mem_map] at h; obtain ⟨k, _, rfl⟩ := h; rfl
  · rw [List.mem_singleton] at h; subst h; rfl

theorem nodup_of_dst {l1 l2 : List Move} {t1 t2 : Nat} (h1 : l1.Nodup) (h2 : l2.Nodup)
    (d1 : ∀ m ∈ l1, dstOf m = t1) (d2 : ∀ m ∈ l2, dstOf m = t2) (hne : l1 ≠ [] → l2 ≠ [] → t1 ≠ t2) :
    (l1 ++ l2).Nodup := by
  rw [List.nodup_append]
  refine ⟨h1, h2, ?_⟩
  intro a ha b hb e
  have e1 := d1 a ha
  have e2 := d2 b hb
  rw [e, e2] at e1
  exact hne (List.ne_nil_of_mem ha) (List.ne_nil_of_mem hb) e1.symm

theorem capL_props (b : Board) (ep : Option Nat) (w : Bool) (s : Nat) (df : Int) :
    (capL b ep w s df).Nodup ∧ ∀ m ∈ capL b ep w s df, file (dstOf m) = file s + df := by
  rcases capL_cases b ep w s df with e | ⟨hon, e | e⟩ <;> rw [e]
  · exact ⟨List.Pairwise.nil, nofun⟩
  · exact ⟨nodup_promoList _ _ _, fun m hm => by rw [dst_promoList hm, file_sq hon]⟩
  · exact ⟨List.nodup_cons.mpr ⟨List.not_mem_nil, List.Pairwise.nil⟩,
      fun m hm => by rw [List.mem_singleton.mp hm]; exact file_sq hon⟩

theorem sq_inj_on {f r f' r' : Int} (h : onBoard f r = true) (h' : onBoard f' r' = true)
    (e : sq f r = sq f' r') : f = f' ∧ r = r' := by
  have h1 := file_sq h
  have h2 := rank_sq h
  rw [e, file_sq h'] at h1
  rw [e, rank_sq h'] at h2
  exact ⟨h1.symm, h2.symm⟩

theorem pushList_props (b : Board) (w : Bool) {s : Nat} (hs : s < 64) :
    (pushList b w s).Nodup ∧ ∀ m ∈ pushList b w s, file (dstOf m) = file s := by
  have fs := file_bounds s
  have rs := rank_bounds hs
  unfold pushList
  split
  · next hc =>
    rw [Bool.and_eq_true] at hc
    -- a double push needs the start rank, from which two steps stay on the board
    have h2 : ∀ m ∈ (if (rank s == pstart w && (b (sq (file s) (rank s + 2 * pdir w))).isNone) = true
          then [Move.normal s (sq (file s) (rank s + 2 * pdir w)) none] else []),
        onBoard (file s) (rank s + 2 * pdir w) = true ∧ dstOf m = sq (file s) (rank s + 2 * pdir w) := by
      intro m hm
      rw [List.mem_ite_nil_right, Bool.and_eq_true, beq_iff_eq, List.mem_singleton] at hm
      refine ⟨?_, hm.2 ▸ rfl⟩
      rw [onBoard_iff, hm.1.1]
      unfold pstart pdir
      cases w <;> simp <;> omega
    constructor
    · apply nodup_of_dst (nodup_promoList _ _ _) (nodup_ite_singleton _ _) (fun m hm => dst_promoList hm)
        (fun m hm => (h2 m hm).2)
      intro _ hne e
      obtain ⟨m, hm⟩ := List.exists_mem_of_ne_nil _ hne
      have := sq_inj_on hc.1 (h2 m hm).1 e
      have hd : pdir w = 1 ∨ pdir w = -1 := by unfold pdir; cases w <;> simp
      omega
    · intro m hm
      rcases List.mem_append.mp hm with h | h
      · rw [dst_promoList h, file_sq hc.1]
      · rw [(h2 m h).2, file_sq (h2 m h).1]
  · exact ⟨List.Pairwise.nil, nofun⟩

/-- the moves of one pawn go to three files: straight on, and one file to either side. -/
theorem nodup_pawnMoves (b : Board) (ep : Option Nat) (w : Bool) {s : Nat} (hs : s < 64) :
    (pawnMoves b ep w s).Nodup := by
  have e : pawnMoves b ep w s =
      ([0, -1, 1] : List Int).flatMap fun df => if df = 0 then pushList b w s else capL b ep w s df := by
    simp [pawnMoves]
  rw [e]
  apply nodup_flatMap_key (fun m => file (dstOf m) - file s) _ _ (by decide)
  · intro df _
    split
    · exact (pushList_props b w hs).1
    · exact (capL_props b ep w s df).1
  · intro df _ m hm
    split at hm
    · next h0 =>
      rw [(pushList_props b w hs).2 m hm, h0]
      omega
    · rw [(capL_props b ep w s df).2 m hm]
      omega

theorem nodup_pseudoFrom (P : APos) (s : Nat) (hs : s < 64) : (pseudoFrom P s).Nodup := by
  rcases pseudoFrom_cases P s with e | ⟨_, e⟩ | ⟨kd, _, _, e⟩
  · rw [e]
    exact List.Pairwise.nil
  · rw [e]
    exact nodup_pawnMoves _ _ _ hs
  · rw [e]
    apply nodup_map_inj _ (List.Pairwise.filter _ List.nodup_range)
    intro a _ b _ e
    injection e

end pawns

theorem spec_legalMoves_nodup (P : APos) : (Spec.legalMoves P).Nodup := by
  unfold Spec.legalMoves
  rw [List.nodup_append]
  refine ⟨List.Pairwise.filter _ ?_, ?_, ?_⟩
  · apply nodup_flatMap_key srcOf squares (pseudoFrom P) List.nodup_range
    · intro s hs; exact nodup_pseudoFrom P s (List.mem_range.mp hs)
    · intro s hs m hm
      have := pseudoFrom_src P (List.mem_range.mp hs) m hm
      cases m with
      | normal a b pr => exact this
      | castle ks => exact absurd this (by simp [srcIs])
  · apply nodup_map_inj _ (List.Pairwise.filter _ (by decide))
    intro a _ b _ e
    injection e
  · intro a ha b hb e
    rw [List.mem_filter, List.mem_flatMap] at ha
    obtain ⟨⟨s, hs, hm⟩, _⟩ := ha
    rw [List.mem_map] at hb
    obtain ⟨ks, _, rfl⟩ := hb
    rw [e] at hm
    exact pseudoFrom_src P (List.mem_range.mp hs) _ hm

end Rawr.Att
