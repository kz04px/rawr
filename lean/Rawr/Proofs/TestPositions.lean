import Rawr.Abs
import Rawr.Model.Uci
import Rawr.Proofs.HashKeys
/-! Facts about the standard start position that the examples of many properties need: it is in the domain
`D = V ∧ E ∧ M`, and its move counts. The key clause of `ValidPos` is `startpos_key`. `mkPos` builds the other literal
positions of the examples from their boards. -/
namespace Rawr

theorem startpos_valid : ValidPos Gen.startpos = true := by
  rw [ValidPos, Bool.and_eq_true, beq_iff_eq]
  exact ⟨by decide +kernel, startpos_key⟩

theorem startpos_E : Spec.EpConsistent (abs Gen.startpos) = true := by decide +kernel

theorem startpos_M : Spec.LegalMaterial (abs Gen.startpos) = true := by decide +kernel

theorem startpos_inD : InD Gen.startpos = true := by
  rw [InD, startpos_valid, startpos_E, startpos_M]; rfl

theorem startpos_moves : (legalMoves Gen.startpos).length = 20 := by decide +kernel

theorem perft_startpos_2 : perft 2 Gen.startpos = some 400 := by decide +kernel

/-- 1. e4 is generated. -/
theorem startpos_e4_gen : (⟨12, 28, 6⟩ : Mv) ∈ legalMoves Gen.startpos := by decide +kernel

/-- a position given by its boards (mover = White), key recomputed. -/
def mkPos (c0 c1 p0 p1 p2 p3 p4 p5 : BB) (ep : Option Nat) (uK uQ tK tQ : Bool) : Position :=
  let p : Position :=
    { c0 := c0, c1 := c1, p0 := p0, p1 := p1, p2 := p2, p3 := p3, p4 := p4, p5 := p5,
      halfmoves := 0, fullmoves := 1, black := false, ep := ep,
      usK := uK, usQ := uQ, themK := tK, themQ := tQ, cf0 := 7, cf1 := 0, cf2 := 7, cf3 := 0,
      hash := 0#64, frc := false }
  { p with hash := p.calculateHash }

end Rawr
