import Rawr.Proofs.GenEp
import Rawr.Proofs.GenPins
/-!
# C01, en passant: the generator's three tests are the three conditions of `ep_core`
-/
namespace Rawr.Att
open Spec

theorem onRay_iff_at (k : Nat) (d : Int × Int) (i x : Nat) : OnRay k d i x ↔ At k d i x := Iff.rfl

theorem southWest_bit_tbl : ∀ e : Fin 64, 9 ≤ e.val → e.val % 8 ≠ 0 →
    southWest (bit e.val) = bit (e.val - 9) := by decide +kernel
theorem southEast_bit_tbl : ∀ e : Fin 64, 7 ≤ e.val → e.val % 8 ≠ 7 →
    southEast (bit e.val) = bit (e.val - 7) := by decide +kernel

theorem occRep_ep {B : Board} {occ : BB} (ho : OccRep B occ) {k e F : Nat} {cap : Int × Int}
    (C : EpCtx B k e F cap) : OccRep (epBoard B F e) (occ ^^^ bit e ^^^ bit (e - 8) ^^^ bit F) := by
  have G := C.coords
  have hFe : F ≠ e ∧ F ≠ e - 8 ∧ e - 8 ≠ e := by
    have := C.erank
    rcases C.geo with ⟨_, h, _⟩ | ⟨_, h, _⟩ <;> omega
  -- lift the capturer, lift the captured pawn, fill the target: each toggles its bit
  have h1 := occRep_setSq ho F none (by rw [ho F G.F64, C.BF]; rfl)
  have h2 := occRep_setSq h1 (e - 8) none (by
    rw [h1 _ G.P64, (setSq_none_some B F _ _).mpr ⟨Ne.symm hFe.2.1, C.BP⟩]; rfl)
  have h3 := occRep_setSq h2 e (some ⟨true, .pawn⟩) (by
    rw [h2 e C.e64, (setSq_none_none _ _ _).mpr (Or.inr ((setSq_none_none B F e).mpr (Or.inr C.Be)))]; rfl)
  have e : occ ^^^ bit e ^^^ bit (e - 8) ^^^ bit F = occ ^^^ bit F ^^^ bit (e - 8) ^^^ bit e := by ac_rfl
  rw [e]
  exact h3

/-- the explicit rank test of `epOk`. -/
theorem epC3_iff {p : Position} (hC : Consistent p = true) {k e F : Nat} {cap : Int × Int}
    (C : EpCtx (relBoard p) k e F cap) :
    ((rayE k (p.occ ^^^ bit e ^^^ bit (e - 8) ^^^ bit F) &&& (p.c1 &&& (p.p3 ||| p.p4))).isEmpty = true ∧
     (rayW k (p.occ ^^^ bit e ^^^ bit (e - 8) ^^^ bit F) &&& (p.c1 &&& (p.p3 ||| p.p4))).isEmpty = true) ↔
      EpC3 (relBoard p) k e F := by
  have ho := occRep_ep (occRep_rel hC) C
  have hfold : p.c1 &&& (p.p3 ||| p.p4) = themRQ p := rfl
  -- one direction of the rank at a time: `R` is the ray set, `d` its direction
  have key : ∀ (R : BB) (d : Int × Int),
      (∀ s, R.getLsbD s = true ↔ s < 64 ∧ RayHit (epBoard (relBoard p) F e) k d s) →
      ((R &&& themRQ p).isEmpty = true ↔ ∀ s pc, s < 64 → relBoard p s = some pc → pc.white = false →
        (pc.kind = .rook ∨ pc.kind = .queen) → ¬ RayHit (epBoard (relBoard p) F e) k d s) := by
    intro R d hR
    rw [isEmpty_iff]
    simp only [BitVec.getLsbD_and]
    constructor
    · intro h s pc hs hBs hw hk hr
      have := h s hs
      rw [(themRQ_iff hC s hs).mpr ((enemy_kind_iff _ s .rook).mpr ⟨pc, hBs, hw, hk⟩), Bool.and_true,
        (hR s).mpr ⟨hs, hr⟩] at this
      cases this
    · intro h s hs
      cases hrq : (themRQ p).getLsbD s
      · exact Bool.and_false _
      · rw [Bool.and_true]
        cases hr : R.getLsbD s
        · rfl
        · obtain ⟨q, hB, hw, hk⟩ := (enemy_kind_iff _ s .rook).mp ((themRQ_iff hC s hs).mp hrq)
          exact absurd ((hR s).mp hr).2 (h s q hs hB hw hk)
  rw [hfold, key _ dE (rayE_mem ho C.k64), key _ dW (rayW_mem ho C.k64)]
  exact ⟨fun h s pc hs hB hw hk => ⟨h.1 s pc hs hB hw hk, h.2 s pc hs hB hw hk⟩,
    fun h => ⟨fun s pc hs hB hw hk => (h s pc hs hB hw hk).1, fun s pc hs hB hw hk => (h s pc hs hB hw hk).2⟩⟩

theorem at_diag_abs {k x : Nat} {d : Int × Int} {j : Nat} (hd : d ∈ diag) (h : At k d j x) :
    (file x - file k).natAbs = j ∧ (rank x - rank k).natAbs = j := by
  simp only [diag_eq, List.mem_cons, List.not_mem_nil, or_false, dNE, dNW, dSE, dSW] at hd
  obtain ⟨h1, h2⟩ := h
  rcases hd with rfl | rfl | rfl | rfl <;> dsimp only at h1 h2 <;> omega

theorem goodDir_up_down {e F : Nat} {cap : Int × Int} (G : EpCoords e F cap) :
    (-cap.1, (1 : Int)) ∈ diag ∧ (cap.1, (-1 : Int)) ∈ diag := by
  obtain ⟨c, c'⟩ := cap
  obtain ⟨g1, g2, -, -, -, -, -, -, -, -, -⟩ := G
  dsimp only at *
  rcases g2 with rfl | rfl <;> decide

/-- `F` on the diagonal `a` through `k`; the square next to `F` along another diagonal `b` is on no diagonal
through `k`: its file and rank distances from `k` differ by two. -/
theorem diag_neighbour_off {k F Y : Nat} {a b d' : Int × Int} {i j : Nat} (ha : a ∈ diag) (hb : b ∈ diag)
    (hd' : d' ∈ diag) (hi : 1 ≤ i) (hF : At k a i F) (hY : At F b 1 Y) (h1 : b ≠ a) (h2 : b ≠ (-a.1, -a.2))
    (hk : At k d' j Y) : False := by
  obtain ⟨a1, a2⟩ := at_diag_abs hd' hk
  obtain ⟨x, y⟩ := a
  obtain ⟨u, v⟩ := b
  rw [mem_diag_iff] at ha hb
  unfold At at hF hY
  simp only [Prod.mk.injEq, ne_eq, not_and] at *
  rcases ha with ⟨rfl | rfl, rfl | rfl⟩ <;> rcases hb with ⟨rfl | rfl, rfl | rfl⟩ <;> omega

/-- of the two diagonals through a square, a forward step `(c, 1)` runs along one and `(-c, 1)` along the other. -/
theorem diag_flip : ∀ d0 ∈ diag, ∀ c ∈ [(1 : Int), -1],
    (((c, (1 : Int)) = d0 ∨ (c, (1 : Int)) = (-d0.1, -d0.2)) ↔
      ¬ ((-c, (1 : Int)) = d0 ∨ (-c, (1 : Int)) = (-d0.1, -d0.2))) := by decide

/-- one diagonal step `b` from a piece pinned on the diagonal `d0` lands in `bxrays` iff it runs along the pin
line: the squares next to it on the other diagonal are on no diagonal through the king (`diag_neighbour_off`). -/
theorem bxrays_step_iff {p : Position} (hV : ValidPos p = true) {F Y : Nat} {d0 b : Int × Int}
    (hd0 : d0 ∈ diag) (hb : b ∈ diag)
    (pin : PinAlong (relBoard p) p.c0 (themBQ p) (lsb (p.p5 &&& p.c0)) d0 F) (hY : Y < 64)
    (hstep : At F b 1 Y) :
    (prelude p).bxrays.getLsbD Y = true ↔ (b = d0 ∨ b = (-d0.1, -d0.2)) := by
  have gd0 := goodDir_diag d0 hd0
  obtain ⟨i0, hF⟩ := (rayHit_iff_hit _ gd0 _ _).mp pin.1
  rw [prelude_bxrays hV]
  constructor
  · intro h
    -- a member of `bxrays` is on a diagonal through the king
    obtain ⟨d', hd', j, hj⟩ : ∃ d' ∈ diag, ∃ j, At (lsb (p.p5 &&& p.c0)) d' j Y := by
      rcases h with hk | ⟨d', hd', f', ⟨hf1, _, _⟩, _, hl⟩
      · exact ⟨dNE, by simp [diag_eq], 0, hk ▸ at_zero _ _⟩
      · obtain ⟨j, _, hj⟩ := pinLine_at (goodDir_diag d' hd') hf1 hl
        exact ⟨d', hd', j, hj⟩
    apply Classical.byContradiction
    intro hne
    exact diag_neighbour_off hd0 hb hd' hF.1 hF.2.1 hstep (fun e => hne (Or.inl e)) (fun e => hne (Or.inr e)) hj
  · intro he
    by_cases hk : Y = lsb (p.p5 &&& p.c0)
    · exact Or.inl hk
    · exact Or.inr ⟨d0, hd0, F, pin, hY, line_slide gd0 hF ⟨Nat.le_refl 1, hstep, fun i a b => by omega⟩ he
        (by rw [(kingFacts hV).rel]; nofun) hk⟩

/-- for a capturer pinned on a diagonal, exactly one of the two squares diagonally in front of it is in
`bxrays`: the one on the pin line. `X` is the square next to `F` on the other diagonal and `fo` says that it is on
the board: the form in which the two branches (`epCondNE_iff`, `epCondNW_iff`) supply it. -/
theorem ep_xray_flip {p : Position} (hV : ValidPos p = true) {e F : Nat} {cap : Int × Int}
    (C : EpCtx (relBoard p) (lsb (p.p5 &&& p.c0)) e F cap) (X : Nat) (fo : Prop)
    (hfo : fo → X < 64 ∧ At F (-cap.1, 1) 1 X)
    (hX : ∀ y, y < 64 → At F (-cap.1, 1) 1 y → fo ∧ y = X)
    (hb : (prelude p).bpinned.getLsbD F = true) :
    (prelude p).bxrays.getLsbD e = true ↔ ¬ (fo ∧ (prelude p).bxrays.getLsbD X = true) := by
  have G := C.coords
  obtain ⟨d0, hd0, pin⟩ := (prelude_bpinned hV F).mp hb
  have gd0 := goodDir_diag d0 hd0
  have hcap : cap = (cap.1, 1) := Prod.ext rfl G.cap2
  have hc : cap.1 ∈ [(1 : Int), -1] := by
    rcases G.cap1 with h | h <;> rw [h] <;> decide
  have hcapd : cap ∈ diag := by
    rw [mem_diag_iff]; exact ⟨G.cap1, Or.inl G.cap2⟩
  have hupd := (goodDir_up_down G).1
  have hflip := diag_flip d0 hd0 cap.1 hc
  rw [← hcap] at hflip
  rw [bxrays_step_iff hV hd0 hcapd pin C.e64 G.at_e, hflip]
  refine not_congr ⟨fun hup => ?_, fun ⟨hf, hx⟩ => (bxrays_step_iff hV hd0 hupd pin (hfo hf).1 (hfo hf).2).mp hx⟩
  -- the pin line leaves `F` both ways (to the king, to the pinner), so the square next to `F` on it is on the board
  obtain ⟨z, n, z64, hn, hz⟩ : ∃ z n, z < 64 ∧ 1 ≤ n ∧ At F (-cap.1, (1 : Int)) n z := by
    obtain ⟨i0, hF⟩ := (rayHit_iff_hit _ gd0 _ _).mp pin.1
    obtain ⟨s, h2, hs⟩ := pin.2.2
    obtain ⟨n, hn⟩ := (rayHit_iff_hit _ gd0 _ _).mp h2
    rcases hup with h | h
    · exact ⟨s, n, BitVec.lt_of_getLsbD hs, hn.1, h ▸ hn.2.1⟩
    · exact ⟨_, i0, C.k64, hF.1, h ▸ at_rev hF.2.1⟩
  obtain ⟨hy, y64⟩ := at_le (goodDir_diag _ hupd) G.F64 z64 hz hn
  obtain ⟨hf, hyX⟩ := hX _ y64 hy
  rw [hyX] at hy y64
  exact ⟨hf, (bxrays_step_iff hV hd0 hupd pin y64 hy).mpr hup⟩

theorem epPin_iff {p : Position} (hV : ValidPos p = true) {e F : Nat} {cap : Int × Int}
    (C : EpCtx (relBoard p) (lsb (p.p5 &&& p.c0)) e F cap) (X : Nat) (fo : Prop)
    (hfo : fo → X < 64 ∧ At F (-cap.1, 1) 1 X)
    (hX : ∀ y, y < 64 → At F (-cap.1, 1) 1 y → fo ∧ y = X) :
    PinCut (relBoard p) (lsb (p.p5 &&& p.c0)) F e ↔
      ((prelude p).rpinned.getLsbD F = false ∧
        ((prelude p).bpinned.getLsbD F = false ∨ ¬ (fo ∧ (prelude p).bxrays.getLsbD X = true))) := by
  have G := C.coords
  have hC := valid_consistent hV
  have hFo : relBoard p F ≠ none := by rw [C.BF]; nofun
  have hek : e ≠ lsb (p.p5 &&& p.c0) := fun h => by have := C.Be; rw [h, C.Bk] at this; cases this
  rw [← pinOk_iff_pinCut hV hFo, pinOk_cap hV C.e64 (own_of_rel hC G.F64 C.BF)
    (by rw [mem_diag_iff]; exact ⟨G.cap1, Or.inl G.cap2⟩) G.at_e hek]
  refine and_congr_right fun _ => ?_
  cases hb : (prelude p).bpinned.getLsbD F
  · simp
  · simp only [Bool.true_eq_false, false_or, ep_xray_flip hV C X fo hfo hX hb]

theorem ep_facts {p : Position} (hV : ValidPos p = true) {e : Nat} (hep : p.ep = some e) :
    e < 64 ∧ e / 8 = 5 ∧ relBoard p e = none ∧ relBoard p (e - 8) = some ⟨false, .pawn⟩ ∧
      p.c0.getLsbD e = false ∧ p.c0.getLsbD (e - 8) = false := by
  have hC := valid_consistent hV
  obtain ⟨h1, h2, h3, h4, h5⟩ := (vfacts_of_valid hV).ep e hep
  have h5' := h5
  rw [(rep_them hC).pawn (e - 8) (by omega)] at h5
  have hBe : relBoard p e = none := by
    have := occRep_rel hC e h1
    unfold Position.occ at this
    rw [BitVec.getLsbD_or, h3, h4] at this
    cases hB : relBoard p e with
    | none => rfl
    | some _ => rw [hB] at this; simp at this
  have hBP : relBoard p (e - 8) = some ⟨false, .pawn⟩ := by simpa using h5
  exact ⟨h1, h2, hBe, hBP, h3, own_not_enemy hC (by omega) hBP rfl⟩

theorem epCtx_of {p : Position} (hV : ValidPos p = true) {e : Nat} (hep : p.ep = some e) {F : Nat}
    {cap : Int × Int} (hgeo : CapGeo cap F e) (hF : relBoard p F = some ⟨true, .pawn⟩) :
    EpCtx (relBoard p) (lsb (p.p5 &&& p.c0)) e F cap := by
  obtain ⟨h1, h2, h3, h4, _, _⟩ := ep_facts hV hep
  exact ⟨(kingFacts hV).k64, h1, h2, (kingFacts hV).rel, h3, h4, hF, hgeo⟩

/-- the checks part of `epOk`: every check is given by the captured pawn or blocked on `e`. -/
theorem ep_allowed_iff {p : Position} (hV : ValidPos p = true) {e : Nat} (hep : p.ep = some e) :
    ((prelude p).allowed.isSet e || (north (prelude p).allowed).isSet e) = true ↔
      (Chk (relBoard p) (lsb (p.p5 &&& p.c0)) e ∨ Chk (relBoard p) (lsb (p.p5 &&& p.c0)) (e - 8)) := by
  obtain ⟨h1, h2, _, _, h5, h6⟩ := ep_facts hV hep
  unfold BB.isSet
  rw [Bool.or_eq_true, north_iff _ h1, allowed_iff hV e h1, allowed_iff hV (e - 8) (by omega)]
  constructor
  · rintro (h | h)
    · exact Or.inl h.2
    · exact Or.inr h.2.2
  · rintro (h | h)
    · exact Or.inl ⟨h5, h⟩
    · exact Or.inr ⟨by omega, h6, h⟩

theorem epOk_iff {p : Position} (hV : ValidPos p = true) {e : Nat} (hep : p.ep = some e) {F : Nat}
    {cap : Int × Int} (C : EpCtx (relBoard p) (lsb (p.p5 &&& p.c0)) e F cap) (side : BB)
    (hside : side = bit F) :
    epOk p (prelude p) e side = true ↔
      ((Chk (relBoard p) (lsb (p.p5 &&& p.c0)) e ∨ Chk (relBoard p) (lsb (p.p5 &&& p.c0)) (e - 8)) ∧
        EpC3 (relBoard p) (lsb (p.p5 &&& p.c0)) e F) := by
  have hC := valid_consistent hV
  obtain ⟨h1, h2, _, _, _, _⟩ := ep_facts hV hep
  unfold epOk
  dsimp only
  rw [Bool.and_eq_true, ep_allowed_iff hV hep, Bool.and_eq_true, prelude_ksq,
    ZH.south_bit (by omega) h1, hside, epC3_iff hC C]

/-- one branch of the generator's test, for the capture `F → e` along `cap`: `Z` is the back-shifted `bxrays`,
`X` and `fo` as in `ep_xray_flip`. -/
theorem epBranch_iff {p : Position} (hV : ValidPos p = true) {e : Nat} (hep : p.ep = some e)
    (hBn : relBoard p (e + 8) = none)
    (hEb : attackedBy (prePush (relBoard p) e) false (lsb (p.p5 &&& p.c0)) = false)
    {F : Nat} {cap : Int × Int} (hgeo : CapGeo cap F e) (X : Nat) (fo : Prop)
    (hfo : fo → X < 64 ∧ At F (-cap.1, 1) 1 X)
    (hX : ∀ y, y < 64 → At F (-cap.1, 1) 1 y → fo ∧ y = X)
    (Z : BB) (hZ : Z.getLsbD F = true ↔ (fo ∧ (prelude p).bxrays.getLsbD X = true))
    (side : BB) (hside : side = bit F) :
    ((p.p0 &&& p.c0 &&& ~~~(prelude p).rpinned &&& (~~~(prelude p).bpinned ||| ~~~Z)).getLsbD F = true ∧
        epOk p (prelude p) e side = true) ↔
      (relBoard p F = some ⟨true, .pawn⟩ ∧
        attackedBy (epBoard (relBoard p) F e) false (lsb (p.p5 &&& p.c0)) = false) := by
  have F64 : F < 64 := by
    have := (ep_facts hV hep).1
    rcases hgeo with ⟨_, h, _⟩ | ⟨_, h, _⟩ <;> omega
  have hnZ : (~~~Z).getLsbD F = true ↔ ¬ (fo ∧ (prelude p).bxrays.getLsbD X = true) := by
    rw [← hZ, BitVec.getLsbD_not]
    simp [F64]
  rw [capSrc_mem (valid_consistent hV) _ F64, hnZ]
  constructor
  · rintro ⟨⟨hBF, hpin⟩, hok⟩
    have C := epCtx_of hV hep hgeo hBF
    obtain ⟨c2, c3⟩ := (epOk_iff hV hep C _ hside).mp hok
    exact ⟨hBF, (ep_core C hBn hEb).mpr ⟨(epPin_iff hV C X fo hfo hX).mpr hpin, c2, c3⟩⟩
  · rintro ⟨hBF, hL⟩
    have C := epCtx_of hV hep hgeo hBF
    obtain ⟨c1, c2, c3⟩ := (ep_core C hBn hEb).mp hL
    exact ⟨⟨hBF, (epPin_iff hV C X fo hfo hX).mp c1⟩, (epOk_iff hV hep C _ hside).mpr ⟨c2, c3⟩⟩

theorem epCondNE_iff {p : Position} (hV : ValidPos p = true) {e : Nat} (hep : p.ep = some e)
    (hBn : relBoard p (e + 8) = none)
    (hEb : attackedBy (prePush (relBoard p) e) false (lsb (p.p5 &&& p.c0)) = false) :
    epCondNE p e = true ↔
      (9 ≤ e ∧ e % 8 ≠ 0 ∧ relBoard p (e - 9) = some ⟨true, .pawn⟩ ∧
        attackedBy (epBoard (relBoard p) (e - 9) e) false (lsb (p.p5 &&& p.c0)) = false) := by
  obtain ⟨h1, h2, _⟩ := ep_facts hV hep
  unfold epCondNE BB.isSet
  rw [Bool.and_eq_true, northEast_iff _ h1]
  have key : 9 ≤ e → e % 8 ≠ 0 → _ := fun h9 hf =>
    epBranch_iff hV hep hBn hEb (F := e - 9) (cap := dNE) (Or.inl ⟨rfl, by omega, hf⟩) (e - 9 + 7) ((e - 9) % 8 ≠ 0)
      (by intro _; unfold At file rank; simp only [dNE]; omega)
      (by intro y _ h; unfold At file rank at h; simp only [dNE] at h; omega)
      _ (southEast_iff _ (by omega)) _ (southWest_bit_tbl ⟨e, h1⟩ h9 hf)
  constructor
  · rintro ⟨⟨h9, hf, hsrc⟩, hok⟩
    exact ⟨h9, hf, (key h9 hf).mp ⟨hsrc, hok⟩⟩
  · rintro ⟨h9, hf, h⟩
    exact ⟨⟨h9, hf, ((key h9 hf).mpr h).1⟩, ((key h9 hf).mpr h).2⟩

theorem epCondNW_iff {p : Position} (hV : ValidPos p = true) {e : Nat} (hep : p.ep = some e)
    (hBn : relBoard p (e + 8) = none)
    (hEb : attackedBy (prePush (relBoard p) e) false (lsb (p.p5 &&& p.c0)) = false) :
    epCondNW p e = true ↔
      (e % 8 ≠ 7 ∧ relBoard p (e - 7) = some ⟨true, .pawn⟩ ∧
        attackedBy (epBoard (relBoard p) (e - 7) e) false (lsb (p.p5 &&& p.c0)) = false) := by
  obtain ⟨h1, h2, _⟩ := ep_facts hV hep
  have h7 : 7 ≤ e := by omega
  unfold epCondNW BB.isSet
  rw [Bool.and_eq_true, northWest_iff _ h1]
  have key : e % 8 ≠ 7 → _ := fun hf =>
    epBranch_iff hV hep hBn hEb (F := e - 7) (cap := dNW) (Or.inr ⟨rfl, by omega, hf⟩) (e - 7 + 9) ((e - 7) % 8 ≠ 7)
      (by intro _; unfold At file rank; simp only [dNW]; omega)
      (by intro y _ h; unfold At file rank at h; simp only [dNW] at h; omega)
      _ (southWest_iff _ (by omega)) _ (southEast_bit_tbl ⟨e, h1⟩ h7 hf)
  constructor
  · rintro ⟨⟨_, hf, hsrc⟩, hok⟩
    exact ⟨hf, (key hf).mp ⟨hsrc, hok⟩⟩
  · rintro ⟨hf, h⟩
    exact ⟨⟨h7, hf, ((key hf).mpr h).1⟩, ((key hf).mpr h).2⟩

end Rawr.Att
