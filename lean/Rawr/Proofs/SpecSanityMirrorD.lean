import Rawr.Proofs.SpecSanityMirrorC
/-!
# Sanity of the specification, part 1 (d, e): castling, `legalMoves`, `Valid` and `leaves` are colour symmetric

So are `EpConsistent` and `LegalMaterial`: the domain `D = V ∧ E ∧ M` of DESIGN.md §4 is closed under the colour
mirror (`domain_mirror`).
-/
namespace Rawr.SpecS
open Rawr.Spec Rawr.Att Rawr.SV

theorem x56_arith {s : Nat} (h : s < 64) : (s ^^^ 56) + 16 * (s / 8) = s + 56 := by
  rw [x56_eq s h]
  omega

theorem span_comm (x y : Nat) : span x y = span y x := by
  unfold span; rw [Nat.min_comm, Nat.max_comm]

theorem span_of_le {x y : Nat} (h : x ≤ y) : span x y = (List.range (y - x + 1)).map (· + x) := by
  unfold span; rw [Nat.min_eq_left h, Nat.max_eq_right h]

/-- on one rank the mirror is a translation. -/
theorem span_mirror_of_le {x y : Nat} (hx : x < 64) (hy : y < 64) (hxy : x / 8 = y / 8) (hle : x ≤ y) :
    span (x ^^^ 56) (y ^^^ 56) = (span x y).map (· ^^^ 56) := by
  have ex := x56_arith hx
  have ey := x56_arith hy
  rw [span_of_le hle, span_of_le (show x ^^^ 56 ≤ y ^^^ 56 by omega), List.map_map,
    show (y ^^^ 56) - (x ^^^ 56) = y - x by omega]
  apply List.map_congr_left
  intro i hi
  have hi := List.mem_range.mp hi
  have ei := x56_arith (s := i + x) (by omega)
  have : (i + x) / 8 = x / 8 := by omega
  show i + (x ^^^ 56) = (i + x) ^^^ 56
  omega

theorem span_mirror {x y : Nat} (hx : x < 64) (hy : y < 64) (hxy : x / 8 = y / 8) :
    span (x ^^^ 56) (y ^^^ 56) = (span x y).map (· ^^^ 56) := by
  rcases Nat.le_total x y with h | h
  · exact span_mirror_of_le hx hy hxy h
  · rw [span_comm, span_comm x]
    exact span_mirror_of_le hy hx hxy.symm h

theorem mem_span_lt {x y s : Nat} (hx : x < 64) (hy : y < 64) (h : s ∈ span x y) : s < 64 := by
  unfold span at h
  simp only [List.mem_map, List.mem_range] at h
  obtain ⟨i, hi, rfl⟩ := h
  omega

theorem all_congr_mem {α : Type} (l : List α) (p q : α → Bool) (h : ∀ x ∈ l, p x = q x) : l.all p = l.all q := by
  induction l with
  | nil => rfl
  | cons x xs ih =>
    simp only [List.all_cons]
    rw [h x List.mem_cons_self, ih (fun y hy => h y (List.mem_cons_of_mem _ hy))]

theorem castleLegal_mirror (a : APos) (hR : RightsOK a) (ks : Bool) :
    castleLegal (mirrorA a) ks = castleLegal a ks := by
  have hr' := right_mirror_mover a ks
  cases hr : right a a.whiteToMove ks with
  | none =>
    rw [castleLegal_no_right hr, castleLegal_no_right (hr'.trans hr)]
  | some rf =>
    have hrf := hR _ _ _ hr
    by_cases hlen : (kingSquares a.board a.whiteToMove).length = 1
    · obtain ⟨k, hk⟩ : ∃ k, kingSquares a.board a.whiteToMove = [k] := by
        match hl : kingSquares a.board a.whiteToMove, hlen with
        | [k], _ => exact ⟨k, rfl⟩
      have hk' := kingSquares_mirror_singleton hk
      have uk := unique_of_kingSquares hk
      have hk64 := uk.1
      have hcm := apply_mirror_castle a hrf hr hk
      have hcb : (apply (mirrorA a) (.castle ks)).board = mirrorB (apply a (.castle ks)).board :=
        ((eqModFull_iff _ _).mp hcm).1
      rw [castleLegal_of (hr'.trans hr) hk', castleLegal_of hr hk, hcb]
      simp only [mirrorA_toMove, mirrorA_board]
      rw [inCheck_mirror, sq_home_mirror hrf,
        sq_home_mirror' _ (by split <;> omega) (by split <;> omega),
        sq_home_mirror' _ (by split <;> omega) (by split <;> omega),
        rank_x56 hk64, homeRank_not, beq_seven_sub, file_x56 _, mirror_holds]
      have hatt : ∀ s, s < 64 → attackedBy (mirrorB a.board) (!!a.whiteToMove) (s ^^^ 56) =
          attackedBy a.board (!a.whiteToMove) s := fun s hs => attackedBy_mirror a.board (!a.whiteToMove) s hs
      rw [hatt k hk64]
      by_cases hrk : rank k = homeRank a.whiteToMove
      · -- all four squares are on the home rank
        generalize hkTo : sq (if ks = true then 6 else 2) (homeRank a.whiteToMove) = kTo
        generalize hrTo : sq (if ks = true then 5 else 3) (homeRank a.whiteToMove) = rTo
        generalize hrsq : sq (rf : Int) (homeRank a.whiteToMove) = rsq
        have hk8 : k / 8 = (homeRank a.whiteToMove).toNat := by
          unfold rank at hrk; omega
        have hkTo8 : kTo < 64 ∧ kTo / 8 = (homeRank a.whiteToMove).toNat := by
          rw [← hkTo]; cases a.whiteToMove <;> cases ks <;> decide
        have hrTo8 : rTo < 64 ∧ rTo / 8 = (homeRank a.whiteToMove).toNat := by
          rw [← hrTo]; cases a.whiteToMove <;> cases ks <;> decide
        have hrsq8 : rsq < 64 ∧ rsq / 8 = (homeRank a.whiteToMove).toNat := by
          rw [← hrsq]; unfold sq homeRank; cases a.whiteToMove <;> simp <;> omega
        rw [span_mirror hk64 hkTo8.1 (by omega), span_mirror hrsq8.1 hrTo8.1 (by omega),
          ← List.map_append, List.all_map, List.all_map]
        have e5 : (span k kTo ++ span rsq rTo).all
              ((fun s => s == k ^^^ 56 || s == rsq ^^^ 56 || (mirrorB a.board s).isNone) ∘ (· ^^^ 56)) =
            (span k kTo ++ span rsq rTo).all (fun s => s == k || s == rsq || (a.board s).isNone) := by
          apply all_congr_mem
          intro s _
          simp only [Function.comp, x56_beq, mirrorB_isNone]
        have e6 : (span k kTo).all ((fun s => !attackedBy (mirrorB a.board) (!!a.whiteToMove) s) ∘ (· ^^^ 56)) =
            (span k kTo).all (fun s => !attackedBy a.board (!a.whiteToMove) s) := by
          apply all_congr_mem
          intro s hs
          simp only [Function.comp]
          rw [hatt s (mem_span_lt hk64 hkTo8.1 hs)]
        rw [e5, e6]
      · have : (rank k == homeRank a.whiteToMove) = false := by rw [beq_eq_false_iff_ne]; exact hrk
        simp only [this, Bool.false_and]
    · have hlen' : (kingSquares (mirrorA a).board (mirrorA a).whiteToMove).length ≠ 1 := by
        rw [mirrorA_toMove, mirrorA_board, kingSquares_length_mirror]; exact hlen
      rw [castleLegal_no_king hlen, castleLegal_no_king hlen']

theorem pseudo_mem_squares {a : APos} {m : Move} (h : m ∈ squares.flatMap (pseudoFrom a)) :
    ∃ s t pr, m = .normal s t pr ∧ s < 64 ∧ t < 64 := by
  rw [List.mem_flatMap] at h
  obtain ⟨s0, hs0, hm⟩ := h
  obtain ⟨t, pr, pc, e, nl⟩ := pseudo_legal (List.mem_range.mp hs0) hm
  exact ⟨s0, t, pr, e, nl.hs, nl.ht⟩

/-- **the legal moves of the mirrored position are the mirrored legal moves** (as a multiset; both lists
are duplicate free). Holds for every position whose castling rights name files of the board — in
particular for every valid one. -/
theorem legalMoves_mirror (a : APos) (hR : RightsOK a) :
    (legalMoves (mirrorA a)).Perm ((legalMoves a).map mirrorMove) := by
  unfold legalMoves
  rw [List.map_append]
  apply List.Perm.append
  · refine ((pseudoAll_mirror a).filter _).trans ?_
    rw [List.filter_map]
    apply List.Perm.of_eq
    congr 1
    apply List.filter_congr
    intro m hm
    obtain ⟨s, t, pr, rfl, hs, ht⟩ := pseudo_mem_squares hm
    simp only [Function.comp, mirrorMove]
    have hcb : (apply (mirrorA a) (.normal (s ^^^ 56) (t ^^^ 56) pr)).board =
        mirrorB (apply a (.normal s t pr)).board :=
      ((eqModFull_iff _ _).mp (apply_mirror_normal a hR hs ht pr)).1
    rw [hcb]
    show (!inCheck (mirrorB _) (!a.whiteToMove)) = _
    rw [inCheck_mirror]
  · apply List.Perm.of_eq
    rw [List.map_map]
    have e : (fun ks => castleLegal (mirrorA a) ks) = fun ks => castleLegal a ks :=
      funext (castleLegal_mirror a hR)
    show List.map Move.castle (List.filter (fun ks => castleLegal (mirrorA a) ks) [true, false]) = _
    rw [e]
    rfl

theorem mem_legalMoves_mirror {a : APos} (hR : RightsOK a) (m : Move) :
    mirrorMove m ∈ legalMoves (mirrorA a) ↔ m ∈ legalMoves a := by
  rw [(legalMoves_mirror a hR).mem_iff, List.mem_map]
  constructor
  · rintro ⟨m', hm', e⟩
    have := congrArg mirrorMove e
    rw [mirrorMove_mirrorMove, mirrorMove_mirrorMove] at this
    rw [← this]; exact hm'
  · intro h; exact ⟨m, h, rfl⟩

/-- the full-move counter after the mirrored move: it is the only field on which the two sides differ. -/
theorem apply_mirror_full {a : APos} (hR : RightsOK a) {m : Move} (hm : m ∈ legalMoves a) :
    (apply (mirrorA a) (mirrorMove m)).full = (if a.whiteToMove = true then a.full + 1 else a.full) ∧
    (mirrorA (apply a m)).full = (if a.whiteToMove = true then a.full else a.full + 1) := by
  refine ⟨?_, full_apply hm⟩
  rw [full_apply ((mem_legalMoves_mirror hR m).mpr hm), mirrorA_toMove]
  cases a.whiteToMove <;> rfl

theorem legalMoves_mirror_length (a : APos) (hR : RightsOK a) :
    (legalMoves (mirrorA a)).length = (legalMoves a).length := by
  rw [(legalMoves_mirror a hR).length_eq, List.length_map]

theorem rightsOK_apply {a : APos} (hR : RightsOK a) {m : Move} (hm : m ∈ legalMoves a) :
    RightsOK (apply a m) := by
  intro w ks f hr
  rcases legal_cases hm with ⟨s, t, pr, pc, e, nl, _⟩ | ⟨ks', e, hc⟩
  · subst e
    rw [right_apply_normal nl.hpc] at hr
    exact hR _ _ _ (lostCore_some hr).1
  · subst e
    obtain ⟨rf, k, cf⟩ := castle_facts hc
    rw [(apply_castle_fields cf.hr cf.hk).2.2.1] at hr
    split at hr
    · cases hr
    · exact hR _ _ _ hr

theorem leaves_mirror (a : APos) (hR : RightsOK a) (d : Nat) : leaves (mirrorA a) d = leaves a d := by
  induction d generalizing a with
  | zero => rfl
  | succ d ih =>
    simp only [leaves]
    rw [((legalMoves_mirror a hR).map _).sum_nat, List.map_map]
    congr 1
    apply List.map_congr_left
    intro m hm
    simp only [Function.comp]
    rw [leaves_congr (apply_mirror hR hm) d]
    exact ih (apply a m) (rightsOK_apply hR hm)

theorem rightOK_mirror {a : APos} {c ks : Bool} {f : Nat} (h : RightOK a c ks f) :
    RightOK (mirrorA a) (!c) ks f := by
  obtain ⟨h1, h2, k, hk, h3, h4⟩ := h
  have uk := unique_of_kingSquares hk
  refine ⟨h1, ?_, k ^^^ 56, kingSquares_mirror_singleton hk, ?_, ?_⟩
  · rw [sq_home_mirror h1]
    exact (mirror_holds_iff a.board (sq (f : Int) (homeRank c)) c .rook).mpr h2
  · rw [rank_x56 uk.1, homeRank_not, h3]
  · rw [file_x56 _]; exact h4

theorem validFacts_mirror {a : APos} (v : ValidFacts a) : ValidFacts (mirrorA a) := by
  refine ⟨?_, ?_, ?_, ?_, ?_, ?_, v.half, v.full⟩
  · obtain ⟨k, hk⟩ := v.kb
    exact ⟨_, uniqueKing_mirror hk⟩
  · obtain ⟨k, hk⟩ := v.kw
    exact ⟨_, uniqueKing_mirror hk⟩
  · intro s hs pc' hpc' hkd
    have hb : (mirrorA a).board s = (a.board (s ^^^ 56)).map flipPiece := rfl
    rw [hb] at hpc'
    cases hq : a.board (s ^^^ 56) with
    | none => rw [hq] at hpc'; cases hpc'
    | some pc =>
      rw [hq] at hpc'
      have : pc.kind = .pawn := by
        have := Option.some.inj hpc'
        rw [← this] at hkd; exact hkd
      have := v.pawns _ (x56_lt hs) pc hq this
      rw [rank_x56 hs] at this
      have := rank_bounds hs
      omega
  · show inCheck (mirrorB a.board) (!!a.whiteToMove) = false
    rw [inCheck_mirror]; exact v.notInCheck
  · intro w ks f hr
    rw [right_mirror] at hr
    have := rightOK_mirror (v.rights _ _ _ hr)
    rw [Bool.not_not] at this
    exact this
  · intro e' he'
    rw [mirrorA_ep] at he'
    cases he : a.ep with
    | none => rw [he] at he'; cases he'
    | some e =>
      rw [he] at he'
      have := Option.some.inj he'
      subst this
      obtain ⟨h1, h2, h3⟩ := v.ep e he
      have he64 : e < 64 := by
        unfold rank at h1
        split at h1 <;> omega
      rw [mirrorA_toMove, mirrorA_board]
      refine ⟨?_, ?_, ?_⟩
      · rw [rank_x56 he64, h1]; cases a.whiteToMove <;> rfl
      · rw [mirrorB_x56, h2]; rfl
      · rw [file_x56 _, sq_ite_mirror (file_bounds e) (by omega) (by omega)]
        exact (mirror_holds_iff a.board (sq (file e) (if a.whiteToMove = true then 4 else 3)) (!a.whiteToMove) .pawn).mpr h3

theorem valid_mirror (a : APos) : Valid (mirrorA a) = Valid a := by
  rw [Bool.eq_iff_iff, valid_iff, valid_iff]
  constructor
  · intro h
    have := validFacts_mirror h
    rwa [mirrorA_mirrorA] at this
  · exact validFacts_mirror

theorem countPieces_mirror (b : Board) (f : Piece → Bool) :
    countPieces (mirrorB b) f = countPieces b (fun pc => f (flipPiece pc)) := by
  unfold countPieces squares
  rw [← (x56_perm.filter _).length_eq, List.filter_map, List.length_map]
  congr 1
  apply List.filter_congr
  intro s _
  simp only [Function.comp, mirrorB_x56]
  cases b s <;> rfl

theorem flip_beq (pc : Piece) (w : Bool) (k : Kind) : (flipPiece pc == ⟨!w, k⟩) = (pc == ⟨w, k⟩) := by
  rw [Bool.eq_iff_iff, beq_iff_eq, beq_iff_eq]; exact flipPiece_eq_iff pc w k

theorem cnt_mirror (b : Board) (w : Bool) (k : Kind) :
    countPieces (mirrorB b) (fun pc => pc == ⟨!w, k⟩) = countPieces b (fun pc => pc == ⟨w, k⟩) := by
  rw [countPieces_mirror]
  congr 1
  funext pc
  exact flip_beq pc w k

theorem cntCol_mirror (b : Board) (w : Bool) :
    countPieces (mirrorB b) (fun pc => pc.white == !w) = countPieces b (fun pc => pc.white == w) := by
  rw [countPieces_mirror]
  congr 1
  funext pc
  simp only [flip_white]
  cases pc.white <;> cases w <;> rfl

theorem legalMaterial_mirror (a : APos) : LegalMaterial (mirrorA a) = LegalMaterial a := by
  unfold LegalMaterial
  simp only [List.all_cons, List.all_nil, Bool.and_true, mirrorA_board]
  have t1 := fun k => cnt_mirror a.board false k
  have t2 := fun k => cnt_mirror a.board true k
  have c1 := cntCol_mirror a.board false
  have c2 := cntCol_mirror a.board true
  simp only [Bool.not_false, Bool.not_true] at t1 t2 c1 c2
  simp only [t1, t2, c1, c2]
  rw [Bool.and_comm]

theorem epConsistent_mirror (a : APos) : EpConsistent (mirrorA a) = EpConsistent a := by
  unfold EpConsistent
  rw [mirrorA_ep]
  cases he : a.ep with
  | none => rfl
  | some e =>
    simp only [Option.map_some, file_x56]
    rw [mirrorA_board, mirrorA_toMove]
    have hf := file_bounds e
    rw [sq_ite_mirror (x := 6) hf (by omega) (by omega), sq_ite_mirror (x := 4) hf (by omega) (by omega),
      mirrorB_isNone]
    congr 1
    have hb : setSq (setSq (mirrorB a.board) (sq (file e) (if a.whiteToMove = true then 4 else 3) ^^^ 56) none)
          (sq (file e) (if a.whiteToMove = true then 6 else 1) ^^^ 56) (some ⟨!!a.whiteToMove, .pawn⟩) =
        mirrorB (setSq (setSq a.board (sq (file e) (if a.whiteToMove = true then 4 else 3)) none)
          (sq (file e) (if a.whiteToMove = true then 6 else 1)) (some ⟨!a.whiteToMove, .pawn⟩)) := by
      rw [mirrorB_setSq, mirrorB_setSq]; rfl
    rw [hb, inCheck_mirror]

theorem domain_mirror (a : APos) :
    (Valid (mirrorA a) && EpConsistent (mirrorA a) && LegalMaterial (mirrorA a)) =
      (Valid a && EpConsistent a && LegalMaterial a) := by
  rw [valid_mirror, epConsistent_mirror, legalMaterial_mirror]

end Rawr.SpecS
