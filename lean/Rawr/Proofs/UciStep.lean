import Rawr.Proofs.UciGo
/-! `stepSecond` command by command (the dispatch of the second loop of `listen`), the case analysis over the
command word (`stepSecond_cases`: what each command reads and writes, `go` and `position` through `goRun` and
`positionRun`) and, by it, the loop invariant. `listen` in normal form (`listen_eq`): the banner, then `steps` from the
state `afterFirst` in which the first loop, started in `initState`, leaves the process. -/
namespace Rawr

def knownCmds : List String :=
  ["ucinewgame", "isready", "print", "display", "board", "go", "position", "moves", "setoption", "history",
   "eval", "quit"]

variable (ar : Arith) (clock : Nat → Bool) (s : UState) (l : List Char)

theorem stepSecond_ucinewgame (hc : cmdOf l = str "ucinewgame") :
    stepSecond ar clock s l =
      some ({ s with pos := { Gen.startpos with frc := s.frc }, hist := [Gen.startpos.hash], tt := s.tt.clear },
        [], false) := by
  unfold cmdOf at hc
  simp only [stepSecond, hc, BEq.rfl, ↓reduceIte]

theorem stepSecond_isready (hc : cmdOf l = str "isready") :
    stepSecond ar clock s l = some (s, ["readyok"], false) := by
  unfold cmdOf at hc
  simp only [stepSecond, hc, str_beq, String.reduceBEq, Bool.false_eq_true, ↓reduceIte]

theorem stepSecond_print (hc : cmdOf l = str "print" ∨ cmdOf l = str "display" ∨ cmdOf l = str "board") :
    stepSecond ar clock s l = some (s, displayPos s.pos, false) := by
  unfold cmdOf at hc
  rcases hc with hc | hc | hc <;>
    simp only [stepSecond, hc, str_beq, String.reduceBEq, Bool.false_eq_true, ↓reduceIte, Bool.or_true, Bool.or_false]

theorem stepSecond_go (hc : cmdOf l = str "go") :
    stepSecond ar clock s l = (doGo ar clock s (argsOf l)).map fun r => (r.1, r.2, false) := by
  unfold cmdOf at hc
  simp only [stepSecond, argsOf, hc, str_beq, String.reduceBEq, Bool.false_eq_true, ↓reduceIte, Bool.or_self]

theorem stepSecond_position (hc : cmdOf l = str "position") :
    stepSecond ar clock s l = (doPosition ar s (argsOf l)).map fun r => (r.1, r.2, false) := by
  unfold cmdOf at hc
  simp only [stepSecond, argsOf, hc, str_beq, String.reduceBEq, Bool.false_eq_true, ↓reduceIte, Bool.or_self]

theorem stepSecond_moves (hc : cmdOf l = str "moves") :
    stepSecond ar clock s l =
      (applyTokens (argsOf l) s.pos s.hist []).map fun r => ({ s with pos := r.1, hist := r.2.1 }, r.2.2, false) := by
  unfold cmdOf at hc
  simp only [stepSecond, argsOf, hc, str_beq, String.reduceBEq, Bool.false_eq_true, ↓reduceIte, Bool.or_self]

theorem stepSecond_setoption (hc : cmdOf l = str "setoption") :
    stepSecond ar clock s l = some (doSetoption s (argsOf l) true, [], false) := by
  unfold cmdOf at hc
  simp only [stepSecond, argsOf, hc, str_beq, String.reduceBEq, Bool.false_eq_true, ↓reduceIte, Bool.or_self]

theorem stepSecond_history (hc : cmdOf l = str "history") :
    stepSecond ar clock s l = some (s, s.hist.reverse.map hexLine, false) := by
  unfold cmdOf at hc
  simp only [stepSecond, hc, str_beq, String.reduceBEq, Bool.false_eq_true, ↓reduceIte, Bool.or_self]

theorem stepSecond_eval (hc : cmdOf l = str "eval") :
    stepSecond ar clock s l = some (s, [toString (eval s.pos)], false) := by
  unfold cmdOf at hc
  simp only [stepSecond, hc, str_beq, String.reduceBEq, Bool.false_eq_true, ↓reduceIte, Bool.or_self]

theorem stepSecond_quit (hc : cmdOf l = str "quit") :
    stepSecond ar clock s l = some (s, [], true) := by
  unfold cmdOf at hc
  simp only [stepSecond, hc, str_beq, String.reduceBEq, Bool.false_eq_true, ↓reduceIte, Bool.or_self]

/-- every other line (empty lines included) is ignored. -/
theorem stepSecond_other (hc : ∀ c ∈ knownCmds, cmdOf l ≠ str c) :
    stepSecond ar clock s l = some (s, [], false) := by
  simp only [knownCmds, List.forall_mem_cons, cmdOf, ← beq_eq_false_iff_ne] at hc
  simp only [stepSecond, hc, Bool.false_eq_true, ↓reduceIte, Bool.or_self]

theorem stepSecond_cases {P : Option (UState × List String × Bool) → Prop}
    (ucinewgame : cmdOf l = str "ucinewgame" → P (some ({ s with
      pos := { Gen.startpos with frc := s.frc }, hist := [Gen.startpos.hash], tt := s.tt.clear }, [], false)))
    (isready : cmdOf l = str "isready" → P (some (s, ["readyok"], false)))
    (print : cmdOf l = str "print" ∨ cmdOf l = str "display" ∨ cmdOf l = str "board" →
      P (some (s, displayPos s.pos, false)))
    (go : cmdOf l = str "go" → P ((goRun clock s (parseGo (argsOf l))).map fun r => (r.1, r.2, false)))
    (position : cmdOf l = str "position" → P ((positionRun ar s.pos.frc (argsOf l)).map fun r =>
      ({ s with pos := { r.1 with frc := s.frc }, hist := r.2.1 }, r.2.2, false)))
    (moves : cmdOf l = str "moves" → P ((applyTokens (argsOf l) s.pos s.hist []).map fun r =>
      ({ s with pos := r.1, hist := r.2.1 }, r.2.2, false)))
    (setoption : cmdOf l = str "setoption" → P (some (doSetoption s (argsOf l) true, [], false)))
    (history : cmdOf l = str "history" → P (some (s, s.hist.reverse.map hexLine, false)))
    (eval : cmdOf l = str "eval" → P (some (s, [toString (eval s.pos)], false)))
    (quit : cmdOf l = str "quit" → P (some (s, [], true)))
    (other : (∀ c ∈ knownCmds, cmdOf l ≠ str c) → P (some (s, [], false))) :
    P (stepSecond ar clock s l) := by
  by_cases c1 : cmdOf l = str "ucinewgame"
  · rw [stepSecond_ucinewgame ar clock s l c1]; exact ucinewgame c1
  by_cases c2 : cmdOf l = str "isready"
  · rw [stepSecond_isready ar clock s l c2]; exact isready c2
  by_cases c3 : cmdOf l = str "print" ∨ cmdOf l = str "display" ∨ cmdOf l = str "board"
  · rw [stepSecond_print ar clock s l c3]; exact print c3
  by_cases c4 : cmdOf l = str "go"
  · rw [stepSecond_go ar clock s l c4, doGo_eq]; exact go c4
  by_cases c5 : cmdOf l = str "position"
  · rw [stepSecond_position ar clock s l c5, doPosition_eq, Option.map_map]; exact position c5
  by_cases c6 : cmdOf l = str "moves"
  · rw [stepSecond_moves ar clock s l c6]; exact moves c6
  by_cases c7 : cmdOf l = str "setoption"
  · rw [stepSecond_setoption ar clock s l c7]; exact setoption c7
  by_cases c8 : cmdOf l = str "history"
  · rw [stepSecond_history ar clock s l c8]; exact history c8
  by_cases c9 : cmdOf l = str "eval"
  · rw [stepSecond_eval ar clock s l c9]; exact eval c9
  by_cases c10 : cmdOf l = str "quit"
  · rw [stepSecond_quit ar clock s l c10]; exact quit c10
  have hk : ∀ c ∈ knownCmds, cmdOf l ≠ str c := by
    simp only [not_or] at c3
    simp only [knownCmds, List.forall_mem_cons]
    exact ⟨c1, c2, c3.1, c3.2.1, c3.2.2, c4, c5, c6, c7, c8, c9, c10, fun _ h => nomatch h⟩
  rw [stepSecond_other ar clock s l hk]; exact other hk

variable {ar clock s}

theorem stepSecond_inv (h : UInv s) {line : List Char}
    {r : UState × List String × Bool} (hr : stepSecond ar clock s line = some r) : UInv r.1 := by
  revert r
  apply stepSecond_cases ar clock s line (P := fun x => ∀ {r}, x = some r → UInv r.1)
  case ucinewgame => rintro _ _ ⟨⟩; exact ⟨by rw [← h.len]; exact Table.len_clear _, rfl⟩
  case isready => rintro _ _ ⟨⟩; exact h
  case print => rintro _ _ ⟨⟩; exact h
  case go =>
    intro _ r hr
    obtain ⟨a, ha, rfl⟩ := Option.map_eq_some_iff.1 hr
    exact goRun_inv h ha
  case position =>
    intro _ r hr
    obtain ⟨a, _, rfl⟩ := Option.map_eq_some_iff.1 hr
    exact ⟨h.len, rfl⟩
  case moves =>
    intro _ r hr
    obtain ⟨a, ha, rfl⟩ := Option.map_eq_some_iff.1 hr
    exact ⟨h.len, by rw [← h.frc]; exact applyTokens_frc ha⟩
  case setoption => rintro _ _ ⟨⟩; exact doSetoption_inv h _
  case history => rintro _ _ ⟨⟩; exact h
  case eval => rintro _ _ ⟨⟩; exact h
  case quit => rintro _ _ ⟨⟩; exact h
  case other => rintro _ _ ⟨⟩; exact h

theorem steps_inv {ls : List (List Char)} (h : UInv s)
    {r : UState × List String × Bool} (hr : steps ar clock s ls = some r) : UInv r.1 := by
  induction ls generalizing s r with
  | nil => simp only [steps] at hr; cases hr; exact h
  | cons l ls ih =>
    simp only [steps] at hr
    split at hr
    · cases hr
    · next s' o hs => cases hr; exact stepSecond_inv h hs
    · next s' o hs =>
      split at hr
      · cases hr
      · next s'' o' q h2 => cases hr; exact ih (r := (s'', o', q)) (stepSecond_inv h hs) h2

/-- the state in which `listen` starts its first loop. -/
def initState : UState :=
  { hashMb := 16, frc := false, pos := Gen.startpos, hist := [Gen.startpos.hash], tt := Table.new 0 Gen.ttEntrySize }

/-- the state in which the second loop starts and the lines it gets (`none` = `quit` in the first loop). -/
def afterFirst (lines : List (List Char)) : Option (UState × Bool × List (List Char)) :=
  (firstLoop lines initState).map fun r =>
    ({ r.1 with tt := r.1.tt.resize r.1.hashMb Gen.ttEntrySize }, r.2.1, r.2.2)

theorem listen_eq (ar : Arith) (clock : Nat → Bool) (lines : List (List Char)) :
    listen ar clock lines =
      match afterFirst lines with
      | none => some (banner false 16)
      | some (s, r, rest) =>
        (steps ar clock s rest).map fun x => (banner false 16 ++ if r then ["readyok"] else []) ++ x.2.1 := by
  rw [listen, afterFirst, setFen_startpos]
  simp only
  unfold initState
  cases firstLoop lines _ with
  | none => rfl
  | some r =>
    obtain ⟨s, g, rest⟩ := r
    simp only [Option.map_some]
    rw [secondLoop_eq]

end Rawr
