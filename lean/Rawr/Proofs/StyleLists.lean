import Rawr.Model.Style
/-!
# List lemmas for the style model: `incAt` (`l[i] += 1`) and the enumerate-sums

`bump` is the list after a successful `incAt`, `bumpIf` the conditional form the pawn-push tables take; at the end,
`scoreLoop` one feature at a time (`scoreLoop_cons`) and what its success says of every feature (`scoreLoop_ok_mem`).
-/
namespace Rawr.Style

/-- the list after a successful `l[i] += 1`. -/
def bump (l : List Nat) (i : Nat) : List Nat := l.set i (l.getD i 0 + 1)

@[simp] theorem bump_nil (i : Nat) : bump [] i = [] := by simp [bump]
@[simp] theorem bump_cons_zero (x : Nat) (xs : List Nat) : bump (x :: xs) 0 = (x + 1) :: xs := by
  simp [bump]
@[simp] theorem bump_cons_succ (x : Nat) (xs : List Nat) (i : Nat) :
    bump (x :: xs) (i + 1) = x :: bump xs i := by
  simp [bump]

@[simp] theorem length_bump (l : List Nat) (i : Nat) : (bump l i).length = l.length := by
  simp [bump]

theorem incAt_ok {l : List Nat} {i : Nat} (h : i < l.length) : incAt l i = .ok (bump l i) := by
  simp [incAt, h, bump]

theorem incAt_error {l : List Nat} {i : Nat} (h : ¬ i < l.length) : incAt l i = .error .index := by
  simp [incAt, h]

theorem getAt_ok {l : List Nat} {i : Nat} (h : i < l.length) : getAt l i = .ok (l.getD i 0) := by
  simp [getAt, h]

theorem sum_bump : ∀ (l : List Nat) (i : Nat), i < l.length → (bump l i).sum = l.sum + 1
  | [], i, h => by simp at h
  | x :: xs, 0, _ => by simp; omega
  | x :: xs, i + 1, h => by
    have := sum_bump xs i (by simpa using h)
    simp [this]; omega

theorem getD_bump : ∀ (l : List Nat) (i j : Nat), i < l.length →
    (bump l i).getD j 0 = l.getD j 0 + (if i = j then 1 else 0)
  | [], i, _, h => by simp at h
  | x :: xs, 0, 0, _ => by simp
  | x :: xs, 0, j + 1, _ => by simp
  | x :: xs, i + 1, 0, _ => by simp
  | x :: xs, i + 1, j + 1, h => by
    have := getD_bump xs i j (by simpa using h)
    simpa using this

/-- `l[i] += 1` when `c` holds: the shape of the pawn-push tables after `add_pawn_push`. -/
def bumpIf (c : Prop) [Decidable c] (l : List Nat) (i : Nat) : List Nat := if c then bump l i else l

@[simp] theorem length_bumpIf (c : Prop) [Decidable c] (l : List Nat) (i : Nat) :
    (bumpIf c l i).length = l.length := by
  unfold bumpIf; split <;> simp

theorem sum_bumpIf (c : Prop) [Decidable c] {l : List Nat} {i : Nat} (h : i < l.length) :
    (bumpIf c l i).sum = l.sum + if c then 1 else 0 := by
  unfold bumpIf; split
  · exact sum_bump l i h
  · rfl

theorem getD_bumpIf (c : Prop) [Decidable c] {l : List Nat} {i : Nat} (h : i < l.length) (j : Nat) :
    (bumpIf c l i).getD j 0 = l.getD j 0 + if c ∧ i = j then 1 else 0 := by
  unfold bumpIf; split
  · rw [getD_bump l i j h]; simp [*]
  · simp [*]

theorem getD_bumpIf_of_ne (c : Prop) [Decidable c] (l : List Nat) {i j : Nat} (h : c → i ≠ j) :
    (bumpIf c l i).getD j 0 = l.getD j 0 := by
  unfold bumpIf bump; split
  · simp [List.getD_eq_getElem?_getD, List.getElem?_set_ne (h ‹c›)]
  · rfl

theorem enumMinSumFrom_bump (c : Nat) : ∀ (l : List Nat) (k i : Nat), i < l.length →
    enumMinSumFrom c k (bump l i) = enumMinSumFrom c k l + Nat.min (k + i) c
  | [], _, i, h => by simp at h
  | x :: xs, k, 0, _ => by
    simp [enumMinSumFrom, Nat.mul_add]; omega
  | x :: xs, k, i + 1, h => by
    have := enumMinSumFrom_bump c xs (k + 1) i (by simpa using h)
    simp [enumMinSumFrom, this]
    have : k + 1 + i = k + (i + 1) := by omega
    rw [this]; omega

theorem enumMinSum_bump (c : Nat) (l : List Nat) (i : Nat) (h : i < l.length) :
    enumMinSum c (bump l i) = enumMinSum c l + Nat.min i c := by
  have := enumMinSumFrom_bump c l 0 i h
  simpa [enumMinSum] using this

theorem scoreLoop_cons (s : Stats) (f : Feature) (fs : List Feature) (acc : Q) :
    scoreLoop s (f :: fs) acc =
      f.func s >>= fun x => if x.inUnit then scoreLoop s fs (acc.add (f.weight.mul x)) else .error .assertion := by
  rw [scoreLoop]
  cases f.func s <;> rfl

theorem scoreLoop_ok_mem (s : Stats) : ∀ (fs : List Feature) (acc r : Q), scoreLoop s fs acc = .ok r →
    ∀ f ∈ fs, ∃ x, f.func s = .ok x
  | [], _, _, _ => fun f hf => by cases hf
  | g :: fs, acc, r, h => by
    intro f hf
    unfold scoreLoop at h
    split at h
    · cases h
    · rename_i x hg
      split at h
      · rcases List.mem_cons.mp hf with rfl | hf'
        · exact ⟨x, hg⟩
        · exact scoreLoop_ok_mem s fs _ r h f hf'
      · cases h

end Rawr.Style
