import Rawr.Proofs.GenAllowed
/-!
# C01, castling: the generator's `castleOk` is `Spec.castleLegal (relPos p)`

Rules' side first: `castleLegal (relPos p) ks` as four conditions on the relative board (`castleLegal_rel`: the squares the king and
the rook travel over are free, the king is not in check, none of its squares is attacked, it is not attacked on its target once
both have moved). Then the generator's side: `castleOk` in the mover's frame (`castleOk_rel`), the back rank (rays, pins and
attacks along it are statements about `RowClear`), the one combinatorial fact (`castle_core`: the castling rook is pinned along
the rank ⇔ the king is attacked on its target after castling), and the assembly `castleOk_eq_castleLegal`.
-/

namespace Rawr.Att
open Spec

theorem mem_kingSquares (B : Board) (w : Bool) (s : Nat) :
    s ∈ kingSquares B w ↔ s < 64 ∧ B s = some ⟨w, .king⟩ := by
  unfold kingSquares squares
  rw [List.mem_filter, List.mem_range, beq_iff_eq]

theorem sq_row (f : Nat) : sq (f : Int) (homeRank true) = f := by
  unfold sq homeRank
  simp

theorem right_rel (p : Position) (ks : Bool) :
    right (relPos p) true ks = MM.optR (VB.hasRight p false ks) (VB.rightFile p false ks) := by
  unfold right relPos abs VB.hasRight VB.rightFile MM.optR
  cases ks <;> simp

theorem kingSquares_relPos {p : Position} (hV : ValidPos p = true) :
    kingSquares (relPos p).board true = [lsb (p.p5 &&& p.c0)] := by
  have := kingSquares_rel (valid_consistent hV) false
  simp only [Position.side, Bool.not_false, Bool.false_eq_true, if_false] at this
  rw [relPos_board, this, BitVec.and_comm, (kingFacts hV).list]

/-- what validity says of a castling right of the mover: king `k` and rook `r` on the back rank. -/
structure CastleFacts (p : Position) (ks : Bool) (k r : Nat) : Prop where
  k8 : k < 8
  r8 : r < 8
  rook : relBoard p r = some ⟨true, .rook⟩
  side : if ks then k < r else r < k

theorem castleFacts {p : Position} (hV : ValidPos p = true) (ks : Bool) (hr : VB.hasRight p false ks = true) :
    CastleFacts p ks (lsb (p.p5 &&& p.c0)) (VB.rightFile p false ks) := by
  have hra := right_rel p ks
  rw [hr, MM.optR, if_pos rfl] at hra
  obtain ⟨h8, hrook, ka, hks, hrank, hside⟩ := ((SV.valid_iff _).mp (valid_relPos hV)).rights _ ks _ hra
  rw [kingSquares_relPos hV] at hks
  injection hks with hks
  subst hks
  rw [sq_row] at hrook
  have k8 : lsb (p.p5 &&& p.c0) < 8 := by
    unfold homeRank rank at hrank
    simp at hrank
    omega
  unfold file at hside
  refine ⟨k8, h8, hrook, ?_⟩
  cases ks
  · simp only [Bool.false_eq_true, if_false] at hside ⊢
    omega
  · simp only [if_true] at hside ⊢
    omega

/-- the relative board after castling. -/
def castledB (B : Board) (k r : Nat) (ks : Bool) : Board :=
  setSq (setSq (setSq (setSq B k none) r none) (kTo ks) (some ⟨true, .king⟩)) (rTo ks)
    (some ⟨true, .rook⟩)

structure CastleRel (p : Position) (ks : Bool) (k r : Nat) : Prop where
  c1 : attackedBy (relBoard p) false k = false
  c2 : ∀ s ∈ span k (kTo ks) ++ span r (rTo ks), s = k ∨ s = r ∨ relBoard p s = none
  c3 : ∀ s ∈ span k (kTo ks), attackedBy (relBoard p) false s = false
  c4 : attackedBy (castledB (relBoard p) k r ks) false (kTo ks) = false

theorem mem_span (a b s : Nat) : s ∈ span a b ↔ min a b ≤ s ∧ s ≤ max a b := by
  unfold span
  simp only [List.mem_map, List.mem_range]
  constructor
  · rintro ⟨i, hi, rfl⟩; omega
  · intro h; exact ⟨s - min a b, by omega, by omega⟩

theorem apply_castle_board (P : APos) (ks : Bool) (rf ka : Nat) (l : List Nat)
    (hr : right P P.whiteToMove ks = some rf) (hk : kingSquares P.board P.whiteToMove = ka :: l) :
    (apply P (.castle ks)).board =
      setSq (setSq (setSq (setSq P.board ka none) (sq rf (homeRank P.whiteToMove)) none)
        (sq (if ks then 6 else 2) (homeRank P.whiteToMove)) (some ⟨P.whiteToMove, .king⟩))
        (sq (if ks then 5 else 3) (homeRank P.whiteToMove)) (some ⟨P.whiteToMove, .rook⟩) :=
  congrArg APos.board (SV.apply_castle hr hk)

theorem castleLegal_no_right {p : Position} (ks : Bool) (hr : VB.hasRight p false ks = false) :
    castleLegal (relPos p) ks = false := by
  apply SV.castleLegal_no_right
  rw [relPos_turn, right_rel, hr]
  rfl

theorem kTo_cast (ks : Bool) : (if ks then (6 : Int) else 2) = ((kTo ks : Nat) : Int) := by
  cases ks <;> rfl
theorem rTo_cast (ks : Bool) : (if ks then (5 : Int) else 3) = ((rTo ks : Nat) : Int) := by
  cases ks <;> rfl
theorem kTo_lt (ks : Bool) : kTo ks < 8 := by cases ks <;> decide
theorem rTo_lt (ks : Bool) : rTo ks < 8 := by cases ks <;> decide

theorem castledB_cases (B : Board) (k r : Nat) (ks : Bool) (s : Nat) :
    (s = rTo ks ∧ castledB B k r ks s = some ⟨true, .rook⟩) ∨
    (s ≠ rTo ks ∧ s = kTo ks ∧ castledB B k r ks s = some ⟨true, .king⟩) ∨
    (s ≠ rTo ks ∧ s ≠ kTo ks ∧ (s = r ∨ s = k) ∧ castledB B k r ks s = none) ∨
    (s ≠ rTo ks ∧ s ≠ kTo ks ∧ s ≠ r ∧ s ≠ k ∧ castledB B k r ks s = B s) := by
  unfold castledB setSq
  by_cases e1 : s = rTo ks
  · exact Or.inl ⟨e1, if_pos e1⟩
  by_cases e2 : s = kTo ks
  · exact Or.inr (Or.inl ⟨e1, e2, by rw [if_neg e1, if_pos e2]⟩)
  by_cases e3 : s = r
  · exact Or.inr (Or.inr (Or.inl ⟨e1, e2, Or.inl e3, by rw [if_neg e1, if_neg e2, if_pos e3]⟩))
  by_cases e4 : s = k
  · exact Or.inr (Or.inr (Or.inl ⟨e1, e2, Or.inr e4, by rw [if_neg e1, if_neg e2, if_neg e3, if_pos e4]⟩))
  · exact Or.inr (Or.inr (Or.inr ⟨e1, e2, e3, e4, by rw [if_neg e1, if_neg e2, if_neg e3, if_neg e4]⟩))

theorem castledB_king (B : Board) (k r : Nat) (ks : Bool)
    (hBk : ∀ s, s < 64 → B s = some ⟨true, .king⟩ → s = k) (s : Nat) (hs : s < 64) :
    castledB B k r ks s = some ⟨true, .king⟩ ↔ s = kTo ks := by
  have hne : kTo ks ≠ rTo ks := by cases ks <;> decide
  rcases castledB_cases B k r ks s with ⟨e, h⟩ | ⟨_, e, h⟩ | ⟨_, e, _, h⟩ | ⟨_, e, _, e4, h⟩ <;> rw [h]
  · exact ⟨nofun, fun h' => absurd (h'.symm.trans e) hne⟩
  · exact ⟨fun _ => e, fun _ => rfl⟩
  · exact ⟨nofun, fun h' => absurd h' e⟩
  · exact ⟨fun h' => absurd (hBk s hs h') e4, fun h' => absurd h' e⟩

theorem castleLegal_rel {p : Position} (hV : ValidPos p = true) (ks : Bool)
    (hr : VB.hasRight p false ks = true) :
    castleLegal (relPos p) ks = true ↔ CastleRel p ks (lsb (p.p5 &&& p.c0)) (VB.rightFile p false ks) := by
  have CF := castleFacts hV ks hr
  have hra := right_rel p ks
  rw [hr, MM.optR, if_pos rfl] at hra
  have hks := kingSquares_relPos hV
  have hb := apply_castle_board (relPos p) ks _ _ _ hra hks
  generalize lsb (p.p5 &&& p.c0) = k at *
  generalize VB.rightFile p false ks = r at *
  have hc4 : Spec.inCheck (apply (relPos p) (.castle ks)).board true
      = attackedBy (castledB (relBoard p) k r ks) false (kTo ks) := by
    rw [hb, kTo_cast, rTo_cast, relPos_turn, sq_row, sq_row, sq_row]
    exact inCheck_unique _ true (kTo ks) (Nat.lt_trans (kTo_lt ks) (by decide))
      (castledB_king _ _ _ _ fun s hs h => (SV.unique_of_kingSquares hks).2.2 s hs h)
  rw [SV.castleLegal_of hra hks]
  simp only [relPos_turn]
  rw [hc4, kTo_cast, rTo_cast, sq_row, sq_row,
    sq_row, relPos_board, List.all_append]
  have h1 : (rank k == homeRank true) = true := by
    have := CF.k8
    unfold rank homeRank
    simp
    omega
  have h3 : (if ks = true then decide (file k < (r : Int)) else decide ((r : Int) < file k)) = true := by
    have := CF.side
    have := CF.k8
    unfold file
    cases ks <;> simp at * <;> omega
  simp only [h1, CF.rook, h3, beq_self_eq_true, Bool.true_and, Bool.and_eq_true, Bool.not_eq_true', Bool.not_true,
    List.all_eq_true, Bool.or_eq_true, beq_iff_eq, Option.isNone_iff_eq_none, or_assoc]
  constructor
  · rintro ⟨⟨⟨a1, a2k, a2r⟩, a3⟩, a4⟩
    exact ⟨a1, fun s hs => (List.mem_append.mp hs).elim (a2k s) (a2r s), a3, a4⟩
  · rintro ⟨c1, c2, c3, c4⟩
    exact ⟨⟨⟨c1, fun s hs => c2 s (List.mem_append.mpr (Or.inl hs)),
      fun s hs => c2 s (List.mem_append.mpr (Or.inr hs))⟩, c3⟩, c4⟩

theorem lineBetween_table : ∀ (a b : Fin 8) (s : Fin 64),
    ((lineBetween a.val b.val).getLsbD s.val || decide (s.val = a.val))
      = decide (min a.val b.val ≤ s.val ∧ s.val ≤ max a.val b.val) := by decide +kernel

theorem mem_lineBetween {a b : Nat} (ha : a < 8) (hb : b < 8) (s : Nat) :
    ((lineBetween a b).getLsbD s = true ∨ s = a) ↔ s ∈ span a b := by
  rw [mem_span]
  by_cases hs : s < 64
  · have := lineBetween_table ⟨a, ha⟩ ⟨b, hb⟩ ⟨s, hs⟩
    simp only at this
    rw [← decide_eq_true_iff (p := min a b ≤ s ∧ s ≤ max a b), ← this]
    simp
  · rw [BitVec.getLsbD_of_ge _ _ (by omega)]
    constructor
    · rintro (h | h)
      · cases h
      · omega
    · intro h; omega

theorem path_empty_iff {B : Board} {occ : BB} (ho : OccRep B occ) {k r kT rT : Nat}
    (hk : k < 8) (hr : r < 8) (hkT : kT < 8) (hrT : rT < 8) :
    (occ &&& (lineBetween k kT ||| lineBetween r rT) &&& ~~~bit k &&& ~~~bit r).isEmpty = true ↔
      ∀ s ∈ span k kT ++ span r rT, s = k ∨ s = r ∨ B s = none := by
  rw [isEmpty_iff]
  simp only [List.mem_append, ← mem_lineBetween hk hkT, ← mem_lineBetween hr hrT, BitVec.getLsbD_and,
    BitVec.getLsbD_or, BitVec.getLsbD_not, getLsbD_bit]
  -- square by square: `k`, `r` and the squares beyond the board satisfy both sides
  refine forall_congr' fun s => ?_
  by_cases e1 : s = k
  · simp [e1]
  by_cases e2 : s = r
  · simp [e2]
  by_cases hs : s < 64
  · simp only [hs, e1, e2, decide_true, decide_false, Bool.and_false, Bool.not_false, Bool.and_true, or_false,
      false_or, true_imp_iff, ho s hs, ← Bool.or_eq_true]
    cases B s <;> cases ((lineBetween k kT).getLsbD s || (lineBetween r rT).getLsbD s) <;> simp
  · have h0 : ∀ X : BB, X.getLsbD s = false := fun X => BitVec.getLsbD_of_ge _ _ (by omega)
    simp [h0, e1, e2]

/-- `prelude.in_check` is "the mover's king is attacked": `allAttackers` holds the checkers. -/
theorem prelude_inCheck {p : Position} (hV : ValidPos p = true) :
    (prelude p).inCheck = attackedBy (relBoard p) false (lsb (p.p5 &&& p.c0)) := by
  show (prelude p).allAttackers.isOcc = _
  rw [Bool.eq_iff_iff, isOcc_iff, attackedBy_iff]
  simp only [allAttackers_iff hV, Checker, Attacks, pieceAttacks_hit]
  constructor
  · rintro ⟨s, _, hs, q, hB, hw, ha⟩
    exact ⟨s, hs, q, hB, hw, ha⟩
  · rintro ⟨s, hs, q, hB, hw, ha⟩
    exact ⟨s, hs, hs, q, hB, hw, ha⟩

def RowClear (B : Board) (a b : Nat) : Prop := ∀ x, a < x → x < b → B x = none

theorem clearBetween_row_up (B : Board) {s t : Nat} (hs : s < 8) (ht : t < 8) (hst : s < t) :
    clearBetween B s t = true ↔ RowClear B s t := by
  have hf : file t = file s + 1 * ((t - s : Nat) : Int) := by unfold file; omega
  have hr : rank t = rank s + 0 * ((t - s : Nat) : Int) := by unfold rank; omega
  rw [clearBetween_iff B (a := 1) (b := 0) (Or.inr (Or.inr rfl)) (Or.inr (Or.inl rfl))
    (Or.inl (by decide)) s t (t - s) (by omega) hf hr]
  have e : ∀ j : Nat, sq (file s + 1 * (j : Int)) (rank s + 0 * (j : Int)) = s + j := by
    intro j; unfold sq file rank; omega
  simp only [e, Option.isNone_iff_eq_none]
  constructor
  · intro h x h1 h2
    have := h (x - s) (by omega) (by omega)
    rwa [show s + (x - s) = x by omega] at this
  · intro h j h1 h2
    exact h (s + j) (by omega) (by omega)

theorem clearBetween_row_down (B : Board) {s t : Nat} (hs : s < 8) (ht : t < 8) (hst : t < s) :
    clearBetween B s t = true ↔ RowClear B t s := by
  rw [clearBetween_symm B orth goodDir_orth s t
    ((aligned_orth s t).mpr ⟨by omega, Or.inr (by unfold rank; omega)⟩)]
  exact clearBetween_row_up B ht hs hst

theorem rayHit_row (B : Board) {k : Nat} (hk : k < 8) (s : Nat) :
    (RayHit B k dE s ↔ s < 8 ∧ k < s ∧ RowClear B k s) ∧ (RayHit B k dW s ↔ s < k ∧ RowClear B s k) := by
  unfold RayHit dE dW file rank
  constructor
  · constructor
    · rintro ⟨j, hj, hf, hr, hc⟩
      have h8 : s < 8 := by omega
      exact ⟨h8, by omega, (clearBetween_row_up B hk h8 (by omega)).mp hc⟩
    · rintro ⟨h8, hks, hc⟩
      exact ⟨s - k, by omega, by omega, by omega, (clearBetween_row_up B hk h8 hks).mpr hc⟩
  · constructor
    · rintro ⟨j, hj, hf, hr, hc⟩
      have h8 : s < 8 := by omega
      exact ⟨by omega, (clearBetween_row_down B hk h8 (by omega)).mp hc⟩
    · rintro ⟨hks, hc⟩
      exact ⟨k - s, by omega, by omega, by omega, (clearBetween_row_down B hk (by omega) hks).mpr hc⟩

theorem orthAtt_row (B : Board) {s t : Nat} (hs : s < 8) (ht : t < 8) (hne : s ≠ t) :
    orthAtt B s t = true ↔ RowClear B (min s t) (max s t) := by
  rw [orthAtt_iff, aligned_orth]
  have hr : rank t - rank s = 0 := by unfold rank; omega
  rcases Nat.lt_or_gt_of_ne hne with h | h
  · rw [clearBetween_row_up B hs ht h, Nat.min_eq_left (Nat.le_of_lt h), Nat.max_eq_right (Nat.le_of_lt h)]
    exact ⟨fun h' => h'.2, fun h' => ⟨⟨hne, Or.inr hr⟩, h'⟩⟩
  · rw [clearBetween_row_down B hs ht h, Nat.min_eq_right (Nat.le_of_lt h), Nat.max_eq_left (Nat.le_of_lt h)]
    exact ⟨fun h' => h'.2, fun h' => ⟨⟨hne, Or.inr hr⟩, h'⟩⟩

theorem diagAtt_row (B : Board) {s t : Nat} (hs : s < 8) (ht : t < 8) : diagAtt B s t = false := by
  cases h : diagAtt B s t
  · rfl
  · rw [diagAtt_iff, aligned_diag] at h
    have : rank t - rank s = 0 := by unfold rank; omega
    have hf := h.1.2
    rw [this] at hf
    exfalso; apply h.1.1
    unfold file at hf; omega

theorem them_occupied {p : Position} (hC : Consistent p = true) {t : Nat} (ht : t < 64)
    (h : p.c1.getLsbD t = true) : relBoard p t ≠ none :=
  occ_occupied hC ht (by unfold Position.occ; rw [BitVec.getLsbD_or, h, Bool.or_true])

/-- the castling rook is horizontally pinned iff an enemy rook or queen stands beyond it on the back
rank with nothing in between. -/
theorem hpinned_iff {p : Position} (hV : ValidPos p = true) {k r : Nat}
    (hk : k = lsb (p.p5 &&& p.c0)) (hk8 : k < 8) (hr8 : r < 8) (hkr : k ≠ r)
    (hus : p.c0.getLsbD r = true)
    (hclear : RowClear (relBoard p) (min k r) (max k r)) :
    (prelude p).hpinned.isSet r = true ↔
      ∃ s, s < 8 ∧ (themRQ p).getLsbD s = true ∧
        (if k < r then r < s ∧ RowClear (relBoard p) r s else s < r ∧ RowClear (relBoard p) s r) := by
  unfold BB.isSet
  rw [prelude_hpinned hV, ← hk]
  -- a pin along `dE` or `dW`, with the rays read on the rank
  simp only [List.mem_cons, List.not_mem_nil, or_false, exists_eq_or_imp, exists_eq_left, PinAlong,
    (rayHit_row _ hk8 _).1, (rayHit_row _ hk8 _).2, (rayHit_row _ hr8 _).1, (rayHit_row _ hr8 _).2, hus,
    true_and]
  by_cases hlt : k < r
  · rw [Nat.min_eq_left (Nat.le_of_lt hlt), Nat.max_eq_right (Nat.le_of_lt hlt)] at hclear
    simp only [hlt, if_true, Nat.lt_asymm hlt, false_and, or_false, hr8, hclear, true_and]
    constructor
    · rintro ⟨s, ⟨h1, h2, h3⟩, h4⟩
      exact ⟨s, h1, h4, h2, h3⟩
    · rintro ⟨s, h1, h4, h2, h3⟩
      exact ⟨s, ⟨h1, h2, h3⟩, h4⟩
  · have hrk : r < k := by omega
    rw [Nat.min_eq_right (Nat.le_of_lt hrk), Nat.max_eq_left (Nat.le_of_lt hrk)] at hclear
    simp only [hlt, if_false, false_and, and_false, false_or, hrk, hclear, true_and]
    constructor
    · rintro ⟨s, ⟨h2, h3⟩, h4⟩
      exact ⟨s, by omega, h4, h2, h3⟩
    · rintro ⟨s, _, h4, h2, h3⟩
      exact ⟨s, ⟨h2, h3⟩, h4⟩

/-- the combinatorial core, on the eight squares of the back rank. `E x`: square `x` is empty; `RQ s`: an
enemy rook or queen stands on `s`. Left: one stands beyond the castling rook with nothing between (the pin);
right: one sees the king's target along the rank of the castled board. -/
theorem castle_core (E RQ : Nat → Prop) (ks : Bool) (k r : Nat) (hk : k < 8) (hr : r < 8)
    (hside : if ks then k < r else r < k)
    (hRQ : ∀ s, RQ s → ¬ E s) (hRQk : ¬ RQ k) (hRQr : ¬ RQ r)
    (c2 : ∀ x, ((min k (kTo ks) ≤ x ∧ x ≤ max k (kTo ks)) ∨ (min r (rTo ks) ≤ x ∧ x ≤ max r (rTo ks))) →
      x ≠ k → x ≠ r → E x)
    (c3 : ∀ s, s < 8 → RQ s → s ≠ kTo ks → ¬ (∀ x, min s (kTo ks) < x → x < max s (kTo ks) → E x)) :
    (∃ s, s < 8 ∧ RQ s ∧
      (if k < r then r < s ∧ ∀ x, r < x → x < s → E x else s < r ∧ ∀ x, s < x → x < r → E x)) ↔
    (∃ s, s < 8 ∧ RQ s ∧ s ≠ kTo ks ∧
      ∀ x, min s (kTo ks) < x → x < max s (kTo ks) → (x ≠ rTo ks ∧ x ≠ kTo ks ∧ (x = r ∨ x = k ∨ E x))) := by
  -- an enemy rook or queen stands outside the two paths
  have hout : ∀ s, RQ s → ¬ ((min k (kTo ks) ≤ s ∧ s ≤ max k (kTo ks)) ∨
      (min r (rTo ks) ≤ s ∧ s ≤ max r (rTo ks))) :=
    fun s hq h => hRQ s hq (c2 s h (fun e => hRQk (e ▸ hq)) (fun e => hRQr (e ▸ hq)))
  -- each side forces the one genuine case: queen side, castling rook on b1, enemy on a1
  have key : ∀ s, s < 8 → RQ s →
      ((if k < r then r < s ∧ ∀ x, r < x → x < s → E x else s < r ∧ ∀ x, s < x → x < r → E x) ∨
        (s ≠ kTo ks ∧ ∀ x, min s (kTo ks) < x → x < max s (kTo ks) →
          (x ≠ rTo ks ∧ x ≠ kTo ks ∧ (x = r ∨ x = k ∨ E x)))) →
      ks = false ∧ s = 0 ∧ r = 1 := by
    intro s hs hq hg
    have ho := hout s hq
    have h3 := c3 s hs hq
    cases ks
    · simp only [kTo, rTo, Bool.false_eq_true, if_false] at hside ho h3 hg
      simp only [show ¬ k < r by omega, if_false] at hg
      -- the enemy stands on the far side of the king's target
      have hs2 : s < 2 := by
        rcases hg with ⟨hsr, _⟩ | ⟨hne, hcl⟩
        · omega
        · by_cases h : 3 < s
          · exact absurd rfl (hcl 3 (by omega) (by omega)).1
          · omega
      have hs0 : s = 0 := by
        apply Classical.byContradiction
        intro h
        exact h3 (by omega) (fun x h1 h2 => by omega)
      subst hs0
      have hE1 : ¬ E 1 := fun hE => h3 (by omega) (fun x h1 h2 => (show x = 1 by omega) ▸ hE)
      refine ⟨rfl, rfl, ?_⟩
      rcases hg with ⟨hsr, hcl⟩ | ⟨_, hcl⟩
      · apply Classical.byContradiction
        intro h
        exact hE1 (hcl 1 (by omega) (by omega))
      · rcases (hcl 1 (by omega) (by omega)).2.2 with h | h | h
        · exact h.symm
        · exact absurd hq (by rw [show (0 : Nat) = r by omega]; exact hRQr)
        · exact absurd h hE1
    · exfalso
      simp only [kTo, rTo, if_true] at hside ho h3 hg
      simp only [hside, if_true] at hg
      have hs7 : s = 7 := by
        rcases hg with ⟨hrs, _⟩ | ⟨hne, hcl⟩
        · omega
        · by_cases h : s < 5
          · exact absurd rfl (hcl 5 (by omega) (by omega)).1
          · omega
      exact h3 (by omega) (fun x h1 h2 => by omega)
  constructor
  · rintro ⟨s, hs, hq, hg⟩
    obtain ⟨rfl, rfl, rfl⟩ := key s hs hq (Or.inl hg)
    simp only [Bool.false_eq_true, if_false] at hside
    exact ⟨0, hs, hq, by decide, fun x h1 h2 => by
      simp only [kTo, rTo, Bool.false_eq_true, if_false] at h1 h2 ⊢; omega⟩
  · rintro ⟨s, hs, hq, hg⟩
    obtain ⟨rfl, rfl, rfl⟩ := key s hs hq (Or.inr hg)
    simp only [Bool.false_eq_true, if_false] at hside
    exact ⟨0, hs, hq, by rw [if_neg (by omega)]; exact ⟨by omega, fun x h1 h2 => by omega⟩⟩

theorem between_row {s t x : Nat} (hs : 8 ≤ s) (hs64 : s < 64) (ht : t < 8) (hx : Between s t x) :
    8 ≤ x := by
  obtain ⟨⟨a, b⟩, k, j, ⟨ha, hb, hab⟩, h1, h2, hf, hr, hxf, hxr⟩ := hx
  dsimp only at ha hb hab hf hr hxf hxr
  unfold rank at hr hxr
  rcases hb with rfl | rfl | rfl <;> omega

theorem castledB_ge (B : Board) {k r : Nat} (ks : Bool) (hk : k < 8) (hr : r < 8) {x : Nat}
    (hx : 8 ≤ x) : castledB B k r ks x = B x := by
  have h1 := kTo_lt ks
  have h2 := rTo_lt ks
  rcases castledB_cases B k r ks x with ⟨e, _⟩ | ⟨_, e, _⟩ | ⟨_, _, e, _⟩ | ⟨_, _, _, _, h⟩
  · omega
  · omega
  · omega
  · exact h

theorem castledB_none (B : Board) (k r : Nat) (ks : Bool) (x : Nat) :
    castledB B k r ks x = none ↔ x ≠ rTo ks ∧ x ≠ kTo ks ∧ (x = r ∨ x = k ∨ B x = none) := by
  rcases castledB_cases B k r ks x with ⟨e, h⟩ | ⟨_, e, h⟩ | ⟨e1, e2, e3, h⟩ | ⟨e1, e2, e3, e4, h⟩ <;> rw [h]
  · exact ⟨nofun, fun h' => absurd e h'.1⟩
  · exact ⟨nofun, fun h' => absurd e h'.2.1⟩
  · exact ⟨fun _ => ⟨e1, e2, e3.elim Or.inl fun e => Or.inr (Or.inl e)⟩, fun _ => rfl⟩
  · exact ⟨fun h' => ⟨e1, e2, Or.inr (Or.inr h')⟩, fun h' => (h'.2.2.resolve_left e3).resolve_left e4⟩

theorem castledB_enemy (B : Board) (k r : Nat) (ks : Bool) (kdk kdr : Kind)
    (hBk : B k = some ⟨true, kdk⟩) (hBr : B r = some ⟨true, kdr⟩)
    (hkT : kTo ks = k ∨ kTo ks = r ∨ B (kTo ks) = none)
    (hrT : rTo ks = k ∨ rTo ks = r ∨ B (rTo ks) = none)
    (s : Nat) (pc : Piece) (hpc : pc.white = false) :
    castledB B k r ks s = some pc ↔ B s = some pc := by
  have hw : ∀ {kd : Kind}, some (⟨true, kd⟩ : Piece) ≠ some pc := by
    intro kd h; injection h with h; rw [← h] at hpc; cases hpc
  -- no enemy piece on `k`, on `r`, or on an empty square
  have hn : ∀ {x : Nat}, (x = k ∨ x = r ∨ B x = none) → B x ≠ some pc := by
    rintro x (h | h | h) h'
    · rw [h, hBk] at h'; exact hw h'
    · rw [h, hBr] at h'; exact hw h'
    · rw [h] at h'; cases h'
  rcases castledB_cases B k r ks s with ⟨e, h⟩ | ⟨_, e, h⟩ | ⟨_, _, e, h⟩ | ⟨_, _, _, _, h⟩ <;> rw [h]
  · exact ⟨fun h' => absurd h' hw, fun h' => absurd h' (e ▸ hn hrT)⟩
  · exact ⟨fun h' => absurd h' hw, fun h' => absurd h' (e ▸ hn hkT)⟩
  · exact ⟨nofun, fun h' => absurd h' (hn (e.elim (fun e => Or.inr (Or.inl e)) Or.inl))⟩

def EnemyRQ (B : Board) (s : Nat) : Prop := B s = some ⟨false, .rook⟩ ∨ B s = some ⟨false, .queen⟩

theorem EnemyRQ.ne_none {B : Board} {s : Nat} (h : EnemyRQ B s) : ¬ B s = none := by
  rcases h with h | h <;> rw [h] <;> nofun

theorem EnemyRQ.not_own {B : Board} {s : Nat} {kd : Kind} (hB : B s = some ⟨true, kd⟩) : ¬ EnemyRQ B s := by
  rintro (h | h) <;> rw [hB] at h <;> cases h

theorem EnemyRQ.attacks {B : Board} {s t : Nat} (hs : s < 64) (hq : EnemyRQ B s)
    (ho : orthAtt B s t = true) : attackedBy B false t = true := by
  rw [attackedBy_iff]
  rcases hq with hq | hq
  · exact ⟨s, hs, _, hq, rfl, by rw [pieceAttacks_split]; exact ho⟩
  · exact ⟨s, hs, _, hq, rfl, by rw [pieceAttacks_split]; simp only [ho, Bool.or_true]⟩

/-- after castling the king's target is attacked iff an enemy rook or queen sees it along the back
rank of the castled board (everything else would attack it before castling too). -/
theorem castled_attack (B : Board) (k r : Nat) (ks : Bool) (hk : k < 8) (hr : r < 8) (kdk kdr : Kind)
    (hBk : B k = some ⟨true, kdk⟩) (hBr : B r = some ⟨true, kdr⟩)
    (hkT : kTo ks = k ∨ kTo ks = r ∨ B (kTo ks) = none)
    (hrT : rTo ks = k ∨ rTo ks = r ∨ B (rTo ks) = none)
    (c3 : attackedBy B false (kTo ks) = false) :
    attackedBy (castledB B k r ks) false (kTo ks) = true ↔
      ∃ s, s < 8 ∧ EnemyRQ B s ∧ s ≠ kTo ks ∧
        RowClear (castledB B k r ks) (min s (kTo ks)) (max s (kTo ks)) := by
  have hT := kTo_lt ks
  have hen := castledB_enemy B k r ks kdk kdr hBk hBr hkT hrT
  constructor
  · intro h
    obtain ⟨s, hs, pc, hB', hw, ha⟩ := (attackedBy_iff _ _ _).mp h
    have hB := (hen s pc hw).mp hB'
    -- before castling the piece did not attack the target
    have hno : pieceAttacks B s pc (kTo ks) = false := by
      cases h : pieceAttacks B s pc (kTo ks)
      · rfl
      · have := (attackedBy_iff B false (kTo ks)).mpr ⟨s, hs, pc, hB, hw, h⟩
        rw [c3] at this; cases this
    by_cases hs8 : s < 8
    · obtain ⟨w, kd⟩ := pc
      simp only at hw; subst hw
      rw [pieceAttacks_split] at ha hno
      have hne : s ≠ kTo ks := by
        intro e; rw [← pieceAttacks_split, e, pieceAttacks_self] at ha; cases ha
      cases kd
      · rw [ha] at hno; cases hno
      · rw [ha] at hno; cases hno
      · simp only [diagAtt_row _ hs8 hT] at ha; cases ha
      · exact ⟨s, hs8, Or.inl hB, hne, (orthAtt_row _ hs8 hT hne).mp ha⟩
      · simp only [diagAtt_row _ hs8 hT, Bool.false_or] at ha
        exact ⟨s, hs8, Or.inr hB, hne, (orthAtt_row _ hs8 hT hne).mp ha⟩
      · rw [ha] at hno; cases hno
    · exfalso
      have hs8' : 8 ≤ s := Nat.le_of_not_lt hs8
      have : pieceAttacks (castledB B k r ks) s pc (kTo ks) = pieceAttacks B s pc (kTo ks) :=
        pieceAttacks_congr _ _ s (kTo ks) hs (by omega)
          (fun x _ hx => castledB_ge B ks hk hr (between_row hs8' hs hT hx)) pc
      rw [this, hno] at ha; cases ha
  · rintro ⟨s, hs8, hB, hne, hc⟩
    exact EnemyRQ.attacks (by omega) (hB.imp (hen s _ rfl).mpr (hen s _ rfl).mpr)
      ((orthAtt_row (castledB B k r ks) hs8 hT hne).mpr hc)

theorem hpinned_iff_castled {p : Position} (hV : ValidPos p = true) (ks : Bool)
    (hr : VB.hasRight p false ks = true)
    (c2 : ∀ s ∈ span (lsb (p.p5 &&& p.c0)) (kTo ks) ++ span (VB.rightFile p false ks) (rTo ks),
      s = lsb (p.p5 &&& p.c0) ∨ s = VB.rightFile p false ks ∨ relBoard p s = none)
    (c3 : attackedBy (relBoard p) false (kTo ks) = false) :
    (prelude p).hpinned.isSet (VB.rightFile p false ks) = true ↔
      attackedBy (castledB (relBoard p) (lsb (p.p5 &&& p.c0)) (VB.rightFile p false ks) ks) false (kTo ks)
        = true := by
  have F := kingFacts hV
  have CF := castleFacts hV ks hr
  have hC := valid_consistent hV
  generalize hk : lsb (p.p5 &&& p.c0) = k at *
  generalize hrf : VB.rightFile p false ks = r at *
  have hk8 := CF.k8
  have hr8 := CF.r8
  have hkT8 := kTo_lt ks
  have hrT8 := rTo_lt ks
  have hside := CF.side
  have hkr : k ≠ r := by cases ks <;> simp at hside <;> omega
  have c2' : ∀ x, ((min k (kTo ks) ≤ x ∧ x ≤ max k (kTo ks)) ∨ (min r (rTo ks) ≤ x ∧ x ≤ max r (rTo ks))) →
      x ≠ k → x ≠ r → relBoard p x = none := fun x hx h1 h2 =>
    ((c2 x (by rw [List.mem_append, mem_span, mem_span]; exact hx)).resolve_left h1).resolve_left h2
  have hus : p.c0.getLsbD r = true := own_of_rel hC (by omega) CF.rook
  have hclear : RowClear (relBoard p) (min k r) (max k r) := by
    intro x h1 h2
    apply c2' x _ (by omega) (by omega)
    cases ks
    · simp only [Bool.false_eq_true, if_false] at hside
      simp only [kTo, rTo, Bool.false_eq_true, if_false]
      omega
    · simp only [if_true] at hside
      simp only [kTo, rTo, if_true]
      omega
  have hkT := c2 (kTo ks) (List.mem_append.mpr (Or.inl ((mem_span _ _ _).mpr (by omega))))
  have hrT := c2 (rTo ks) (List.mem_append.mpr (Or.inr ((mem_span _ _ _).mpr (by omega))))
  rw [hpinned_iff hV hk.symm hk8 hr8 hkr hus hclear,
    castled_attack (relBoard p) k r ks hk8 hr8 .king .rook F.rel CF.rook hkT hrT c3]
  have c3' : ∀ s, s < 8 → EnemyRQ (relBoard p) s → s ≠ kTo ks →
      ¬ (∀ x, min s (kTo ks) < x → x < max s (kTo ks) → relBoard p x = none) := by
    intro s hs hq hne hcl
    have := hq.attacks (by omega) ((orthAtt_row (relBoard p) hs hkT8 hne).mpr hcl)
    rw [c3] at this; cases this
  simp only [RowClear, castledB_none]
  rw [exists_congr fun s => and_congr_right fun hs => and_congr_left' (themRQ_iff hC s (by omega))]
  exact castle_core (fun x => relBoard p x = none) (EnemyRQ (relBoard p)) ks k r hk8 hr8 hside
    (fun _ => EnemyRQ.ne_none) (EnemyRQ.not_own F.rel) (EnemyRQ.not_own CF.rook) c2' c3'

theorem castleOk_rel {p : Position} (hV : ValidPos p = true) (ks : Bool) (hr : VB.hasRight p false ks = true) :
    castleOk p (prelude p) (VB.hasRight p false ks) (fromCoords (VB.rightFile p false ks) 0) (kTo ks) (rTo ks) = true ↔
      CastleRel p ks (lsb (p.p5 &&& p.c0)) (VB.rightFile p false ks) := by
  have CF := castleFacts hV ks hr
  have hC := valid_consistent hV
  have ho := occRep_rel hC
  unfold castleOk
  dsimp only
  rw [prelude_ksq, fromCoords_zero, hr, prelude_inCheck hV, isBbAttacked_rel hC _ true]
  simp only [Bool.true_and, Bool.and_eq_true, Bool.not_eq_true', Bool.not_true]
  rw [path_empty_iff ho CF.k8 CF.r8 (kTo_lt ks) (rTo_lt ks), List.any_eq_false]
  simp only [Bool.not_eq_true]
  have hspan : ∀ s, s ∈ span (lsb (p.p5 &&& p.c0)) (kTo ks) ↔
      (s ∈ toList (lineBetween (lsb (p.p5 &&& p.c0)) (kTo ks)) ∨ s = lsb (p.p5 &&& p.c0)) :=
    fun s => by rw [mem_toList, mem_lineBetween CF.k8 (kTo_lt ks)]
  constructor
  · rintro ⟨⟨⟨a1, a2⟩, a3⟩, a4⟩
    have c3 : ∀ s ∈ span (lsb (p.p5 &&& p.c0)) (kTo ks), attackedBy (relBoard p) false s = false := by
      intro s hs
      rcases (hspan s).mp hs with h | h
      · exact a4 s h
      · rw [h]; exact a1
    have c3k : attackedBy (relBoard p) false (kTo ks) = false :=
      c3 _ ((mem_span _ _ _).mpr (by omega))
    refine ⟨a1, a3, c3, ?_⟩
    cases hc : attackedBy (castledB (relBoard p) (lsb (p.p5 &&& p.c0)) (VB.rightFile p false ks) ks) false (kTo ks)
    · rfl
    · have := (hpinned_iff_castled hV ks hr a3 c3k).mpr hc
      rw [a2] at this; cases this
  · rintro ⟨c1, c2, c3, c4⟩
    have c3k : attackedBy (relBoard p) false (kTo ks) = false :=
      c3 _ ((mem_span _ _ _).mpr (by omega))
    refine ⟨⟨⟨c1, ?_⟩, c2⟩, ?_⟩
    · cases hp : (prelude p).hpinned.isSet (VB.rightFile p false ks)
      · rfl
      · have := (hpinned_iff_castled hV ks hr c2 c3k).mp hp
        rw [c4] at this; cases this
    · intro s hs
      exact c3 s ((hspan s).mpr (Or.inl hs))

theorem castleOk_eq_castleLegal {p : Position} (hV : ValidPos p = true) (ks : Bool) :
    castleOk p (prelude p) (VB.hasRight p false ks) (fromCoords (VB.rightFile p false ks) 0) (kTo ks) (rTo ks)
      = castleLegal (relPos p) ks := by
  cases hr : VB.hasRight p false ks
  · rw [castleLegal_no_right ks hr]
    unfold castleOk
    simp
  · have h1 := castleOk_rel hV ks hr
    rw [hr] at h1
    rw [Bool.eq_iff_iff, h1, castleLegal_rel hV ks hr]

end Rawr.Att
