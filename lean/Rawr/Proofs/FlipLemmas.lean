import Rawr.Model.Position
import Rawr.Proofs.Bits
/-! `flipBB` (`u64::swap_bytes`) moves bit `i` to bit `i ^^^ 56`; from that, it is an involution that distributes
over `&&&` and `|||` and keeps `count`, and `Position.flip` is an involution. -/
namespace Rawr

theorem flipSq_flipSq (s : Nat) : flipSq (flipSq s) = s := x56_x56 s

theorem flipSq_lt {s : Nat} (h : s < 64) : flipSq s < 64 := x56_lt h

/-- Bit `i` of the byte-swapped board is bit `i ^^^ 56` of the board: byte `j` goes to byte `7 - j`, that is, bits 3 to 5
of the index are complemented. The 64 instances, each evaluated through the eight shifts and masks of `flipBB`. -/
theorem flipBB_getLsbD_xor (b : BB) (i : Nat) (h : i < 64) :
    (flipBB b).getLsbD i = b.getLsbD (i ^^^ 56) := by
  revert i
  unfold flipBB
  simp only [Nat.forall_lt_succ_right, BitVec.getLsbD_or, BitVec.getLsbD_and, BitVec.getLsbD_shiftLeft,
    BitVec.getLsbD_ushiftRight, BitVec.getLsbD_of_ge, BitVec.reduceGetLsb, Nat.reduceAdd, Nat.reduceSub,
    Nat.reduceLT, Nat.reduceXor, Nat.reduceLeDiff, decide_true, decide_false, Bool.not_true, Bool.not_false,
    Bool.true_and, Bool.false_and, Bool.and_true, Bool.and_false, Bool.or_false, Bool.false_or,
    Nat.not_lt_zero, false_imp_iff, implies_true, and_self]

theorem flipBB_involutive (b : BB) : flipBB (flipBB b) = b := by
  apply BitVec.eq_of_getLsbD_eq
  intro i hi
  rw [flipBB_getLsbD_xor _ i hi, flipBB_getLsbD_xor _ (i ^^^ 56) (flipSq_lt hi)]
  exact congrArg b.getLsbD (flipSq_flipSq i)

theorem flipBB_zero : flipBB 0#64 = 0#64 := by decide

theorem flipBB_and_distrib (a b : BB) : flipBB (a &&& b) = flipBB a &&& flipBB b := by
  apply BitVec.eq_of_getLsbD_eq
  intro i hi
  simp only [BitVec.getLsbD_and, flipBB_getLsbD_xor _ i hi]

theorem flipBB_or_distrib (a b : BB) : flipBB (a ||| b) = flipBB a ||| flipBB b := by
  apply BitVec.eq_of_getLsbD_eq
  intro i hi
  simp only [BitVec.getLsbD_or, flipBB_getLsbD_xor _ i hi]

theorem count_flipBB (b : BB) : count (flipBB b) = count b := by
  rw [count_eq_countP, count_eq_countP]
  have h1 : (List.range 64).countP (fun i => (flipBB b).getLsbD i)
      = (List.range 64).countP ((fun i => b.getLsbD i) ∘ flipSq) := by
    apply List.countP_congr
    intro x hx
    rw [flipBB_getLsbD_xor b x (List.mem_range.mp hx)]
    rfl
  rw [h1, ← List.countP_map]
  exact (x56_perm : ((List.range 64).map flipSq).Perm (List.range 64)).countP_eq _

namespace Position

/-- flip.rs applied twice restores every field. -/
theorem flip_flip (p : Position) : p.flip.flip = p := by
  cases p with
  | mk c0 c1 p0 p1 p2 p3 p4 p5 hm fm bl ep uK uQ tK tQ f0 f1 f2 f3 hash frc =>
    simp only [flip, flipBB_involutive, Bool.not_not, Option.map_map]
    congr
    cases ep with
    | none => rfl
    | some s => simp only [Option.map_some, Function.comp, flipSq_flipSq]

@[simp] theorem flip_c0 (p : Position) : p.flip.c0 = flipBB p.c1 := rfl
@[simp] theorem flip_c1 (p : Position) : p.flip.c1 = flipBB p.c0 := rfl
@[simp] theorem flip_p0 (p : Position) : p.flip.p0 = flipBB p.p0 := rfl
@[simp] theorem flip_p1 (p : Position) : p.flip.p1 = flipBB p.p1 := rfl
@[simp] theorem flip_p2 (p : Position) : p.flip.p2 = flipBB p.p2 := rfl
@[simp] theorem flip_p3 (p : Position) : p.flip.p3 = flipBB p.p3 := rfl
@[simp] theorem flip_p4 (p : Position) : p.flip.p4 = flipBB p.p4 := rfl
@[simp] theorem flip_p5 (p : Position) : p.flip.p5 = flipBB p.p5 := rfl
@[simp] theorem flip_black (p : Position) : p.flip.black = !p.black := rfl

theorem flip_piece (p : Position) (i : Nat) : p.flip.piece i = flipBB (p.piece i) := by
  unfold piece
  split <;> first | rfl | exact flipBB_zero.symm

end Position
end Rawr
