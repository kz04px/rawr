import Rawr.Proofs.RootLemmasRange
/-! Helper lemmas for C12 (mate in one), in the namespace `Rawr.DM`:

* a non-root call on a checkmated position (`child_mated_returns`);
* the root call when some move mates and every other child answers above the mated-in-one score
  (`root_mate_in_one`, over the abstract hypotheses `OthersBelowMate` / `MatedChildrenOk`);
* the range of the scores returned by `negamax` at `ply ≥ 1` over a table with sane scores (`negamax_range`:
  `negamax_envelope` of `Proofs/RootLemmasRange.lean` at `K = MATE_SCORE - 1`), which discharges `OthersBelowMate`;
* the driver (`root_mate`, an instance of `rootIter_chain`). -/
namespace Rawr.DM

def Mated (c : Position) : Prop := legalMoves c = [] ∧ c.inCheck = true

instance (c : Position) : Decidable (Mated c) := by unfold Mated; infer_instance

theorem sortNm_nil (p : Position) (tt : Option Mv) : sortNm p [] tt = some [] := rfl

theorem child_mated_returns (lim : Limit) (fuel : Nat) (c : Position) (st : SState) (α β ply depth : Int)
    (cn : Bool) (hply : 1 ≤ ply) (hdepth : 0 ≤ depth) (hmated : Mated c)
    (h50 : c.halfmoves < 100) (hrep : repCount st.hist c.halfmoves c.hash < 2)
    (hnohit : (st.tt.poll c.hash.toNat).map (·.hash) ≠ some c.hash)
    (hlim : (shouldStop lim st).1 = false) :
    negamax lim (fuel + 1) c st α β ply depth cn =
      some (-Gen.MATE_SCORE + ply, { st with seldepth := max st.seldepth ply, polls := st.polls + 1 }) := by
  obtain ⟨hmoves, hcheck⟩ := hmated
  obtain ⟨e, he⟩ := Table.poll_ne_none st.tt c.hash.toNat
  have hhit : (e.hash == c.hash) = false := by
    rw [he] at hnohit
    simpa using hnohit
  have hroot : (ply == 0) = false := by
    simp only [beq_eq_false_iff_ne, ne_eq]; omega
  have hd : (decide (c.halfmoves ≥ 100) || decide (repCount st.hist c.halfmoves c.hash ≥ 2)) = false := by
    simp only [Bool.or_eq_false_iff, decide_eq_false_iff_not]; omega
  unfold negamax
  simp only [he, hhit, hroot, hcheck, hmoves, Bool.false_and, Bool.false_eq_true, ↓reduceIte, Bool.not_false,
    Bool.true_and, Bool.not_true, Bool.and_false, if_neg (show ¬ depth + 1 ≤ 0 by omega),
    shouldStop_fst_seldepth, hlim, shouldStop_snd, sortNm_nil, nmLoop]
  exact if_neg (Bool.eq_false_iff.1 hd)

/-- the "range" requirement on the calls the root makes on a child `c` (`ply = 1`) that is not mated:
whatever the window and the remaining depth, the answer is above the mated-in-one score `-MATE_SCORE + 1`,
and the table invariant `I` is kept ("below": the root compares the negated answer, which is below the mate-in-one score
`MATE_SCORE - 1`). `H` is the root's history, `D` its `stats.depth`. -/
def OthersBelowMate (lim : Limit) (fuel : Nat) (p : Position) (H : List BB) (D : Int)
    (I : Table TTEntry → Prop) : Prop :=
  ∀ m ∈ legalMoves p, ∀ c, p.makemove m true = some c → ¬ Mated c →
    ∀ (s : SState) (a b d v : Int) (s' : SState), s.hist = c.hash :: H → s.depth = D → I s.tt → 0 ≤ d →
      negamax lim fuel c s a b 1 d true = some (v, s') → -Gen.MATE_SCORE + 1 < v ∧ I s'.tt

/-- every mated child of `p` is one to which `child_mated_returns` applies: clock below 100, no repetition with
its key pushed on `H`, no table hit in any table satisfying `I`. -/
def MatedChildrenOk (p : Position) (H : List BB) (I : Table TTEntry → Prop) : Prop :=
  ∀ m ∈ legalMoves p, ∀ c, p.makemove m true = some c → Mated c →
    c.halfmoves < 100 ∧ repCount (c.hash :: H) c.halfmoves c.hash < 2 ∧
      ∀ T, I T → (T.poll c.hash.toNat).map (·.hash) ≠ some c.hash

def IsMating (p : Position) (m : Mv) : Prop := ∃ c, p.makemove m true = some c ∧ Mated c

instance (p : Position) (m : Mv) : Decidable (IsMating p m) := by
  unfold IsMating
  infer_instance

theorem root_mate_in_one (lim : Limit) (fuel : Nat) (p : Position) (st : SState) (depth : Int)
    (I : Table TTEntry → Prop)
    (hdepth : 1 ≤ (if p.inCheck then depth + 1 else depth))
    (hlim : QuietAt lim st.depth) (hI : I st.tt)
    (hmate : ∃ m ∈ legalMoves p, IsMating p m)
    (hmated : MatedChildrenOk p st.hist I)
    (hothers : OthersBelowMate lim (fuel + 1) p st.hist st.depth I)
    (v : Int) (st' : SState)
    (h : negamax lim (fuel + 2) p st (-Gen.INF) Gen.INF 0 depth false = some (v, st')) :
    v = Gen.MATE_SCORE - 1 ∧ ∃ m fl, m ∈ legalMoves p ∧ IsMating p m ∧ st'.best = some m ∧
      st'.hist = st.hist ∧ st'.depth = st.depth ∧ ∃ T, I T ∧
        T.add p.hash.toNat ⟨p.hash, m, Gen.MATE_SCORE - 1, if p.inCheck then depth + 1 else depth, fl⟩ =
          some st'.tt := by
  obtain ⟨s1, ttm, moves, s2, a2, best, bm, hs1, hsort, hloop, hfin⟩ :=
    root_call_unfold lim (fuel + 1) p st depth v st' hdepth hlim h
  have hperm := sortNm_perm p _ _ _ hsort
  generalize hd' : (if p.inCheck = true then depth + 1 else depth) = d' at hdepth hloop hfin ⊢
  obtain ⟨done', rest, hsplit, hs2, hR, hend, _⟩ := nmLoop_invariant (negamax lim (fuel + 1)) p Gen.INF 0 d' p.inCheck
    (fun s => s.hist = st.hist ∧ s.depth = st.depth ∧ I s.tt)
    (fun c s => s.hist = c.hash :: st.hist ∧ s.depth = st.depth ∧ I s.tt)
    (fun m score => (IsMating p m → score = Gen.MATE_SCORE - 1) ∧ (¬ IsMating p m → score < Gen.MATE_SCORE - 1))
    (fun done alpha best bm => best ≤ Gen.MATE_SCORE - 1 ∧ alpha ≤ Gen.MATE_SCORE - 1 ∧
      (best = Gen.MATE_SCORE - 1 → ∃ m, bm = some m ∧ m ∈ moves ∧ IsMating p m) ∧
      ((∃ m ∈ done, IsMating p m) → best = Gen.MATE_SCORE - 1))
    moves
    (fun s c hs => ⟨by show c.hash :: s.hist = _; rw [hs.1], hs.2.1, hs.2.2⟩)
    (fun c s hs => ⟨by show s.hist.tail = _; rw [hs.1]; rfl, hs.2.1, hs.2.2⟩)
    (by
      intro m hm c hmk s a b d v1 s1' hs hcd hc
      have hm' := hperm.mem_iff.1 hm
      have hd0 : 0 ≤ d := by rcases hcd with h | h <;> omega
      rw [Int.zero_add] at hc
      by_cases hmt : Mated c
      · obtain ⟨h50, hrep, hnh⟩ := hmated m hm' c hmk hmt
        rw [child_mated_returns lim fuel c s a b 1 d true (by decide) hd0 hmt h50 (by rw [hs.1]; exact hrep)
          (hnh _ hs.2.2) (shouldStop_quiet (by rw [hs.2.1]; exact hlim))] at hc
        simp only [Option.some.injEq, Prod.mk.injEq] at hc
        rw [← hc.1, ← hc.2]
        refine ⟨hs, fun _ => by omega, fun hn => absurd ⟨c, hmk, hmt⟩ hn⟩
      · obtain ⟨hv, hI'⟩ := hothers m hm' c hmk hmt s a b d v1 s1' hs.1 hs.2.1 hs.2.2 hd0 hc
        refine ⟨⟨(negamax_inv lim _ _ _ _ _ _ _ _ _ _ hc).1.trans hs.1,
          (negamax_fr lim _ _ _ _ _ _ _ _ _ _ hc).1.trans hs.2.1, hI'⟩, ?_, fun _ => by omega⟩
        rintro ⟨c', hmk', hmt'⟩
        rw [hmk] at hmk'; cases hmk'
        exact absurd hmt' hmt)
    (by
      intro done m alpha best bm score hm hR hQ
      obtain ⟨hb, ha, hbm, hdone⟩ := hR
      by_cases hmt : IsMating p m
      · have hsc := hQ.1 hmt
        refine ⟨by split <;> omega, by split <;> omega, fun _ => ?_, fun _ => by split <;> omega⟩
        by_cases hgt : score > best
        · rw [if_pos hgt]; exact ⟨m, rfl, hm, hmt⟩
        · rw [if_neg hgt]; exact hbm (by omega)
      · have hsc := hQ.2 hmt
        refine ⟨by split <;> omega, by split <;> omega, fun hb1 => ?_, fun hex => ?_⟩
        · have hgt : ¬ score > best := by
            intro hgt; rw [if_pos hgt] at hb1; omega
          rw [if_neg hgt] at hb1 ⊢
          exact hbm hb1
        · obtain ⟨m', hm', hmt'⟩ := hex
          rcases List.mem_append.1 hm' with hm' | hm'
          · have := hdone ⟨m', hm', hmt'⟩
            rw [if_neg (by omega)]; exact this
          · rw [List.mem_singleton.1 hm'] at hmt'; exact absurd hmt' hmt)
    moves [] 0 s1 (-Gen.INF) (-Gen.INF) none s2 a2 best bm (fun _ hm => hm) ⟨hs1.1, hs1.2.2.1, by rw [hs1.2.1]; exact hI⟩
    ⟨by decide, by decide, fun h => absurd h (by decide), fun ⟨_, hm, _⟩ => absurd hm (by simp)⟩ hloop
  rw [List.nil_append] at hR
  obtain ⟨hb, ha, hbm, hdone⟩ := hR
  -- no cut-off at the root: all moves have been tried
  have hrest : rest = [] := by
    rcases hend with h | h
    · exact h
    · exfalso
      have : (Gen.MATE_SCORE - 1 : Int) < Gen.INF := by decide
      omega
  subst hrest
  rw [List.append_nil] at hsplit
  subst hsplit
  obtain ⟨m₁, hm₁, hmt₁⟩ := hmate
  obtain ⟨m, rfl, hmm, hmt⟩ := hbm (hdone ⟨m₁, hperm.mem_iff.2 hm₁, hmt₁⟩)
  have hbest := hdone ⟨m₁, hperm.mem_iff.2 hm₁, hmt₁⟩
  obtain ⟨rfl, tt', hadd, rfl⟩ := hfin
  refine ⟨hbest, m, if v ≤ -Gen.INF then 2 else if v ≥ Gen.INF then 1 else 0, hperm.mem_iff.1 hmm, hmt, rfl,
    hs2.1, hs2.2.1, s2.tt, hs2.2.2, ?_⟩
  rw [← hbest]; exact hadd


/-- scores in `[-RS, RS]` stay clear of the mate-in-one scores `±(MATE_SCORE - 1)`. -/
abbrev RS : Int := Gen.MATE_SCORE - 2

/-- table invariant: every stored score is within `[-RS, RS]`, except under the keys in `Kp` (the root's, which
stores `MATE_SCORE - 1`); no entry is stored under a key in `Ks` (the mated children's). -/
def TTInv (Kp Ks : BB → Prop) (T : Table TTEntry) : Prop :=
  ∀ key e, T.poll key = some e → (Kp e.hash ∨ (-RS ≤ e.score ∧ e.score ≤ RS)) ∧ ¬ Ks e.hash

theorem TTInv.add {Kp Ks : BB → Prop} {T T' : Table TTEntry} {k : Nat} {e : TTEntry} (h : TTInv Kp Ks T)
    (hadd : T.add k e = some T') (he : Kp e.hash ∨ (-RS ≤ e.score ∧ e.score ≤ RS)) (hs : ¬ Ks e.hash) :
    TTInv Kp Ks T' := by
  intro key e' hp
  rcases Table.poll_add_cases hadd key with h1 | h1
  · rw [h1] at hp; cases hp; exact ⟨he, hs⟩
  · rw [h1] at hp; exact h key e' hp

/-- the subtree below `q` searched with `fuel`: no node has a key in `Kp`, no node with a legal move has a key in
`Ks`, the evaluation is within `[-B, B]` on every capture tree; the null-move child is included where the
search may try it. -/
def TreeOk (Kp Ks : BB → Prop) (B : Int) : Nat → Position → Prop
  | 0, _ => True
  | f + 1, q => ¬ Kp q.hash ∧ (legalMoves q ≠ [] → ¬ Ks q.hash) ∧ QEvalOk B qFuel q ∧
      (q.inCheck = false → isEndgame q = false → TreeOk Kp Ks B f q.makenull) ∧
      ∀ m ∈ legalMoves q, ∀ c, q.makemove m true = some c → TreeOk Kp Ks B f c

instance decTreeOk (Kp Ks : BB → Prop) [DecidablePred Kp] [DecidablePred Ks] (B : Int) :
    ∀ f q, Decidable (TreeOk Kp Ks B f q)
  | 0, _ => isTrue trivial
  | f + 1, q => by
    have := decTreeOk Kp Ks B f
    unfold TreeOk
    infer_instance

theorem QEvalOk.eval_bound {B : Int} {q : Position} (h : QEvalOk B qFuel q) : -B ≤ eval q ∧ eval q ≤ B :=
  h.1

/-- the tree `TreeOk Kp Ks B` with the table invariant `TTInv Kp Ks` is a domain of the range lemma for `K = MATE_SCORE - 1`:
scores in `(-K, K)` are the scores in `[-RS, RS]`. -/
theorem TreeOk.rangeDom (Kp Ks : BB → Prop) (B : Int) : RangeDom (TreeOk Kp Ks B) B (RS + 1) (TTInv Kp Ks) where
  move := fun _ _ m q' h hm hmk => h.2.2.2.2 m hm q' hmk
  null := fun _ _ h hc he => h.2.2.2.1 hc he
  eval := fun _ _ h => h.2.2.1.eval_bound
  qs := fun _ _ h _ _ _ _ _ _ hq => qsearch_range B _ _ _ _ _ _ _ _ h.2.2.1 hq
  hit := fun _ _ _ _ h hT hp hk => by
    rcases (hT _ _ hp).1 with hkp | hs
    · exact absurd (hk ▸ hkp) h.1
    · unfold InR
      omega
  store := fun _ _ _ _ _ best _ _ h hne hT hb hadd =>
    hT.add hadd (Or.inr (show -RS ≤ best ∧ best ≤ RS by unfold InR at hb; omega)) (h.2.1 hne)

/-- `negamax_envelope` at `K = MATE_SCORE - 1`: the exception is the node checkmated at `ply = 1`. -/
theorem negamax_range (lim : Limit) (Kp Ks : BB → Prop) (B : Int) (hB : B + 300 ≤ RS)
    (fuel : Nat) (q : Position) (st : SState) (α β ply depth : Int) (cn : Bool) (v : Int) (st' : SState)
    (htree : TreeOk Kp Ks B fuel q) (hply : 1 ≤ ply) (hfuel : ply + fuel ≤ Gen.MATE_SCORE) (hI : TTInv Kp Ks st.tt)
    (h : negamax lim fuel q st α β ply depth cn = some (v, st')) :
    TTInv Kp Ks st'.tt ∧ v ≤ RS ∧ ((2 ≤ ply ∨ ¬ Mated q) → -RS ≤ v) := by
  have hRS : RS = Gen.MATE_SCORE - 2 := rfl
  have hM : 2 ≤ Gen.MATE_SCORE := by decide
  obtain ⟨h1, h2 | ⟨hm, hp, hv⟩⟩ := negamax_envelope lim (TreeOk.rangeDom Kp Ks B) (by omega) (by decide)
    fuel q st α β ply depth cn v st' htree hI (by omega) (by omega) h
  · unfold InR at h2
    exact ⟨h1, by omega, fun _ => by omega⟩
  · exact ⟨h1, by omega, fun h => h.elim (fun h => by omega) (fun h => absurd hm h)⟩

theorem othersBelowMate_of_tree (lim : Limit) (fuel : Nat) (p : Position) (H : List BB) (D : Int)
    (Kp Ks : BB → Prop) (B : Int) (hB : B + 300 ≤ RS) (hfuel : (fuel : Int) < Gen.MATE_SCORE)
    (htree : ∀ m ∈ legalMoves p, ∀ c, p.makemove m true = some c → ¬ Mated c → TreeOk Kp Ks B fuel c) :
    OthersBelowMate lim fuel p H D (TTInv Kp Ks) := by
  intro m hm c hmk hnm s a b d v s' _ _ hI _ hc
  obtain ⟨h1, _, h3⟩ := negamax_range lim Kp Ks B hB fuel c s a b 1 d true v s' (htree m hm c hmk hnm)
    (by decide) (by omega) hI hc
  have := h3 (Or.inr hnm)
  have hRS : RS = Gen.MATE_SCORE - 2 := rfl
  exact ⟨by omega, h1⟩

theorem TTInv.nohit {Kp Ks : BB → Prop} {T : Table TTEntry} (h : TTInv Kp Ks T) {k : BB} (hk : Ks k) :
    (T.poll k.toNat).map (·.hash) ≠ some k := by
  obtain ⟨e, he⟩ := Table.poll_ne_none T k.toNat
  rw [he]
  simp only [Option.map_some, ne_eq, Option.some.injEq]
  intro h'
  exact (h _ _ he).2 (h' ▸ hk)

/-- the hypotheses of C12 on the root `p` with history `H`, over a table invariant `I`:
some legal move mates; `child_mated_returns` applies to every mated child; the other children answer above the
mated-in-one score at every iteration; the root's own store keeps `I`. -/
structure MateInOne (lim : Limit) (fuel : Nat) (p : Position) (H : List BB) (I : Table TTEntry → Prop) : Prop where
  mate : ∃ m ∈ legalMoves p, IsMating p m
  mated : MatedChildrenOk p H I
  others : ∀ D, OthersBelowMate lim (fuel + 1) p H D I
  store : ∀ T T' m d fl, I T → T.add p.hash.toNat ⟨p.hash, m, Gen.MATE_SCORE - 1, d, fl⟩ = some T' → I T'

theorem MateInOne.root_call {lim : Limit} {fuel : Nat} {p : Position} {H : List BB} {I : Table TTEntry → Prop}
    (hyp : MateInOne lim fuel p H I) (st : SState) (depth : Int)
    (hdepth : 1 ≤ (if p.inCheck then depth + 1 else depth)) (hlim : QuietAt lim st.depth) (hH : st.hist = H)
    (hI : I st.tt) (v : Int) (st' : SState)
    (h : negamax lim (fuel + 2) p st (-Gen.INF) Gen.INF 0 depth false = some (v, st')) :
    v = Gen.MATE_SCORE - 1 ∧ ∃ m, m ∈ legalMoves p ∧ IsMating p m ∧ st'.best = some m ∧ st'.hist = H ∧
      st'.depth = st.depth ∧ I st'.tt := by
  obtain ⟨hv, m, fl, hm, hmt, hb, hh, hd, T, hT, hadd⟩ := root_mate_in_one lim fuel p st depth I hdepth hlim hI
    hyp.mate (by rw [hH]; exact hyp.mated) (by rw [hH]; exact hyp.others _) v st' h
  exact ⟨hv, m, hm, hmt, hb, hh.trans hH, hd, hyp.store _ _ _ _ _ hT hadd⟩

/-- `go depth D`, `D ≥ 1`: every iteration reports the mate-in-one score with a mating move, and the best move
mates. -/
theorem root_mate (D : Int) (hD1 : 1 ≤ D) (fuel : Nat) (p : Position) (hist : List BB) (tt : Table TTEntry)
    (I : Table TTEntry → Prop) (hyp : MateInOne (.depth D) fuel p hist I) (hI : I tt) (res : RootResult)
    (h : root (.depth D) (fuel + 2) p hist tt = some res) :
    (∃ m ∈ legalMoves p, IsMating p m ∧ res.best = some m) ∧ res.infos ≠ [] ∧
      ∀ r ∈ res.infos, r.score = Gen.MATE_SCORE - 1 ∧ ∃ m ∈ legalMoves p, IsMating p m ∧ r.pv = [m] := by
  obtain ⟨score, s1, hcall, hrest⟩ := root_first h
  obtain ⟨rfl, m, hm, hmm, hb1, hh1, hd1, hI1⟩ := hyp.root_call _ 1 (by split <;> omega)
    (by show (1 : Int) ≤ D; exact hD1) rfl hI score s1 hcall
  rcases hrest with ⟨hnone, _⟩ | ⟨m', hm', h⟩
  · rw [hb1] at hnone
    cases hnone
  rw [hb1] at hm'
  cases hm'
  -- from iteration 2 on: an iteration that is reported ran within the depth limit, where `root_call` applies
  obtain ⟨⟨_, m', ⟨_, _, _, hmt', hm'⟩, hb⟩, _, new, hinfos, hnew⟩ := rootIter_chain
    (J := fun st bm => st.hist = hist ∧ I st.tt ∧ st.best = some bm ∧ IsMating p bm ∧ bm ∈ legalMoves p)
    (T := fun _ => True)
    (P := fun r => r.score = Gen.MATE_SCORE - 1 ∧ ∃ m ∈ legalMoves p, IsMating p m ∧ r.pv = [m])
    (fun _ _ hJ => by rw [hJ.2.2.1]; rfl) (fun _ _ _ => trivial)
    (by
      intro depth st bm score s2 m2 hd ⟨hH, hI2, _⟩ hnm hm2
      refine ⟨trivial, fun hpoll => ?_⟩
      rw [endPoll_fst_of_gt _ _ _ hd, shouldStop_depth, negamax_depth_eq hnm, decide_eq_false_iff_not] at hpoll
      obtain ⟨rfl, m3, hm3, hmm3, hb3, hh3, _, hI3⟩ := hyp.root_call { st with depth := depth } depth
        (by split <;> omega) (by show depth ≤ D; omega) hH hI2 score s2 hnm
      rw [hm2] at hb3
      cases hb3
      exact ⟨⟨by rw [endPoll_snd]; exact hh3, by rw [endPoll_snd]; exact hI3, by rw [endPoll_snd]; exact hm2,
        hmm3, hm3⟩, rfl, m2, hm3, hmm3, rfl⟩)
    _ 2 s1 m _ res (by decide) ⟨hh1, hI1, hb1, hmm, hm⟩ h
  refine ⟨⟨m', hm', hmt', hb⟩, ?_, ?_⟩
  · rw [hinfos]; simp
  · intro r hr
    rw [hinfos, List.reverse_singleton, List.singleton_append] at hr
    rcases List.mem_cons.1 hr with rfl | hr
    · exact ⟨rfl, m, hm, hmm, rfl⟩
    · exact hnew r hr

end Rawr.DM
