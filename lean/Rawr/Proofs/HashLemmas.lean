import Rawr.Proofs.XorFold
import Rawr.Proofs.FlipLemmas
import Rawr.Spec.Zobrist
import Rawr.Proofs.AbsCell
/-! C04: `flipBB` under the bitwise operations; the key recomputation as an XOR over the twelve (colour, kind) boards
plus the en-passant, castling and turn keys (`calc_eq`), and its behaviour under `flip` (`calc_flip`). C04(b): the null
move keeps `hash = calculateHash` (`null_preserves`). -/
namespace Rawr.ZH
open Rawr Rawr.Position

theorem flipBB_xor (a b : BB) : flipBB (a ^^^ b) = flipBB a ^^^ flipBB b := by
  apply BitVec.eq_of_getLsbD_eq
  intro i hi
  simp only [BitVec.getLsbD_xor, flipBB_getLsbD_xor _ i hi]

theorem flipBB_flipBB (b : BB) : flipBB (flipBB b) = b := flipBB_involutive b

/-- `⊕` over the absolute squares `a` whose mover-relative image `absSq t a` is set in `bb`
of the key of a `(c, k)` piece on `a`. -/
def LA (K : ZKeys) (c : Bool) (k : Nat) (t : Bool) (bb : BB) : BB :=
  xorSum (fun a => if bb.getLsbD (absSq t a) then K.piece (zIndex c k a) else 0#64) (List.range 64)

theorem getLsbD_whitePov (bb : BB) (t : Bool) {i : Nat} (hi : i < 64) :
    (whitePov bb t).getLsbD i = bb.getLsbD (absSq t i) := by
  cases t
  · rfl
  · exact flipBB_getLsbD_xor bb i hi

theorem xorSquares_eq (K : ZKeys) (c : Bool) (k : Nat) (t : Bool) (bb h : BB) :
    xorSquares K c k (whitePov bb t) h = h ^^^ LA K c k t bb := by
  unfold xorSquares LA toList
  rw [foldl_eq_xorSum, xorSum_filter]
  exact congrArg (h ^^^ ·) (xorSum_congr fun i hi => by rw [getLsbD_whitePov bb t (List.mem_range.mp hi)])

/-- key of the pieces: `c0` are the mover's (`t` = mover is Black), `c1` the opponent's; `P k` the board of kind `k`. -/
def pieceKey (K : ZKeys) (t : Bool) (c0 c1 : BB) (P : Nat → BB) : BB :=
  (LA K t 0 t (c0 &&& P 0) ^^^ LA K (!t) 0 t (c1 &&& P 0)) ^^^
  (LA K t 1 t (c0 &&& P 1) ^^^ LA K (!t) 1 t (c1 &&& P 1)) ^^^
  (LA K t 2 t (c0 &&& P 2) ^^^ LA K (!t) 2 t (c1 &&& P 2)) ^^^
  (LA K t 3 t (c0 &&& P 3) ^^^ LA K (!t) 3 t (c1 &&& P 3)) ^^^
  (LA K t 4 t (c0 &&& P 4) ^^^ LA K (!t) 4 t (c1 &&& P 4)) ^^^
  (LA K t 5 t (c0 &&& P 5) ^^^ LA K (!t) 5 t (c1 &&& P 5))

def epKey (K : ZKeys) : Option Nat → BB
  | some e => K.ep (fileOf e)
  | none => 0#64

/-- key of en-passant file, castling rights (mover's K,Q; opponent's K,Q) and turn. -/
def metaKey (K : ZKeys) (t : Bool) (ep : Option Nat) (uK uQ tK tQ : Bool) : BB :=
  epKey K ep ^^^ cnd uK (K.castling (2 * col t)) ^^^ cnd uQ (K.castling (2 * col t + 1)) ^^^
    cnd tK (K.castling (2 * col (!t))) ^^^ cnd tQ (K.castling (2 * col (!t) + 1)) ^^^ cnd t K.turn

theorem ite_xor_eq (c : Bool) (k h : BB) : (if c then h ^^^ k else h) = h ^^^ cnd c k := by
  cases c <;> simp [cnd]

theorem xorIf_eq (c : Bool) (k h : BB) : xorIf c k h = h ^^^ cnd c k := ite_xor_eq c k h

theorem calc_eq (K : ZKeys) (p : Position) :
    calculateHashK K p =
      pieceKey K p.black p.c0 p.c1 p.piece ^^^ metaKey K p.black p.ep p.usK p.usQ p.themK p.themQ := by
  unfold calculateHashK pieceKey metaKey
  simp only [xorSquares_eq, xorIf_eq, Position.piece, Position.white, Position.blackBB]
  cases p.ep <;> cases p.black <;>
    simp only [epKey, Bool.false_eq_true, if_false, if_true, Bool.not_true, Bool.not_false, BitVec.zero_xor] <;>
    ac_rfl

theorem LA_flip (K : ZKeys) (c : Bool) (k : Nat) (t : Bool) (bb : BB) :
    LA K c k (!t) (flipBB bb) = LA K c k t bb := by
  unfold LA
  apply xorSum_congr
  intro i hi
  have hi := List.mem_range.mp hi
  cases t
  · simp only [absSq, Bool.not_false, if_true, Bool.false_eq_true, if_false,
      flipBB_getLsbD_xor _ _ (x56_lt hi), x56_x56]
  · simp only [absSq, Bool.not_true, if_true, Bool.false_eq_true, if_false, flipBB_getLsbD_xor _ _ hi]

theorem pieceKey_flip (K : ZKeys) (t : Bool) (c0 c1 : BB) (P : Nat → BB) :
    pieceKey K (!t) (flipBB c1) (flipBB c0) (fun k => flipBB (P k)) = pieceKey K t c0 c1 P := by
  unfold pieceKey
  simp only [← flipBB_and_distrib, LA_flip, Bool.not_not]
  ac_rfl

theorem epKey_flip (K : ZKeys) (ep : Option Nat) : epKey K (ep.map flipSq) = epKey K ep := by
  cases ep with
  | none => rfl
  | some e => simp only [Option.map_some, epKey, fileOf, flipSq, x56_mod8]

theorem metaKey_flip (K : ZKeys) (t : Bool) (ep : Option Nat) (uK uQ tK tQ : Bool) :
    metaKey K (!t) (ep.map flipSq) tK tQ uK uQ = metaKey K t ep uK uQ tK tQ ^^^ K.turn := by
  unfold metaKey
  rw [epKey_flip]
  cases t <;> simp only [cnd, Bool.not_true, Bool.not_false, Bool.false_eq_true, if_false, if_true,
    BitVec.xor_zero, BitVec.xor_assoc, BitVec.xor_self] <;> ac_rfl

theorem calc_flip (K : ZKeys) (p : Position) :
    calculateHashK K p.flip = calculateHashK K p ^^^ K.turn := by
  rw [calc_eq, calc_eq, funext p.flip_piece]
  show pieceKey K (!p.black) (flipBB p.c1) (flipBB p.c0) _ ^^^
      metaKey K (!p.black) (p.ep.map flipSq) p.themK p.themQ p.usK p.usQ = _
  rw [pieceKey_flip, metaKey_flip, BitVec.xor_assoc]

theorem metaKey_split (K : ZKeys) (t : Bool) (ep : Option Nat) (uK uQ tK tQ : Bool) :
    metaKey K t ep uK uQ tK tQ = metaKey K t none uK uQ tK tQ ^^^ epKey K ep := by
  unfold metaKey
  simp only [epKey, BitVec.zero_xor]
  ac_rfl

theorem calc_clear_ep (K : ZKeys) (q : Position) (hm : Int) :
    calculateHashK K { q with halfmoves := hm, ep := none } = calculateHashK K q ^^^ epKey K q.ep := by
  rw [calc_eq, calc_eq, metaKey_split K q.black q.ep]
  show pieceKey K q.black q.c0 q.c1 q.piece ^^^ metaKey K q.black none q.usK q.usQ q.themK q.themQ = _
  rw [← BitVec.xor_assoc, BitVec.xor_assoc, BitVec.xor_self, BitVec.xor_zero]

theorem calc_set_hash (K : ZKeys) (q : Position) (h : BB) :
    calculateHashK K { q with hash := h } = calculateHashK K q := rfl

theorem makenull_hash (p : Position) :
    p.makenull.hash = p.hash ^^^ genKeys.turn ^^^ epKey genKeys p.ep := by
  unfold makenull
  cases p.ep <;> simp [Position.flip, epKey]

theorem makenull_calc (p : Position) :
    p.makenull.calculateHash = p.calculateHash ^^^ genKeys.turn ^^^ epKey genKeys p.ep := by
  unfold makenull calculateHash
  simp only []
  rw [calc_clear_ep, calc_flip, calc_set_hash]
  show _ ^^^ epKey genKeys (p.ep.map flipSq) = _
  rw [epKey_flip]

theorem null_preserves (p : Position) (h : p.hash = p.calculateHash) :
    p.makenull.hash = p.makenull.calculateHash := by
  rw [makenull_hash, makenull_calc, h]

end Rawr.ZH
