import Rawr.Proofs.SpecFrame
import Rawr.Proofs.Force
/-!
# Sanity of the specification, part 5: an evaluator for `Spec.legalMoves` and `Spec.leaves`

`legalMovesE` and `leavesE` are proved equal to `Spec.legalMoves` and `Spec.leaves`; the perft counts are evaluated
by the kernel through them. The ideas:
* one scan of the board gives the men of a position (`piecesOf`); kings, enemy men, attacks and castling are read
  off that list, where the specification scans the 64 squares each time;
* an attack is geometry and board apart (`pieceAttacks_eq`). The geometry (`reach`, `mids`, `targets`) is a closed
  term for a given man and square: the kernel evaluates it once and finds it again in its table of evaluated terms,
  so a piece looks at the squares it reaches on the empty board only;
* a move writes at most four squares (`apply_frame`): the legality test reads the successor there, and of the enemy
  men only those that reach the king and have no blocker that stays (`threats`);
* the board is one number, four bits a square (`unpack`), patched on the touched squares from a position to its
  successor (`patch`), where `Spec.apply` puts a closure before every read.
-/
namespace Rawr.SpecS
open Rawr.Spec

/-- the squares `Spec.clearBetween` looks at. -/
def between (s t : Nat) : List Nat :=
  let df := sgn (file t - file s)
  let dr := sgn (rank t - rank s)
  let n := max (file t - file s).natAbs (rank t - rank s).natAbs
  (List.range (n - 1)).map fun (k : Nat) => sq (file s + df * (k + 1)) (rank s + dr * (k + 1))

theorem clearBetween_eq (b : Board) (s t : Nat) :
    clearBetween b s t = (between s t).all fun x => (b x).isNone := by
  simp only [clearBetween, between, List.all_map]
  rfl

def noBoard : Board := fun _ => none

/-- `pc` on `s` attacks `t` on the empty board. -/
def reach (pc : Piece) (s t : Nat) : Bool := pieceAttacks noBoard s pc t

/-- the squares that must be empty for `pc` on `s` to attack a `t` it reaches. -/
def mids (pc : Piece) (s t : Nat) : List Nat :=
  match pc.kind with
  | .bishop | .rook | .queen => between s t
  | _ => []

theorem pieceAttacks_eq (b : Board) (s : Nat) (pc : Piece) (t : Nat) :
    pieceAttacks b s pc t = (reach pc s t && (mids pc s t).all fun x => (b x).isNone) := by
  have h : clearBetween noBoard s t = true := by
    rw [clearBetween_eq]
    exact List.all_eq_true.2 fun _ _ => rfl
  unfold reach mids pieceAttacks
  cases pc.kind <;> simp [h, clearBetween_eq]

/-- `Spec.pieceAttacks`, the geometry apart from the board. -/
def attacks (b : Board) (s : Nat) (pc : Piece) (t : Nat) : Bool :=
  reach pc s t && (mids pc s t).all fun x => (b x).isNone

theorem attacks_eq (b : Board) (s : Nat) (pc : Piece) (t : Nat) : attacks b s pc t = pieceAttacks b s pc t :=
  (pieceAttacks_eq b s pc t).symm

def piecesOf (b : Board) : List (Nat × Piece) :=
  squares.filterMap fun s => match b s with
    | some pc => some (s, pc)
    | none => none

theorem mem_piecesOf {b : Board} {x : Nat × Piece} (h : x ∈ piecesOf b) : b x.1 = some x.2 := by
  obtain ⟨s, _, hs⟩ := List.mem_filterMap.1 h
  cases hb : b s with
  | none => simp [hb] at hs
  | some pc =>
    simp only [hb, Option.some.injEq] at hs
    rw [← hs, hb]

theorem kingSquares_eq (b : Board) (w : Bool) :
    kingSquares b w = ((piecesOf b).filter fun x => x.2 == ⟨w, .king⟩).map (·.1) := by
  unfold kingSquares piecesOf
  rw [List.filter_filterMap, List.map_filterMap, ← List.filterMap_eq_filter]
  congr 1
  funext s
  cases hs : b s with
  | none => simp [Option.guard, hs]
  | some pc => by_cases h : pc = ⟨w, .king⟩ <;> simp [Option.guard, Option.filter, hs, h]

theorem attackedBy_eq (b : Board) (c : Bool) (t : Nat) :
    attackedBy b c t = ((piecesOf b).filter fun x => x.2.white == c).any fun x => attacks b x.1 x.2 t := by
  unfold attackedBy piecesOf
  rw [List.any_filter, List.any_filterMap]
  congr 1
  funext s
  cases b s with
  | none => rfl
  | some pc => simp [attacks_eq]

theorem flatMap_pieces (b : Board) (f : Nat → List Move) (h : ∀ s, b s = none → f s = []) :
    squares.flatMap f = (piecesOf b).flatMap fun x => f x.1 := by
  unfold piecesOf
  induction squares with
  | nil => rfl
  | cons s l ih =>
    cases hs : b s with
    | none => simp [hs, h s hs, ih]
    | some pc => simp [hs, ih]

/-- **frame principle**: if `b'` agrees with `b` off `T`, a scan of `b'` is a scan of `T` on `b'` together with a scan
of `b` off `T`. -/
theorem any_squares_frame {b b' : Board} {T : List Nat} (h : ∀ x, x ∉ T → b' x = b x)
    (φ : Nat → Option Piece → Bool) :
    squares.any (fun s => φ s (b' s)) =
      (T.any (fun s => Nat.blt s 64 && φ s (b' s)) || squares.any fun s => !T.contains s && φ s (b s)) := by
  rw [Bool.eq_iff_iff]
  simp only [squares, Bool.or_eq_true, List.any_eq_true, List.mem_range, Bool.and_eq_true,
    Bool.not_eq_true', List.contains_eq_mem, decide_eq_false_iff_not, Nat.blt_eq]
  constructor
  · rintro ⟨s, hs, hφ⟩
    by_cases hT : s ∈ T
    · exact Or.inl ⟨s, hT, hs, hφ⟩
    · exact Or.inr ⟨s, hs, hT, by rwa [← h s hT]⟩
  · rintro (⟨s, _, hs, hφ⟩ | ⟨s, hs, hT, hφ⟩)
    · exact ⟨s, hs, hφ⟩
    · exact ⟨s, hs, by rwa [h s hT]⟩

/-- `attackedBy b' c k` for a board `b'` that differs from one with men `es` of colour `c` on `T` only. -/
def attackedAfter (b' : Board) (T : List Nat) (es : List (Nat × Piece)) (c : Bool) (k : Nat) : Bool :=
  (T.any fun s => Nat.blt s 64 && match b' s with
      | some pc => pc.white == c && attacks b' s pc k
      | none => false) ||
  es.any fun x => !T.contains x.1 && attacks b' x.1 x.2 k

theorem attackedAfter_eq {b b' : Board} {T : List Nat} (h : ∀ x, x ∉ T → b' x = b x) (c : Bool) (k : Nat) :
    attackedAfter b' T ((piecesOf b).filter fun x => x.2.white == c) c k = attackedBy b' c k := by
  have e : attackedBy b' c k = squares.any fun s => (b' s).any fun pc => pc.white == c && attacks b' s pc k := by
    unfold attackedBy
    congr 1
    funext s
    cases b' s <;> simp [attacks_eq]
  rw [e, any_squares_frame h fun s o => o.any fun pc => pc.white == c && attacks b' s pc k]
  simp only [attackedAfter, piecesOf, List.any_filter, List.any_filterMap]
  congr 2
  · funext s
    cases b' s <;> rfl
  · funext s
    cases b s with
    | none => simp
    | some pc => simp [Bool.and_left_comm]

/-- the men of `es` that reach `k`, each with the occupied squares of `b` between it and `k`. -/
def threats (b : Board) (es : List (Nat × Piece)) (k : Nat) : List (Nat × Piece × List Nat) :=
  (es.filter fun x => reach x.2 x.1 k).map fun x => (x.1, x.2, (mids x.2 x.1 k).filter fun y => (b y).isSome)

/-- `attackedAfter`, given `threats b es k`: a man with a blocker off `T` is still blocked. -/
def attackedAfterT (b' : Board) (T : List Nat) (thr : List (Nat × Piece × List Nat)) (c : Bool) (k : Nat) : Bool :=
  (T.any fun s => Nat.blt s 64 && match b' s with
      | some pc => pc.white == c && attacks b' s pc k
      | none => false) ||
  thr.any fun x => !T.contains x.1 && x.2.2.all T.contains && (mids x.2.1 x.1 k).all fun y => (b' y).isNone

theorem attackedAfterT_eq {b b' : Board} {T : List Nat} (h : ∀ x, x ∉ T → b' x = b x)
    (es : List (Nat × Piece)) (c : Bool) (k : Nat) :
    attackedAfterT b' T (threats b es k) c k = attackedAfter b' T es c k := by
  unfold attackedAfterT attackedAfter threats
  rw [List.any_map, List.any_filter]
  congr 2
  funext x
  have hb : ((mids x.2 x.1 k).all fun y => (b' y).isNone) = true →
      (((mids x.2 x.1 k).filter fun y => (b y).isSome).all T.contains) = true := by
    intro hall
    rw [List.all_eq_true] at hall ⊢
    intro y hy
    rw [List.mem_filter] at hy
    rw [List.contains_eq_mem, decide_eq_true_eq]
    refine Decidable.byContradiction fun hT => ?_
    have := hall y hy.1
    rw [h y hT] at this
    cases hby : b y <;> simp [hby] at this hy
  simp only [attacks, Function.comp]
  cases hr : reach x.2 x.1 k <;> cases hm : (mids x.2 x.1 k).all fun y => (b' y).isNone <;> simp [hb, hm]

/-- `inCheck b' w`, likewise, given the kings `ks` of colour `w`, each with its threats, and the men `es` of the other
colour before the change. -/
def inCheckAfter (b' : Board) (T : List Nat) (ks : List (Nat × List (Nat × Piece × List Nat)))
    (es : List (Nat × Piece)) (w : Bool) : Bool :=
  (T.any fun s => Nat.blt s 64 && (b' s == some ⟨w, .king⟩ && attackedAfter b' T es (!w) s)) ||
  ks.any fun x => !T.contains x.1 && attackedAfterT b' T x.2 (!w) x.1

theorem inCheckAfter_eq {b b' : Board} {T : List Nat} (h : ∀ x, x ∉ T → b' x = b x) (w : Bool)
    {es : List (Nat × Piece)} (hes : es = (piecesOf b).filter fun x => x.2.white == !w) :
    inCheckAfter b' T ((kingSquares b w).map fun k => (k, threats b es k)) es w = inCheck b' w := by
  have e := any_squares_frame h fun s o => o == some ⟨w, .king⟩ && attackedBy b' (!w) s
  simp only [inCheck, inCheckAfter, kingSquares, List.any_filter, List.any_map, Function.comp, attackedAfterT_eq h, hes,
    attackedAfter_eq h, e]
  congr 2
  funext s
  cases !T.contains s <;> cases b s == some ⟨w, .king⟩ <;> rfl

/-- the squares `pc` on `s` reaches on the empty board, each with what must be empty on the way: a closed term for
literal arguments. -/
def targets (pc : Piece) (s : Nat) : List (Nat × List Nat) :=
  (squares.filter (reach pc s)).map fun t => (t, mids pc s t)

/-- `Spec.pseudoFrom p x.1` for the man `x` of the board; a piece looks at its `targets` only. -/
def movesOf (p : APos) (x : Nat × Piece) : List Move :=
  match x.2.kind with
  | .pawn => pseudoFrom p x.1
  | _ =>
    if x.2.white != p.whiteToMove then [] else
    ((targets x.2 x.1).filter fun y => (y.2.all fun z => (p.board z).isNone) &&
        (match p.board y.1 with | some q => q.white != x.2.white | none => true)).map
      fun y => Move.normal x.1 y.1 none

theorem movesOf_eq {p : APos} {s : Nat} {pc : Piece} (h : p.board s = some pc) :
    movesOf p (s, pc) = pseudoFrom p s := by
  have e : (((targets pc s).filter fun y => (y.2.all fun z => (p.board z).isNone) &&
        (match p.board y.1 with | some q => q.white != pc.white | none => true)).map
        fun y => Move.normal s y.1 none) =
      (squares.filter fun t => pieceAttacks p.board s pc t &&
        (match p.board t with | some q => q.white != pc.white | none => true)).map fun t => Move.normal s t none := by
    simp only [targets, List.filter_map, List.map_map, List.filter_filter, pieceAttacks_eq]
    congr 1
    apply List.filter_congr
    intro t _
    simp only [Function.comp, Bool.and_comm (_ && _) (reach pc s t), Bool.and_assoc]
  unfold movesOf pseudoFrom
  simp only [h]
  cases pc.kind <;> simp only [e] <;> rfl

/-- `Spec.castleLegal`, given the kings of the side to move (`kings`; with their threats, `ks`) and the men `es` of the
other side. -/
def castleLegalE (p : APos) (kings : List Nat) (ks : List (Nat × List (Nat × Piece × List Nat)))
    (es : List (Nat × Piece)) (side : Bool) : Bool :=
  let w := p.whiteToMove
  let hr := homeRank w
  match right p w side, kings with
  | some rf, [k] =>
    let rsq := sq rf hr
    let kTo := sq (if side then 6 else 2) hr
    let rTo := sq (if side then 5 else 3) hr
    rank k == hr && p.board rsq == some ⟨w, .rook⟩ &&
    (if side then file k < rf else (rf : Int) < file k) &&
    !(es.any fun x => attacks p.board x.1 x.2 k) &&
    ((span k kTo ++ span rsq rTo).all fun s => s == k || s == rsq || (p.board s).isNone) &&
    ((span k kTo).all fun s => !es.any fun x => attacks p.board x.1 x.2 s) &&
    !inCheckAfter (apply p (.castle side)).board (touched p (.castle side)) ks es w
  | _, _ => false

/-- `Spec.legalMoves`, from one scan of the board. -/
def legalMovesE (p : APos) : List Move :=
  let pcs := piecesOf p.board
  let es := pcs.filter fun x => x.2.white == !p.whiteToMove
  let kings := (pcs.filter fun x => x.2 == ⟨p.whiteToMove, .king⟩).map (·.1)
  let ks := kings.map fun k => (k, threats p.board es k)
  ((pcs.flatMap (movesOf p)).filter fun m =>
      !inCheckAfter (apply p m).board (touched p m) ks es p.whiteToMove) ++
  ([true, false].filter (castleLegalE p kings ks es)).map Move.castle

theorem legalMovesE_eq (p : APos) : legalMovesE p = legalMoves p := by
  unfold legalMovesE legalMoves
  simp only [← kingSquares_eq]
  congr 1
  · rw [flatMap_pieces p.board (pseudoFrom p) fun s hs => by simp only [pseudoFrom, hs]]
    rw [List.flatMap_def, List.flatMap_def, List.map_congr_left fun x hx => movesOf_eq (mem_piecesOf hx)]
    exact List.filter_congr fun m _ => by rw [inCheckAfter_eq (apply_frame p m) _ rfl]
  · congr 2
    funext ks
    unfold castleLegalE castleLegal
    simp only [attackedBy_eq, inCheckAfter_eq (apply_frame p (.castle ks)) _ rfl]
    rfl

def cellOf : Nat → Option Piece
  | 1 => some ⟨true, .pawn⟩ | 2 => some ⟨true, .knight⟩ | 3 => some ⟨true, .bishop⟩
  | 4 => some ⟨true, .rook⟩ | 5 => some ⟨true, .queen⟩ | 6 => some ⟨true, .king⟩
  | 7 => some ⟨false, .pawn⟩ | 8 => some ⟨false, .knight⟩ | 9 => some ⟨false, .bishop⟩
  | 10 => some ⟨false, .rook⟩ | 11 => some ⟨false, .queen⟩ | 12 => some ⟨false, .king⟩
  | _ => none

def codeOf : Option Piece → Nat
  | none => 0
  | some ⟨true, .pawn⟩ => 1 | some ⟨true, .knight⟩ => 2 | some ⟨true, .bishop⟩ => 3
  | some ⟨true, .rook⟩ => 4 | some ⟨true, .queen⟩ => 5 | some ⟨true, .king⟩ => 6
  | some ⟨false, .pawn⟩ => 7 | some ⟨false, .knight⟩ => 8 | some ⟨false, .bishop⟩ => 9
  | some ⟨false, .rook⟩ => 10 | some ⟨false, .queen⟩ => 11 | some ⟨false, .king⟩ => 12

theorem cellOf_codeOf (v : Option Piece) : cellOf (codeOf v) = v := by
  rcases v with _ | ⟨_ | _, _ | _ | _ | _ | _ | _⟩ <;> rfl

theorem codeOf_lt (v : Option Piece) : codeOf v < 16 := by
  rcases v with _ | ⟨_ | _, _ | _ | _ | _ | _ | _⟩ <;> decide

/-- `X` above 32 bits of check sum. The kernel finds the terms it has evaluated again through a hash table, and the
hash of a numeral looks at its low 32 bits only: boards that differ on the upper ranks alone would collide there at
every look-up. -/
def stamp (X : Nat) : Nat := X <<< 32 + X % 4294967291

/-- the code of square `s` in the stamped number `B`. -/
def nib (B s : Nat) : Nat := (B >>> (4 * s + 32)) % 16

def setNib (B s c : Nat) : Nat := stamp ((B >>> 32) ^^^ ((nib B s ^^^ c) <<< (4 * s)))

theorem stamp_shiftRight (X : Nat) : stamp X >>> 32 = X := by
  unfold stamp
  rw [Nat.shiftLeft_eq, Nat.shiftRight_eq_div_pow, Nat.mul_comm, Nat.mul_add_div (by decide)]
  have : X % 4294967291 / 2 ^ 32 = 0 := Nat.div_eq_of_lt (by omega)
  omega

theorem nib_eq (B s : Nat) : nib B s = ((B >>> 32) >>> (4 * s)) % 16 := by
  rw [nib, Nat.add_comm, Nat.shiftRight_add]

theorem nib_setNib (B s c t : Nat) (hc : c < 16) :
    nib (setNib B s c) t = if t = s then c else nib B t := by
  rw [nib_eq, setNib, stamp_shiftRight, nib_eq B t, nib_eq B s]
  generalize B >>> 32 = X
  have h16 : (16 : Nat) = 2 ^ 4 := rfl
  have hcb : ∀ j, 4 ≤ j → c.testBit j = false := fun j hj =>
    Nat.testBit_lt_two_pow (Nat.lt_of_lt_of_le hc (Nat.pow_le_pow_right (n := 2) (by decide) hj))
  apply Nat.eq_of_testBit_eq
  intro i
  split
  · subst t
    simp only [h16, Nat.testBit_mod_two_pow, Nat.testBit_shiftRight, Nat.testBit_xor, Nat.testBit_shiftLeft]
    by_cases hi : i < 4
    · simp [hi]
    · simp [hi, hcb i (by omega)]
  · simp only [h16, Nat.testBit_mod_two_pow, Nat.testBit_shiftRight, Nat.testBit_xor, Nat.testBit_shiftLeft]
    by_cases hge : 4 * s ≤ 4 * t + i
    · by_cases hi : i < 4
      · simp [hi, hge, hcb (4 * t + i - 4 * s) (by omega), show ¬(4 * t + i - 4 * s < 4) by omega]
      · simp [hi]
    · simp [hge]

/-- `B` holds `b` on the 64 squares. -/
def Packs (B : Nat) (b : Board) : Prop := ∀ s, s < 64 → cellOf (nib B s) = b s

/-- `b`, read from `B` on the board. -/
def unpack (B : Nat) (b : Board) : Board := fun s =>
  match Nat.blt s 64 with
  | true => forceN (nib B s) cellOf
  | false => b s

theorem unpack_eq {B : Nat} {b : Board} (h : Packs B b) : unpack B b = b := by
  funext s
  unfold unpack
  cases hs : Nat.blt s 64 with
  | true => exact (forceN_eq _ _).trans (h s (Nat.blt_eq.mp hs))
  | false => rfl

/-- `B` with the squares `T` set as in `b'`. -/
def patch (B : Nat) (b' : Board) : List Nat → Nat
  | [] => B
  | x :: T => forceN (setNib B x (codeOf (b' x))) fun B => patch B b' T

theorem nib_patch (b' : Board) (T : List Nat) (B s : Nat) :
    cellOf (nib (patch B b' T) s) = if s ∈ T then b' s else cellOf (nib B s) := by
  induction T generalizing B with
  | nil => rfl
  | cons x T ih =>
    rw [patch, forceN_eq, ih, nib_setNib _ _ _ _ (codeOf_lt _)]
    by_cases hT : s ∈ T
    · simp [hT]
    · by_cases hx : s = x
      · simp [hx, cellOf_codeOf]
      · simp [hT, hx]

theorem packs_patch {B : Nat} {b b' : Board} {T : List Nat} (h : Packs B b)
    (hf : ∀ x, x < 64 → x ∉ T → b' x = b x) : Packs (patch B b' T) b' := by
  intro s hs
  rw [nib_patch]
  split
  · rfl
  · next hT => rw [h s hs, hf s hs hT]

/-- `b` packed: the empty board with all squares set. -/
def pack (b : Board) : Nat := patch (stamp 0) b squares

theorem packs_pack (b : Board) : Packs (pack b) b :=
  packs_patch (b := noBoard) (fun s _ => by simp [nib, stamp, cellOf, noBoard]) fun x hx hn => (hn (List.mem_range.2 hx)).elim

/-- `Spec.leaves p d`, for `B` holding the board of `p`. -/
def leavesE (B : Nat) (p : APos) : Nat → Nat
  | 0 => 1
  | d + 1 =>
    let q := { p with board := unpack B p.board }
    ((legalMovesE q).map fun m =>
      match d with
      | 0 => 1
      | _ + 1 => forceN (patch B (apply q m).board (touched q m)) fun B' => leavesE B' (apply q m) d).sum

theorem packs_apply {B : Nat} {p : APos} (h : Packs B p.board) (m : Move) :
    Packs (patch B (apply p m).board (touched p m)) (apply p m).board :=
  packs_patch h fun x _ hx => apply_frame p m x hx

theorem leavesE_eq {B : Nat} {p : APos} (h : Packs B p.board) (d : Nat) : leavesE B p d = leaves p d := by
  induction d generalizing B p with
  | zero => rfl
  | succ d ih =>
    have hq : { p with board := unpack B p.board } = p := by rw [unpack_eq h]
    simp only [leavesE, leaves, hq, legalMovesE_eq]
    congr 1
    apply List.map_congr_left
    intro m _
    cases d with
    | zero => rfl
    | succ d => exact (forceN_eq _ _).trans (ih (packs_apply h m))

theorem leaves_eval (p : APos) (d : Nat) : leaves p d = forceN (pack p.board) fun B => leavesE B p d := by
  rw [forceN_eq, leavesE_eq (packs_pack _)]

end Rawr.SpecS
