import Rawr.Model.Zobrist
import Rawr.Generated.StartPos
/-! C04(d): the extracted Zobrist tables hold 781 pairwise distinct non-zero 64-bit keys (kernel-evaluated `Nat`
checker); and the stored key of the extracted start position is the recomputed one (`startpos_key`). -/
namespace Rawr

/-- all 781 keys: 768 piece keys, 8 en-passant, 4 castling, 1 turn. -/
def allKeysNat : List Nat :=
  Gen.zKeys.toList ++ Gen.zKeysEp.toList ++ Gen.zKeysCastling.toList ++ [Gen.zKeyTurn]

def freshKey (x : Nat) : List Nat → Bool
  | [] => true
  | y :: ys => if x == y then false else freshKey x ys

/-- executable check: every key is in `(0, 2^64)` and differs from all later ones. -/
def keysOk : List Nat → Bool
  | [] => true
  | x :: xs =>
    if x == 0 then false else if 18446744073709551616 ≤ x then false
    else if freshKey x xs then keysOk xs else false

theorem freshKey_sound {x : Nat} {l : List Nat} (h : freshKey x l = true) : x ∉ l := by
  induction l with
  | nil => simp
  | cons y ys ih =>
    simp [freshKey] at h
    simp only [List.mem_cons, not_or]
    exact ⟨h.1, ih h.2⟩

theorem keysOk_sound {l : List Nat} (h : keysOk l = true) :
    l.Nodup ∧ ∀ k ∈ l, k ≠ 0 ∧ k < 2 ^ 64 := by
  induction l with
  | nil => simp
  | cons x xs ih =>
    simp [keysOk] at h
    obtain ⟨h0, hlt, hf, hk⟩ := h
    obtain ⟨hn, ha⟩ := ih hk
    refine ⟨List.nodup_cons.mpr ⟨freshKey_sound hf, hn⟩, fun k hk => ?_⟩
    rcases List.mem_cons.mp hk with rfl | hk
    · exact ⟨h0, hlt⟩
    · exact ha k hk
theorem keys_sizes : Gen.zKeys.size = 768 ∧ Gen.zKeysEp.size = 8 ∧ Gen.zKeysCastling.size = 4 := by
  decide +kernel


/-- the same check done bucket-wise (`x % m`; equal keys share a bucket), so that only the keys of one bucket are compared
with each other. -/
def bucketsOk (m : Nat) (l : List Nat) : Bool :=
  (List.range m).all fun r => keysOk (l.filter (fun x => x % m == r))

theorem bucketsOk_sound {m : Nat} (hm : 0 < m) {l : List Nat} (h : bucketsOk m l = true) :
    l.Nodup ∧ ∀ k ∈ l, k ≠ 0 ∧ k < 2 ^ 64 := by
  have hb : ∀ r, r < m → keysOk (l.filter (fun x => x % m == r)) = true := by
    intro r hr
    have := List.all_eq_true.mp h r (List.mem_range.mpr hr)
    exact this
  constructor
  · rw [List.nodup_iff_count]
    intro a
    have h1 := (keysOk_sound (hb (a % m) (Nat.mod_lt _ hm))).1
    rw [List.nodup_iff_count] at h1
    have h2 := h1 a
    rwa [List.count_filter (by simp)] at h2
  · intro k hk
    exact (keysOk_sound (hb (k % m) (Nat.mod_lt _ hm))).2 k
      (List.mem_filter.mpr ⟨hk, by simp⟩)

theorem bucketsOk_allKeys : bucketsOk 32 allKeysNat = true := by decide +kernel

theorem allKeysNat_ok : allKeysNat.Nodup ∧ ∀ k ∈ allKeysNat, k ≠ 0 ∧ k < 2 ^ 64 :=
  bucketsOk_sound (by decide) bucketsOk_allKeys

theorem allKeysNat_length : allKeysNat.length = 781 := by decide +kernel

/-- the 781 keys as the model sees them (`genKeys`), in table order. -/
def genKeyList : List BB :=
  (List.range 768).map genKeys.piece ++ (List.range 8).map genKeys.ep ++
    (List.range 4).map genKeys.castling ++ [genKeys.turn]

theorem range_map_getD (a : Array Nat) (f : Nat → BB) :
    (List.range a.size).map (fun i => f (a[i]?.getD 0)) = a.toList.map f := by
  apply List.ext_getElem
  · simp
  · intro i h1 h2
    simp only [List.length_map, List.length_range] at h1
    simp [h1]

theorem genKeyList_eq : genKeyList = allKeysNat.map (BitVec.ofNat 64) := by
  have h := keys_sizes
  have h1 := range_map_getD Gen.zKeys (BitVec.ofNat 64)
  have h2 := range_map_getD Gen.zKeysEp (BitVec.ofNat 64)
  have h3 := range_map_getD Gen.zKeysCastling (BitVec.ofNat 64)
  rw [h.1] at h1; rw [h.2.1] at h2; rw [h.2.2] at h3
  simp only [genKeyList, allKeysNat, genKeys, List.map_append, List.map_cons, List.map_nil, h1, h2, h3]

theorem genKeyList_ok : genKeyList.Nodup ∧ (∀ k ∈ genKeyList, k ≠ 0#64) ∧ genKeyList.length = 781 := by
  obtain ⟨hn, hr⟩ := allKeysNat_ok
  rw [genKeyList_eq]
  refine ⟨?_, ?_, by simp [allKeysNat_length]⟩
  · unfold List.Nodup
    rw [List.pairwise_map]
    refine List.Pairwise.imp_of_mem ?_ hn
    intro a b ha hb hab heq
    apply hab
    have h1 := congrArg BitVec.toNat heq
    simp only [BitVec.toNat_ofNat] at h1
    rwa [Nat.mod_eq_of_lt (hr a ha).2, Nat.mod_eq_of_lt (hr b hb).2] at h1
  · intro k hk
    obtain ⟨a, ha, rfl⟩ := List.mem_map.mp hk
    intro heq
    have h1 := congrArg BitVec.toNat heq
    simp only [BitVec.toNat_ofNat, Nat.reducePow, Nat.zero_mod] at h1
    rw [Nat.mod_eq_of_lt (hr a ha).2] at h1
    exact (hr a ha).1 h1

theorem startpos_key : Gen.startpos.hash = Gen.startpos.calculateHash := by decide +kernel

end Rawr
