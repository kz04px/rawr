import Rawr.Proofs.RustSessionAgree_Listen
import Rawr.Proofs.RustTextAgree_Rules
import Rawr.Proofs.UciStep
/-!
# The session-layer agreement theorems on valid positions, and `listen` on the sessions that make no move

* `agree_position_fmt_rules`, `agree_uci_split_rules`: `Display for Position` and `split` on every valid position.
* `agree_listen_nomoves`: **the whole `listen`** (both loops, the session state, the option callbacks, `ucinewgame`,
  `isready`, `print`, `setoption`, `history`, `eval`, `quit`, unknown words, end of input) for every list of input lines
  none of which is a `go`, `position` or `moves` command: no hypothesis but the iteration bound and a newline-free version
  string.
-/
namespace Rawr.Sess

theorem displayOk_of_valid {p : Position} (hV : ValidPos p = true) : DisplayOk p := by
  obtain ⟨_, _, _, _, h0, h1, h2, h3, _⟩ := validPos_parts hV
  exact ⟨(fenPrintable_of_valid hV).whiteRel.1, fun _ => by omega, fun _ => by omega, fun _ => by omega, fun _ => by omega⟩

theorem _root_.Rawr.agree_position_fmt_rules (ar : Arith) (p : Position) (f : List Char) (hV : ValidPos p = true) :
    R.position_fmt ar p f = some (f ++ T.unlines (displayPos p)) :=
  agree_position_fmt ar p f (displayOk_of_valid hV)

theorem _root_.Rawr.agree_uci_split_rules (fuel : Nat) (ar : Arith) (clock : Nat → Nat) (p : Position) (d : Nat)
    (hf : d - 1 < fuel) (hV : ValidPos p = true) :
    CmdRel p (splitLines p d) (R.uci_split fuel ar clock p d) :=
  agree_uci_split fuel ar clock p d hf (movesOnBoard_of_valid hV)

def NoMoveCmd (l : List Char) : Prop :=
  (splitWs l).headD [] ≠ str "go" ∧ (splitWs l).headD [] ≠ str "position" ∧ (splitWs l).headD [] ≠ str "moves"

/-- the start position, with either value of the Chess960 flag: what a session without `go`, `position` and `moves`
stays in, so that `DisplayOk`, the one side condition left, is a closed fact. -/
def IsStart (p : Position) : Prop := p = { Gen.startpos with frc := p.frc }

theorem isStart_frc {p : Position} (h : IsStart p) (f : Bool) : IsStart { p with frc := f } := by
  unfold IsStart at *
  rw [h]

theorem displayOk_start {p : Position} (h : IsStart p) : DisplayOk p := by
  unfold IsStart at h
  rw [h]
  refine ⟨?_, ?_, ?_, ?_, ?_⟩
  · intro e he; simp only [Gen.startpos] at he; cases he
  all_goals (intro _; simp only [Gen.startpos]; omega)

theorem doSetoption_start (second : Bool) {s : UState} (h : IsStart s.pos) (toks : List (List Char)) :
    IsStart (doSetoption s toks second).pos :=
  doSetoption_cases (P := fun t => IsStart t.pos) s toks second h (fun _ => by split <;> exact h) fun f => isStart_frc h f

theorem firstLoop_start (lines : List (List Char)) (s s' : UState) (g : Bool) (rest : List (List Char))
    (hs : IsStart s.pos) (h : firstLoop lines s = some (s', g, rest)) : IsStart s'.pos ∧ ∀ l ∈ rest, l ∈ lines ∨ l = [] :=
  have hi := firstLoop_inv (fun s => IsStart s.pos) (fun _ _ h => doSetoption_start false h _) lines s s' g rest hs h
  ⟨hi.1, hi.2.1⟩

/-- `NoMoveCmd` for the lines of a concrete session, by one evaluation. -/
theorem noMoveCmd_of_all {ls : List (List Char)}
    (h : ls.all (fun l => cmdOf l != str "go" && cmdOf l != str "position" && cmdOf l != str "moves") = true) :
    ∀ l ∈ ls, NoMoveCmd l := by
  intro l hl
  have hl' := List.all_eq_true.1 h l hl
  simp only [Bool.and_eq_true, bne_iff_ne, ne_eq] at hl'
  exact ⟨hl'.1.1, hl'.1.2, hl'.2⟩

theorem noMove_nil : NoMoveCmd [] := by
  refine ⟨?_, ?_, ?_⟩ <;> decide

/-- a line that is no `go`, `position` or `moves` command leaves the start position in place (up to the Chess960 flag). -/
theorem stepSecond_start (ar : Arith) (o : Nat → Bool) {s : UState} (h : IsStart s.pos) (l : List Char) (hq : NoMoveCmd l)
    (s' : UState) (L : List String) (q : Bool) (hstep : stepSecond ar o s l = some (s', L, q)) : IsStart s'.pos := by
  revert hstep
  refine stepSecond_cases ar o s l (P := fun r => r = some (s', L, q) → IsStart s'.pos) ?_ ?_ ?_ ?_ ?_ ?_ ?_ ?_ ?_ ?_ ?_
  · rintro _ ⟨⟩; rfl
  · rintro _ ⟨⟩; exact h
  · rintro _ ⟨⟩; exact h
  · exact fun c => absurd c hq.1
  · exact fun c => absurd c hq.2.1
  · exact fun c => absurd c hq.2.2
  · rintro _ ⟨⟩; exact doSetoption_start true h _
  · rintro _ ⟨⟩; exact h
  · rintro _ ⟨⟩; exact h
  · rintro _ ⟨⟩; exact h
  · rintro _ ⟨⟩; exact h

theorem sessOk_nomoves (G : Nat → Position → Prop) (fuel : Nat) (ar : Arith) (clk : Nat → Nat) (o : Nat → Bool) :
    ∀ (lines : List (List Char)) (s : UState), IsStart s.pos → (∀ l ∈ lines, NoMoveCmd l) → SessOk G fuel ar clk o lines s := by
  intro lines
  induction lines with
  | nil => intro s _ _; trivial
  | cons l ls ih =>
    intro s hs hq
    have hl : NoMoveCmd l := hq l (by simp)
    -- `StepOk`: the line is no `go`, `position` or `moves`, and the start position can be displayed
    refine ⟨⟨fun e => absurd e hl.1, fun e => absurd e hl.2.1, fun e => absurd e hl.2.2, fun _ => displayOk_start hs⟩, ?_⟩
    intro s' L hstep
    exact ih s' (stepSecond_start ar o hs l hl s' L false hstep) (fun x hx => hq x (by simp [hx]))

/-- sessions without `go` / `position` / `moves` lines meet the side conditions of `agree_listen`, for any invariant
family. -/
theorem listenOk_nomoves (G : Nat → Position → Prop) (fuel : Nat) (ar : Arith) (clk : Nat → Nat) (o : Nat → Bool)
    {lines : List (List Char)} (hq : ∀ l ∈ lines, NoMoveCmd l) : ListenOk G fuel ar clk o lines := by
  intro pos s got rest hsf hfl
  rw [setFen_startpos] at hsf
  injection hsf with hsf
  subst hsf
  obtain ⟨hs, hsub⟩ := firstLoop_start lines _ s got rest (by rfl) hfl
  refine sessOk_nomoves _ _ _ _ _ rest { s with tt := s.tt.resize s.hashMb Gen.ttEntrySize } hs ?_
  intro l hl
  rcases hsub l hl with h | h
  · exact hq l h
  · rw [h]; exact noMove_nil

/-- **`listen` on every session without `go` / `position` / `moves` commands**: the canonical transcript of what the
regenerated listen.rs prints is the model's output — for every such list of input lines, every clock, every stop oracle,
both arithmetics; `fuel` (the bound on the loop iterations) exceeds the number of lines by two. -/
theorem _root_.Rawr.agree_listen_nomoves (fuel : Nat) (ar : Arith) (clk : Nat → Nat) (o : Nat → Bool) (version : Option (List Char))
    (lines : List (List Char)) (hfuel : lines.length + 1 < fuel) (hv : '\n' ∉ version.getD ['u', 'n', 'k', 'n', 'o', 'w', 'n'])
    (hq : ∀ l ∈ lines, NoMoveCmd l) :
    (R.listen fuel ar 1000 clk version lines).map (fun r => transcript r.2) = listen ar o lines :=
  agree_listen (fun _ _ => False) (fun _ _ h => h.elim) (fun _ _ h => h.elim) (fun _ _ _ _ h => h.elim) fuel ar clk o
    version lines hfuel hv (listenOk_nomoves _ fuel ar clk o hq)

example (ar : Arith) (clk : Nat → Nat) (o : Nat → Bool) :
    (R.listen 20 ar 1000 clk none
      ["setoption name UCI_Chess960 value true".toList, "setoption name Hash value 1".toList, "isready".toList,
        "ucinewgame".toList, "print".toList, "history".toList, "eval".toList, "xyzzy".toList, "quit".toList]).map
      (fun r => transcript r.2) =
    listen ar o ["setoption name UCI_Chess960 value true".toList, "setoption name Hash value 1".toList, "isready".toList,
        "ucinewgame".toList, "print".toList, "history".toList, "eval".toList, "xyzzy".toList, "quit".toList] :=
  agree_listen_nomoves 20 ar clk o none _ (by decide) (by decide) (noMoveCmd_of_all (by decide +kernel))

end Rawr.Sess

#print axioms Rawr.agree_position_fmt_rules
#print axioms Rawr.agree_uci_split_rules
#print axioms Rawr.agree_listen_nomoves
