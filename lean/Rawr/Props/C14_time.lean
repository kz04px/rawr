import Rawr.Props.C14
import Rawr.Model.TimeBudget
/-!
# C14 / C03, clock limits: the budget arithmetic of `should_stop` and what the driver does once it has elapsed

`Rawr.timeBudget` / `Rawr.movetimeBudget` are the right-hand sides of the two clock comparisons of
`search::root::root`; `Rawr/Generated/RustTime.lean` regenerates them from root.rs on every run and
`agree_timeBudget`, `agree_movetimeBudget` (`Proofs/RustTimeAgree.lean`) prove them equal to the model. The wall clock itself is
not modelled: `elapsed k` is the reading of `start.elapsed().as_millis()` at the `k`-th poll, an arbitrary
non-decreasing sequence.
-/
namespace Rawr

/-- The budget never exceeds the mover's own remaining clock, whatever `movestogo` says (0 included). -/
theorem C14_budget_le_clock (w : Bool) (wt bt : Nat) (mtg : Option Nat) :
    timeBudget w wt bt mtg ≤ (if w then wt else bt) := by
  unfold timeBudget
  exact Nat.div_le_self _ _

/-- No division by zero and no `u32` overflow: the divisor is at least 1 and every intermediate value is bounded by the
inputs (the Rust expression has no subtraction, addition or multiplication). -/
theorem C14_budget_u32 (w : Bool) (wt bt : Nat) (mtg : Option Nat) (hw : wt < 4294967296) (hb : bt < 4294967296) :
    1 ≤ Nat.max (mtg.getD 30) 1 ∧ timeBudget w wt bt mtg < 4294967296 := by
  refine ⟨Nat.le_max_right _ _, ?_⟩
  have := C14_budget_le_clock w wt bt mtg
  split at this <;> omega

/-- `movestogo 0` and `movestogo 1` both allot the whole clock; no `movestogo` allots a thirtieth. -/
theorem C14_budget_cases (w : Bool) (wt bt : Nat) :
    timeBudget w wt bt (some 0) = (if w then wt else bt) ∧ timeBudget w wt bt (some 1) = (if w then wt else bt) ∧
    timeBudget w wt bt none = (if w then wt else bt) / 30 := by
  simp [timeBudget]

theorem C14_budgetOracle_mono (b : Nat) (elapsed : Nat → Nat) (hm : ∀ i j, i ≤ j → elapsed i ≤ elapsed j) :
    MonoOracle (budgetOracle b elapsed) := by
  intro i j hij hi
  simp only [budgetOracle, decide_eq_true_eq] at *
  exact Nat.le_trans hi (hm i j hij)

/-- **Nothing is reported once the budget has elapsed**: if at some poll already made the clock reading had reached the
budget, the driver hands back exactly the records it already had (iterations beyond the first). -/
theorem C14_no_report_after_budget (b : Nat) (elapsed : Nat → Nat) (hm : ∀ i j, i ≤ j → elapsed i ≤ elapsed j)
    (fuel : Nat) (p : Position) (k : Nat) (depth : Int) (st : SState) (bestMove : Option Mv) (infos : List InfoRec)
    (res : RootResult) (hd : 1 < depth) (hfired : ∃ j, j ≤ st.polls ∧ b ≤ elapsed j)
    (h : rootIter (.clock (budgetOracle b elapsed)) fuel p k depth st bestMove infos = some res) :
    res.infos = infos.reverse := by
  obtain ⟨j, hj, hb⟩ := hfired
  exact C14_no_report_after_stop _ (C14_budgetOracle_mono b elapsed hm) fuel p k depth st bestMove infos res hd
    ⟨j, hj, by simp only [budgetOracle, decide_eq_true_eq]; exact hb⟩ h

/-- **Every reported iteration beyond the first finished inside the mover's own clock**: at every poll made up to the
end of that iteration the clock reading was below the mover's remaining time. (The proof goes through the budget,
`elapsed j < timeBudget … ≤` own clock; the statement keeps only the outer bound.) -/
theorem C14_reported_within_clock (w : Bool) (wt bt : Nat) (mtg : Option Nat) (elapsed : Nat → Nat)
    (hm : ∀ i j, i ≤ j → elapsed i ≤ elapsed j) (fuel : Nat) (p : Position)
    (k : Nat) (depth : Int) (st : SState) (bestMove : Option Mv) (infos : List InfoRec) (res : RootResult)
    (hd : 1 < depth)
    (h : rootIter (.clock (budgetOracle (timeBudget w wt bt mtg) elapsed)) fuel p (k + 1) depth st bestMove infos = some res)
    (hrep : res.infos ≠ infos.reverse) :
    ∃ score s1, negamax (.clock (budgetOracle (timeBudget w wt bt mtg) elapsed)) fuel p { st with depth := depth }
        (-Gen.INF) Gen.INF 0 depth false = some (score, s1) ∧
      ∀ j, j ≤ s1.polls → elapsed j < (if w then wt else bt) := by
  obtain ⟨score, s1, hnm, _, hall⟩ := C14_report_requires_all_polls_false _
    (C14_budgetOracle_mono _ elapsed hm) fuel p k depth st bestMove infos res hd h hrep
  refine ⟨score, s1, hnm, fun j hj => ?_⟩
  have := hall j hj
  simp only [budgetOracle, decide_eq_false_iff_not, Nat.not_le] at this
  exact Nat.lt_of_lt_of_le this (C14_budget_le_clock w wt bt mtg)

/-- **A zero budget** (clock 0, or a clock smaller than the moves to go): at most the first iteration is reported. -/
theorem C14_zero_budget (w : Bool) (wt bt : Nat) (mtg : Option Nat) (hz : timeBudget w wt bt mtg = 0)
    (elapsed : Nat → Nat) (hm : ∀ i j, i ≤ j → elapsed i ≤ elapsed j) (fuel : Nat) (p : Position)
    (hist : List BB) (tt : Table TTEntry) (res : RootResult)
    (h : root (.clock (budgetOracle (timeBudget w wt bt mtg) elapsed)) fuel p hist tt = some res) :
    res.infos.length ≤ 1 :=
  C14_expired_clock _ (C14_budgetOracle_mono _ elapsed hm) (by simp [budgetOracle, hz]) fuel p hist tt res h

/-- the same for `go movetime 0`. -/
theorem C14_zero_movetime (elapsed : Nat → Nat) (hm : ∀ i j, i ≤ j → elapsed i ≤ elapsed j) (fuel : Nat) (p : Position)
    (hist : List BB) (tt : Table TTEntry) (res : RootResult)
    (h : root (.clock (budgetOracle (movetimeBudget 0) elapsed)) fuel p hist tt = some res) :
    res.infos.length ≤ 1 :=
  C14_expired_clock _ (C14_budgetOracle_mono _ elapsed hm) (by simp [budgetOracle, movetimeBudget]) fuel p hist tt res h

namespace C14TimeEx
open C13Ex C03Ex C14Ex

example : timeBudget true 900 600 none = 30 ∧ timeBudget false 900 600 (some 10) = 60 ∧ timeBudget true 5 5 (some 0) = 5 ∧
    timeBudget false 19 19 (some 40) = 0 := by decide

/-- a 1 ms-per-poll clock against `wtime 90` (budget 3 ms, so the oracle is the one of `kpk_clock3`): the run returns
and reports at least iteration 1. -/
example : ∃ res, root (.clock (budgetOracle (timeBudget true 90 90 none) fun k => k)) 8 kpk hist2 tt3 = some res ∧
    res.infos ≠ [] := by
  obtain ⟨res, h1, h2⟩ := Option.map_eq_some_iff.1 kpk_clock3
  exact ⟨res, h1, of_decide_eq_true h2⟩

end C14TimeEx

end Rawr

#print axioms Rawr.C14_budget_le_clock
#print axioms Rawr.C14_budget_u32
#print axioms Rawr.C14_no_report_after_budget
#print axioms Rawr.C14_reported_within_clock
#print axioms Rawr.C14_zero_budget
#print axioms Rawr.C14_zero_movetime
