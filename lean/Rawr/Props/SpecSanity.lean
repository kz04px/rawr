import Rawr.Proofs.SpecSanityMirrorD
import Rawr.Proofs.SpecSanityKings
import Rawr.Proofs.SpecSanityCount
import Rawr.Proofs.SpecSanityDouble
import Rawr.Proofs.SpecSanityPerft
/-!
# SpecSanity — theorems about the specification itself

`Rawr/Spec/Chess.lean` is the trusted reading of the rules of chess; everything else is proved against it.
This file collects internal-consistency facts that every correct formalisation of chess must satisfy. None
of the statements mentions the engine model (`Rawr/Model`). The lemmas behind them are in
`Rawr/Proofs/SpecSanity*.lean`, `SpecFrame` and `SpecEval` (namespace `Rawr.SpecS`), on top of the reading of
`legalMoves` and `apply` in `SpecLegal` / `SpecValidApply` (`SV`) and the attack geometry of `AttackGeom` / `SpecMirror` (`Att`).

1. colour symmetry — the rules for Black are the mirror image of the rules for White;
2. kings are never captured;
3. conservation of material;
4. check semantics;
5. known perft numbers, evaluated by the kernel on the specification directly.
-/
namespace Rawr
open Rawr.Spec Rawr.SpecS

/-! ## 1. colour symmetry

`SpecS.mirrorA a`: board mirrored top to bottom (`s ↦ s ^^^ 56`) with colours swapped, the other side to
move, White's and Black's rights exchanged, en-passant square mirrored, both counters kept — definitionally
the `Spec.mirrorA` of `C17.lean` (`Rawr/Proofs/SpecSanityC17.lean`). `SpecS.mirrorMove`: squares `s ↦ s ^^^ 56`, castling side unchanged.

Hypothesis: *no* support condition on the board is needed, but the castling rights must name files of the
board (`RightsOK`: every right is `some f` with `f < 8`; implied by `Valid`). Without it the statement is
false: `sq f (homeRank w)` of a "file" `f ≥ 8` is a square of the board for White but not for Black
(`SpecSanity_mirror_needs_rights`).

`apply` commutes with the mirror up to the full-move counter (`EqModFull`): that counter advances after
Black's move, so it necessarily breaks the symmetry; nothing in the rules reads it (`leaves_congr`). -/

/-- **1a** the legal moves of the mirrored position are the mirrored legal moves (both lists are duplicate
free, `spec_legalMoves_nodup`, so `Perm` says: the same set). -/
theorem SpecSanity_legalMoves_mirror (a : APos) (hR : RightsOK a) :
    (Spec.legalMoves (mirrorA a)).Perm ((Spec.legalMoves a).map mirrorMove) :=
  legalMoves_mirror a hR

theorem SpecSanity_legalMoves_mirror_valid (a : APos) (hv : Valid a = true) :
    (Spec.legalMoves (mirrorA a)).Perm ((Spec.legalMoves a).map mirrorMove) :=
  legalMoves_mirror a (rightsOK_of_valid hv)

theorem SpecSanity_mem_legalMoves_mirror (a : APos) (hR : RightsOK a) (m : Move) :
    mirrorMove m ∈ Spec.legalMoves (mirrorA a) ↔ m ∈ Spec.legalMoves a :=
  mem_legalMoves_mirror hR m

/-- **1b** `apply` commutes with the mirror on every legal move, up to the full-move counter … -/
theorem SpecSanity_apply_mirror (a : APos) (hR : RightsOK a) (m : Move) (hm : m ∈ Spec.legalMoves a) :
    EqModFull (apply (mirrorA a) (mirrorMove m)) (mirrorA (apply a m)) :=
  apply_mirror hR hm

/-- … which is the only field that differs, and differs as it must. -/
theorem SpecSanity_apply_mirror_fields (a : APos) (hR : RightsOK a) (m : Move) (hm : m ∈ Spec.legalMoves a) :
    let l := apply (mirrorA a) (mirrorMove m)
    let r := mirrorA (apply a m)
    l.board = r.board ∧ l.whiteToMove = r.whiteToMove ∧ l.wK = r.wK ∧ l.wQ = r.wQ ∧ l.bK = r.bK ∧
    l.bQ = r.bQ ∧ l.ep = r.ep ∧ l.half = r.half ∧
    l.full = (if a.whiteToMove = true then a.full + 1 else a.full) ∧
    r.full = (if a.whiteToMove = true then a.full else a.full + 1) := by
  have h := (eqModFull_iff _ _).mp (apply_mirror hR hm)
  have f := apply_mirror_full hR hm
  exact ⟨h.1, h.2.1, h.2.2.1, h.2.2.2.1, h.2.2.2.2.1, h.2.2.2.2.2.1, h.2.2.2.2.2.2.1, h.2.2.2.2.2.2.2, f.1, f.2⟩

/-- **finding**: plain equality `apply (mirrorA a) (mirrorMove m) = mirrorA (apply a m)` is false already for
1. e4 in the start position: after White's move the counter is still 1, after the mirrored Black move it is 2. -/
theorem SpecSanity_apply_mirror_not_eq :
    Move.normal 12 28 none ∈ Spec.legalMoves stdStart ∧
    apply (mirrorA stdStart) (mirrorMove (.normal 12 28 none)) ≠ mirrorA (apply stdStart (.normal 12 28 none)) := by
  refine ⟨by rw [start_moves]; decide, fun h => ?_⟩
  have := congrArg APos.full h
  revert this
  decide +kernel

/-- for non-castling moves the squares only need to be on the board (no legality needed). -/
theorem SpecSanity_apply_mirror_normal (a : APos) (hR : RightsOK a) (s t : Nat) (hs : s < 64) (ht : t < 64)
    (pr : Option Kind) :
    EqModFull (apply (mirrorA a) (.normal (s ^^^ 56) (t ^^^ 56) pr)) (mirrorA (apply a (.normal s t pr))) :=
  apply_mirror_normal a hR hs ht pr

/-- **1c** validity is colour symmetric — for every position. -/
theorem SpecSanity_valid_mirror (a : APos) : Valid (mirrorA a) = Valid a := valid_mirror a

/-- … and so are en-passant consistency and material legality: the domain `D = V ∧ E ∧ M` of DESIGN.md §4
(specification side) is closed under the colour mirror. -/
theorem SpecSanity_domain_mirror (a : APos) :
    EpConsistent (mirrorA a) = EpConsistent a ∧ LegalMaterial (mirrorA a) = LegalMaterial a ∧
    (Valid (mirrorA a) && EpConsistent (mirrorA a) && LegalMaterial (mirrorA a)) =
      (Valid a && EpConsistent a && LegalMaterial a) :=
  ⟨epConsistent_mirror a, legalMaterial_mirror a, domain_mirror a⟩

/-- **1d** perft is colour symmetric. -/
theorem SpecSanity_leaves_mirror (a : APos) (hR : RightsOK a) (d : Nat) : leaves (mirrorA a) d = leaves a d :=
  leaves_mirror a hR d

theorem SpecSanity_leaves_mirror_valid (a : APos) (hv : Valid a = true) (d : Nat) :
    leaves (mirrorA a) d = leaves a d := leaves_mirror a (rightsOK_of_valid hv) d

/-- the mirror is an involution, and the rules do not read the full-move counter. -/
theorem SpecSanity_mirror_involutive (a : APos) (m : Move) :
    mirrorA (mirrorA a) = a ∧ mirrorMove (mirrorMove m) = m := ⟨mirrorA_mirrorA a, mirrorMove_mirrorMove m⟩

theorem SpecSanity_full_not_read (a b : APos) (h : EqModFull a b) :
    Spec.legalMoves a = Spec.legalMoves b ∧ (∀ m, EqModFull (apply a m) (apply b m)) ∧ ∀ d, leaves a d = leaves b d :=
  ⟨legalMoves_congr h, apply_congr h, leaves_congr h⟩

/-- White: king e1, rook a2; Black: king e8. White's king-side "right" names file 8: `sq 8 0` is a2, so the
specification lets White castle with that rook, whereas in the mirror image `sq 8 7 = 64` is off the board. -/
def mirrorBad : APos :=
  { board := board8
      (row8 __ __ __ __ wK __ __ __)
      (row8 wR __ __ __ __ __ __ __)
      (row8 __ __ __ __ __ __ __ __)
      (row8 __ __ __ __ __ __ __ __)
      (row8 __ __ __ __ __ __ __ __)
      (row8 __ __ __ __ __ __ __ __)
      (row8 __ __ __ __ __ __ __ __)
      (row8 __ __ __ __ bK __ __ __)
    whiteToMove := true, wK := some 8, wQ := none, bK := none, bQ := none, ep := none, half := 0, full := 1 }

/-- **finding**: on a position with a castling right outside the board (never `Valid`) the specification is
*not* colour symmetric, although its board is supported on the 64 squares. -/
theorem SpecSanity_mirror_needs_rights :
    (∀ s, 64 ≤ s → mirrorBad.board s = none) ∧
    ¬ (Spec.legalMoves (mirrorA mirrorBad)).Perm ((Spec.legalMoves mirrorBad).map mirrorMove) := by
  refine ⟨fun s hs => board8_off _ _ _ _ _ _ _ _ s hs, fun h => ?_⟩
  have h1 := h.length_eq
  rw [List.length_map] at h1
  have h2 : (Spec.legalMoves (mirrorA mirrorBad)).length ≠ (Spec.legalMoves mirrorBad).length := by decide +kernel
  exact h2 h1

/-- non-vacuity: Kiwipete satisfies the hypotheses; its mirror image (Black to move, colours swapped) has
the 48 mirrored moves — once through the theorem, once by evaluating the rules on the mirror image. -/
example : Valid kiwipete = true ∧ RightsOK kiwipete :=
  ⟨by decide +kernel, rightsOK_of_valid (by decide +kernel)⟩
example : leaves (mirrorA kiwipete) 2 = 2039 := by
  rw [SpecSanity_leaves_mirror_valid kiwipete (by decide +kernel)]; exact leaves_kiwi_2
example : leaves (mirrorA kiwipete) 1 = 48 ∧ (mirrorA kiwipete).whiteToMove = false ∧
    (mirrorA kiwipete).board 60 = bK ∧ (mirrorA kiwipete).board 12 = wQ ∧ (mirrorA kiwipete).board 45 = bQ ∧
    mirrorMove (.normal 36 53 none) = .normal 28 13 none ∧
    Move.normal 28 13 none ∈ Spec.legalMoves (mirrorA kiwipete) ∧ Move.castle true ∈ Spec.legalMoves (mirrorA kiwipete) := by
  decide +kernel

/-- **2a** the destination of a legal move never holds a king. -/
theorem SpecSanity_kings_never_captured (a : APos) (hv : Valid a = true) (s t : Nat) (pr : Option Kind)
    (hl : Move.normal s t pr ∈ Spec.legalMoves a) (c : Bool) : a.board t ≠ some ⟨c, .king⟩ :=
  dest_not_king hv hl c

/-- **2b** after a legal move both kings are still there: exactly one of each colour … -/
theorem SpecSanity_kings_survive (a : APos) (hv : Valid a = true) (m : Move) (hl : m ∈ Spec.legalMoves a) (c : Bool) :
    countPieces (apply a m).board (fun pc => pc == ⟨c, .king⟩) = 1 ∧
    (kingSquares (apply a m).board c).length = 1 :=
  ⟨kings_survive_count hv hl c, kings_survive hv hl c⟩

/-- … on the same square, unless it is the king that moved. (Castling: `SpecSanity_men_apply` — nothing is
captured; `frcCastle_white_OO` etc. for the squares.) -/
theorem SpecSanity_king_square_after (a : APos) (hv : Valid a = true) (s t : Nat) (pr : Option Kind)
    (hl : Move.normal s t pr ∈ Spec.legalMoves a) (c : Bool) (k : Nat) (hk : kingSquares a.board c = [k]) :
    kingSquares (apply a (.normal s t pr)).board c = [if k = s then t else k] :=
  king_square_after hv hl c k hk

/-- non-vacuity: in Kiwipete `Nxf7` (e5 → f7) is a legal capture of a pawn, and White may castle. -/
example : Valid kiwipete = true ∧ Move.normal 36 53 none ∈ Spec.legalMoves kiwipete ∧
    kiwipete.board 53 = bP ∧ Move.castle true ∈ Spec.legalMoves kiwipete := by
  rw [kiwi_moves]; decide +kernel

/-- **3a** `apply` changes at most four squares (castling four, en passant three, otherwise two) — for every
position and every move, legal or not. -/
theorem SpecSanity_apply_changes_le_four (a : APos) (m : Move) :
    (touched a m).length ≤ 4 ∧ ∀ x, x ∉ touched a m → (apply a m).board x = a.board x :=
  ⟨touched_length a m, apply_frame a m⟩

/-- **3b** the number of men falls by exactly one on a capture (`Spec.isCaptureMove`: the target is occupied,
or a pawn changes file — en passant included) and is unchanged otherwise. -/
theorem SpecSanity_men_apply (a : APos) (hv : Valid a = true) (m : Move) (hl : m ∈ Spec.legalMoves a) :
    menCount (apply a m).board + (if isCaptureMove a m = true then 1 else 0) = menCount a.board :=
  men_apply hv hl

/-- the man that disappears is the opponent's; the mover keeps all his men. -/
theorem SpecSanity_men_by_colour (a : APos) (hv : Valid a = true) (m : Move) (hl : m ∈ Spec.legalMoves a) :
    Br.cntCol (apply a m).board (!a.whiteToMove) + (if isCaptureMove a m = true then 1 else 0) =
      Br.cntCol a.board (!a.whiteToMove) ∧
    Br.cntCol (apply a m).board a.whiteToMove = Br.cntCol a.board a.whiteToMove :=
  ⟨opp_men_apply hv hl, (own_counts hv hl).1⟩

/-- **3c** the pawns of either colour never increase. -/
theorem SpecSanity_pawns_never_increase (a : APos) (hv : Valid a = true) (m : Move) (hl : m ∈ Spec.legalMoves a)
    (c : Bool) :
    countPieces (apply a m).board (fun pc => pc == ⟨c, .pawn⟩) ≤ countPieces a.board (fun pc => pc == ⟨c, .pawn⟩) :=
  pawns_never_increase hv hl c

/-- **3d** a promotion replaces one pawn of the mover by one queen, rook, bishop or knight of the mover. -/
theorem SpecSanity_promotion (a : APos) (hv : Valid a = true) (s t : Nat) (k : Kind)
    (hl : Move.normal s t (some k) ∈ Spec.legalMoves a) :
    let a' := apply a (.normal s t (some k))
    let n (b : Board) (kd : Kind) := countPieces b (fun pc => pc == ⟨a.whiteToMove, kd⟩)
    k ∈ [Kind.queen, .rook, .bishop, .knight] ∧ a.board s = some ⟨a.whiteToMove, .pawn⟩ ∧
    a'.board t = some ⟨a.whiteToMove, k⟩ ∧ a'.board s = none ∧
    n a'.board .pawn + 1 = n a.board .pawn ∧ n a'.board k = n a.board k + 1 ∧
    ∀ kd, kd ≠ .pawn → kd ≠ k → n a'.board kd = n a.board kd :=
  promotion_counts hv hl

/-- without a promotion every count of the mover, kind by kind, is unchanged. -/
theorem SpecSanity_no_promotion (a : APos) (hv : Valid a = true) (m : Move) (hl : m ∈ Spec.legalMoves a)
    (hnp : ∀ s t k, m ≠ .normal s t (some k)) (kd : Kind) :
    countPieces (apply a m).board (fun pc => pc == ⟨a.whiteToMove, kd⟩) =
      countPieces a.board (fun pc => pc == ⟨a.whiteToMove, kd⟩) :=
  (own_counts hv hl).2 hnp kd

/-- non-vacuity: an en-passant capture (three squares change, one man disappears from a square that is not
the target) and a promotion. -/
def ssEpPos : APos :=
  { board := board8
      (row8 __ __ __ __ wK __ __ __)
      (row8 __ __ __ __ __ __ __ __)
      (row8 __ __ __ __ __ __ __ __)
      (row8 __ __ __ __ __ __ __ __)
      (row8 __ __ __ bP wP __ __ __)
      (row8 __ __ __ __ __ __ __ __)
      (row8 wP __ __ __ __ __ __ __)
      (row8 __ __ __ __ bK __ __ __)
    whiteToMove := true, wK := none, wQ := none, bK := none, bQ := none, ep := some 43, half := 0, full := 10 }

example : Valid ssEpPos = true ∧ Move.normal 36 43 none ∈ Spec.legalMoves ssEpPos ∧
    isCaptureMove ssEpPos (.normal 36 43 none) = true ∧ touched ssEpPos (.normal 36 43 none) = [36, 43, 35] ∧
    menCount ssEpPos.board = 5 ∧ menCount (apply ssEpPos (.normal 36 43 none)).board = 4 ∧
    (apply ssEpPos (.normal 36 43 none)).board 35 = none := by decide +kernel
example : Move.normal 48 56 (some .knight) ∈ Spec.legalMoves ssEpPos ∧
    (apply ssEpPos (.normal 48 56 (some .knight))).board 56 = wN ∧
    isCaptureMove ssEpPos (.normal 48 56 (some .knight)) = false := by decide +kernel

/-- **4a** mate / stalemate = no legal move, in check / not in check. -/
theorem SpecSanity_isMate_iff (a : APos) :
    (isMate a = true ↔ Spec.legalMoves a = [] ∧ inCheck a.board a.whiteToMove = true) ∧
    (isStalemate a = true ↔ Spec.legalMoves a = [] ∧ inCheck a.board a.whiteToMove = false) :=
  ⟨isMate_iff a, isStalemate_iff a⟩

/-- **4b** the mover never ends in check — every position, valid or not. -/
theorem SpecSanity_mover_not_in_check (a : APos) (m : Move) (hl : m ∈ Spec.legalMoves a) :
    inCheck (apply a m).board a.whiteToMove = false := mover_not_in_check hl

/-- castling out of check is never legal. -/
theorem SpecSanity_no_castle_in_check (a : APos) (ks : Bool) (hin : inCheck a.board a.whiteToMove = true) :
    Move.castle ks ∉ Spec.legalMoves a := no_castle_in_check hin

/-- **4c** (weak form of "a check must be answered") if two different enemy men attack the king, every legal
move is a move of that king. `Checker a k c`: square `c` holds an enemy man attacking square `k`. -/
theorem SpecSanity_double_check (a : APos) (hv : Valid a = true) (k c1 c2 : Nat)
    (hk : kingSquares a.board a.whiteToMove = [k]) (h1 : Checker a k c1) (h2 : Checker a k c2)
    (hne : c1 ≠ c2) (m : Move) (hm : m ∈ Spec.legalMoves a) : ∃ t, m = .normal k t none :=
  double_check_king_move hv hk h1 h2 hne hm

/-- what a legal move of another man does about *each* checker: capture it (on the target or en passant)
or interpose. -/
theorem SpecSanity_check_evasion (a : APos) (hv : Valid a = true) (k c s t : Nat) (pr : Option Kind)
    (hk : kingSquares a.board a.whiteToMove = [k]) (hc : Checker a k c)
    (hm : Move.normal s t pr ∈ Spec.legalMoves a) (hs : s ≠ k) :
    c = t ∨ (isEpMove a s t = true ∧ c = sq (file t) (rank s)) ∨ (Att.Between c k t ∧ a.board t = none) := by
  have v := (SV.valid_iff a).mp hv
  have uk := SV.unique_of_kingSquares hk
  rcases SV.legal_cases hm with ⟨s', t', pr', pc, e, nl, hsafe⟩ | ⟨ks, e, _⟩
  · cases e
    have hkd : pc.kind ≠ .king := by
      intro hkd
      apply hs
      apply uk.2.2 s nl.hs
      rw [nl.hpc, nl.pc_eq, hkd]
    rw [SV.apply_board nl.hpc] at hsafe
    have := checker_fate v nl hkd uk hsafe hc
    rw [isEpMove_eq nl.hpc]
    exact this
  · cases e

/-- non-vacuity of `SpecSanity_check_evasion`: a single check by the rook on e8; the queen may interpose on
e2 (and `Between 60 4 12` is the third alternative). -/
def ssChkPos : APos :=
  { board := board8
      (row8 __ __ __ wQ wK __ __ __)
      (row8 __ __ __ __ __ __ __ __)
      (row8 __ __ __ __ __ __ __ __)
      (row8 __ __ __ __ __ __ __ __)
      (row8 __ __ __ __ __ __ __ __)
      (row8 __ __ __ __ __ __ __ __)
      (row8 __ __ __ __ __ __ __ __)
      (row8 bK __ __ __ bR __ __ __)
    whiteToMove := true, wK := none, wQ := none, bK := none, bQ := none, ep := none, half := 3, full := 30 }

example : Valid ssChkPos = true ∧ kingSquares ssChkPos.board ssChkPos.whiteToMove = [4] ∧
    Move.normal 3 12 none ∈ Spec.legalMoves ssChkPos ∧ ssChkPos.board 12 = none ∧
    inCheck ssChkPos.board true = true := by decide +kernel
example : Checker ssChkPos 4 60 :=
  ⟨by decide, ⟨false, .rook⟩, by decide +kernel, rfl, by decide +kernel⟩
example : Att.Between 60 4 12 :=
  ⟨(0, -1), 7, 6, ⟨Or.inr (Or.inl rfl), Or.inl rfl, Or.inr (by decide)⟩, by decide, by decide, by decide, by decide,
    by decide, by decide⟩

/-- non-vacuity: rook e8 and knight f3 check the king on e1; the white queen on d1 could take the knight,
but only two king moves are legal (d2 is covered by the knight). -/
def ssDblPos : APos :=
  { board := board8
      (row8 __ __ __ wQ wK __ __ __)
      (row8 __ __ __ __ __ __ __ __)
      (row8 __ __ __ __ __ bN __ __)
      (row8 __ __ __ __ __ __ __ __)
      (row8 __ __ __ __ __ __ __ __)
      (row8 __ __ __ __ __ __ __ __)
      (row8 __ __ __ __ __ __ __ __)
      (row8 bK __ __ __ bR __ __ __)
    whiteToMove := true, wK := none, wQ := none, bK := none, bQ := none, ep := none, half := 3, full := 30 }

example : Valid ssDblPos = true ∧ kingSquares ssDblPos.board ssDblPos.whiteToMove = [4] ∧
    Move.normal 3 21 none ∈ pseudoFrom ssDblPos 3 ∧
    Spec.legalMoves ssDblPos = [.normal 4 5 none, .normal 4 13 none] := by decide +kernel
example : Checker ssDblPos 4 60 ∧ Checker ssDblPos 4 21 :=
  ⟨⟨by decide, ⟨false, .rook⟩, by decide +kernel, rfl, by decide +kernel⟩,
   ⟨by decide, ⟨false, .knight⟩, by decide +kernel, rfl, by decide +kernel⟩⟩

/-! ## 5. known numbers — the published perft counts, evaluated by the kernel on `Spec.leaves`

Positions: `Rawr/Proofs/SpecSanityPerftDefs.lean` (literal boards). The kernel evaluates `SpecS.leavesE`
(`Rawr/Proofs/SpecEval.lean`), which is proved equal to `Spec.leaves`; the depth-3 count of the start position
is assembled from three evaluations. -/

/-- the standard start position: 20, 400, 8902. -/
theorem SpecSanity_perft_start : leaves stdStart 1 = 20 ∧ leaves stdStart 2 = 400 ∧ leaves stdStart 3 = 8902 :=
  ⟨leaves_start_1, leaves_start_2, leaves_start_3⟩

/-- "Kiwipete" `r3k2r/p1ppqpb1/bn2pnp1/3PN3/1p2P3/2N2Q1p/PPPBBPPP/R3K2R w KQkq -`: 48, 2039. -/
theorem SpecSanity_perft_kiwipete : leaves kiwipete 1 = 48 ∧ leaves kiwipete 2 = 2039 :=
  ⟨leaves_kiwi_1, leaves_kiwi_2⟩

/-- position 3 of the chessprogramming perft page `8/2p5/3p4/KP5r/1R3p1k/8/4P1P1/8 w - -`: 14, 191, 2812. -/
theorem SpecSanity_perft_pos3 : leaves cpwPos3 1 = 14 ∧ leaves cpwPos3 2 = 191 ∧ leaves cpwPos3 3 = 2812 :=
  ⟨leaves_pos3_1, leaves_pos3_2, leaves_pos3_3⟩

/-- Chess960: position 1 of the customary Chess960 perft suite
`bqnb1rkr/pp3ppp/3ppn2/2p5/5P2/P2P4/NPP1P1PP/BQ1BNRKR w HFhf -`: 21, 528; and the castling test
`1r4kr/p5pp/8/8/8/8/PPP4P/RK4R1 w GAhb -`: 22, 429, with both Chess960 castlings among the 22 moves
(squares after castling: `frcCastle_white_OO`, `frcCastle_white_OOO`, `frcCastle_black`). -/
theorem SpecSanity_perft_frc :
    leaves frcPos1 1 = 21 ∧ leaves frcPos1 2 = 528 ∧ leaves frcCastle 1 = 22 ∧ leaves frcCastle 2 = 429 ∧
    Move.castle true ∈ Spec.legalMoves frcCastle ∧ Move.castle false ∈ Spec.legalMoves frcCastle := by
  refine ⟨leaves_frcPos1_1, leaves_frcPos1_2, leaves_frcCastle_1, leaves_frcCastle_2, ?_, ?_⟩ <;>
    (rw [frcCastle_moves]; decide)

/-- all five test positions are valid, en-passant consistent and materially legal (`D` of DESIGN.md §4). -/
theorem SpecSanity_positions_valid :
    ∀ p ∈ [stdStart, kiwipete, cpwPos3, frcPos1, frcCastle],
      Valid p = true ∧ EpConsistent p = true ∧ LegalMaterial p = true := by
  decide +kernel

end Rawr

#print axioms Rawr.SpecSanity_legalMoves_mirror
#print axioms Rawr.SpecSanity_legalMoves_mirror_valid
#print axioms Rawr.SpecSanity_mem_legalMoves_mirror
#print axioms Rawr.SpecSanity_apply_mirror
#print axioms Rawr.SpecSanity_apply_mirror_not_eq
#print axioms Rawr.SpecSanity_apply_mirror_fields
#print axioms Rawr.SpecSanity_apply_mirror_normal
#print axioms Rawr.SpecSanity_valid_mirror
#print axioms Rawr.SpecSanity_domain_mirror
#print axioms Rawr.SpecSanity_leaves_mirror
#print axioms Rawr.SpecSanity_leaves_mirror_valid
#print axioms Rawr.SpecSanity_mirror_involutive
#print axioms Rawr.SpecSanity_full_not_read
#print axioms Rawr.SpecSanity_mirror_needs_rights
#print axioms Rawr.SpecSanity_kings_never_captured
#print axioms Rawr.SpecSanity_kings_survive
#print axioms Rawr.SpecSanity_king_square_after
#print axioms Rawr.SpecSanity_apply_changes_le_four
#print axioms Rawr.SpecSanity_men_apply
#print axioms Rawr.SpecSanity_men_by_colour
#print axioms Rawr.SpecSanity_pawns_never_increase
#print axioms Rawr.SpecSanity_promotion
#print axioms Rawr.SpecSanity_no_promotion
#print axioms Rawr.SpecSanity_isMate_iff
#print axioms Rawr.SpecSanity_mover_not_in_check
#print axioms Rawr.SpecSanity_no_castle_in_check
#print axioms Rawr.SpecSanity_double_check
#print axioms Rawr.SpecSanity_check_evasion
#print axioms Rawr.SpecSanity_perft_start
#print axioms Rawr.SpecSanity_perft_kiwipete
#print axioms Rawr.SpecSanity_perft_pos3
#print axioms Rawr.SpecSanity_perft_frc
#print axioms Rawr.SpecSanity_positions_valid
