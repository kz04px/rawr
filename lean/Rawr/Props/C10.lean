import Rawr.Proofs.MagicTableAll
import Rawr.Proofs.MagicReduce
import Rawr.Proofs.Leapers
import Rawr.Proofs.RayFill
/-!
# C10 — slider and leaper attack tables are exact for every square and every occupancy

"For each of the 64 squares and every possible board occupancy, the bishop, rook and queen attack sets
returned by the table lookup equal the sets obtained by walking each ray up to and including the first
occupied square, and the knight, king and pawn attack sets equal board geometry with no wrap-around
at the board edges."

* sliders: `C10_bishop`, `C10_rook`, `C10_queen` (and the membership forms `…_mem`), for all 2^64
  occupancies = reduction lemma (`Proofs/MagicReduce.lean`) + 107 648-row kernel check of the translated
  table artefact (`Proofs/MagicTable_*.lean`, checker and soundness in `Proofs/MagicCheck.lean`);
* `C10_constants_agree`: the magic/offset/shift/length constants of build.rs and magic.rs coincide;
* leapers: `C10_knightMask`, `C10_kingMask`, `C10_knights`, `C10_adjacent`, `C10_pawnsAtt`;
* the eight `rays::ray_*` fills: `C10_rays`.
The coordinate side is `Spec/Walk.lean`. That the masks of the magic index are exactly the inner squares of the rays
(`bishopMask_exact`, `rookMask_exact` in `Proofs/MagicReduce.lean`) is more than C10 needs and is not used here.
-/
namespace Rawr
open Spec

/-- The bishop lookup never leaves the table (no panic) and returns the diagonal walk. -/
theorem C10_bishop_get (sq : Nat) (h : sq < 64) (occ : BB) :
    magicGet (bishopIndex sq occ) = some (walkBB diag sq occ).toNat := by
  rw [checkB_sound sq (checkB_all sq h) occ, walkBB_bishopMask sq h]

/-- The rook lookup never leaves the table (no panic) and returns the orthogonal walk. -/
theorem C10_rook_get (sq : Nat) (h : sq < 64) (occ : BB) :
    magicGet (rookIndex sq occ) = some (walkBB orth sq occ).toNat := by
  rw [checkR_sound sq (checkR_all sq h) occ, walkBB_rookMask sq h]

theorem C10_bishop (sq : Nat) (h : sq < 64) (occ : BB) :
    bishopMoves sq occ = walkBB diag sq occ := by
  unfold bishopMoves
  rw [C10_bishop_get sq h occ, Option.getD_some, BitVec.ofNat_toNat, BitVec.setWidth_eq]

theorem C10_rook (sq : Nat) (h : sq < 64) (occ : BB) :
    rookMoves sq occ = walkBB orth sq occ := by
  unfold rookMoves
  rw [C10_rook_get sq h occ, Option.getD_some, BitVec.ofNat_toNat, BitVec.setWidth_eq]

theorem C10_queen (sq : Nat) (h : sq < 64) (occ : BB) :
    queenMoves sq occ = walkBB diag sq occ ||| walkBB orth sq occ := by
  unfold queenMoves
  rw [C10_bishop sq h, C10_rook sq h]

theorem C10_queen' (sq : Nat) (h : sq < 64) (occ : BB) :
    queenMoves sq occ = walkBB (diag ++ orth) sq occ := by
  rw [C10_queen sq h]
  unfold walkBB walkList
  rw [List.flatMap_append, setBB_append]

theorem C10_bishop_mem (sq : Nat) (h : sq < 64) (occ : BB) (t : Nat) :
    (bishopMoves sq occ).getLsbD t = (decide (t < 64) && walkSet4 diag sq occ.getLsbD t) := by
  rw [C10_bishop sq h, getLsbD_walkBB]

theorem C10_rook_mem (sq : Nat) (h : sq < 64) (occ : BB) (t : Nat) :
    (rookMoves sq occ).getLsbD t = (decide (t < 64) && walkSet4 orth sq occ.getLsbD t) := by
  rw [C10_rook sq h, getLsbD_walkBB]

theorem C10_queen_mem (sq : Nat) (h : sq < 64) (occ : BB) (t : Nat) :
    (queenMoves sq occ).getLsbD t = (decide (t < 64) && walkSet4 (diag ++ orth) sq occ.getLsbD t) := by
  rw [C10_queen' sq h, getLsbD_walkBB]

/-- non-vacuity: a bishop on d4 (27) with blockers on f6 (45) and b2 (9): the walks stop there. -/
example : bishopMoves 27 (bit 45 ||| bit 9) = setBB [36, 45, 34, 41, 48, 20, 13, 6, 18, 9] := by
  rw [C10_bishop 27 (by decide)]; decide
example : walkSet4 orth 0 (bit 3 ||| bit 16).getLsbD 3 = true ∧
    walkSet4 orth 0 (bit 3 ||| bit 16).getLsbD 4 = false := by decide

theorem C10_constants_agree :
    Gen.bishopStuffLib = Gen.bishopStuffBuild ∧ Gen.rookStuffLib = Gen.rookStuffBuild ∧
    Gen.bishopShiftLib = Gen.bishopShiftBuild ∧ Gen.rookShiftLib = Gen.rookShiftBuild ∧
    Gen.tableLenBuild = Gen.magicTableLen := by decide +kernel

/-- `KNIGHT_MASKS[sq]` (= `knight_moves(sq)`) is the set of squares a knight's move away. -/
theorem C10_knightMask (sq : Nat) (h : sq < 64) : knightMask sq = geomBB (knightStep sq) :=
  knightMask_geom ⟨sq, h⟩

/-- `KING_MASKS[sq]` (= `king_moves(sq)`) is the set of squares a king's move away. -/
theorem C10_kingMask (sq : Nat) (h : sq < 64) : kingMask sq = geomBB (kingStep sq) :=
  kingMask_geom ⟨sq, h⟩

theorem C10_knightMask_mem (sq : Nat) (h : sq < 64) (t : Nat) :
    (knightMask sq).getLsbD t = (decide (t < 64) && knightStep sq t) := by
  rw [C10_knightMask sq h, getLsbD_geomBB]

theorem C10_kingMask_mem (sq : Nat) (h : sq < 64) (t : Nat) :
    (kingMask sq).getLsbD t = (decide (t < 64) && kingStep sq t) := by
  rw [C10_kingMask sq h, getLsbD_geomBB]

/-- `rays::knights`, `Bitboard::adjacent`, `rays::pawns::<US>` of a single square. -/
theorem C10_leapers_bit (sq : Nat) (h : sq < 64) :
    knights (bit sq) = geomBB (knightStep sq) ∧ adjacent (bit sq) = geomBB (kingStep sq) ∧
    ∀ us, pawnsAtt us (bit sq) = geomBB (pawnStep us sq) :=
  ⟨knights_bit ⟨sq, h⟩, adjacent_bit ⟨sq, h⟩, fun us => pawnsAtt_bit us ⟨sq, h⟩⟩

/-- `rays::knights` of an arbitrary set: `t` is attacked iff it is a knight's move from a member. -/
theorem C10_knights (b : BB) (t : Nat) :
    (knights b).getLsbD t
      = (decide (t < 64) && (List.range 64).any fun s => b.getLsbD s && knightStep s t) :=
  linear_knights.getLsbD_of_bit knights_bit b t

/-- `Bitboard::adjacent` of an arbitrary set. -/
theorem C10_adjacent (b : BB) (t : Nat) :
    (adjacent b).getLsbD t
      = (decide (t < 64) && (List.range 64).any fun s => b.getLsbD s && kingStep s t) :=
  linear_adjacent.getLsbD_of_bit adjacent_bit b t

/-- `rays::pawns::<US>` of an arbitrary set (`us = true`: capturing towards higher ranks). -/
theorem C10_pawnsAtt (us : Bool) (b : BB) (t : Nat) :
    (pawnsAtt us b).getLsbD t
      = (decide (t < 64) && (List.range 64).any fun s => b.getLsbD s && pawnStep us s t) :=
  (linear_pawnsAtt us).getLsbD_of_bit (pawnsAtt_bit us) b t

/-- the leaper geometry is the one of `Spec/Chess.lean`. -/
theorem C10_steps_are_spec (b : Board) (w : Bool) (s t : Nat) :
    pieceAttacks b s ⟨w, .knight⟩ t = knightStep s t ∧
    pieceAttacks b s ⟨w, .king⟩ t = kingStep s t ∧
    pieceAttacks b s ⟨w, .pawn⟩ t = pawnStep w s t := ⟨rfl, rfl, rfl⟩

/-- non-vacuity / no wrap-around: a knight on h1 (7) reaches f2 (13) and g3 (22) only; a king on a4. -/
example : knightMask 7 = setBB [13, 22] := by decide
example : adjacent (bit 24) = setBB [16, 17, 25, 32, 33] := by decide
example : pawnsAtt true (bit 8 ||| bit 15) = setBB [17, 22] := by decide

theorem C10_rays (s : Nat) (hs : s < 64) (blockers : BB) :
    rayN s blockers = setBB (walk 0 1 s blockers.getLsbD) ∧
    rayS s blockers = setBB (walk 0 (-1) s blockers.getLsbD) ∧
    rayE s blockers = setBB (walk 1 0 s blockers.getLsbD) ∧
    rayW s blockers = setBB (walk (-1) 0 s blockers.getLsbD) ∧
    rayNE s blockers = setBB (walk 1 1 s blockers.getLsbD) ∧
    rayNW s blockers = setBB (walk (-1) 1 s blockers.getLsbD) ∧
    raySE s blockers = setBB (walk 1 (-1) s blockers.getLsbD) ∧
    raySW s blockers = setBB (walk (-1) (-1) s blockers.getLsbD) :=
  ⟨rayN_eq_walk s hs _, rayS_eq_walk s hs _, rayE_eq_walk s hs _, rayW_eq_walk s hs _,
   rayNE_eq_walk s hs _, rayNW_eq_walk s hs _, raySE_eq_walk s hs _, raySW_eq_walk s hs _⟩

theorem C10_fills_eq_table (s : Nat) (hs : s < 64) (occ : BB) :
    bishopMoves s occ = rayNE s occ ||| (rayNW s occ ||| (raySE s occ ||| (raySW s occ ||| 0#64))) ∧
    rookMoves s occ = rayE s occ ||| (rayW s occ ||| (rayN s occ ||| (rayS s occ ||| 0#64))) := by
  obtain ⟨hN, hS, hE, hW, hNE, hNW, hSE, hSW⟩ := C10_rays s hs occ
  rw [C10_bishop s hs, C10_rook s hs, hN, hS, hE, hW, hNE, hNW, hSE, hSW]
  simp only [walkBB, walkList, diag, orth, List.flatMap_cons, List.flatMap_nil, setBB_append, setBB_nil]
  exact ⟨trivial, trivial⟩

example : rayNE 0 (bit 27) = setBB [9, 18, 27] := by
  rw [(C10_rays 0 (by decide) _).2.2.2.2.1]; decide

/-- `Spec.walk`'s bound of 7 steps is not a truncation. -/
theorem C10_walk_fuel (d : Int × Int) (hd : d ∈ diag ++ orth) (s : Nat) (hs : s < 64)
    (occ : Nat → Bool) (m : Nat) (hm : 7 ≤ m) :
    walkFrom d.1 d.2 occ m (file s) (rank s) = walk d.1 d.2 s occ :=
  walk_fuel ((List.mem_append.mp hd).elim (Att.goodDir_diag d) (Att.goodDir_orth d)) s hs occ m hm

#print axioms C10_bishop
#print axioms C10_rook
#print axioms C10_queen
#print axioms C10_queen'
#print axioms C10_bishop_mem
#print axioms C10_rook_mem
#print axioms C10_queen_mem
#print axioms C10_constants_agree
#print axioms C10_knightMask
#print axioms C10_kingMask
#print axioms C10_leapers_bit
#print axioms C10_knights
#print axioms C10_adjacent
#print axioms C10_pawnsAtt
#print axioms C10_rays
#print axioms C10_fills_eq_table
#print axioms C10_walk_fuel

end Rawr
