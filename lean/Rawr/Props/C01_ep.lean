import Rawr.Proofs.GenPawns
/-!
# C01, en-passant class

For a position of the domain (`ValidPos`) whose en-passant square `e` is consistent with a double pawn push
having just been played (`Spec.EpConsistent`, DESIGN §4.1 domain E), the pawn moves the generator produces
onto `e` — `gm 0 (e-9) e 6` from the north-east branch, `gm 0 (e-7) e 6` from the north-west branch —
are exactly the legal en-passant captures of the rules: `Move.normal F E none ∈ Spec.legalMoves (abs p)`
with a pawn of the side to move on `F`.

* `C01_ep` — the class theorem (an `↔`, both directions: nothing illegal, nothing missing).
* `C01_ep_branches` — the two branch tests of move_generator.rs, each equivalent to "an own pawn stands
  on the source square and the king is not attacked on the board after the capture".
* The pieces of the proof, all in the mover's frame (`Proofs/GenEp*.lean`):
  `ep_core` (board after the capture unattacked ⇔ the capturer stays on its pin line `PinCut`, every check is
  given by the captured pawn or blocked on `e`: `Chk … e ∨ Chk … (e - 8)`, and `EpC3`), `epPin_iff`
  (`!rpinned & (!bpinned | !bxrays.south_east())` ⇔ `PinCut`: the capture lemma `pinOk_cap` of the pawns, and
  `ep_xray_flip`: of the two squares diagonally in front of a diagonally pinned pawn exactly the one on the pin
  line is in `bxrays`), `ep_allowed_iff` (`allowed(e) ∨ allowed.north()(e)` ⇔ the two `Chk`), `epC3_iff` (the
  `ray_e / ray_w` tests with both pawns lifted ⇔ no rook or queen sees the king along its rank afterwards).
  Retro-consistency clause (b) is used exactly once, in `ep_core`: a diagonal from the king through the
  captured pawn's square to an enemy bishop or queen would have been an attack on the king before the double
  push.
* `C01_ep_false_without_E` — without `EpConsistent` the statement is false:
  `8/5b2/8/3pP3/8/1K6/8/7k w - d6 0 1` is valid, the generator produces e5xd6, and that move leaves the
  king on b3 attacked by the bishop on f7.
-/
namespace Rawr
open Spec Att

/-- C01, en passant: generated pawn moves onto the en-passant square = legal en-passant captures. -/
theorem C01_ep (p : Position) (hV : ValidPos p = true) (hE : Spec.EpConsistent (abs p) = true)
    (e : Nat) (hep : p.ep = some e) (f : Nat) :
    gm 0 f e 6 ∈ moveGenerator p ↔
      ((abs p).board (absSq p.black f) = some ⟨!p.black, .pawn⟩ ∧
        Spec.Move.normal (absSq p.black f) (absSq p.black e) none ∈ Spec.legalMoves (abs p)) := by
  rw [gen_ep_iff hV ((epConsistent_relPos p).trans hE) hep f 6, abs_at_us]
  exact ⟨fun h => ⟨h.2.1, (legal_frame hV (.normal f e none)).mpr h.2.2⟩,
    fun h => ⟨rfl, h.1, (legal_frame hV (.normal f e none)).mp h.2⟩⟩

theorem C01_ep_promo (p : Position) (hV : ValidPos p = true) (hE : Spec.EpConsistent (abs p) = true)
    (e : Nat) (hep : p.ep = some e) (f pr : Nat) (h : gm 0 f e pr ∈ moveGenerator p) : pr = 6 :=
  ((gen_ep_iff hV ((epConsistent_relPos p).trans hE) hep f pr).mp h).1

theorem C01_ep_branches (p : Position) (hV : ValidPos p = true) (hE : Spec.EpConsistent (abs p) = true)
    (e : Nat) (hep : p.ep = some e) :
    (epCondNE p e = true ↔
      (9 ≤ e ∧ e % 8 ≠ 0 ∧ relBoard p (e - 9) = some ⟨true, .pawn⟩ ∧
        attackedBy (epBoard (relBoard p) (e - 9) e) false (lsb (p.p5 &&& p.c0)) = false)) ∧
    (epCondNW p e = true ↔
      (e % 8 ≠ 7 ∧ relBoard p (e - 7) = some ⟨true, .pawn⟩ ∧
        attackedBy (epBoard (relBoard p) (e - 7) e) false (lsb (p.p5 &&& p.c0)) = false)) := by
  obtain ⟨hBn, hEb⟩ := epConsistent_rel hV ((epConsistent_relPos p).trans hE) hep
  exact ⟨epCondNE_iff hV hep hBn hEb, epCondNW_iff hV hep hBn hEb⟩

theorem C01_ep_block (p : Position) (e f : Nat) (hep : p.ep = some e) :
    (p.ep = some e ∧ ((f = e - 9 ∧ epCondNE p e = true) ∨ (f = e - 7 ∧ epCondNW p e = true))) →
      gm 0 f e 6 ∈ moveGenerator p := by
  intro h
  rw [mem_gen_pawn]
  exact Or.inr (Or.inr (Or.inr (Or.inr ⟨hep, rfl, h.2⟩)))

/-- `8/5b2/8/3pP3/8/1K6/8/7k w - d6 0 1`: White Kb3 (17), pawn e5 (36); Black Bf7 (53), pawn d5 (35),
Kh1 (7); en-passant square d6 (43). -/
def epBad : Position :=
  let q : Position :=
    { Position.dflt with
      c0 := (bit 17 ||| bit 36), c1 := (bit 53 ||| bit 35 ||| bit 7),
      p0 := (bit 36 ||| bit 35), p2 := bit 53, p5 := (bit 17 ||| bit 7), ep := some 43 }
  { q with hash := q.calculateHash }

/-- the position is valid but not retro-consistent; the engine generates e5xd6; the rules forbid it. -/
theorem C01_ep_false_without_E :
    ValidPos epBad = true ∧ Spec.EpConsistent (abs epBad) = false ∧
    gm 0 36 43 6 ∈ moveGenerator epBad ∧
    (abs epBad).board 36 = some ⟨true, .pawn⟩ ∧
    Spec.Move.normal 36 43 none ∉ Spec.legalMoves (abs epBad) := by decide +kernel

/-- hence `C01_ep` without the hypothesis `hE` is refuted. -/
theorem C01_ep_needs_E :
    ¬ (∀ (p : Position), ValidPos p = true → ∀ e, p.ep = some e → ∀ f,
        (gm 0 f e 6 ∈ moveGenerator p ↔
          ((abs p).board (absSq p.black f) = some ⟨!p.black, .pawn⟩ ∧
            Spec.Move.normal (absSq p.black f) (absSq p.black e) none ∈ Spec.legalMoves (abs p)))) := by
  intro h
  obtain ⟨h1, _, h3, _, h5⟩ := C01_ep_false_without_E
  exact h5 ((h epBad h1 43 rfl 36).mp h3).2

/-- White Ke1, pawn e5; Black Ke8, pawn d5 just pushed (ep d6): e5xd6 is generated and legal. -/
def epGood : Position :=
  let q : Position :=
    { Position.dflt with
      c0 := (bit 4 ||| bit 36), c1 := (bit 60 ||| bit 35), p0 := (bit 36 ||| bit 35),
      p5 := (bit 4 ||| bit 60), ep := some 43 }
  { q with hash := q.calculateHash }

example : ValidPos epGood = true ∧ Spec.EpConsistent (abs epGood) = true ∧
    gm 0 36 43 6 ∈ moveGenerator epGood ∧
    Spec.Move.normal 36 43 none ∈ Spec.legalMoves (abs epGood) := by decide +kernel

/-- rank discovery: White Ka5 (32), pawn e5 (36); Black Rh5 (39), pawn d5 (35), Kh8 (63); ep d6. Both pawns
leave the fifth rank, so e5xd6 is illegal; the generator's `ray_e` test rejects it. Retro-consistent. -/
def epRank : Position :=
  let q : Position :=
    { Position.dflt with
      c0 := (bit 32 ||| bit 36), c1 := (bit 39 ||| bit 35 ||| bit 63), p0 := (bit 36 ||| bit 35),
      p3 := bit 39, p5 := (bit 32 ||| bit 63), ep := some 43 }
  { q with hash := q.calculateHash }

example : ValidPos epRank = true ∧ Spec.EpConsistent (abs epRank) = true ∧
    gm 0 36 43 6 ∉ moveGenerator epRank ∧
    Spec.Move.normal 36 43 none ∉ Spec.legalMoves (abs epRank) := by decide +kernel

/-- Black to move (frame change): Black Ke8, pawn d4; White Ke1, pawn e4 just pushed (ep e3).
Relative: own king 4, own pawn 35 (d5 relative), enemy pawn 36, enemy king 60, ep 44. -/
def epBlack : Position :=
  let q : Position :=
    { Position.dflt with
      c0 := (bit 4 ||| bit 35), c1 := (bit 60 ||| bit 36), p0 := (bit 35 ||| bit 36),
      p5 := (bit 4 ||| bit 60), ep := some 44, black := true }
  { q with hash := q.calculateHash }

example : ValidPos epBlack = true ∧ Spec.EpConsistent (abs epBlack) = true ∧
    gm 0 35 44 6 ∈ moveGenerator epBlack ∧
    Spec.Move.normal 27 20 none ∈ Spec.legalMoves (abs epBlack) := by decide +kernel

example : gm 0 36 43 6 ∈ moveGenerator epGood :=
  (C01_ep epGood (by decide +kernel) (by decide +kernel) 43 rfl 36).mpr (by decide +kernel)

#print axioms C01_ep
#print axioms C01_ep_promo
#print axioms C01_ep_branches
#print axioms C01_ep_block
#print axioms C01_ep_false_without_E
#print axioms C01_ep_needs_E

end Rawr
