import Rawr.Props.C04
import Rawr.Props.C04_full
import Rawr.Proofs.RustImpAgree_MakeMove
import Rawr.Proofs.RustImpAgree_MoveGen
/-!
# C04 on the regenerated code: `R.predict_hash`, `R.calculate_hash`, `R.makemove`, `R.makenull`

`Rawr.R.predict_hash`, `Rawr.R.calculate_hash` are regenerated from zobrist.rs / predict_hash.rs on every run and proved
equal, as functions, to the model's `predictHashK genKeys` / `calculateHashK genKeys` (`agree_predict_hash`,
`agree_calculate_hash`; `genKeys` = the 781 keys extracted from zobrist.rs).  With `agree_makemove`, `agree_makenull`,
`agree_flip`, `agree_legal_moves` every C04 theorem transfers with the same hypotheses and conclusion (exact
transfers).  The key-table-generic model theorems (`C04c_*` for an arbitrary `K : ZKeys`) are instantiated at the
engine's table, which is the one the code uses.  `C04d_keys_distinct` is a statement about the extracted constants
only and needs no transfer.
-/
namespace Rawr
open Position Spec ZH

/-- **C04(a) on the code**: for every valid position and every move the regenerated `legal_moves` returns, the key the
regenerated `predict_hash` computes is the key the regenerated `makemove::<true>` stores, and it equals the key the
regenerated `calculate_hash` recomputes from scratch. -/
theorem C04_code_a_legal (p : Position) (m : Mv) (h : BB) (q : Position) (hv : ValidPos p = true)
    (hm : m ∈ R.legal_moves p) (hp : R.predict_hash p m = some h) (hq : R.makemove p m true = some q) :
    q.hash = h ∧ q.hash = R.calculate_hash q := by
  rw [agree_legal_moves] at hm; rw [agree_predict_hash] at hp; rw [agree_makemove] at hq
  rw [agree_calculate_hash]; exact C04a_legal p m h q hv hm hp hq

/-- C04(a) for any move of the generated shape, from a position whose stored key is right (no validity needed beyond
`KeyHyps`). -/
theorem C04_code_a_predict (p : Position) (m : Mv) (h : BB) (q : Position)
    (kh : KeyHyps p = true) (hm : MoveShape p m = true) (hinv : p.hash = R.calculate_hash p)
    (hp : R.predict_hash p m = some h) (hq : R.makemove p m true = some q) :
    q.hash = h ∧ q.hash = R.calculate_hash q := by
  rw [agree_predict_hash] at hp; rw [agree_makemove] at hq; rw [agree_calculate_hash] at hinv ⊢
  exact C04a_predict p m h q kh hm hinv hp hq

/-- … and the prediction is defined whenever the move can be made. -/
theorem C04_code_a_any (p : Position) (m : Mv) (q : Position)
    (kh : KeyHyps p = true) (hm : MoveShape p m = true) (hinv : p.hash = R.calculate_hash p)
    (hq : R.makemove p m true = some q) : R.predict_hash p m = some q.hash ∧ q.hash = R.calculate_hash q := by
  rw [agree_makemove] at hq; rw [agree_calculate_hash] at hinv ⊢; rw [agree_predict_hash]
  exact C04a_any p m q kh hm hinv hq

/-- with or without key update, the predicted key is the recomputed key of the position `makemove` produces. -/
theorem C04_code_a_predict_either (p : Position) (m : Mv) (u : Bool) (q : Position) (h : BB)
    (kh : KeyHyps p = true) (hm : MoveShape p m = true) (hinv : p.hash = R.calculate_hash p)
    (hp : R.predict_hash p m = some h) (hq : R.makemove p m u = some q) : h = R.calculate_hash q := by
  rw [agree_predict_hash] at hp; rw [agree_makemove] at hq; rw [agree_calculate_hash] at hinv ⊢
  exact C04a_predict_generic genKeys p m u q h kh hm hinv hp hq

theorem C04_code_b_null (p : Position) (h : p.hash = R.calculate_hash p) :
    (R.makenull p).hash = R.calculate_hash (R.makenull p) := by
  rw [agree_calculate_hash] at h ⊢; rw [agree_makenull]; exact C04b_null p h

theorem C04_code_c_calc_eq_spec (p : Position) (h : Consistent p) :
    R.calculate_hash p = zobristAbs genKeys (abs p) := by
  rw [agree_calculate_hash]; exact C04c_calc_eq_spec genKeys p h

theorem C04_code_c_position_only (p q : Position) (hp : Consistent p) (hq : Consistent q)
    (hb : ∀ s, s < 64 → (abs p).board s = (abs q).board s)
    (ht : (abs p).whiteToMove = (abs q).whiteToMove)
    (hwK : (abs p).wK.isSome = (abs q).wK.isSome) (hwQ : (abs p).wQ.isSome = (abs q).wQ.isSome)
    (hbK : (abs p).bK.isSome = (abs q).bK.isSome) (hbQ : (abs p).bQ.isSome = (abs q).bQ.isSome)
    (hep : (abs p).ep.map (· % 8) = (abs q).ep.map (· % 8)) :
    R.calculate_hash p = R.calculate_hash q := by
  rw [agree_calculate_hash]; exact C04c_position_only genKeys p q hp hq hb ht hwK hwQ hbK hbQ hep

/-- perspective: the regenerated `flip` changes the key by exactly the turn key (no hypothesis). -/
theorem C04_code_c_flip (p : Position) : R.calculate_hash (R.flip p) = R.calculate_hash p ^^^ R.turn_key := by
  rw [agree_calculate_hash, agree_flip, agree_turn_key]; exact C04c_flip genKeys p

theorem C04_code_d_startpos_key : Gen.startpos.hash = R.calculate_hash Gen.startpos := by
  rw [agree_calculate_hash]; exact C04d_startpos_key

/-- one ply made by the regenerated code. -/
inductive KeyStep_code : Position → Position → Prop
  | move {p q : Position} (m : Mv) : KeyHyps p = true → MoveShape p m = true →
      R.makemove p m true = some q → KeyStep_code p q
  | null (p : Position) : KeyStep_code p (R.makenull p)

inductive KeyPath_code : Position → Position → Prop
  | nil (p : Position) : KeyPath_code p p
  | cons {p q r : Position} : KeyStep_code p q → KeyPath_code q r → KeyPath_code p r

theorem KeyPath_code_model {p q : Position} (h : KeyPath_code p q) : KeyPath p q := by
  induction h with
  | nil p => exact .nil p
  | cons st _ ih =>
    refine .cons ?_ ih
    cases st with
    | move m kh hm hq => rw [agree_makemove] at hq; exact .move m kh hm hq
    | null => rw [agree_makenull]; exact .null _

/-- the key maintained by the regenerated `makemove::<true>` / `makenull` equals the key the regenerated
`calculate_hash` recomputes, after any sequence of moves and null moves. -/
theorem C04_code_sequence {p q : Position} (path : KeyPath_code p q) (h : p.hash = R.calculate_hash p) :
    q.hash = R.calculate_hash q := by
  rw [agree_calculate_hash] at h ⊢; exact C04_sequence (KeyPath_code_model path) h

/-- 1. e4 from the start position: hypotheses hold, prediction defined, move made; through the theorem. -/
example : ∃ h q, R.predict_hash Gen.startpos ⟨12, 28, 6⟩ = some h ∧ R.makemove Gen.startpos ⟨12, 28, 6⟩ true = some q ∧
    q.hash = h ∧ q.hash = R.calculate_hash q := by
  have h1 : (R.predict_hash Gen.startpos ⟨12, 28, 6⟩).isSome = true := by decide +kernel
  have h2 : (R.makemove Gen.startpos ⟨12, 28, 6⟩ true).isSome = true := by decide +kernel
  obtain ⟨h, hp⟩ := Option.isSome_iff_exists.mp h1
  obtain ⟨q, hq⟩ := Option.isSome_iff_exists.mp h2
  exact ⟨h, q, hp, hq, C04_code_a_legal Gen.startpos ⟨12, 28, 6⟩ h q startpos_valid
    (agree_legal_moves ▸ startpos_e4_gen) hp hq⟩

example : R.calculate_hash Gen.startpos = zobristAbs genKeys (abs Gen.startpos) :=
  C04_code_c_calc_eq_spec Gen.startpos (by decide)

end Rawr

#print axioms Rawr.C04_code_a_legal
#print axioms Rawr.C04_code_a_predict
#print axioms Rawr.C04_code_a_any
#print axioms Rawr.C04_code_a_predict_either
#print axioms Rawr.C04_code_b_null
#print axioms Rawr.C04_code_c_calc_eq_spec
#print axioms Rawr.C04_code_c_position_only
#print axioms Rawr.C04_code_c_flip
#print axioms Rawr.C04_code_d_startpos_key
#print axioms Rawr.C04_code_sequence
