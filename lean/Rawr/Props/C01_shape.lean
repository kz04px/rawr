import Rawr.Proofs.GenShapeNodup
import Rawr.Generated.StartPos
import Rawr.Proofs.TestPositions
/-!
# C01 (structural part) — shape of the generated moves, no duplicates

For every valid position (`ValidPos`), every callback invocation `g` of `move_generator` satisfies `GenOk p g`
(`Proofs/GenShape.lean`): squares on the board and distinct; the `piece` argument is the piece on `src`, which is
the mover's; `dst` holds an own piece only for castling (king on its square takes the rook of a present right,
`IsCastleK` / `IsCastleQ`, with the king's and rook's targets free); promotion pieces are N, B, R, Q exactly for
pawns reaching the last rank; pawn geometry (`PawnGeom`); non-castling king moves are king steps. That is `gen_shape`
(`Proofs/GenShape.lean`), here written out as `gen_shape_explicit`. Consequences: `gen_moveShape` (the hypothesis
`MoveShape` of C04(a)) and, in `Proofs/GenShapeNodup.lean`, `gen_nodup_callback` and `gen_nodup` (no move twice).
-/
namespace Rawr
open Rawr.Position Rawr.ZH

theorem gen_shape_explicit (p : Position) (hV : ValidPos p = true) (g : GMv) (hg : g ∈ moveGenerator p) :
    (g.mv.src < 64 ∧ g.mv.dst < 64 ∧ g.mv.src ≠ g.mv.dst) ∧
    (p.pieceOn g.mv.src = some g.piece ∧ p.c0.isSet g.mv.src = true) ∧
    (p.c0.isSet g.mv.dst = true → g.piece = 5 ∧ (IsCastleK p g.mv ∨ IsCastleQ p g.mv)) ∧
    ((g.mv.promo = 6 ∨ g.mv.promo = 1 ∨ g.mv.promo = 2 ∨ g.mv.promo = 3 ∨ g.mv.promo = 4) ∧
      (g.mv.promo ≠ 6 ↔ (g.piece = 0 ∧ rankOf g.mv.dst = 7))) ∧
    (g.piece = 0 → PawnGeom p g.mv.src g.mv.dst) ∧
    (g.piece = 5 → p.c0.isSet g.mv.dst = false → (adjacent (bit g.mv.src)).getLsbD g.mv.dst = true) := by
  have h := gen_shape p hV g hg
  exact ⟨⟨h.src_lt, h.dst_lt, h.ne⟩, ⟨h.tag, h.own⟩, h.dst_own, ⟨h.promo_mem, h.promo_iff⟩, h.pawn, h.king⟩

/-- the generated moves satisfy the hypothesis `MoveShape` of C04(a). -/
theorem gen_moveShape (p : Position) (hV : ValidPos p = true) : ∀ m ∈ legalMoves p, MoveShape p m = true := by
  intro m hm
  unfold legalMoves at hm
  rw [List.mem_map] at hm
  obtain ⟨g, hg, rfl⟩ := hm
  exact moveShape_of_genOk (vfacts_of_valid hV) (gen_shape p hV g hg)

/-- White: Ke1, pawn e5; Black: Ke8, pawn d5 which has just made a double step (ep square d6). -/
def c01Ep : Position :=
  let p : Position :=
    { Position.dflt with
      c0 := 0x0000001000000010#64, c1 := 0x1000000800000000#64, p0 := 0x0000001800000000#64,
      p5 := 0x1000000000000010#64, ep := some 43 }
  { p with hash := p.calculateHash }

example : ValidPos Gen.startpos = true ∧ (legalMoves Gen.startpos).length = 20 := ⟨startpos_valid, startpos_moves⟩
theorem c01Ep_valid : ValidPos c01Ep = true := by decide +kernel
theorem c01Ep_mem : gm 0 36 43 6 ∈ moveGenerator c01Ep := by decide +kernel

example : ValidPos c01Ep = true ∧ (⟨36, 43, 6⟩ : Mv) ∈ legalMoves c01Ep ∧ (legalMoves c01Ep).length = 7 :=
  ⟨c01Ep_valid, List.mem_map.mpr ⟨_, c01Ep_mem, rfl⟩, by decide +kernel⟩
example : (legalMoves c01Ep).Nodup := gen_nodup c01Ep c01Ep_valid
example : MoveShape c01Ep ⟨36, 43, 6⟩ = true :=
  gen_moveShape c01Ep c01Ep_valid _ (List.mem_map.mpr ⟨_, c01Ep_mem, rfl⟩)
/-- the en-passant clause of `PawnGeom` is the one that holds for e5xd6. -/
example : PawnGeom c01Ep 36 43 := (gen_shape c01Ep c01Ep_valid _ c01Ep_mem).pawn rfl

#print axioms gen_shape
#print axioms gen_shape_explicit
#print axioms gen_moveShape
#print axioms gen_nodup_callback
#print axioms gen_nodup
end Rawr
