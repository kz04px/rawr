import Rawr.Props.C09
import Rawr.Proofs.RustTextAgree_Rules
/-!
# C09 on the regenerated code: `R.to_uci` (move notation) and its round trip through `R.moves`

`Rawr.R.to_uci m p` (uci/mv.rs `Mv::to_uci`, with `Square::fmt` = `R.square_fmt`) and `Rawr.R.moves` (uci/moves.rs)
are regenerated from the Rust source on every run.  `R.to_uci` returns `Option (List Char)`: `none` = the panic of
`Square::fmt` on a square ≥ 64; `agree_to_uci_rules`: for a valid position and a move of `legal_moves` it is
`some (toUciChars p m)` — `ValidPos p`, `m ∈ legalMoves p` are exactly the hypotheses every C09 theorem has, so these
are exact transfers.  Equality of printed strings is stated as equality of the `Option`s returned by `R.to_uci`.

Round trip: `C09_roundtrip` is about one token (`applyToken`).  On the code it is stated for `R.moves` applied to the
one-token stream `[u]`, `u` the string the regenerated `to_uci` printed; `agree_moves_ix` is instantiated with the
invariant "one token left ⇒ `ValidPos`", so no hypothesis beyond those of `C09_roundtrip` is needed (`agree_moves_rules`
would ask for `EpConsistent` and counter room, which a single token does not need).  The Rust history vector grows
at the end (`hist ++ [key]`), the model's list at the front.
-/
namespace Rawr
open Rawr.Position Rawr.Spec Rawr.ZH

/-- the regenerated `Square::fmt` appends file letter and rank digit. -/
theorem C09_code_sqName (s : Fin 64) (acc : List Char) :
    R.square_fmt s.val acc = some (acc ++
      [['a','b','c','d','e','f','g','h'].getD (s.val % 8) ' ', ['1','2','3','4','5','6','7','8'].getD (s.val / 8) ' ']) := by
  rw [agree_square_fmt, if_pos s.isLt, C09_sqName]

/-- **C09 format on the code**: the regenerated `to_uci` of a generated move of a valid position does not panic and
prints source square, printed destination `uciDst p m`, promotion letter (absolute squares). -/
theorem C09_code_format (p : Position) (hV : ValidPos p = true) (m : Mv) (hm : m ∈ R.legal_moves p) :
    R.to_uci m p =
      some (sqName (absSq (R.get_turn p) m.src) ++ sqName (absSq (R.get_turn p) (uciDst p m)) ++ promoChars m.promo) := by
  rw [agree_legal_moves] at hm
  rw [agree_to_uci_rules p hV m hm, C09_format p hV m hm]; rfl

theorem C09_code_ranges (p : Position) (hV : ValidPos p = true) (m : Mv) (hm : m ∈ R.legal_moves p) :
    m.src < 64 ∧ m.dst < 64 ∧ uciDst p m < 64 ∧ (m.promo = 6 ∨ m.promo = 1 ∨ m.promo = 2 ∨ m.promo = 3 ∨ m.promo = 4) := by
  rw [agree_legal_moves] at hm; exact C09_ranges p hV m hm

theorem C09_code_castle_iff (p : Position) (hV : ValidPos p = true) (m : Mv) (hm : m ∈ R.legal_moves p) :
    (R.get_us p).isSet m.dst = true ↔
      ((p.usK = true ∧ m = encodeMove p (.castle true)) ∨ (p.usQ = true ∧ m = encodeMove p (.castle false))) := by
  rw [agree_legal_moves] at hm; rw [agree_get_us]; exact C09_castle_iff p hV m hm

/-- with `UCI_Chess960` on, two generated moves the regenerated `to_uci` prints alike are equal. -/
theorem C09_code_injective_frc (p : Position) (hV : ValidPos p = true) (hf : p.frc = true) (m₁ m₂ : Mv)
    (hm₁ : m₁ ∈ R.legal_moves p) (hm₂ : m₂ ∈ R.legal_moves p) (h : R.to_uci m₁ p = R.to_uci m₂ p) : m₁ = m₂ := by
  rw [agree_legal_moves] at hm₁ hm₂
  rw [agree_to_uci_rules p hV m₁ hm₁, agree_to_uci_rules p hV m₂ hm₂] at h
  exact C09_injective_frc p hV hf m₁ m₂ hm₁ hm₂ (Option.some.inj h)

/-- with `UCI_Chess960` off and the standard castling geometry (king e1, rooks a1/h1 for the present rights). -/
theorem C09_code_injective_std (p : Position) (hV : ValidPos p = true) (hf : p.frc = false)
    (hS : StandardGeometry p) (m₁ m₂ : Mv)
    (hm₁ : m₁ ∈ R.legal_moves p) (hm₂ : m₂ ∈ R.legal_moves p) (h : R.to_uci m₁ p = R.to_uci m₂ p) : m₁ = m₂ := by
  rw [agree_legal_moves] at hm₁ hm₂
  rw [agree_to_uci_rules p hV m₁ hm₁, agree_to_uci_rules p hV m₂ hm₂] at h
  exact C09_injective_std p hV hf hS m₁ m₂ hm₁ hm₂ (Option.some.inj h)

theorem C09_code_injective (p : Position) (hV : ValidPos p = true) (hg : p.frc = true ∨ StandardGeometry p)
    (m₁ m₂ : Mv) (hm₁ : m₁ ∈ R.legal_moves p) (hm₂ : m₂ ∈ R.legal_moves p)
    (h : R.to_uci m₁ p = R.to_uci m₂ p) : m₁ = m₂ := by
  rw [agree_legal_moves] at hm₁ hm₂
  rw [agree_to_uci_rules p hV m₁ hm₁, agree_to_uci_rules p hV m₂ hm₂] at h
  exact C09_injective p hV hg m₁ m₂ hm₁ hm₂ (Option.some.inj h)

/-- the geometry hypothesis cannot be dropped (`c09Clash`: Kf1, Rh1, `UCI_Chess960` off): castling and the king step
f1g1 are both generated and the regenerated `to_uci` prints both as "f1g1". -/
theorem C09_code_clash : ValidPos c09Clash = true ∧ (⟨5, 7, 6⟩ : Mv) ∈ R.legal_moves c09Clash ∧
    (⟨5, 6, 6⟩ : Mv) ∈ R.legal_moves c09Clash ∧ R.to_uci ⟨5, 7, 6⟩ c09Clash = R.to_uci ⟨5, 6, 6⟩ c09Clash := by
  obtain ⟨hV, h1, h2, he⟩ := c09Clash_facts
  rw [agree_legal_moves, agree_to_uci_rules _ hV _ h1, agree_to_uci_rules _ hV _ h2, he]
  exact ⟨hV, h1, h2, rfl⟩

/-- **C09 round trip on the code**: feeding the string the regenerated `to_uci` prints for a generated move `m` to the
regenerated `moves` selects `m`: the result is the position the regenerated `makemove::<true>` produces, its key
pushed on the history, no output line, the stream consumed. -/
theorem C09_code_roundtrip (p : Position) (hV : ValidPos p = true) (hg : p.frc = true ∨ StandardGeometry p)
    (hist : List BB) (m : Mv) (hm : m ∈ R.legal_moves p) (u : List Char) (hu : R.to_uci m p = some u) :
    R.moves [u] p hist = (R.makemove p m true).map fun q => ([], q, hist ++ [q.hash], []) := by
  rw [agree_legal_moves] at hm
  rw [agree_to_uci_rules p hV m hm] at hu
  cases hu
  rw [agree_makemove]
  have hag := agree_moves_ix (fun n q => n = 0 ∨ (n = 1 ∧ ValidPos q = true))
    (fun n q h => by
      rcases h with h | ⟨_, h⟩
      · omega
      · exact movesOnBoard_of_valid h)
    (fun n q h => by
      rcases h with h | ⟨h, _⟩
      · omega
      · exact Or.inl (by omega))
    (fun n q _ _ h _ _ => by
      rcases h with h | ⟨h, _⟩
      · omega
      · exact Or.inl (by omega))
    [toUciChars p m] p hist (Or.inr ⟨rfl, hV⟩)
  rw [hag]
  unfold applyTokens
  rw [C09_roundtrip p hV hg hist.reverse m hm]
  cases p.makemove m true with
  | none => rfl
  | some q => simp [applyTokens]

example : ValidPos c09Promo = true ∧ (⟨49, 56, 4⟩ : Mv) ∈ R.legal_moves c09Promo ∧
    R.to_uci ⟨49, 56, 4⟩ c09Promo = some "b7a8q".toList ∧ R.to_uci ⟨49, 57, 1⟩ c09Promo = some "b7b8n".toList := by
  obtain ⟨hV, h1, e1, e2⟩ := c09Promo_facts
  rw [agree_legal_moves, agree_to_uci _ _ (by decide) (by decide), agree_to_uci _ _ (by decide) (by decide), e1, e2]
  exact ⟨hV, h1, rfl, rfl⟩

/-- the round trip instantiated: "e1g1" fed back to the regenerated `moves` castles king-side (standard geometry) … -/
example (hist : List BB) : R.moves ["e1g1".toList] c09Std hist
    = (R.makemove c09Std ⟨4, 7, 6⟩ true).map (fun q => ([], q, hist ++ [q.hash], [])) :=
  C09_code_roundtrip c09Std c09Std_facts.1 (Or.inr c09Std_facts.2.2.1) hist ⟨4, 7, 6⟩
    (agree_legal_moves ▸ c09Std_facts.2.2.2.1) _
    (c09Std_facts.2.2.2.2.2.1 ▸ agree_to_uci_rules _ c09Std_facts.1 _ c09Std_facts.2.2.2.1)

/-- … and "b1a1" (king takes rook) with `UCI_Chess960` on. -/
example (hist : List BB) : R.moves ["b1a1".toList] c09Frc hist
    = (R.makemove c09Frc ⟨1, 0, 6⟩ true).map (fun q => ([], q, hist ++ [q.hash], [])) :=
  C09_code_roundtrip c09Frc c09Frc_facts.1 (Or.inl rfl) hist ⟨1, 0, 6⟩ (agree_legal_moves ▸ c09Frc_facts.2.2.1) _
    (c09Frc_facts.2.2.2 ▸ agree_to_uci_rules _ c09Frc_facts.1 _ c09Frc_facts.2.2.1)

end Rawr

#print axioms Rawr.C09_code_sqName
#print axioms Rawr.C09_code_format
#print axioms Rawr.C09_code_ranges
#print axioms Rawr.C09_code_castle_iff
#print axioms Rawr.C09_code_injective_frc
#print axioms Rawr.C09_code_injective_std
#print axioms Rawr.C09_code_injective
#print axioms Rawr.C09_code_clash
#print axioms Rawr.C09_code_roundtrip
