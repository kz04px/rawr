import Rawr.Proofs.UciSafe
/-! # C16 — `ucinewgame` + `position` make the engine forget everything but its option values

The second loop of `listen` is the state machine `stepSecond ar clock : UState → line → Option (UState × output × quit)`;
`steps` iterates it (`secondLoop_eq`: `secondLoop ls s out = (steps s ls).map (out ++ ·.output)`).

1. `C16_newgame_position_steps` (explicit form, for non-panicking runs: `C16_newgame_position_determines_state`) : from
   any state `s` satisfying the loop invariant `UInv` (table length = configured size, `pos.frc = frc`;
   `stepSecond_inv`, `steps_inv`, `listen_state_inv`) the two lines `[ucinewgame, L]` lead to the same result — state
   (ALL components), output, panic or not — as from `fresh s.hashMb s.frc`; hence every later output is identical
   (`C16_later_outputs_equal`).
   (Already `ucinewgame` alone equalises the states: `C16_newgame_resets`; so `L` may be any line.)
2. `C16_position_determines_pos_hist` : without `ucinewgame`, `position …` yields the same position, history and
   output (and panics or not alike) from any two states with the same `frc` flags; table, `hashMb`, `frc` are
   left alone (`doPosition_keeps`).
3. `C16_fresh_process` : whole-process form on `listen`. -/
namespace Rawr

/-- `ucinewgame` leads to the state `fresh hashMb frc`: the cleared table is the new table of the configured size.
Of the invariant only the table length is used (`pos.frc` is overwritten). -/
theorem stepSecond_ucinewgame_fresh (ar : Arith) (clock : Nat → Bool) (s : UState)
    (hlen : s.tt.len = Table.numEntries s.hashMb Gen.ttEntrySize) (N : List Char) (hN : cmdOf N = str "ucinewgame") :
    stepSecond ar clock s N = some (fresh s.hashMb s.frc, [], false) := by
  rw [stepSecond_ucinewgame ar clock s N hN, Table.clear_eq_new _ _ _ hlen]
  rfl

/-- `ucinewgame` alone: the resulting state depends only on the option values (given the invariant). -/
theorem C16_newgame_resets (ar : Arith) (clock : Nat → Bool) (s t : UState) (hs : UInv s) (ht : UInv t)
    (hh : s.hashMb = t.hashMb) (hf : s.frc = t.frc) (N : List Char) (hN : cmdOf N = str "ucinewgame") :
    stepSecond ar clock s N = stepSecond ar clock t N := by
  rw [stepSecond_ucinewgame_fresh ar clock s hs.len N hN, stepSecond_ucinewgame_fresh ar clock t ht.len N hN, hh, hf]

/-- general form of item 1: two reachable states with the same option values behave identically from
`ucinewgame` on. -/
theorem C16_newgame_steps_eq (ar : Arith) (clock : Nat → Bool) (s t : UState) (hs : UInv s) (ht : UInv t)
    (hh : s.hashMb = t.hashMb) (hf : s.frc = t.frc) (N : List Char) (hN : cmdOf N = str "ucinewgame")
    (qs : List (List Char)) : steps ar clock s (N :: qs) = steps ar clock t (N :: qs) := by
  have e := C16_newgame_resets ar clock s t hs ht hh hf N hN
  simp only [steps, e]

/-- From any reachable state, `[ucinewgame, L]` gives the same state (all components), output and quit flag
— or panics alike — as from `fresh` with the same option values (against a process that was really started afresh:
`C16_fresh_process`). -/
theorem C16_newgame_position_steps (ar : Arith) (clock : Nat → Bool) (s : UState) (hs : UInv s)
    (N L : List Char) (hN : cmdOf N = str "ucinewgame") (qs : List (List Char)) :
    steps ar clock s (N :: L :: qs) = steps ar clock (fresh s.hashMb s.frc) (N :: L :: qs) :=
  C16_newgame_steps_eq ar clock s (fresh s.hashMb s.frc) hs (fresh_inv _ _) rfl rfl N hN (L :: qs)

/-- the explicit form: if neither run panics, the states after `[ucinewgame, L]` agree on all components
(`pos`, `hist`, `tt`, `hashMb`, `frc`), and so do the outputs of `L`. -/
theorem C16_newgame_position_determines_state (ar : Arith) (clock : Nat → Bool) (s : UState) (hs : UInv s)
    (N L : List Char) (hN : cmdOf N = str "ucinewgame") (_hL : cmdOf L = str "position")
    (s1 s2 f1 f2 : UState) (o1 o2 p1 p2 : List String) (q1 q2 r1 r2 : Bool)
    (a1 : stepSecond ar clock s N = some (s1, o1, q1)) (a2 : stepSecond ar clock s1 L = some (s2, o2, q2))
    (b1 : stepSecond ar clock (fresh s.hashMb s.frc) N = some (f1, p1, r1))
    (b2 : stepSecond ar clock f1 L = some (f2, p2, r2)) :
    s2.pos = f2.pos ∧ s2.hist = f2.hist ∧ s2.tt = f2.tt ∧ s2.hashMb = f2.hashMb ∧ s2.frc = f2.frc ∧
      s2 = f2 ∧ o2 = p2 := by
  have e := C16_newgame_resets ar clock s (fresh s.hashMb s.frc) hs (fresh_inv _ _) rfl rfl N hN
  rw [a1, b1] at e
  cases e
  rw [a2] at b2
  cases b2
  exact ⟨rfl, rfl, rfl, rfl, rfl, rfl, rfl⟩

/-- hence every later output is identical: the whole transcript of the second loop from `ucinewgame` on. -/
theorem C16_later_outputs_equal (ar : Arith) (clock : Nat → Bool) (s : UState) (hs : UInv s)
    (N L : List Char) (hN : cmdOf N = str "ucinewgame") (qs : List (List Char)) (out : List String) :
    secondLoop ar clock (N :: L :: qs) s out = secondLoop ar clock (N :: L :: qs) (fresh s.hashMb s.frc) out := by
  rw [secondLoop_eq, secondLoop_eq, C16_newgame_position_steps ar clock s hs N L hN qs]

theorem secondLoop_congr (ar : Arith) (clock : Nat → Bool) (ls : List (List Char)) (s t : UState) (out : List String)
    (h : s = t) : secondLoop ar clock ls s out = secondLoop ar clock ls t out := by rw [h]

theorem doPosition_keeps {ar : Arith} {s : UState} {toks : List (List Char)} {r : UState × List String}
    (h : doPosition ar s toks = some r) : r.1.tt = s.tt ∧ r.1.hashMb = s.hashMb ∧ r.1.frc = s.frc := by
  obtain ⟨p, hist, _, e⟩ := doPosition_some h
  rw [e]
  exact ⟨rfl, rfl, rfl⟩

theorem stepSecond_position_keeps {ar : Arith} {clock : Nat → Bool} {s : UState} {L : List Char}
    (hL : cmdOf L = str "position") {r : UState × List String × Bool} (h : stepSecond ar clock s L = some r) :
    r.1.tt = s.tt ∧ r.1.hashMb = s.hashMb := by
  rw [stepSecond_position ar clock s L hL, Option.map_eq_some_iff] at h
  obtain ⟨d, hd, rfl⟩ := h
  exact ⟨(doPosition_keeps hd).1, (doPosition_keeps hd).2.1⟩

/-- position, history and output of a `position` command depend on the old state only through the flags
`frc` and `pos.frc` (equal to each other under `UInv`). -/
theorem C16_position_determines_pos_hist (ar : Arith) (s t : UState) (hf : s.frc = t.frc)
    (hpf : s.pos.frc = t.pos.frc) (toks : List (List Char)) :
    ((doPosition ar s toks).map fun r => (r.1.pos, r.1.hist, r.2)) =
      ((doPosition ar t toks).map fun r => (r.1.pos, r.1.hist, r.2)) := by
  rw [doPosition_eq, doPosition_eq, Option.map_map, Option.map_map, hpf]
  simp only [Function.comp_def, hf]

/-- the same on the state machine: for two reachable states with the same `UCI_Chess960` value, a `position`
line yields the same position, history, output (or panics alike); the tables may differ. -/
theorem C16_position_line (ar : Arith) (clock : Nat → Bool) (s t : UState) (hs : UInv s) (ht : UInv t)
    (hf : s.frc = t.frc) (L : List Char) (hL : cmdOf L = str "position") :
    ((stepSecond ar clock s L).map fun r => (r.1.pos, r.1.hist, r.2)) =
      ((stepSecond ar clock t L).map fun r => (r.1.pos, r.1.hist, r.2)) := by
  rw [stepSecond_position ar clock s L hL, stepSecond_position ar clock t L hL]
  have := congrArg (Option.map fun x : Position × List BB × List String => (x.1, x.2.1, x.2.2, false))
    (C16_position_determines_pos_hist ar s t hf (by rw [hs.frc, ht.frc, hf]) (argsOf L))
  simp only [Option.map_map] at this ⊢
  exact this

/-- `UInv` holds when the second loop starts … -/
theorem afterFirst_inv {lines : List (List Char)} {r : UState × Bool × List (List Char)}
    (h : afterFirst lines = some r) : UInv r.1 := by
  unfold afterFirst at h
  rw [Option.map_eq_some_iff] at h
  obtain ⟨r0, h0, e⟩ := h
  subst e
  exact ⟨Table.len_resize _ _ _,
    (firstLoop_inv (fun s => s.pos.frc = s.frc) (fun _ _ h => doSetoption_frc h _ _) lines initState _ _ _ rfl h0).1⟩

/-- … and in every state the process `listen` goes through (`listen_eq`: `listen` = banner, first loop,
`steps` from `afterFirst`). -/
theorem listen_state_inv (ar : Arith) (clock : Nat → Bool) {lines pre : List (List Char)}
    {s0 : UState} {r0 : Bool} {rest : List (List Char)} (h : afterFirst lines = some (s0, r0, rest))
    {s : UState} {o : List String} {q : Bool} (hs : steps ar clock s0 pre = some (s, o, q)) : UInv s :=
  steps_inv (afterFirst_inv h) hs

/-- the options set in the first loop. -/
def applyOpts (opts : List (List Char)) (s : UState) : UState :=
  opts.foldl (fun s l => doSetoption s (argsOf l) false) s

/-- the state of a fresh process that has read the `setoption` lines `opts` and then `isready`. -/
def started (opts : List (List Char)) : UState :=
  let s := applyOpts opts initState
  { s with tt := s.tt.resize s.hashMb Gen.ttEntrySize }

theorem firstLoop_opts (opts : List (List Char)) (R : List Char) (rest : List (List Char)) (s : UState)
    (hopts : ∀ l ∈ opts, cmdOf l = str "setoption") (hR : cmdOf R = str "isready") :
    firstLoop (opts ++ R :: rest) s = some (applyOpts opts s, true, rest) := by
  induction opts generalizing s with
  | nil => exact firstLoop_cons_isready hR rest s
  | cons l ls ih =>
    rw [List.cons_append, firstLoop_cons_setoption (hopts l List.mem_cons_self),
      ih _ (fun x hx => hopts x (List.mem_cons_of_mem _ hx))]
    rfl

theorem afterFirst_opts (opts : List (List Char)) (R : List Char) (rest : List (List Char))
    (hopts : ∀ l ∈ opts, cmdOf l = str "setoption") (hR : cmdOf R = str "isready") :
    afterFirst (opts ++ R :: rest) = some (started opts, true, rest) := by
  unfold afterFirst
  rw [firstLoop_opts opts R rest _ hopts hR]
  rfl

/-- **C16, process form.** An engine that was configured by `opts`, answered `isready`, and then executed ANY
lines `mid` (without quitting or panicking) produces, from `ucinewgame; L; qs` on, exactly the output `tail`
that a freshly started engine with the same option values (configured by `opts'`) produces for
`ucinewgame; L; qs` — including whether it panics (`tail = none`). -/
theorem C16_fresh_process (ar : Arith) (clock : Nat → Bool) (opts opts' mid qs : List (List Char))
    (R R' N L : List Char)
    (hopts : ∀ l ∈ opts, cmdOf l = str "setoption") (hopts' : ∀ l ∈ opts', cmdOf l = str "setoption")
    (hR : cmdOf R = str "isready") (hR' : cmdOf R' = str "isready") (hN : cmdOf N = str "ucinewgame")
    (s2 : UState) (o2 : List String) (hmid : steps ar clock (started opts) mid = some (s2, o2, false))
    (hsame : (started opts').hashMb = s2.hashMb ∧ (started opts').frc = s2.frc) :
    ∃ tail : Option (List String),
      listen ar clock (opts ++ R :: (mid ++ N :: L :: qs)) =
        tail.map (fun t => banner false 16 ++ ["readyok"] ++ o2 ++ t) ∧
      listen ar clock (opts' ++ R' :: N :: L :: qs) =
        tail.map (fun t => banner false 16 ++ ["readyok"] ++ t) := by
  refine ⟨(steps ar clock s2 (N :: L :: qs)).map (·.2.1), ?_, ?_⟩
  · rw [listen_eq, afterFirst_opts opts R _ hopts hR]
    simp only [if_true]
    rw [steps_append, hmid]
    simp only [Option.map_map]
    cases steps ar clock s2 (N :: L :: qs) with
    | none => rfl
    | some r => simp [List.append_assoc]
  · rw [listen_eq, afterFirst_opts opts' R' _ hopts' hR']
    simp only [if_true]
    have i1 : UInv (started opts') := afterFirst_inv (afterFirst_opts opts' R' [] hopts' hR')
    have i2 : UInv s2 := steps_inv (afterFirst_inv (afterFirst_opts opts R [] hopts hR)) hmid
    rw [C16_newgame_steps_eq ar clock (started opts') s2 i1 i2 hsame.1 hsame.2 N hN (L :: qs)]
    simp only [Option.map_map]
    rfl

namespace C16Ex

/-- a "dirty" reachable-looking state: Black to move, odd counters, three history keys. -/
def dirty : UState :=
  { hashMb := 0, frc := false, pos := { Gen.startpos with black := true, halfmoves := 7 },
    hist := [1#64, 2#64, 3#64], tt := ⟨#[]⟩ }

theorem dirty_inv : UInv dirty := ⟨by decide, rfl⟩

def nl : List Char := str "ucinewgame"
def pl : List Char := str "position startpos moves e2e4 e7e5"

/-- the two runs of item 1 exist (neither panics) and, by the theorem, agree; the output of the later queries
(`history`, `go perft 1`) is non-trivial. -/
example : ∃ s2 o, steps .trap (fun _ => false) dirty [nl, pl, str "history", str "go perft 1"] = some (s2, o, false) ∧
    steps .trap (fun _ => false) (fresh 0 false) [nl, pl, str "history", str "go perft 1"] = some (s2, o, false) ∧
    o.length = 5 ∧ s2.hist.length = 3 := by
  have h : ((steps .trap (fun _ => false) dirty [nl, pl, str "history", str "go perft 1"]).map fun r =>
      (r.2.1.length, r.1.hist.length, r.2.2)) = some (5, 3, false) := by decide +kernel
  obtain ⟨⟨s2, o, q⟩, h1, h2⟩ := Option.map_eq_some_iff.1 h
  simp only [Prod.mk.injEq] at h2
  obtain ⟨a, b, rfl⟩ := h2
  refine ⟨s2, o, h1, ?_, a, b⟩
  have e := C16_newgame_position_steps .trap (fun _ => false) dirty dirty_inv nl pl (by decide)
    [str "history", str "go perft 1"]
  exact e ▸ h1

/-- the table part on a small generic table: four dirty slots, cleared = new table of four slots. -/
example : (⟨#[1, 2, 3, 4]⟩ : Table Nat).clear = Table.new 1 262144 :=
  Table.clear_eq_new _ _ _ (by decide)

/-- item 2: from the dirty state and from the fresh one a `position` line gives the same position and history
(here: three keys), without `ucinewgame`. -/
example : ((stepSecond .wrap (fun _ => false) dirty pl).map fun r => (r.1.pos, r.1.hist, r.2)) =
    ((stepSecond .wrap (fun _ => false) (fresh 0 false) pl).map fun r => (r.1.pos, r.1.hist, r.2)) ∧
    ((stepSecond .wrap (fun _ => false) dirty pl).map fun r => r.1.hist.length) = some 3 :=
  ⟨C16_position_line .wrap _ dirty (fresh 0 false) dirty_inv (fresh_inv _ _) rfl pl (by decide), by decide +kernel⟩

/-- item 3: the hypotheses of `C16_fresh_process` are satisfiable: a process that answered `isready`, then played
through `position … moves`, `go perft 1`, `moves` (no option changed, so `opts' = []` gives the same values). -/
example : ∃ s2 o2, steps .trap (fun _ => false) (started [])
      [str "position startpos moves e2e4", str "go perft 1", str "moves e7e5 zz"] = some (s2, o2, false) ∧
    (started []).hashMb = s2.hashMb ∧ (started []).frc = s2.frc ∧ o2.length = 3 := by
  have h : ((steps .trap (fun _ => false) (started [])
      [str "position startpos moves e2e4", str "go perft 1", str "moves e7e5 zz"]).map fun r =>
      (r.1.hashMb, r.1.frc, r.2.1.length, r.2.2)) = some (16, false, 3, false) := by decide +kernel
  obtain ⟨⟨s2, o, q⟩, h1, h2⟩ := Option.map_eq_some_iff.1 h
  simp only [Prod.mk.injEq] at h2
  obtain ⟨a, b, c, rfl⟩ := h2
  exact ⟨s2, o, h1, a.symm, b.symm, c⟩

end C16Ex

#print axioms C16_newgame_resets
#print axioms C16_newgame_position_steps
#print axioms C16_newgame_position_determines_state
#print axioms C16_later_outputs_equal
#print axioms C16_position_determines_pos_hist
#print axioms C16_position_line
#print axioms listen_state_inv
#print axioms C16_fresh_process
end Rawr
