import Rawr.Proofs.GenCastle
/-!
# C01, king classes: king steps and castling

`moveGenerator p` tags every move with the moving piece; king moves carry tag 5. A king-tagged move is
either a king step (target not an own piece) or a castling move (encoded "king takes own rook").

* `C01_king_steps`: for a position of the domain (`ValidPos`), the generated king steps are exactly the
  legal king moves of `Spec.legalMoves (abs p)`: the target is a king's move away, not occupied by an own
  piece, and the king is not attacked there on the board after the move. The proof (`Att.king_steps_core`)
  goes through `Att.isSafe_lift` (`is_safe` on the occupancy with the king lifted = not attacked with the king
  lifted) and the fact that what stands on the target square (a captured piece, or the king itself after the
  move) does not influence whether that square is attacked.
* `C01_castleOk`: the generator's castling test `castleOk` (right, not in check, castling rook not
  `hpinned`, path empty apart from king and rook, king path not attacked) *equals*
  `Spec.castleLegal (abs p) ks` — including the `hpinned` clause: under the other conditions the rook
  is horizontally pinned iff the king is attacked on its target square on the castled board
  (`Proofs/GenCastle.lean`).
* `C01_castling`: the generated king-tagged moves onto an own piece ("king takes own rook") are exactly
  the legal castlings; `C01_castling_moves` says the same through `decodeMove` / `Spec.legalMoves`.
* The literal reading "`gm 5 ksq rookSq 6` is generated iff `castleLegal`" is FALSE when the right is
  absent: `rookSq` is then an arbitrary back-rank square (`cf0 = 7` by default) and an ordinary king step
  may go there (`C01_castling_literal_false`). That is why the castling class is delimited by
  `p.c0.isSet dst`, as in `decodeMove`.
-/
namespace Rawr
open Spec Att

/-- C01, king steps: generated (non-castling) king moves = legal king moves of the rules. -/
theorem C01_king_steps (p : Position) (hV : ValidPos p = true) : ∀ to : Nat,
    (gm 5 (prelude p).ksq to 6 ∈ moveGenerator p ∧ ¬ p.c0.isSet to = true) ↔
      Spec.Move.normal (absSq p.black (prelude p).ksq) (absSq p.black to) none
        ∈ Spec.legalMoves (abs p) := by
  intro to
  rw [prelude_ksq]
  exact (king_steps_core hV to).trans (legal_frame hV (.normal _ to none)).symm

/-- the same, quantified over the absolute target and the promotion field: every legal move that starts
on the king's square is a generated king step (and has no promotion piece). -/
theorem C01_king_steps_abs (p : Position) (hV : ValidPos p = true) (b : Nat) (pr : Option Kind) :
    Spec.Move.normal (absSq p.black (prelude p).ksq) b pr ∈ Spec.legalMoves (abs p) ↔
      pr = none ∧ gm 5 (prelude p).ksq (absSq p.black b) 6 ∈ moveGenerator p ∧
        ¬ p.c0.isSet (absSq p.black b) = true := by
  have F := kingFacts hV
  rw [prelude_ksq] at *
  have hfr := legal_frame hV (.normal (lsb (p.p5 &&& p.c0)) (absSq p.black b) none)
  simp only [frameMove, absSq_absSq] at hfr
  constructor
  · intro h
    obtain rfl := promo_none_of_piece (kd := .king) nofun F.rel h
    exact ⟨rfl, (king_steps_core hV (absSq p.black b)).mpr (hfr.mp h)⟩
  · rintro ⟨rfl, h⟩
    exact hfr.mpr ((king_steps_core hV (absSq p.black b)).mp h)

/-- white Kg1 Rf1 Nf3 pawns g2 h2; black Kg8 Qd4 (checking on the diagonal d4–g1) Bb7 pawn f7;
White to move. The king may go to h1 but not to f2. -/
def kingPos : Position :=
  let q : Position :=
    { Position.dflt with
      c0 := (bit 6 ||| bit 5 ||| bit 14 ||| bit 15 ||| bit 21),
      c1 := (bit 62 ||| bit 27 ||| bit 49 ||| bit 53),
      p0 := (bit 14 ||| bit 15 ||| bit 53), p1 := bit 21, p2 := bit 49, p3 := bit 5, p4 := bit 27,
      p5 := (bit 6 ||| bit 62) }
  { q with hash := q.calculateHash }

/-- the castling rook's square of side `ks` (king side = `true`), mover-relative. -/
def castleRookSq (p : Position) (ks : Bool) : Nat := fromCoords (if ks then p.cf0 else p.cf1) 0

theorem castleRookSq_eq (p : Position) (ks : Bool) : castleRookSq p ks = fromCoords (VB.rightFile p false ks) 0 := by
  cases ks <;> rfl

/-- C01, castling class: the generator's test is the rule. -/
theorem C01_castleOk (p : Position) (hV : ValidPos p = true) (ks : Bool) :
    castleOk p (prelude p) (VB.hasRight p false ks) (fromCoords (VB.rightFile p false ks) 0) (kTo ks) (rTo ks)
      = Spec.castleLegal (abs p) ks :=
  (castleOk_eq_castleLegal hV ks).trans (castleLegal_frame hV ks).symm

/-- C01, castling class: a king-tagged move onto an own piece is generated iff it is the castling move
of a side for which `Spec.castleLegal` holds. -/
theorem C01_castling (p : Position) (hV : ValidPos p = true) (to : Nat) :
    (gm 5 (prelude p).ksq to 6 ∈ moveGenerator p ∧ p.c0.isSet to = true) ↔
      ∃ ks, to = castleRookSq p ks ∧ Spec.castleLegal (abs p) ks = true := by
  rw [mem_gen_king]
  simp only [C01_castleOk p hV, castleRookSq_eq]
  constructor
  · rintro ⟨h | ⟨ks, hl, _, rfl⟩, hown⟩
    · exfalso
      rw [prelude_ksq] at h
      have := ((mem_kingTargetsSafe p _ (kingFacts hV).k64 to).mp h.2).2.2.1
      unfold BB.isSet at hown
      rw [this] at hown; cases hown
    · exact ⟨ks, rfl, hl⟩
  · rintro ⟨ks, rfl, hl⟩
    exact ⟨Or.inr ⟨ks, hl, trivial, rfl⟩,
      (rook_of_right hV ks (castleOk_right ((C01_castleOk p hV ks).trans hl))).1⟩

theorem decode_castleRook {p : Position} (hV : ValidPos p = true) (ks : Bool)
    (hl : Spec.castleLegal (abs p) ks = true) :
    p.c0.isSet (castleRookSq p ks) = true ∧
      decodeMove p ⟨(prelude p).ksq, castleRookSq p ks, 6⟩ = Spec.Move.castle ks := by
  rw [castleRookSq_eq]
  have hr : VB.hasRight p false ks = true := castleOk_right ((C01_castleOk p hV ks).trans hl)
  have hown : p.c0.isSet (fromCoords (VB.rightFile p false ks) 0) = true := (rook_of_right hV ks hr).1
  refine ⟨hown, ?_⟩
  unfold decodeMove
  simp only [hown, if_true]
  congr 1
  have hside := (castleFacts hV ks hr).side
  rw [prelude_ksq]
  unfold VB.rightFile at *
  cases ks
  · simp only [Bool.false_eq_true, if_false, fromCoords_zero] at hside ⊢
    simp only [decide_eq_false_iff_not]; omega
  · simp only [if_true, fromCoords_zero] at hside ⊢
    simp only [decide_eq_true_eq]; omega

/-- the castling moves through the move decoding: generated "king takes own rook" moves decode to the
legal `Move.castle`s of the rules, side for side. -/
theorem C01_castling_moves (p : Position) (hV : ValidPos p = true) (to : Nat) :
    (gm 5 (prelude p).ksq to 6 ∈ moveGenerator p ∧ p.c0.isSet to = true) ↔
      ∃ ks, to = castleRookSq p ks ∧ decodeMove p ⟨(prelude p).ksq, to, 6⟩ = Spec.Move.castle ks ∧
        Spec.Move.castle ks ∈ Spec.legalMoves (abs p) := by
  rw [C01_castling p hV to]
  constructor
  · rintro ⟨ks, rfl, hl⟩
    exact ⟨ks, rfl, (decode_castleRook hV ks hl).2, (mem_legal_castle _ _).mpr hl⟩
  · rintro ⟨ks, rfl, _, hl⟩
    exact ⟨ks, rfl, (mem_legal_castle _ _).mp hl⟩

theorem kingPos_valid : ValidPos kingPos = true := by decide +kernel

/-- the literal reading without the "onto an own piece" clause is false: in `kingPos` no right is
present, `cf0 = 7`, and the king step g1–h1 is the generated move `gm 5 6 7 6`. -/
theorem C01_castling_literal_false :
    ValidPos kingPos = true ∧
    gm 5 (prelude kingPos).ksq (castleRookSq kingPos true) 6 ∈ moveGenerator kingPos ∧
    Spec.castleLegal (abs kingPos) true = false :=
  ⟨kingPos_valid, by decide +kernel⟩

/-- non-vacuity for castling: white Ke1 Ra1 Rh1, black Ke8 Rb8 (attacks b1 only: queen-side castling
stays legal), both rights. -/
def castlePos : Position :=
  let q : Position :=
    { Position.dflt with
      c0 := (bit 4 ||| bit 0 ||| bit 7), c1 := (bit 60 ||| bit 57),
      p3 := (bit 0 ||| bit 7 ||| bit 57), p5 := (bit 4 ||| bit 60),
      usK := true, usQ := true, cf0 := 7, cf1 := 0 }
  { q with hash := q.calculateHash }

theorem castlePos_dom : ValidPos castlePos = true ∧ Spec.EpConsistent (abs castlePos) = true := by
  decide +kernel

example : ValidPos castlePos = true := castlePos_dom.1
example : Spec.castleLegal (abs castlePos) true = true ∧ Spec.castleLegal (abs castlePos) false = true ∧
    gm 5 4 7 6 ∈ moveGenerator castlePos ∧ gm 5 4 0 6 ∈ moveGenerator castlePos := by decide +kernel

/-- the `hpinned` clause at work (Chess960): white Kd1 (3), castling rook b1 (1), black Ra1 (0), black
Ke8. Every other condition of queen-side castling holds (c1, d1 are not attacked: the rook on b1
shields them), but after castling (Kc1, Rd1) the king would be attacked from a1. -/
def pinPos : Position :=
  let q : Position :=
    { Position.dflt with
      c0 := (bit 3 ||| bit 1), c1 := (bit 60 ||| bit 0),
      p3 := (bit 1 ||| bit 0), p5 := (bit 3 ||| bit 60),
      usQ := true, cf1 := 1 }
  { q with hash := q.calculateHash }

example : ValidPos pinPos = true := by decide +kernel
example : (prelude pinPos).hpinned.isSet 1 = true ∧ Spec.castleLegal (abs pinPos) false = false ∧
    gm 5 3 1 6 ∉ moveGenerator pinPos := by decide +kernel

example : ValidPos kingPos = true := kingPos_valid
example : (prelude kingPos).ksq = 6 ∧ gm 5 6 7 6 ∈ moveGenerator kingPos ∧
    gm 5 6 13 6 ∉ moveGenerator kingPos := by decide +kernel
/-- the colour-swapped position, Black to move (same relative boards, mirrored absolute board): the
frame change is exercised; g8–h8 is legal, g8–f7 is not. -/
def kingPosB : Position :=
  let q : Position := { kingPos with black := true }
  { q with hash := q.calculateHash }

example : ValidPos kingPosB = true := by decide +kernel
example : gm 5 6 7 6 ∈ moveGenerator kingPosB ∧
    Spec.Move.normal 62 63 none ∈ Spec.legalMoves (abs kingPosB) ∧
    Spec.Move.normal 62 53 none ∉ Spec.legalMoves (abs kingPosB) := by decide +kernel

#print axioms C01_king_steps
#print axioms C01_king_steps_abs
#print axioms C01_castleOk
#print axioms C01_castling
#print axioms C01_castling_moves
#print axioms C01_castling_literal_false

end Rawr
