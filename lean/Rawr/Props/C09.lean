import Rawr.Proofs.GenShapeUci
import Rawr.Model.Uci
/-!
# C09 — move notation (`Mv::to_uci`, src/uci/mv.rs; `Square::fmt`, src/chess/square.rs; src/uci/moves.rs)

For a valid position `p` and `m ∈ legalMoves p`:
* `C09_format`: the printed string is source square, printed destination `uciDst p m`, promotion letter; the
  printed destination is `m.dst` except for a castling move (king takes own rook) without `UCI_Chess960`,
  where it is the king's target g1 / c1 in the mover's frame; `C09_castle_iff` says which moves these are;
  `C09_sqName` is the 64-row table "file letter, rank digit".
* `C09_injective_frc`, `C09_injective_std`: two legal moves with the same string are equal.
* `C09_roundtrip`: the move parser (`applyToken`) fed with the printed string plays the same move.
-/
namespace Rawr
open Rawr.Position Rawr.Spec Rawr.ZH

theorem legal_genOk {p : Position} (hV : ValidPos p = true) {m : Mv} (hm : m ∈ legalMoves p) :
    ∃ g, GenOk p g ∧ g.mv = m := by
  unfold legalMoves at hm
  rw [List.mem_map] at hm
  obtain ⟨g, hg, e⟩ := hm
  exact ⟨g, gen_shape p hV g hg, e⟩

/-- `Square::fmt`: file letter, then rank digit. -/
theorem C09_sqName : ∀ s : Fin 64, sqName s.val =
    [['a','b','c','d','e','f','g','h'].getD (s.val % 8) ' ', ['1','2','3','4','5','6','7','8'].getD (s.val / 8) ' '] := by
  decide

/-- `Mv::to_uci` of a legal move: source, printed destination, promotion letter (absolute squares). -/
theorem C09_format (p : Position) (hV : ValidPos p = true) (m : Mv) (hm : m ∈ legalMoves p) :
    toUciChars p m = sqName (absSq p.black m.src) ++ sqName (absSq p.black (uciDst p m)) ++ promoChars m.promo := by
  obtain ⟨g, hg, rfl⟩ := legal_genOk hV hm
  exact toUci_format hg

theorem C09_ranges (p : Position) (hV : ValidPos p = true) (m : Mv) (hm : m ∈ legalMoves p) :
    m.src < 64 ∧ m.dst < 64 ∧ uciDst p m < 64 ∧ (m.promo = 6 ∨ m.promo = 1 ∨ m.promo = 2 ∨ m.promo = 3 ∨ m.promo = 4) := by
  obtain ⟨g, hg, rfl⟩ := legal_genOk hV hm
  exact ⟨hg.src_lt, hg.dst_lt, uciDst_lt hg, hg.promo_mem⟩

/-- the legal moves whose destination holds an own piece are exactly the encodings of castling with a
present right (king takes that right's rook). -/
theorem C09_castle_iff (p : Position) (hV : ValidPos p = true) (m : Mv) (hm : m ∈ legalMoves p) :
    p.c0.isSet m.dst = true ↔
      ((p.usK = true ∧ m = encodeMove p (.castle true)) ∨ (p.usQ = true ∧ m = encodeMove p (.castle false))) := by
  have F := vfacts_of_valid hV
  obtain ⟨g, hg, rfl⟩ := legal_genOk hV hm
  -- king takes the rook of the right, no promotion: that is the encoding of castling on that side
  have enc : ∀ ks : Bool, g.mv.src = lsb (p.p5 &&& p.c0) → g.mv.dst = fromCoords (if ks then p.cf0 else p.cf1) 0 →
      g.mv.promo = 6 → g.mv = encodeMove p (.castle ks) := by
    intro ks hs hdst hp6
    cases hmv : g.mv
    rw [hmv] at hs hdst hp6
    simp only at hs hdst hp6
    simp [encodeMove, hs, hdst, hp6]
  have own : ∀ ks : Bool, (p.c0 &&& p.p3).getLsbD (if ks then p.cf0 else p.cf1) = true →
      p.c0.isSet (encodeMove p (.castle ks)).dst = true := by
    intro ks h
    rw [BitVec.getLsbD_and, Bool.and_eq_true] at h
    simpa [encodeMove, fromCoords, BB.isSet] using h.1
  constructor
  · intro hd
    obtain ⟨h5, hK | hQ⟩ := hg.dst_own hd
    · exact Or.inl ⟨hK.1, enc true hK.2.1 hK.2.2.1 (promo6_of_not_pawn hg (by pomega))⟩
    · exact Or.inr ⟨hQ.1, enc false hQ.2.1 hQ.2.2.1 (promo6_of_not_pawn hg (by pomega))⟩
  · rintro (⟨hu, e⟩ | ⟨hu, e⟩)
    · rw [e]
      exact own true (F.rK hu).2.1
    · rw [e]
      exact own false (F.rQ hu).2.1

theorem C09_uciDst (p : Position) (m : Mv) :
    uciDst p m = if p.c0.isSet m.dst && !p.frc then (if m.dst > m.src then 6 else 2) else m.dst := by
  unfold uciDst decodeMove
  cases p.c0.isSet m.dst <;> cases p.frc <;> simp

theorem uci_eq_parts {p : Position} {g₁ g₂ : GMv} (h₁ : GenOk p g₁) (h₂ : GenOk p g₂)
    (h : toUciChars p g₁.mv = toUciChars p g₂.mv) :
    g₁.mv.src = g₂.mv.src ∧ uciDst p g₁.mv = uciDst p g₂.mv ∧ g₁.mv.promo = g₂.mv.promo := by
  rw [toUci_format h₁, toUci_format h₂] at h
  obtain ⟨e1, e2, e3⟩ := uci_parts_inj (absSq_lt _ h₁.src_lt) (absSq_lt _ (uciDst_lt h₁)) (absSq_lt _ h₂.src_lt)
    (absSq_lt _ (uciDst_lt h₂)) h₁.promo_mem h₂.promo_mem h
  exact ⟨absSq_inj _ e1, absSq_inj _ e2, e3⟩

theorem mv_ext {a b : Mv} (h1 : a.src = b.src) (h2 : a.dst = b.dst) (h3 : a.promo = b.promo) : a = b := by
  cases a; cases b; simp only at h1 h2 h3; rw [h1, h2, h3]

/-- with `UCI_Chess960` on (castling printed as king takes rook) the notation is injective on legal moves. -/
theorem C09_injective_frc (p : Position) (hV : ValidPos p = true) (hf : p.frc = true) (m₁ m₂ : Mv)
    (hm₁ : m₁ ∈ legalMoves p) (hm₂ : m₂ ∈ legalMoves p) (h : toUciChars p m₁ = toUciChars p m₂) : m₁ = m₂ := by
  obtain ⟨g₁, h₁, rfl⟩ := legal_genOk hV hm₁
  obtain ⟨g₂, h₂, rfl⟩ := legal_genOk hV hm₂
  obtain ⟨e1, e2, e3⟩ := uci_eq_parts h₁ h₂ h
  have d1 : uciDst p g₁.mv = g₁.mv.dst := by
    rcases uciDst_cases h₁ with ⟨_, e⟩ | ⟨_, _, e⟩ | ⟨_, _, e⟩ <;> rw [e] <;> simp [hf]
  have d2 : uciDst p g₂.mv = g₂.mv.dst := by
    rcases uciDst_cases h₂ with ⟨_, e⟩ | ⟨_, _, e⟩ | ⟨_, _, e⟩ <;> rw [e] <;> simp [hf]
  rw [d1, d2] at e2
  exact mv_ext e1 e2 e3

/-- a non-castling legal move from the king's square e1 does not go to g1 or c1. -/
theorem king_step_not_castle_target {p : Position} (F : VFacts p) {g : GMv} (h : GenOk p g)
    (hs : g.mv.src = lsb (p.p5 &&& p.c0)) (h4 : lsb (p.p5 &&& p.c0) = 4) (hd : p.c0.isSet g.mv.dst = false) :
    g.mv.dst ≠ 6 ∧ g.mv.dst ≠ 2 := by
  have hk5 := (Att.kingFacts_of F).p5
  have ht := h.tag
  rw [hs, pieceOn_of_bit (k := 5) F.cons hk5] at ht
  have h5 : g.piece = 5 := (Option.some.inj ht).symm
  have := h.king h5 hd
  rw [hs, h4] at this
  exact adj_e1 ⟨g.mv.dst, h.dst_lt⟩ this

/-- without `UCI_Chess960`, in the conventional castling geometry, the notation is injective on legal moves. -/
theorem C09_injective_std (p : Position) (hV : ValidPos p = true) (hf : p.frc = false)
    (hS : StandardGeometry p) (m₁ m₂ : Mv)
    (hm₁ : m₁ ∈ legalMoves p) (hm₂ : m₂ ∈ legalMoves p) (h : toUciChars p m₁ = toUciChars p m₂) : m₁ = m₂ := by
  have F := vfacts_of_valid hV
  obtain ⟨g₁, h₁, rfl⟩ := legal_genOk hV hm₁
  obtain ⟨g₂, h₂, rfl⟩ := legal_genOk hV hm₂
  obtain ⟨e1, e2, e3⟩ := uci_eq_parts h₁ h₂ h
  rcases uciDst_cases h₁ with ⟨c1, d1⟩ | ⟨_, K1, d1⟩ | ⟨_, Q1, d1⟩ <;>
    rcases uciDst_cases h₂ with ⟨c2, d2⟩ | ⟨_, K2, d2⟩ | ⟨_, Q2, d2⟩ <;>
    (try simp only [hf, Bool.false_eq_true, if_false] at d1) <;>
    (try simp only [hf, Bool.false_eq_true, if_false] at d2) <;> rw [d1, d2] at e2
  · exact mv_ext e1 e2 e3
  · have := king_step_not_castle_target F h₁ (by rw [e1]; exact K2.2.1) (hS.1 K2.1).1 c1
    omega
  · have := king_step_not_castle_target F h₁ (by rw [e1]; exact Q2.2.1) (hS.2 Q2.1).1 c1
    omega
  · have := king_step_not_castle_target F h₂ (by rw [← e1]; exact K1.2.1) (hS.1 K1.1).1 c2
    omega
  · exact mv_ext e1 (by rw [K1.2.2.1, K2.2.2.1]) e3
  · omega
  · have := king_step_not_castle_target F h₂ (by rw [← e1]; exact Q1.2.1) (hS.2 Q1.1).1 c2
    omega
  · omega
  · exact mv_ext e1 (by rw [Q1.2.2.1, Q2.2.2.1]) e3

theorem C09_injective (p : Position) (hV : ValidPos p = true) (hg : p.frc = true ∨ StandardGeometry p)
    (m₁ m₂ : Mv) (hm₁ : m₁ ∈ legalMoves p) (hm₂ : m₂ ∈ legalMoves p)
    (h : toUciChars p m₁ = toUciChars p m₂) : m₁ = m₂ := by
  cases hf : p.frc
  · rcases hg with hg | hg
    · rw [hf] at hg; cases hg
    · exact C09_injective_std p hV hf hg m₁ m₂ hm₁ hm₂ h
  · exact C09_injective_frc p hV hf m₁ m₂ hm₁ hm₂ h

/-- `uci::moves` applied to the printed form of a legal move plays exactly that move. -/
theorem C09_roundtrip (p : Position) (hV : ValidPos p = true) (hg : p.frc = true ∨ StandardGeometry p)
    (hist : List BB) (m : Mv) (hm : m ∈ legalMoves p) :
    applyToken p hist (toUciChars p m) = (p.makemove m true).map (fun q => (q, q.hash :: hist, [])) := by
  have hfind : (legalMoves p).find? (fun m' => toUciChars p m' == toUciChars p m) = some m :=
    find?_unique hm (by simp) (fun x hx hq => C09_injective p hV hg x m hx hm (by simpa using hq))
  unfold applyToken
  simp only [hfind]
  cases p.makemove m true <;> rfl

/-- a position given by its boards, key recomputed. -/
def c09Pos (c0 c1 p0 p1 p2 p3 p4 p5 : BB) (black : Bool) (uK uQ : Bool) (cf0 cf1 : Nat) (frc : Bool) : Position :=
  let p : Position :=
    { c0 := c0, c1 := c1, p0 := p0, p1 := p1, p2 := p2, p3 := p3, p4 := p4, p5 := p5,
      halfmoves := 0, fullmoves := 1, black := black, ep := none,
      usK := uK, usQ := uQ, themK := false, themQ := false, cf0 := cf0, cf1 := cf1, cf2 := 7, cf3 := 0,
      hash := 0#64, frc := frc }
  { p with hash := p.calculateHash }

/-- White: Ke1, pawn b7; Black: Ke8, Ra8, Rc8. -/
def c09Promo : Position :=
  c09Pos 0x0002000000000010#64 0x1500000000000000#64 0x0002000000000000#64 0 0 0x0500000000000000#64 0
    0x1000000000000010#64 false false false 7 0 false
/-- Chess960, `UCI_Chess960` on: White Kb1, Ra1 with the queen-side right; Black Ke8. -/
def c09Frc : Position :=
  c09Pos 0x3#64 0x1000000000000000#64 0 0 0 0x1#64 0 0x1000000000000002#64 false false true 7 0 true
/-- standard: White Ke1, Rh1, Ra1 with both rights; Black Ke8; `UCI_Chess960` off. -/
def c09Std : Position :=
  c09Pos 0x91#64 0x1000000000000000#64 0 0 0 0x81#64 0 0x1000000000000010#64 false true true 7 0 false
/-- the same with Black to move (mover-relative boards are the same; printed on ranks 8). -/
def c09StdBlack : Position :=
  c09Pos 0x91#64 0x1000000000000000#64 0 0 0 0x81#64 0 0x1000000000000010#64 true true true 7 0 false

theorem c09Promo_facts : ValidPos c09Promo = true ∧ (⟨49, 56, 4⟩ : Mv) ∈ legalMoves c09Promo ∧
    toUciChars c09Promo ⟨49, 56, 4⟩ = "b7a8q".toList ∧ toUciChars c09Promo ⟨49, 57, 1⟩ = "b7b8n".toList := by
  decide +kernel
theorem c09Frc_facts : ValidPos c09Frc = true ∧ c09Frc.frc = true ∧ (⟨1, 0, 6⟩ : Mv) ∈ legalMoves c09Frc ∧
    toUciChars c09Frc ⟨1, 0, 6⟩ = "b1a1".toList := by decide +kernel
theorem c09Std_facts : ValidPos c09Std = true ∧ c09Std.frc = false ∧ StandardGeometry c09Std ∧
    (⟨4, 7, 6⟩ : Mv) ∈ legalMoves c09Std ∧ (⟨4, 0, 6⟩ : Mv) ∈ legalMoves c09Std ∧
    toUciChars c09Std ⟨4, 7, 6⟩ = "e1g1".toList ∧ toUciChars c09Std ⟨4, 0, 6⟩ = "e1c1".toList := by
  decide +kernel

example : ValidPos c09Promo = true ∧ (⟨49, 56, 4⟩ : Mv) ∈ legalMoves c09Promo ∧
    toUciChars c09Promo ⟨49, 56, 4⟩ = "b7a8q".toList ∧ toUciChars c09Promo ⟨49, 57, 1⟩ = "b7b8n".toList :=
  c09Promo_facts
example : ValidPos c09Frc = true ∧ c09Frc.frc = true ∧ (⟨1, 0, 6⟩ : Mv) ∈ legalMoves c09Frc ∧
    toUciChars c09Frc ⟨1, 0, 6⟩ = "b1a1".toList := c09Frc_facts
example : ValidPos c09Std = true ∧ c09Std.frc = false ∧ StandardGeometry c09Std ∧
    (⟨4, 7, 6⟩ : Mv) ∈ legalMoves c09Std ∧ (⟨4, 0, 6⟩ : Mv) ∈ legalMoves c09Std ∧
    toUciChars c09Std ⟨4, 7, 6⟩ = "e1g1".toList ∧ toUciChars c09Std ⟨4, 0, 6⟩ = "e1c1".toList :=
  c09Std_facts
example : ValidPos c09StdBlack = true ∧ StandardGeometry c09StdBlack ∧
    (⟨4, 7, 6⟩ : Mv) ∈ legalMoves c09StdBlack ∧ toUciChars c09StdBlack ⟨4, 7, 6⟩ = "e8g8".toList ∧
    toUciChars c09StdBlack ⟨0, 8, 6⟩ = "a8a7".toList := by
  decide +kernel
/-- the round trip instantiated: feeding "e1g1" back castles king-side. -/
example (hist : List BB) : applyToken c09Std hist "e1g1".toList
    = (c09Std.makemove ⟨4, 7, 6⟩ true).map (fun q => (q, q.hash :: hist, [])) :=
  c09Std_facts.2.2.2.2.2.1 ▸ C09_roundtrip c09Std c09Std_facts.1 (Or.inr c09Std_facts.2.2.1) hist ⟨4, 7, 6⟩ c09Std_facts.2.2.2.1
example (hist : List BB) : applyToken c09Frc hist "b1a1".toList
    = (c09Frc.makemove ⟨1, 0, 6⟩ true).map (fun q => (q, q.hash :: hist, [])) :=
  c09Frc_facts.2.2.2 ▸ C09_roundtrip c09Frc c09Frc_facts.1 (Or.inl rfl) hist ⟨1, 0, 6⟩ c09Frc_facts.2.2.1
/-- the geometry hypothesis of `C09_injective_std` cannot be dropped: Chess960 set-up Kf1, Rh1 with the
king-side right and `UCI_Chess960` off: the castling move (king f1 takes rook h1) is printed "f1g1", and so is
the king step f1g1; both are legal. (`applyToken` then selects the king step, the first match.) -/
def c09Clash : Position :=
  c09Pos 0xA0#64 0x1000000000000000#64 0 0 0 0x80#64 0 0x1000000000000020#64 false true false 7 0 false
theorem c09Clash_facts : ValidPos c09Clash = true ∧ (⟨5, 7, 6⟩ : Mv) ∈ legalMoves c09Clash ∧
    (⟨5, 6, 6⟩ : Mv) ∈ legalMoves c09Clash ∧ toUciChars c09Clash ⟨5, 7, 6⟩ = toUciChars c09Clash ⟨5, 6, 6⟩ := by
  decide +kernel
example : ValidPos c09Clash = true ∧ (⟨5, 7, 6⟩ : Mv) ∈ legalMoves c09Clash ∧ (⟨5, 6, 6⟩ : Mv) ∈ legalMoves c09Clash ∧
    toUciChars c09Clash ⟨5, 7, 6⟩ = toUciChars c09Clash ⟨5, 6, 6⟩ := c09Clash_facts

#print axioms C09_sqName
#print axioms C09_format
#print axioms C09_ranges
#print axioms C09_castle_iff
#print axioms C09_uciDst
#print axioms C09_injective_frc
#print axioms C09_injective_std
#print axioms C09_injective
#print axioms C09_roundtrip
end Rawr
