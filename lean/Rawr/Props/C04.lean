import Rawr.Proofs.HashKeys
import Rawr.Proofs.HashMove
import Rawr.Proofs.ValidReadings
import Rawr.Proofs.TestPositions
/-! # C04  Position key: incremental equals recomputed, and depends on the position only -/
namespace Rawr
open Position Spec ZH

/-! ## (d) the extracted key table -/

/-- All 781 keys of the extracted table (768 piece keys, 8 en-passant, 4 castling, 1 turn) are pairwise
distinct, non-zero and below `2^64`; hence so are the 781 `BB` keys of `genKeys`. Checked by kernel
evaluation of `bucketsOk 32 allKeysNat` over `Gen.zKeys`, `Gen.zKeysEp`, `Gen.zKeysCastling`, `Gen.zKeyTurn`. -/
theorem C04d_keys_distinct :
    (Gen.zKeys.size = 768 ∧ Gen.zKeysEp.size = 8 ∧ Gen.zKeysCastling.size = 4) ∧
    (allKeysNat.Nodup ∧ ∀ k ∈ allKeysNat, k ≠ 0 ∧ k < 2 ^ 64) ∧
    (genKeyList.Nodup ∧ (∀ k ∈ genKeyList, k ≠ 0#64) ∧ genKeyList.length = 781) :=
  ⟨keys_sizes, allKeysNat_ok, genKeyList_ok⟩

theorem C04d_startpos_key : Gen.startpos.hash = Gen.startpos.calculateHash := startpos_key

/-! ## (c) the recomputed key is a function of the absolute position only -/

/-- `calculate_hash` of a board-consistent engine position is the specification key of the absolute
position it denotes (for every key table). -/
theorem C04c_calc_eq_spec (K : ZKeys) (p : Position) (h : Consistent p) :
    calculateHashK K p = zobristAbs K (abs p) := calc_eq_spec K p h

/-- Two engine positions denoting the same placement, side to move, castling rights (as booleans) and
en-passant file have the same key: the move counters, the castle files, the rank of the en-passant
square and the stored key field play no role. -/
theorem C04c_position_only (K : ZKeys) (p q : Position) (hp : Consistent p) (hq : Consistent q)
    (hb : ∀ s, s < 64 → (abs p).board s = (abs q).board s)
    (ht : (abs p).whiteToMove = (abs q).whiteToMove)
    (hwK : (abs p).wK.isSome = (abs q).wK.isSome) (hwQ : (abs p).wQ.isSome = (abs q).wQ.isSome)
    (hbK : (abs p).bK.isSome = (abs q).bK.isSome) (hbQ : (abs p).bQ.isSome = (abs q).bQ.isSome)
    (hep : (abs p).ep.map (· % 8) = (abs q).ep.map (· % 8)) :
    calculateHashK K p = calculateHashK K q := by
  rw [calc_eq_spec K p hp, calc_eq_spec K q hq]
  exact zobristAbs_congr K _ _ hb ht hwK hwQ hbK hbQ hep

/-- Perspective: storing the same boards from the other side's point of view (`flip`, which also
passes the move) changes the key by exactly the turn key. No hypothesis on `p`. -/
theorem C04c_flip (K : ZKeys) (p : Position) :
    calculateHashK K p.flip = calculateHashK K p ^^^ K.turn := calc_flip K p

/-- non-vacuity: the start position is consistent; a copy with other counters, castle files and stored
key denotes the same (board, turn, rights, ep file) and is a different `Position`. -/
example : Consistent Gen.startpos = true := by decide
example :
    let q : Position := { Gen.startpos with halfmoves := 17, fullmoves := 9, cf0 := 5, cf3 := 2, hash := 1#64 }
    q ≠ Gen.startpos ∧ calculateHashK genKeys q = calculateHashK genKeys Gen.startpos := by
  intro q
  refine ⟨by decide, ?_⟩
  apply C04c_position_only genKeys q Gen.startpos (by decide) (by decide)
  · intro s _; rfl
  all_goals rfl

/-! ## (b) null move -/

theorem C04b_null (p : Position) (h : p.hash = p.calculateHash) :
    p.makenull.hash = p.makenull.calculateHash := null_preserves p h

/-- non-vacuity: the hypothesis holds for the start position, and after 1. e4 (en-passant square set,
so the null move has an en-passant key to remove). -/
example : Gen.startpos.hash = Gen.startpos.calculateHash := C04d_startpos_key
example : ∃ q, Gen.startpos.makemove ⟨12, 28, 6⟩ true = some q ∧ q.ep.isSome ∧ q.hash = q.calculateHash := by
  decide +kernel

/-! ## (a) moves

Hypotheses. `KeyHyps p` (Bool): `Consistent p`, at most one king of the side to move, every castling right
backed by a rook of the right colour on its square. `MoveShape p m` (Bool): the shape of every generated
move — own piece on `src`; `dst` empty / enemy piece / own castling rook (king takes rook, on the right side,
king's and rook's target squares free); a pawn leaves its file onto an empty square only en passant (ep
square = `dst`, enemy pawn behind it, no promotion); promotion pieces only for pawns. Both follow from
`ValidPos p` and `m ∈ legalMoves p`: the first implication is `C04a_keyHyps_of_valid` below, the second
(`MoveShape` of every generated move) needs the generator's correctness (e.g. that a slider target is
never an own piece goes through the magic tables): it is `gen_moveShape` of Props/C01_shape, put to use
in Props/C04_full. It is executable, and kernel-checked on the start position in the examples. -/

theorem C04a_keyHyps_of_valid (p : Position) (hv : ValidPos p = true) : KeyHyps p = true :=
  keyHyps_of_valid hv

/-- Key-table-generic form: in a position whose stored key is the key recomputed w.r.t. `K`, the key
`predict_hash` computes (w.r.t. `K`) for a move equals the key recomputed (w.r.t. `K`) from the position
`makemove` produces (with or without key update). -/
theorem C04a_predict_generic (K : ZKeys) (p : Position) (m : Mv) (u : Bool) (q : Position) (h : BB)
    (kh : KeyHyps p = true) (hm : MoveShape p m = true) (hinv : p.hash = calculateHashK K p)
    (hp : predictHashK K p m = some h) (hq : p.makemove m u = some q) : h = calculateHashK K q := by
  obtain ⟨_, _, _, Δ, h1, h2⟩ := makemove_step K kh hm hq
  rw [h1] at hp
  rw [h2, ← hinv]
  exact (Option.some.inj hp).symm

/-- C04(a) for the engine's table: after `makemove::<true>` the stored key is the predicted key and equals
the key recomputed from scratch. -/
theorem C04a_predict (p : Position) (m : Mv) (h : BB) (q : Position)
    (kh : KeyHyps p = true) (hm : MoveShape p m = true) (hinv : p.hash = p.calculateHash)
    (hp : p.predictHash m = some h) (hq : p.makemove m true = some q) :
    q.hash = h ∧ q.hash = q.calculateHash := by
  obtain ⟨h1, h2⟩ := move_preserves kh hm hinv hq
  rw [hp] at h1
  exact ⟨(Option.some.inj h1).symm, h2⟩

/-- the prediction is defined whenever the move can be made. -/
theorem C04a_any (p : Position) (m : Mv) (q : Position)
    (kh : KeyHyps p = true) (hm : MoveShape p m = true) (hinv : p.hash = p.calculateHash)
    (hq : p.makemove m true = some q) : p.predictHash m = some q.hash ∧ q.hash = q.calculateHash :=
  move_preserves kh hm hinv hq

/-- the statement over the engine's own domain and generator. -/
def C04a_full : Prop :=
  ∀ (p : Position) (m : Mv) (h : BB) (q : Position), ValidPos p = true → m ∈ legalMoves p →
    p.predictHash m = some h → p.makemove m true = some q → q.hash = h ∧ q.hash = q.calculateHash

/-- C04(a) on the domain, for any move of the generated shape. -/
theorem C04a_valid (p : Position) (m : Mv) (h : BB) (q : Position) (hv : ValidPos p = true)
    (hm : MoveShape p m = true) (hp : p.predictHash m = some h) (hq : p.makemove m true = some q) :
    q.hash = h ∧ q.hash = q.calculateHash := by
  exact C04a_predict p m h q (keyHyps_of_valid hv) hm (validPos_parts hv).hash hp hq

/-- `C04a_full` from the shape of every generated move (supplied by `gen_moveShape` in Props/C04_full). -/
theorem C04a_full_of
    (H2 : ∀ (p : Position) (m : Mv), ValidPos p = true → m ∈ legalMoves p → MoveShape p m = true) :
    C04a_full := by
  intro p m h q hv hmem hp hq
  exact C04a_valid p m h q hv (H2 p m hv hmem) hp hq

def okExample (p : Position) (m : Mv) : Bool :=
  KeyHyps p && MoveShape p m && p.hash == p.calculateHash &&
  match p.makemove m true with
  | some q => p.predictHash m == some q.hash && q.hash == q.calculateHash
  | none => false

-- 1. e4 from the start position; every generated move of the start position has the shape
example : okExample Gen.startpos ⟨12, 28, 6⟩ = true := by
  rw [okExample, beq_iff_eq.2 startpos_key]; decide +kernel
example : ValidPos Gen.startpos = true := startpos_valid
example : (legalMoves Gen.startpos).all (MoveShape Gen.startpos) = true := by decide +kernel
-- O-O: Ke1 takes Rh1 (Kg1, Rf1); Black king e8
example : okExample (mkPos 0x90#64 0x1000000000000000#64 0 0 0 0x80#64 0 0x1000000000000010#64 none true false false false)
    ⟨4, 7, 6⟩ = true := by decide +kernel
-- O-O-O in a Chess960 set-up: Kb1 takes Ra1 (Kc1, Rd1)
example : okExample (mkPos 0x3#64 0x1000000000000000#64 0 0 0 0x1#64 0 0x1000000000000002#64 none false true false false)
    ⟨1, 0, 6⟩ = true := by decide +kernel
-- e5xd6 en passant
example : okExample (mkPos 0x1000000010#64 0x1000000800000000#64 0x1800000000#64 0 0 0 0 0x1000000000000010#64
    (some 43) false false false false) ⟨36, 43, 6⟩ = true := by decide +kernel
-- b7xa8=Q, taking the rook that backs Black's queen-side right
example : okExample (mkPos 0x2000000000010#64 0x1100000000000000#64 0x2000000000000#64 0 0 0x100000000000000#64 0
    0x1000000000000010#64 none false false false true) ⟨49, 56, 4⟩ = true := by decide +kernel

/-- one ply: a move (from a position with `KeyHyps`, of `MoveShape`, made with key update) or a null move. -/
inductive KeyStep : Position → Position → Prop
  | move {p q : Position} (m : Mv) : KeyHyps p = true → MoveShape p m = true →
      p.makemove m true = some q → KeyStep p q
  | null (p : Position) : KeyStep p p.makenull

inductive KeyPath : Position → Position → Prop
  | nil (p : Position) : KeyPath p p
  | cons {p q r : Position} : KeyStep p q → KeyPath q r → KeyPath p r

/-- the incrementally maintained key equals the recomputed key after any sequence of moves and null moves. -/
theorem C04_sequence {p q : Position} (path : KeyPath p q) (h : p.hash = p.calculateHash) :
    q.hash = q.calculateHash := by
  induction path with
  | nil p => exact h
  | cons st _ ih =>
    apply ih
    cases st with
    | move m kh hm hq => exact (move_preserves kh hm h hq).2
    | null => exact C04b_null _ h

/-- non-vacuity: 1. e4 (null) from the start position is such a path. -/
example : ∃ q r, Gen.startpos.makemove ⟨12, 28, 6⟩ true = some q ∧ r = q.makenull ∧
    KeyPath Gen.startpos r ∧ r.hash = r.calculateHash := by
  have h1 : (Gen.startpos.makemove ⟨12, 28, 6⟩ true).isSome = true := by decide +kernel
  obtain ⟨q, hq⟩ := Option.isSome_iff_exists.mp h1
  have path : KeyPath Gen.startpos q.makenull :=
    .cons (.move ⟨12, 28, 6⟩ (by decide +kernel) (by decide +kernel) hq) (.cons (.null q) (.nil _))
  exact ⟨q, _, hq, rfl, path, C04_sequence path C04d_startpos_key⟩

#print axioms C04d_keys_distinct
#print axioms C04d_startpos_key
#print axioms C04c_calc_eq_spec
#print axioms C04c_position_only
#print axioms C04c_flip
#print axioms C04b_null
#print axioms C04a_predict_generic
#print axioms C04a_predict
#print axioms C04a_keyHyps_of_valid
#print axioms C04a_valid
#print axioms C04a_full_of
#print axioms C04_sequence
end Rawr
