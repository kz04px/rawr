import Rawr.Proofs.UciMoves
/-! # C05 — the `position` / `moves` commands (model level)

* `C05_applyToken_spec` (+ `C05_applyToken_panic`, `Denotes_iff`, `castleFile_eq_some_iff`): one token either denotes a
   legal move — the FIRST legal move printing as the token, or, if none prints so, the castling move of the mover
   designated by a conventional castling string — and then the move is made and its key pushed, with no output;
   or it denotes nothing and is reported as unknown, position and history unchanged. Both directions (`↔`).
* `applyTokens_eq_foldlM` (`Proofs/UciMoves.lean`): `applyTokens` is the left fold of `applyToken`;
   `C05_applyTokens_fold` : position = last of the trace of positions reached, history = their keys (most recent
   first) on top of the old history, output = the reports; lengths; head invariant;
   `C05_doPosition_history` : after `position <fen> moves ts` the history has 1 + (accepted tokens) keys, the oldest
   being the key of the FEN position, the newest the key of the current position. -/
namespace Rawr

theorem Denotes_iff (pos : Position) (t : List Char) (m : Mv) :
    Denotes pos t m ↔
      (∃ as bs, legalMoves pos = as ++ m :: bs ∧ toUciChars pos m = t ∧ ∀ x ∈ as, toUciChars pos x ≠ t) ∨
      ((∀ x ∈ legalMoves pos, toUciChars pos x ≠ t) ∧
        ∃ file, castleFile pos t = some file ∧ m = ⟨4, fromCoords file 0, 6⟩ ∧ m ∈ legalMoves pos ∧
          pos.c0.isSet m.dst = true) := Iff.rfl

theorem castleFile_eq_some_iff (pos : Position) (t : List Char) (f : Nat) :
    castleFile pos t = some f ↔
      (pos.black = false ∧ ((t = str "e1g1" ∧ f = pos.cf0) ∨ (t = str "e1c1" ∧ f = pos.cf1))) ∨
      (pos.black = true ∧ ((t = str "e8g8" ∧ f = pos.cf0) ∨ (t = str "e8c8" ∧ f = pos.cf1))) := by
  have d12 : ¬ str "e1g1" = str "e1c1" := by decide
  have d13 : ¬ str "e1g1" = str "e8g8" := by decide
  have d14 : ¬ str "e1g1" = str "e8c8" := by decide
  have d23 : ¬ str "e1c1" = str "e8g8" := by decide
  have d24 : ¬ str "e1c1" = str "e8c8" := by decide
  have d34 : ¬ str "e8g8" = str "e8c8" := by decide
  unfold castleFile
  by_cases h1 : t = str "e1g1"
  · subst h1
    cases pos.black <;> simp [d12, d13, d14, eq_comm]
  by_cases h2 : t = str "e1c1"
  · subst h2
    cases pos.black <;> simp [Ne.symm d12, d23, d24, eq_comm]
  by_cases h3 : t = str "e8g8"
  · subst h3
    cases pos.black <;> simp [Ne.symm d13, Ne.symm d23, d34, eq_comm]
  by_cases h4 : t = str "e8c8"
  · subst h4
    cases pos.black <;> simp [Ne.symm d14, Ne.symm d24, Ne.symm d34, eq_comm]
  simp [h1, h2, h3, h4]

/-- **C05 (one token)**: accepted ⇔ the token denotes a legal move, which is made (with key update) and whose
key is pushed, silently; rejected ⇔ it denotes none: reported, nothing changes. -/
theorem C05_applyToken_spec (pos : Position) (hist : List BB) (t : List Char)
    (pos' : Position) (hist' : List BB) (out : List String) :
    applyToken pos hist t = some (pos', hist', out) ↔
      (∃ m, Denotes pos t m ∧ pos.makemove m true = some pos' ∧ hist' = pos'.hash :: hist ∧ out = []) ∨
      ((∀ m, ¬ Denotes pos t m) ∧ pos' = pos ∧ hist' = hist ∧
        out = ["info string unknown move " ++ String.ofList t]) := by
  rcases applyToken_cases pos hist t with ⟨m, np, hm, hmk, e⟩ | ⟨m, hm, hmk, e⟩ | ⟨hn, e⟩
  · rw [e]
    constructor
    · rintro ⟨⟩
      exact Or.inl ⟨m, hm, hmk, rfl, rfl⟩
    · rintro (⟨m', hm', hmk', rfl, rfl⟩ | ⟨hn, _⟩)
      · cases hm.unique hm'
        rw [hmk] at hmk'
        cases hmk'
        rfl
      · exact absurd hm (hn m)
  · rw [e]
    constructor
    · nofun
    · rintro (⟨m', hm', hmk', _⟩ | ⟨hn, _⟩)
      · cases hm.unique hm'
        rw [hmk] at hmk'
        cases hmk'
      · exact absurd hm (hn m)
  · rw [e]
    constructor
    · rintro ⟨⟩
      exact Or.inr ⟨hn, rfl, rfl, rfl⟩
    · rintro (⟨m, hm, _⟩ | ⟨_, rfl, rfl, rfl⟩)
      · exact absurd hm (hn m)
      · rfl

/-- the only way a token can panic: it denotes a legal move on which `makemove` fails. -/
theorem C05_applyToken_panic (pos : Position) (hist : List BB) (t : List Char) :
    applyToken pos hist t = none ↔ ∃ m, Denotes pos t m ∧ pos.makemove m true = none := by
  rcases applyToken_cases pos hist t with ⟨m, np, hm, hmk, e⟩ | ⟨m, hm, hmk, e⟩ | ⟨hn, e⟩
  · rw [e]
    refine ⟨nofun, fun ⟨m', hm', hmk'⟩ => ?_⟩
    cases hm.unique hm'
    rw [hmk] at hmk'
    cases hmk'
  · rw [e]
    exact ⟨fun _ => ⟨m, hm, hmk⟩, fun _ => rfl⟩
  · rw [e]
    exact ⟨nofun, fun ⟨m, hm, _⟩ => absurd hm (hn m)⟩

theorem C05_applyToken_cases (pos : Position) (hist : List BB) (t : List Char) :
    (∃ m np, Denotes pos t m ∧ pos.makemove m true = some np ∧ applyToken pos hist t = some (np, np.hash :: hist, [])) ∨
    (∃ m, Denotes pos t m ∧ pos.makemove m true = none ∧ applyToken pos hist t = none) ∨
    ((∀ m, ¬ Denotes pos t m) ∧
      applyToken pos hist t = some (pos, hist, ["info string unknown move " ++ String.ofList t])) :=
  applyToken_cases pos hist t

theorem trace_cons_accept {pos np : Position} {t : List Char} {m : Mv} (ts : List (List Char))
    (hm : Denotes pos t m) (hmk : pos.makemove m true = some np) :
    trace (t :: ts) pos = (trace ts np).map (np :: ·) := by
  simp only [trace, (denote_eq_some_iff pos t m).2 hm, hmk]

theorem trace_cons_reject {pos : Position} {t : List Char} (ts : List (List Char))
    (hn : ∀ m, ¬ Denotes pos t m) : trace (t :: ts) pos = trace ts pos := by
  simp only [trace, (denote_eq_none_iff pos t).2 hn]

theorem trace_cons_panic {pos : Position} {t : List Char} {m : Mv} (ts : List (List Char))
    (hm : Denotes pos t m) (hmk : pos.makemove m true = none) : trace (t :: ts) pos = none := by
  simp only [trace, (denote_eq_some_iff pos t m).2 hm, hmk]

theorem trace_reports_length {ts : List (List Char)} {pos : Position} {tr : List Position}
    (h : trace ts pos = some tr) : tr.length + (reports ts pos).length = ts.length := by
  induction ts generalizing pos tr with
  | nil => simp only [trace] at h; cases h; rfl
  | cons t ts ih =>
    simp only [trace, reports] at h ⊢
    cases hd : denote pos t with
    | none =>
      rw [hd] at h
      simp only at h ⊢
      have := ih h
      simp only [List.length_cons]; omega
    | some m =>
      rw [hd] at h
      simp only at h ⊢
      cases hmk : pos.makemove m true with
      | none => rw [hmk] at h; cases h
      | some np =>
        rw [hmk] at h
        simp only [Option.map_eq_some_iff] at h ⊢
        obtain ⟨tr', h', e⟩ := h
        subst e
        have := ih h'
        simp only [List.length_cons]; omega

/-- **C05 (token list)**: the final position is the last position reached, the history is the old history with
exactly one key per position reached on top (most recent first), the output is the list of reports.
`tr.length` is the number of accepted tokens. -/
theorem C05_applyTokens_fold (ts : List (List Char)) (pos : Position) (hist : List BB) (out : List String)
    (pos' : Position) (hist' : List BB) (out' : List String)
    (h : applyTokens ts pos hist out = some (pos', hist', out')) :
    ∃ tr, trace ts pos = some tr ∧ pos' = tr.getLastD pos ∧
      hist' = (tr.map (·.hash)).reverse ++ hist ∧ out' = out ++ reports ts pos ∧
      hist'.length = hist.length + tr.length ∧
      out'.length + tr.length = out.length + ts.length ∧
      (hist.head? = some pos.hash → hist'.head? = some pos'.hash) := by
  rw [applyTokens_eq, Option.map_eq_some_iff] at h
  obtain ⟨tr, htr, e⟩ := h
  simp only [Prod.mk.injEq] at e
  obtain ⟨rfl, rfl, rfl⟩ := e
  refine ⟨tr, htr, rfl, rfl, rfl, ?_, ?_, ?_⟩
  · simp only [List.length_append, List.length_reverse, List.length_map]; omega
  · have := trace_reports_length htr
    simp only [List.length_append]; omega
  · intro hh
    rcases List.eq_nil_or_concat tr with rfl | ⟨tr', p, rfl⟩
    · simpa using hh
    · simp [List.getLastD_eq_getLast?]

/-- the positions of the trace are linked by legal moves: each one arises from its predecessor by
`makemove` of a move in `legalMoves`. -/
def LegalChain : Position → List Position → Prop
  | _, [] => True
  | a, b :: l => (∃ m ∈ legalMoves a, a.makemove m true = some b) ∧ LegalChain b l

theorem trace_chain {ts : List (List Char)} {pos : Position} {tr : List Position} (h : trace ts pos = some tr) :
    LegalChain pos tr := by
  induction ts generalizing pos tr with
  | nil => simp only [trace] at h; cases h; trivial
  | cons t ts ih =>
    simp only [trace] at h
    cases hd : denote pos t with
    | none => rw [hd] at h; exact ih h
    | some m =>
      rw [hd] at h
      simp only at h
      cases hmk : pos.makemove m true with
      | none => rw [hmk] at h; cases h
      | some np =>
        rw [hmk] at h
        simp only [Option.map_eq_some_iff] at h
        obtain ⟨tr', h', e⟩ := h
        subst e
        exact ⟨⟨m, ((denote_eq_some_iff pos t m).1 hd).mem, hmk⟩, ih h'⟩

/-- **C05 (`position`)**: the FEN is parsed (panic iff `setFen` rejects it or a selected move fails in `makemove`);
the history afterwards holds the key of the FEN position (oldest) followed by one key per accepted token, the newest
being the key of the resulting position; the output is the list of unknown-move reports. -/
theorem C05_doPosition_history (ar : Arith) (s s' : UState) (toks : List (List Char)) (out : List String)
    (h : doPosition ar s toks = some (s', out)) :
    ∃ p0 tr, setFen ar s.pos.frc (positionArgs toks).1 = some p0 ∧
      trace (positionArgs toks).2 { p0 with frc := s.pos.frc } = some tr ∧
      s'.pos = { tr.getLastD { p0 with frc := s.pos.frc } with frc := s.frc } ∧
      s'.hist = (tr.map (·.hash)).reverse ++ [p0.hash] ∧
      s'.hist.length = 1 + tr.length ∧
      s'.hist.getLast? = some p0.hash ∧
      s'.hist.head? = some s'.pos.hash ∧
      out = reports (positionArgs toks).2 { p0 with frc := s.pos.frc } ∧
      out.length + tr.length = (positionArgs toks).2.length := by
  obtain ⟨p1, hist1, hrun, e⟩ := doPosition_some h
  obtain ⟨p0, hp0, hap⟩ := Option.bind_eq_some_iff.1 hrun
  obtain ⟨tr, htr, e1, e2, e3, e4, e5, e6⟩ := C05_applyTokens_fold _ _ _ _ _ _ _ hap
  simp only at e
  subst e
  refine ⟨p0, tr, hp0, htr, by rw [e1], e2, by rw [e4]; simp, by rw [e2]; simp, ?_, by simpa using e3, by simpa using e5⟩
  exact e6 rfl

namespace C05Ex

def castleFen : List Char := str "r3k2r/8/8/8/8/8/8/R3K2R w KQkq - 0 1"
def castleFenB : List Char := str "r3k2r/8/8/8/8/8/8/R3K2R b KQkq - 0 1"

theorem denote_e2e4 : denote Gen.startpos (str "e2e4") = some ⟨12, 28, 6⟩ := by decide +kernel

/-- an ordinary token: `e2e4` is the first (only) legal move of the start position printing so. -/
example : Denotes Gen.startpos (str "e2e4") ⟨12, 28, 6⟩ :=
  (denote_eq_some_iff _ _ _).1 denote_e2e4

/-- accepted: the move is made, one key pushed, no output. -/
example : ∃ np, applyToken Gen.startpos [Gen.startpos.hash] (str "e2e4") = some (np, [np.hash, Gen.startpos.hash], []) ∧
    np.black = true := by
  have h : ((applyToken Gen.startpos [Gen.startpos.hash] (str "e2e4")).map fun r =>
      (r.2.1 == [r.1.hash, Gen.startpos.hash], r.2.2, r.1.black)) = some (true, [], true) := by decide +kernel
  obtain ⟨⟨np, hist, out⟩, h1, h2⟩ := Option.map_eq_some_iff.1 h
  simp only [Prod.mk.injEq, beq_iff_eq] at h2
  obtain ⟨rfl, rfl, hb⟩ := h2
  exact ⟨np, h1, hb⟩

theorem denote_e2e5 : denote Gen.startpos (str "e2e5") = none := by decide +kernel

/-- rejected: `e2e5` denotes no move; reported, nothing changes. -/
example : applyToken Gen.startpos [7#64] (str "e2e5") =
    some (Gen.startpos, [7#64], ["info string unknown move e2e5"]) := by
  rw [applyToken_eq, denote_e2e5]
  rfl

example : ∀ m, ¬ Denotes Gen.startpos (str "e2e5") m := (denote_eq_none_iff _ _).1 denote_e2e5

/-- the alias branch (Chess960 notation active, castling prints as king-takes-rook `e1h1`): no legal move
prints as `e1g1`, the token selects the castling move E1xH1 of the mover. -/
example : ((setFen .wrap true castleFen).map fun p =>
    (((legalMoves p).find? fun m => toUciChars p m == str "e1g1"), denote p (str "e1g1"), denote p (str "e1h1"),
      denote p (str "e1c1"), denote p (str "e8g8"))) =
    some (none, some ⟨4, 7, 6⟩, some ⟨4, 7, 6⟩, some ⟨4, 0, 6⟩, none) := by decide +kernel

/-- Black to move: `e8g8`/`e8c8` are the mover's strings, `e1g1` is not. -/
example : ((setFen .wrap true castleFenB).map fun p =>
    (denote p (str "e8g8"), denote p (str "e8c8"), denote p (str "e1g1"))) =
    some (some ⟨4, 7, 6⟩, some ⟨4, 0, 6⟩, none) := by decide +kernel

/-- in standard notation castling prints as `e1g1` itself (first branch). -/
example : ((setFen .wrap false castleFen).map fun p =>
    ((legalMoves p).find? fun m => toUciChars p m == str "e1g1")) = some (some ⟨4, 7, 6⟩) := by decide +kernel

def demo : UState :=
  { hashMb := 0, frc := false, pos := { Gen.startpos with black := true, halfmoves := 7 },
    hist := [1#64, 2#64, 3#64], tt := ⟨#[]⟩ }

/-- `position startpos moves e2e4 zzz e7e5 e1g1` : two accepted tokens, two reports, three keys, the oldest
being the start position's key; the hypothesis of `C05_doPosition_history` is satisfiable. -/
example : ∃ s' out, doPosition .trap demo (splitWs (str "startpos moves e2e4 zzz e7e5 e1g1")) = some (s', out) ∧
    s'.hist.length = 3 ∧ s'.hist.getLast? = some Gen.startpos.hash ∧ s'.hist.head? = some s'.pos.hash ∧
    out = ["info string unknown move zzz", "info string unknown move e1g1"] := by
  have h : ((doPosition .trap demo (splitWs (str "startpos moves e2e4 zzz e7e5 e1g1"))).map fun r =>
      (r.1.hist.length, r.1.hist.getLast?, r.1.hist.head? == some r.1.pos.hash, r.2)) =
      some (3, some Gen.startpos.hash, true, ["info string unknown move zzz", "info string unknown move e1g1"]) := by
    decide +kernel
  obtain ⟨⟨s', out⟩, h1, h2⟩ := Option.map_eq_some_iff.1 h
  simp only [Prod.mk.injEq, beq_iff_eq] at h2
  exact ⟨s', out, h1, h2.1, h2.2.1, h2.2.2.1, h2.2.2.2⟩

/-- a FEN with moves, in the checked arithmetic too. -/
example : ((doPosition .trap demo (splitWs (str "fen r3k2r/8/8/8/8/8/8/R3K2R w KQkq - 0 1 moves e1g1 e8c8 a1a1"))).map
    fun r => (r.1.hist.length, r.2)) = some (3, ["info string unknown move a1a1"]) := by decide +kernel

end C05Ex

#print axioms C05_applyToken_spec
#print axioms C05_applyToken_panic
#print axioms C05_applyToken_cases
#print axioms applyTokens_eq_foldlM
#print axioms C05_applyTokens_fold
#print axioms trace_chain
#print axioms C05_doPosition_history
end Rawr
