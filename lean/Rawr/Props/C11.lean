import Rawr.Proofs.DrawLemmas
/-! # C11 — a root all of whose moves lead to positions drawn by rule

"If every legal move of the root leads to a position that is drawn by rule, because the fifty-move counter
reaches 100 or because the resulting position has already occurred in the game since the last capture or pawn
move, then a search of depth two or more started with an empty transposition table reports the engine's fixed
draw score, the same constant for all such roots, at every iteration from depth two on. It still returns a
legal move."

Statements about the model (`negamax`, `rootIter`, `root` of `Rawr/Model/Search.lean`), with the hypotheses
stated on the model as well (the bridge to the rules of chess is `Props/C11_rules.lean`):

1. `child_draw_returns` — a non-root call on a position drawn by rule returns `DRAW_SCORE` and touches only the
   counters `seldepth`, `polls`;
2. `C11_repetition_iff` — the repetition test as an index condition on the history;
3. `C11_root_all_children_drawn` — the root call of an iteration of depth ≥ 2 returns `-DRAW_SCORE`, records a
   legal move, writes only its own table entry (total form: the call is shown to return);
4. `C11_iterations` — `root (.depth D)`: one info record per depth `1 … D`, score `-DRAW_SCORE` in every record
   of depth ≥ 2, a legal best move.

The reported score is `-DRAW_SCORE = 50`: the draw constant is scored from the child's point of view. -/
namespace Rawr
open DM

/-- **C11.1** A non-root call (`ply ≥ 1`) with remaining depth ≥ 1 after the check extension, no table entry
under the position's key, a poll that answers `false`, on a position with `halfmoves ≥ 100` or whose key is
found twice by the repetition test: returns `DRAW_SCORE`; the state changes in `seldepth` and `polls` only
(no table write, history and best move unchanged). -/
theorem child_draw_returns (lim : Limit) (fuel : Nat) (c : Position) (st : SState) (α β ply depth : Int)
    (cn : Bool) (hply : 1 ≤ ply) (hdepth : 1 ≤ (if c.inCheck then depth + 1 else depth))
    (hnohit : (st.tt.poll c.hash.toNat).map (·.hash) ≠ some c.hash)
    (hlim : (shouldStop lim st).1 = false)
    (hdraw : c.halfmoves ≥ 100 ∨ repCount st.hist c.halfmoves c.hash ≥ 2) :
    negamax lim (fuel + 1) c st α β ply depth cn =
      some (Gen.DRAW_SCORE, { st with seldepth := max st.seldepth ply, polls := st.polls + 1 }) := by
  rw [negamax_drawn_child_eq lim fuel c st α β ply depth cn hply hnohit hlim hdraw, if_neg (by omega)]

theorem child_draw_returns_depth (d : Int) (fuel : Nat) (c : Position) (st : SState) (α β ply depth : Int)
    (cn : Bool) (hply : 1 ≤ ply) (hdepth : 1 ≤ (if c.inCheck then depth + 1 else depth))
    (hnohit : (st.tt.poll c.hash.toNat).map (·.hash) ≠ some c.hash) (hlim : st.depth ≤ d)
    (hdraw : c.halfmoves ≥ 100 ∨ repCount st.hist c.halfmoves c.hash ≥ 2) :
    negamax (.depth d) (fuel + 1) c st α β ply depth cn =
      some (Gen.DRAW_SCORE, { st with seldepth := max st.seldepth ply, polls := st.polls + 1 }) :=
  child_draw_returns _ fuel c st α β ply depth cn hply hdepth hnohit (shouldStop_quiet (lim := .depth d) hlim) hdraw

theorem child_draw_returns_infinite (fuel : Nat) (c : Position) (st : SState) (α β ply depth : Int)
    (cn : Bool) (hply : 1 ≤ ply) (hdepth : 1 ≤ (if c.inCheck then depth + 1 else depth))
    (hnohit : (st.tt.poll c.hash.toNat).map (·.hash) ≠ some c.hash)
    (hdraw : c.halfmoves ≥ 100 ∨ repCount st.hist c.halfmoves c.hash ≥ 2) :
    negamax .infinite (fuel + 1) c st α β ply depth cn =
      some (Gen.DRAW_SCORE, { st with seldepth := max st.seldepth ply, polls := st.polls + 1 }) :=
  child_draw_returns _ fuel c st α β ply depth cn hply hdepth hnohit rfl hdraw

namespace DM
theorem nohit_of_default (T : Table TTEntry) (k : BB) (hk : k ≠ 0#64) (h : T.poll k.toNat = some default) :
    (T.poll k.toNat).map (·.hash) ≠ some k := by
  rw [h]
  simp only [Option.map_some, ne_eq, Option.some.injEq]
  exact fun h' => hk h'.symm
end DM

/-- **C11.2** `h` holds one key per earlier position of the game, most recent first; the child's own key `k` has
been pushed on top. The test `repCount (k :: h) halfmoves k ≥ 2` of `negamax` fires iff `k` occurs in `h` at an
odd index `2 i + 1` (a position with the same side to move) with `2 i + 1 < halfmoves`, i.e. among the positions
back to and including the one that followed the last irreversible move (which has clock 0 and is the
`halfmoves`-th entry counted from the child). -/
theorem C11_repetition_iff (k : BB) (h : List BB) (halfmoves : Int) :
    repCount (k :: h) halfmoves k ≥ 2 ↔ ∃ i, 2 * i + 1 < halfmoves.toNat ∧ h[2 * i + 1]? = some k := by
  unfold repCount
  rw [List.take_succ_cons, everySecond_cons, List.filter_cons_of_pos (by simp), List.length_cons]
  have h1 : ∀ l : List BB, (l.filter (· == k)).length + 1 ≥ 2 ↔ k ∈ l := by
    intro l
    rw [show (l.filter (· == k)).length + 1 ≥ 2 ↔ 0 < (l.filter (· == k)).length by omega,
      List.length_pos_iff_exists_mem]
    constructor
    · rintro ⟨x, hx⟩
      rw [List.mem_filter] at hx
      have := hx.2
      simp only [beq_iff_eq] at this
      rw [← this]; exact hx.1
    · intro hk
      exact ⟨k, List.mem_filter.2 ⟨hk, by simp⟩⟩
  rw [h1, mem_everySecond]
  refine exists_congr fun i => ?_
  rw [List.getElem?_tail, List.getElem?_take]
  by_cases hi : 2 * i + 1 < halfmoves.toNat
  · simp [hi]
  · simp [hi]

namespace DM
/-- "the resulting position has already occurred since the last irreversible move" as a hypothesis on a child. -/
def OccurredBefore (H : List BB) (c : Position) : Prop :=
  ∃ i, 2 * i + 1 < c.halfmoves.toNat ∧ H[2 * i + 1]? = some c.hash

theorem drawnChild_of_occurred {H : List BB} {T : Table TTEntry} {c : Position}
    (h : c.halfmoves ≥ 100 ∨ OccurredBefore H c) (hT : (T.poll c.hash.toNat).map (·.hash) ≠ some c.hash) :
    DrawnChild H T c :=
  ⟨h.imp id (C11_repetition_iff c.hash H c.halfmoves).2, hT⟩
end DM

/-- **C11.3** The root call (`ply = 0`, full window) of an iteration whose depth after the check extension is
≥ 2, with a limit that does not stop it, at least one and at most 218 legal moves, every one of which can be
made and leads to a `DrawnChild` (drawn by rule with its key pushed on the root's history; no table entry under
its key): the call returns `-DRAW_SCORE`, the recorded best move `m₀` is legal, history and `depth` are
unchanged, and the table is the old one plus the root's own (exact) entry. Every child is searched with
remaining depth ≥ 1 (also under late-move reduction) and answers `DRAW_SCORE` by C11.1, so the call returns, and the
best score is `-DRAW_SCORE` and comes with one of the moves. -/
theorem C11_root_all_children_drawn (lim : Limit) (fuel : Nat) (p : Position) (st : SState) (depth : Int)
    (hdepth : 2 ≤ (if p.inCheck then depth + 1 else depth))
    (hlim : QuietAt lim st.depth)
    (hlen : (legalMoves p).length ≤ Gen.orderBufNegamax)
    (hne : legalMoves p ≠ [])
    (hch : ∀ m ∈ legalMoves p, ∃ c, p.makemove m true = some c ∧ DrawnChild st.hist st.tt c) :
    ∃ m₀ st', m₀ ∈ legalMoves p ∧
      negamax lim (fuel + 2) p st (-Gen.INF) Gen.INF 0 depth false = some (-Gen.DRAW_SCORE, st') ∧
      st'.best = some m₀ ∧ st'.hist = st.hist ∧ st'.depth = st.depth ∧
      st.tt.add p.hash.toNat ⟨p.hash, m₀, -Gen.DRAW_SCORE, if p.inCheck then depth + 1 else depth, 0⟩ =
        some st'.tt :=
  root_all_children_drawn lim fuel p st depth hdepth hlim hlen hne hch

/-- C11.3 with the hypotheses spelled out as in the property text: fifty-move counter or earlier occurrence. -/
theorem C11_root_all_children_drawn' (D : Int) (fuel : Nat) (p : Position) (st : SState) (depth : Int)
    (hdepth : 2 ≤ depth) (hD : st.depth ≤ D)
    (hlen : (legalMoves p).length ≤ Gen.orderBufNegamax)
    (hne : legalMoves p ≠ [])
    (hch : ∀ m ∈ legalMoves p, ∃ c, p.makemove m true = some c ∧
      (c.halfmoves ≥ 100 ∨ OccurredBefore st.hist c) ∧ (st.tt.poll c.hash.toNat).map (·.hash) ≠ some c.hash) :
    ∃ m₀ st', m₀ ∈ legalMoves p ∧
      negamax (.depth D) (fuel + 2) p st (-Gen.INF) Gen.INF 0 depth false = some (-Gen.DRAW_SCORE, st') ∧
      st'.best = some m₀ ∧ st'.hist = st.hist :=
  let ⟨m₀, st', h1, h2, h3, h4, _⟩ := root_all_children_drawn (.depth D) fuel p st depth
    (by split <;> omega) hD hlen hne
    (fun m hm => let ⟨c, hmk, hdr, hT⟩ := hch m hm; ⟨c, hmk, drawnChild_of_occurred hdr hT⟩)
  ⟨m₀, st', h1, h2, h3, h4⟩

/-- **C11.4** `go depth D` with `2 ≤ D < MAX_DEPTH` on a root satisfying `AllChildrenDrawn` (a legal move
exists; every legal move can be made and leads to a position drawn by rule, with a key different from the
root's; at most 218 moves; the static evaluation is below `INF` in absolute value on the capture trees of the
children — iteration 1 sends them to quiescence and must get a score above `-INF` to record a move), started
on a table with no entry under a child's key: if the driver returns (iteration 1 runs quiescence, whose
definedness is the subject of C19), then the best move is a legal move,
there is exactly one info record per depth `1, 2, …, D`, and every record of depth ≥ 2 carries the score
`-DRAW_SCORE`. -/
theorem C11_iterations (D : Int) (hD2 : 2 ≤ D) (hD : D < Gen.MAX_DEPTH) (fuel : Nat) (p : Position)
    (hist : List BB) (tt : Table TTEntry) (Bd : Int) (hBd : Bd < Gen.INF)
    (hyp : AllChildrenDrawn Bd p hist) (hT : NoChildHit p tt) (res : RootResult)
    (h : root (.depth D) (fuel + 2) p hist tt = some res) :
    (∃ m ∈ legalMoves p, res.best = some m) ∧
    res.infos.map (·.depth) = (List.range D.toNat).map (fun i : Nat => (i : Int) + 1) ∧
    ∀ r ∈ res.infos, 2 ≤ r.depth → r.score = -Gen.DRAW_SCORE := by
  obtain ⟨score, s1, hcall, hrest⟩ := root_first h
  -- iteration 1: a legal move is recorded, only the root's entry is written
  obtain ⟨m₀, e, hm₀, hb1, hh1, hd1, he, hadd⟩ := root_drawn_children_frame (.depth D) fuel p _ 1 Bd hBd
    (by split <;> omega) (by show (1 : Int) ≤ D; omega) hyp.ne
    (fun m hm c hmk => by
      obtain ⟨c', hmk', hdr, _, hq⟩ := hyp.child m hm
      rw [hmk] at hmk'; cases hmk'
      exact ⟨⟨hdr, hT m hm c hmk⟩, hq⟩) score s1 hcall
  rcases hrest with ⟨hnone, _⟩ | ⟨m', hm', h⟩
  · rw [hb1] at hnone
    cases hnone
  rw [hb1] at hm'
  cases hm'
  obtain ⟨⟨m, hm, hbest⟩, hlen, new, hinfos, hscores⟩ := hyp.iterations hD2 hD hh1 (hyp.store hT he hadd)
    hb1 hm₀ h
  obtain ⟨n, hn⟩ := rootIter_depths _ _ _ _ _ _ _ _ _ h
  have hd1' : (mkInfo s1 score m₀).depth = 1 := hd1
  rw [List.reverse_singleton, List.map_singleton, hd1'] at hn
  refine ⟨⟨m, hm, hbest⟩, ?_, ?_⟩
  · have hnD : n + 1 = D.toNat := by
      have := congrArg List.length hn
      rw [List.length_map, hlen, List.length_append, length_intRange] at this
      simp only [List.length_cons, List.length_nil] at this
      omega
    rw [hn, ← hnD]
    exact (intRange_eq_map 1 (n + 1))
  · intro r hr h2
    rw [hinfos, List.reverse_singleton, List.singleton_append] at hr
    rcases List.mem_cons.1 hr with rfl | hr
    · rw [hd1'] at h2
      omega
    · exact hscores r hr

/-- C11.4 in the words of the property: `D` records, the draw score from depth two on, a legal move. -/
theorem C11_iterations_count (D : Int) (hD2 : 2 ≤ D) (hD : D < Gen.MAX_DEPTH) (fuel : Nat) (p : Position)
    (hist : List BB) (tt : Table TTEntry) (Bd : Int) (hBd : Bd < Gen.INF)
    (hyp : AllChildrenDrawn Bd p hist) (hT : NoChildHit p tt) (res : RootResult)
    (h : root (.depth D) (fuel + 2) p hist tt = some res) :
    res.infos.length = D.toNat ∧ (∀ r ∈ res.infos, 2 ≤ r.depth → r.score = -Gen.DRAW_SCORE) ∧
    (∀ d : Int, 2 ≤ d → d ≤ D → ∃ r ∈ res.infos, r.depth = d ∧ r.score = -Gen.DRAW_SCORE) ∧
    ∃ m ∈ legalMoves p, res.best = some m := by
  obtain ⟨h1, h2, h3⟩ := C11_iterations D hD2 hD fuel p hist tt Bd hBd hyp hT res h
  refine ⟨?_, h3, ?_, h1⟩
  · have := congrArg List.length h2
    simpa using this
  · intro d hd2 hdD
    have hmem : d ∈ res.infos.map (·.depth) := by
      rw [h2, List.mem_map]
      exact ⟨(d - 1).toNat, List.mem_range.2 (by omega), by omega⟩
    obtain ⟨r, hr, hrd⟩ := List.mem_map.1 hmem
    exact ⟨r, hr, hrd, h3 r hr (by rw [hrd]; exact hd2)⟩

/-- C11.4 for the empty table of the property text (freshly allocated, any size — also zero slots):
it suffices that no child has key 0 (the key of an empty slot). -/
theorem C11_iterations_new_table (D : Int) (hD2 : 2 ≤ D) (hD : D < Gen.MAX_DEPTH) (fuel : Nat) (p : Position)
    (hist : List BB) (mb : Nat) (Bd : Int) (hBd : Bd < Gen.INF)
    (hyp : AllChildrenDrawn Bd p hist)
    (h0 : ∀ m ∈ legalMoves p, ∀ c, p.makemove m true = some c → c.hash ≠ 0#64) (res : RootResult)
    (h : root (.depth D) (fuel + 2) p hist (Table.new mb Gen.ttEntrySize) = some res) :
    (∃ m ∈ legalMoves p, res.best = some m) ∧
    res.infos.map (·.depth) = (List.range D.toNat).map (fun i : Nat => (i : Int) + 1) ∧
    ∀ r ∈ res.infos, 2 ≤ r.depth → r.score = -Gen.DRAW_SCORE :=
  C11_iterations D hD2 hD fuel p hist _ Bd hBd hyp (NoChildHit_new p mb h0) res h

namespace C11Ex

/-- white Ka1, black Kh8, white to move, fifty-move counter `hm` (three legal moves, all quiet king moves). -/
def kk (hm : Int) : Position :=
  { c0 := 0x1#64, c1 := 0x8000000000000000#64,
    p0 := 0#64, p1 := 0#64, p2 := 0#64, p3 := 0#64, p4 := 0#64, p5 := 0x8000000000000001#64,
    halfmoves := hm, fullmoves := 60, black := false, ep := none,
    usK := false, usQ := false, themK := false, themQ := false,
    cf0 := 7, cf1 := 0, cf2 := 7, cf3 := 0, hash := 0x1234#64, frc := false }

def tt3 : Table TTEntry := ⟨#[default, default, default]⟩

/-- a history in which each of the three children of `kk 10` (keys below) occurs at an odd index. -/
def histRep : List BB :=
  [0x1234#64, 0xe1c4b3d65d7863bb#64, 5#64, 0x2c10afd3f8ad4e99#64, 6#64, 0x1ff8176fd435c242#64]

/-- the child of `kk 99` after Ka1-b1: clock 100. -/
def kk99b1 : Position := ((kk 99).makemove ⟨0, 1, 6⟩ true).getD (kk 0)

/-- C11.1 applies to the child Kb1 of `kk 99` (fifty-move clause) at ply 1 with remaining depth 1. -/
example : negamax (.depth 2) 1 kk99b1 ⟨[kk99b1.hash], tt3, 2, 0, 1, none, 0⟩ (-Gen.INF) Gen.INF 1 1 true =
    some (Gen.DRAW_SCORE, ⟨[kk99b1.hash], tt3, 2, 1, 1, none, 1⟩) :=
  child_draw_returns_depth 2 0 kk99b1 _ _ _ 1 1 true (by decide) (by decide +kernel) (by decide +kernel)
    (by decide) (Or.inl (by decide +kernel))

/-- C11.2 on a concrete history: both sides hold (key 7 at index 1 < 3) … -/
example : repCount (7#64 :: [1#64, 7#64, 2#64]) 3 7#64 ≥ 2 ∧ ∃ i, 2 * i + 1 < (3 : Int).toNat ∧
    [1#64, 7#64, 2#64][2 * i + 1]? = some 7#64 :=
  ⟨by decide, 0, by decide, by decide⟩

/-- … and both sides fail when the occurrence lies beyond the window (clock 1: index 1 is not below 1). -/
example : ¬ repCount (7#64 :: [1#64, 7#64, 2#64]) 1 7#64 ≥ 2 := by decide

theorem kk99_hyp : AllChildrenDrawn 1000 (kk 99) [] := by decide +kernel
theorem kk10_hyp : AllChildrenDrawn 1000 (kk 10) histRep := by decide +kernel
theorem kk99_tt : NoChildHit (kk 99) tt3 := by decide +kernel
theorem kk10_tt : NoChildHit (kk 10) tt3 := by decide +kernel

/-- C11.3 on `kk 99` (every move reaches clock 100), iteration 2, and on `kk 10` with the history `histRep`
(every move repeats an earlier position; the clock is far from 100). -/
example : ∃ m₀ st', m₀ ∈ legalMoves (kk 99) ∧
    negamax (.depth 2) 2 (kk 99) ⟨[], tt3, 2, 0, 0, none, 0⟩ (-Gen.INF) Gen.INF 0 2 false = some (50, st') ∧
    st'.best = some m₀ := by
  obtain ⟨m₀, st', h1, h2, h3, _⟩ := C11_root_all_children_drawn (.depth 2) 0 (kk 99) ⟨[], tt3, 2, 0, 0, none, 0⟩ 2
    (by decide +kernel) (show (2 : Int) ≤ 2 by decide) kk99_hyp.len kk99_hyp.ne (kk99_hyp.drawn kk99_tt)
  exact ⟨m₀, st', h1, h2, h3⟩

example : ∃ m₀ st', m₀ ∈ legalMoves (kk 10) ∧
    negamax .infinite 2 (kk 10) ⟨histRep, tt3, 5, 0, 0, none, 0⟩ (-Gen.INF) Gen.INF 0 5 false = some (50, st') ∧
    st'.best = some m₀ := by
  obtain ⟨m₀, st', h1, h2, h3, _⟩ := C11_root_all_children_drawn .infinite 0 (kk 10)
    ⟨histRep, tt3, 5, 0, 0, none, 0⟩ 5
    (by decide +kernel) trivial kk10_hyp.len kk10_hyp.ne (kk10_hyp.drawn kk10_tt)
  exact ⟨m₀, st', h1, h2, h3⟩

/-- the repetition hypothesis of `kk 10` in the index form of C11.2. -/
example : ∀ m ∈ legalMoves (kk 10), ∃ c, (kk 10).makemove m true = some c ∧ OccurredBefore histRep c := by
  intro m hm
  obtain ⟨c, hmk, hdr, _⟩ := kk10_hyp.child m hm
  refine ⟨c, hmk, ?_⟩
  rcases hdr with h100 | hrep
  · exfalso
    have : ∀ m ∈ legalMoves (kk 10), ∀ c, (kk 10).makemove m true = some c → c.halfmoves < 100 := by
      decide +kernel
    have := this m hm c hmk
    omega
  · exact (C11_repetition_iff _ _ _).1 hrep

/-- `go depth 3` on `kk 99`, three-slot empty table: the driver returns. Iteration 1 is outside the claim of C11.4 for
a reason: its score is a quiescence value, not the draw score. -/
theorem kk99_depth3 : ((root (.depth 3) 2 (kk 99) [] tt3).map fun r => r.infos.map (·.score)) = some [21, 50, 50] := by
  decide +kernel

/-- C11.4 on that run: the theorem gives three records (depths 1, 2, 3), score 50 in the last two, and a legal best
move. -/
example : ∃ res, root (.depth 3) 2 (kk 99) [] tt3 = some res ∧
    (∃ m ∈ legalMoves (kk 99), res.best = some m) ∧ res.infos.map (·.depth) = [1, 2, 3] ∧
    ∀ r ∈ res.infos, 2 ≤ r.depth → r.score = 50 := by
  obtain ⟨res, h1, _⟩ := Option.map_eq_some_iff.1 kk99_depth3
  exact ⟨res, h1, C11_iterations 3 (by decide) (by decide) 0 (kk 99) [] tt3 1000 (by decide) kk99_hyp kk99_tt res h1⟩

/-- the same with a freshly allocated table (here: zero slots) and the repetition hypothesis. -/
example : ∃ res, root (.depth 2) 2 (kk 10) histRep (Table.new 0 Gen.ttEntrySize) = some res ∧
    (∃ m ∈ legalMoves (kk 10), res.best = some m) ∧ res.infos.map (·.depth) = [1, 2] ∧
    ∀ r ∈ res.infos, 2 ≤ r.depth → r.score = 50 := by
  have h : (root (.depth 2) 2 (kk 10) histRep (Table.new 0 Gen.ttEntrySize)).isSome = true := by decide +kernel
  obtain ⟨res, h1⟩ := Option.isSome_iff_exists.1 h
  exact ⟨res, h1, C11_iterations_new_table 2 (by decide) (by decide) 0 (kk 10) histRep 0 1000 (by decide) kk10_hyp
    (by decide +kernel) res h1⟩

example : ((root (.depth 3) 2 (kk 99) [] tt3).map fun r => r.infos.map (·.score)) = some [21, 50, 50] :=
  kk99_depth3

end C11Ex

end Rawr

#print axioms Rawr.child_draw_returns
#print axioms Rawr.C11_repetition_iff
#print axioms Rawr.C11_root_all_children_drawn
#print axioms Rawr.C11_root_all_children_drawn'
#print axioms Rawr.C11_iterations
#print axioms Rawr.C11_iterations_count
#print axioms Rawr.C11_iterations_new_table
