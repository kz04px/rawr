import Rawr.Props.C14
/-! Non-vacuity for C03 / C14 at three plies (kernel evaluation): the hypothesis `SearchDom` on K+P v K, used by
`C14Examples2.lean`. -/
namespace Rawr
namespace C14Ex
open C13Ex

/-- every position a three-ply search of K+P v K can visit evaluates within `±EB`. -/
theorem kpk_dom3 : sDomB 3 kpk = true := by decide +kernel

end C14Ex
end Rawr
