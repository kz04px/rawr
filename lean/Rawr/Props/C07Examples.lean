import Rawr.Props.C07
/-! Non-vacuity of C07(b,c) (kernel evaluation). -/
namespace Rawr
open Spec FenC

/-- the hypotheses `hV`, `hh`, `hf`, `hchk` of `C07c_accepts` for the absolute start position. -/
theorem startA_hyps : Spec.Valid (abs Gen.startpos) = true ∧ (abs Gen.startpos).half < 2147483648 ∧
    (abs Gen.startpos).full < 2147483648 ∧
    (rel (abs Gen.startpos) false).isSqAttacked
      (lsb ((rel (abs Gen.startpos) false).c1 &&& (rel (abs Gen.startpos) false).p5)) false = false := by
  decide +kernel

theorem startA_outermost : AllOutermost (abs Gen.startpos) := by
  intro w ks f h
  have key : ∀ w ks : Bool, (match Spec.right (abs Gen.startpos) w ks with
      | some f => Spec.outermost (abs Gen.startpos).board w ks f | none => true) = true := by decide +kernel
  have := key w ks
  rw [h] at this
  exact this

example (ar : Arith) (st : CastleStyle) :
    setFen ar false (printFen (abs Gen.startpos) st) = some (rel (abs Gen.startpos) false) :=
  C07c_accepts ar _ false st startA_hyps.1 (absBoard_ge _) startA_hyps.2.1 startA_hyps.2.2.1
    (fun _ => startA_outermost) startA_hyps.2.2.2

example : printFen (abs Gen.startpos) .shredder = "rnbqkbnr/pppppppp/8/8/8/8/PPPPPPPP/RNBQKBNR w HAha - 0 1".toList ∧
    printFen (abs Gen.startpos) .xfen = startFen := ⟨by decide +kernel, printFen_startpos⟩


/-- a Chess960 position with an inner-rook right, Black to move, en-passant square: every hypothesis of
`C07c_domain` holds (X-FEN and Shredder spellings), so the theorem applies. -/
def exInner960 : List Char := "1r2k2r/8/8/8/4P3/8/8/R1R1K3 b Ck e3 5 17".toList
example : ((setFen .wrap true exInner960).map fun p =>
    (ValidPos p, p.isSqAttacked (lsb (p.c1 &&& p.p5)) false,
     printFen (abs p) .xfen == exInner960,
     printFen (abs p) .shredder == "1r2k2r/8/8/8/4P3/8/8/R1R1K3 b Ch e3 5 17".toList)) =
    some (true, false, true, true) := by decide +kernel

end Rawr
