import Rawr.Props.C20
import Rawr.Proofs.PyStyleAgree
import Rawr.Proofs.PyStyleAgree_Game
/-!
# C20 on the regenerated script: `PyStyle.analyse_game`, `PyStyle.analyse_pgn.job`, the score functions, `PyStyle.main.report`

`Props/C20.lean` proves C20 about the hand-written model `Rawr.Style` of tools/style/style.py.  `tools/py2lean_style.py`
regenerates the script's own definitions from its Python `ast` on every run into `Rawr.PyStyle.*`
(`Generated/PyStyle.lean`): the `Stats` dataclass with its defaults (`PyStyle.Stats.default`), the update methods,
`PyStyle.is_valid`, the nested `feature_*` functions, `PyStyle.get_aggression_score`, `PyStyle.get_positional_score`,
`PyStyle.get_pawn_pusher_score` (with their `verbose` argument), `PyStyle.analyse_game`, the per-game statements of
`analyse_pgn` (`PyStyle.analyse_pgn.job`: `analyse_game(..); count += 1; assert(is_valid(stats))`), and `main`'s list of
score functions and per-filter report (`PyStyle.main.styles`, `PyStyle.main.report`).  `Rawr.PyStyleAgree.agree_*`
(`Proofs/PyStyleAgree.lean`, `PyStyleAgree_Game.lean`) prove them equal to the model's functions, with no hypothesis:
the score functions and the report to the model's `.guarded` variant — the regenerated text of the script has the four
zero guards (the repair of finding F9).

Consequences for the restatement:
* (a) `C20a_init`, `C20a_step`, `C20a`, `C20a_chess` and (b) `C20b_features`, `C20b_scores` transfer EXACTLY (same
  hypotheses `Inv s`, `WFGame side g` / `ChessGame g`; `v := .guarded`; for every value of `verbose`).  `analyse_game` can
  raise `RuntimeError` besides the model's three classes (`PyStyle.Py.Exc`); `agree_analyse_game` shows it does so never
  (`Py.lift`), which the statements below inherit: they say `= .ok _`.
* (c) `C20c_guarded` / `C20c_guarded_chess` ("no exception for any set of games", TRUE for the guarded text) transfer
  exactly: `C20_code_c_no_abort`, `C20_code_c_no_abort_chess` — on the code the full statement C20(c) holds.
  `C20_code_b_scores_total`, `C20_code_c_styles` add what the model proves for the guarded text beyond `C20b_scores`: the three
  regenerated score functions NEVER raise on statistics satisfying the invariant, and return a value of `[0,1]` as soon as
  there is a game.
* NOT restatable: `C20c_witness`, `C20c_refuted`, `C20c_refuted_chess`, `C20c_partial`, `C20c_exact`, `C20c_exact_chess` speak
  about `Variant.current`, the text of the script without the guards; no regenerated definition corresponds to it
  (`agree_get_aggression_score : PyStyle.get_aggression_score s verbose = getAggressionScore .guarded s`).  The closest
  true statement about the code is the opposite one, `C20_code_c_witness_fixed`: on the refutation witness (one game
  without moves) the regenerated pipeline returns.  They remain theorems about the model's `.current` variant, i.e. the
  record of F9.
* the nested function `get_aggression_score.feature_sacrifices` is regenerated but occurs in no `features` list (dead in
  the script as in the model); `C20b_features` does not speak about it and neither does `C20_code_b_features`.
-/
namespace Rawr.Style
open Rawr.PyStyleAgree

theorem lift_ok' {α : Type} (a : α) : PyStyle.Py.lift (Except.ok a : Except PyErr α) = .ok a := lift_ok a

/-- **`C20a_init` on the code**: the invariant holds of the regenerated `Stats()` and the regenerated `is_valid`
accepts it. -/
theorem C20_code_a_init : Inv PyStyle.Stats.default ∧ PyStyle.is_valid PyStyle.Stats.default = .ok true := by
  rw [agree_Stats_default, agree_is_valid]; exact C20a_init

/-- **`C20a_step` on the code**: from any statistics satisfying the invariant the regenerated `analyse_game` on a
well-formed game RETURNS (no `IndexError`, no `RuntimeError`), the invariant holds again and `is_valid` is true. -/
theorem C20_code_a_step (g : Game) (side : Color) (s : Stats) (hI : Inv s) (hwf : WFGame side g) :
    ∃ s', PyStyle.analyse_game g side s = .ok s' ∧ Inv s' ∧ PyStyle.is_valid s' = .ok true := by
  obtain ⟨s', h1, h2, h3⟩ := C20a_step g side s hI hwf
  exact ⟨s', by rw [agree_analyse_game, h1]; rfl, h2, by rw [agree_is_valid]; exact h3⟩

/-- the per-game statements of `analyse_pgn` (`analyse_game`; `count += 1`; `assert(is_valid(stats))`): the
assertion passes. -/
theorem C20_code_a_job (g : Game) (side : Color) (s : Stats) (count : Nat) (hI : Inv s) (hwf : WFGame side g) :
    ∃ s', PyStyle.analyse_pgn.job g side s count = .ok (s', count + 1) ∧ Inv s' := by
  obtain ⟨s', h1, h2, h3⟩ := C20a_step g side s hI hwf
  refine ⟨s', ?_, h2⟩
  rw [agree_analyse_pgn_job, h1]
  simp only [bind_ok, h3]
  rfl

/-- **`C20a` on the code**: any set of well-formed games, analysed for either side in any order: running the
regenerated per-game statements of `analyse_pgn` from the regenerated `Stats()` returns — every `assert(is_valid(stats))`
passes —, the accumulated statistics satisfy the invariant and `is_valid`, and `count` = `num_games` = number of games. -/
theorem C20_code_a (jobs : List (Game × Color)) (hwf : ∀ j ∈ jobs, WFGame j.2 j.1) :
    ∃ s, List.foldlM (fun (st : Stats × Nat) (j : Game × Color) => PyStyle.analyse_pgn.job j.1 j.2 st.1 st.2)
        (PyStyle.Stats.default, 0) jobs = .ok (s, jobs.length) ∧
      Inv s ∧ PyStyle.is_valid s = .ok true ∧ s.numGames = jobs.length := by
  obtain ⟨s, h1, h2, h3, h4⟩ := C20a jobs hwf
  refine ⟨s, ?_, h2, by rw [agree_is_valid]; exact h3, h4⟩
  rw [agree_Stats_default, agree_analyse_pgn, h1]
  simp only [map_ok, Nat.zero_add]
  rfl

/-- the feature functions of the regenerated score functions, as they occur in their `features` lists. -/
def codeFeatures : List (Stats → Except PyErr Q) :=
  [ PyStyle.get_aggression_score.feature_game_length, PyStyle.get_aggression_score.feature_capture_early,
    PyStyle.get_aggression_score.feature_capture_near_king, PyStyle.get_aggression_score.feature_move_near_king,
    PyStyle.get_aggression_score.feature_castle_opposite, PyStyle.get_aggression_score.feature_push_pawns,
    PyStyle.get_aggression_score.feature_checks, PyStyle.get_aggression_score.feature_wins_behind,
    PyStyle.get_aggression_score.feature_capture_frequency,
    PyStyle.get_aggression_score.feature_push_pawn_towards_king, PyStyle.get_aggression_score.feature_rook_threats,
    PyStyle.get_aggression_score.feature_bishop_threats,
    PyStyle.get_positional_score.feature_game_length, PyStyle.get_positional_score.feature_capture_early,
    fun s => .ok (PyStyle.get_pawn_pusher_score.feature_placeholder s) ]

theorem codeFeatures_eq :
    codeFeatures = (Aggression.features .guarded ++ Positional.features .guarded ++ PawnPusher.features).map (·.func) := by
  simp only [codeFeatures, Aggression.features, Positional.features, PawnPusher.features, List.cons_append,
    List.nil_append, List.map_cons, List.map_nil, agree_aggr_feature_game_length, agree_aggr_feature_capture_early,
    agree_aggr_feature_capture_near_king, agree_aggr_feature_move_near_king, agree_aggr_feature_castle_opposite,
    agree_aggr_feature_push_pawns, agree_aggr_feature_checks, agree_aggr_feature_wins_behind,
    agree_aggr_feature_capture_frequency, agree_aggr_feature_push_pawn_towards_king, agree_aggr_feature_rook_threats,
    agree_aggr_feature_bishop_threats, agree_pos_feature_game_length, agree_pos_feature_capture_early]
  rfl

/-- **`C20b_features` on the code**: every regenerated feature function of every score function: a returned value
is in `[0,1]`, a raised exception is `ZeroDivisionError` (so neither range `assert` of the scoring loops can fail). -/
theorem C20_code_b_features {s : Stats} (hI : Inv s) (f : Stats → Except PyErr Q) (hf : f ∈ codeFeatures) :
    (∀ x, f s = .ok x → Unit01 x) ∧ (∀ e, f s = .error e → e = .zeroDivision) := by
  rw [codeFeatures_eq, List.mem_map] at hf
  obtain ⟨F, hF, rfl⟩ := hf
  exact C20b_features hI .guarded F hF

/-- **`C20b_scores` on the code**, for every value of `verbose`: every score the regenerated functions return is
in `[0,1]`; `None` is returned when there are no games; the only exception they could raise is `ZeroDivisionError`. -/
theorem C20_code_b_scores {s : Stats} (hI : Inv s) (verbose : Bool) :
    (∀ q, PyStyle.get_aggression_score s verbose = .ok (some q) → Unit01 q) ∧
    (∀ q, PyStyle.get_positional_score s verbose = .ok (some q) → Unit01 q) ∧
    (∀ q, PyStyle.get_pawn_pusher_score s verbose = .ok (some q) → Unit01 q) ∧
    (∀ e, PyStyle.get_aggression_score s verbose = .error e → e = .zeroDivision) ∧
    (∀ e, PyStyle.get_positional_score s verbose = .error e → e = .zeroDivision) ∧
    (∀ e, PyStyle.get_pawn_pusher_score s verbose ≠ .error e) ∧
    (s.numGames = 0 → PyStyle.get_aggression_score s verbose = .ok none ∧
      PyStyle.get_positional_score s verbose = .ok none ∧ PyStyle.get_pawn_pusher_score s verbose = .ok none) := by
  rw [agree_get_aggression_score, agree_get_positional_score, agree_get_pawn_pusher_score]
  exact C20b_scores hI .guarded

/-- what the model proves of the guarded text beyond `C20b_scores`, on the code: on statistics satisfying the invariant
the three regenerated score functions NEVER raise; they return `None` without games and a value of `[0,1]` otherwise. -/
theorem C20_code_b_scores_total {s : Stats} (hI : Inv s) (verbose : Bool) :
    (s.numGames = 0 → PyStyle.get_aggression_score s verbose = .ok none ∧
      PyStyle.get_positional_score s verbose = .ok none ∧ PyStyle.get_pawn_pusher_score s verbose = .ok none) ∧
    (0 < s.numGames → (∃ q, PyStyle.get_aggression_score s verbose = .ok (some q) ∧ Unit01 q) ∧
      (∃ q, PyStyle.get_positional_score s verbose = .ok (some q) ∧ Unit01 q) ∧
      (∃ q, PyStyle.get_pawn_pusher_score s verbose = .ok (some q) ∧ Unit01 q)) := by
  rw [agree_get_aggression_score, agree_get_positional_score, agree_get_pawn_pusher_score]
  have ha := getAggressionScore_spec hI .guarded
  have hp := getPositionalScore_spec hI .guarded
  have hw := getPawnPusherScore_spec s
  exact ⟨fun h0 => ⟨ha.1 h0, hp.1 h0, hw.1 h0⟩,
    fun hn => ⟨ha.2.2 hn (Or.inl rfl) (Or.inl rfl), hp.2.2 hn (Or.inl rfl), hw.2.2 hn⟩⟩

/-- the per-filter report of `main` on statistics satisfying the invariant: it returns (`mainScores_spec` for the
guarded text through `agree_main_report`). -/
theorem C20_code_c_report {s : Stats} (hI : Inv s) (verbose : Bool) : PyStyle.main.report s verbose = .ok () := by
  obtain ⟨r, hr⟩ := (mainScores_spec hI .guarded).2 (Or.inr ⟨Or.inl rfl, Or.inl rfl⟩)
  rw [agree_main_report, hr]
  rfl

/-- every entry of `main`'s `styles` list, applied as `main` applies it: no exception, `None` without games, a value
of `[0,1]` otherwise. -/
theorem C20_code_c_styles {s : Stats} (hI : Inv s) (verbose : Bool)
    (f : Stats → Bool → Except PyErr (Option Q)) (hf : f ∈ PyStyle.main.styles.map (·.2)) :
    (s.numGames = 0 → f s verbose = .ok none) ∧ (0 < s.numGames → ∃ q, f s verbose = .ok (some q) ∧ Unit01 q) := by
  have ht := C20_code_b_scores_total hI verbose
  rw [agree_get_aggression_score, agree_get_positional_score, agree_get_pawn_pusher_score] at ht
  rw [agree_main_styles] at hf
  simp only [List.mem_cons, List.not_mem_nil, or_false] at hf
  rcases hf with rfl | rfl | rfl
  · exact ⟨fun h0 => (ht.1 h0).1, fun hn => (ht.2 hn).1⟩
  · exact ⟨fun h0 => (ht.1 h0).2.1, fun hn => (ht.2 hn).2.1⟩
  · exact ⟨fun h0 => (ht.1 h0).2.2, fun hn => (ht.2 hn).2.2⟩

/-- **C20(c) on the code** (`C20c_guarded`): for ANY set of well-formed games, analysed for either side in any order
and for either value of `verbose`, the regenerated pipeline of one filter — `Stats()`, the per-game statements of
`analyse_pgn`, the report of `main` — raises nothing, and the three scores it reports are in `[0,1]` (or `None`, exactly
when the set is empty). -/
theorem C20_code_c_no_abort (jobs : List (Game × Color)) (hwf : ∀ j ∈ jobs, WFGame j.2 j.1) (verbose : Bool) :
    ∃ s, List.foldlM (fun (st : Stats × Nat) (j : Game × Color) => PyStyle.analyse_pgn.job j.1 j.2 st.1 st.2)
        (PyStyle.Stats.default, 0) jobs = .ok (s, jobs.length) ∧
      PyStyle.main.report s verbose = .ok () ∧
      ∀ f ∈ PyStyle.main.styles.map (·.2),
        (jobs = [] → f s verbose = .ok none) ∧ (jobs ≠ [] → ∃ q, f s verbose = .ok (some q) ∧ Unit01 q) := by
  obtain ⟨s, h1, hI, _, hn⟩ := C20_code_a jobs hwf
  refine ⟨s, h1, C20_code_c_report hI verbose, fun f hf => ?_⟩
  obtain ⟨z, p⟩ := C20_code_c_styles hI verbose f hf
  refine ⟨fun e => z (by rw [hn, e]; rfl), fun e => p ?_⟩
  rw [hn]
  exact List.length_pos_iff.mpr e

theorem C20_code_a_chess (jobs : List (Game × Color)) (h : ∀ j ∈ jobs, ChessGame j.1) :
    ∃ s, List.foldlM (fun (st : Stats × Nat) (j : Game × Color) => PyStyle.analyse_pgn.job j.1 j.2 st.1 st.2)
        (PyStyle.Stats.default, 0) jobs = .ok (s, jobs.length) ∧
      Inv s ∧ PyStyle.is_valid s = .ok true ∧ s.numGames = jobs.length :=
  C20_code_a jobs (fun j hj => C20_wf_of_chess (h j hj) j.2)

/-- **`C20c_guarded_chess` on the code**: no set of legal chess games (fewer than 1024 half-moves each, from the standard
starting position) makes the regenerated script raise, and all reported scores are in `[0,1]`. -/
theorem C20_code_c_no_abort_chess (jobs : List (Game × Color)) (h : ∀ j ∈ jobs, ChessGame j.1) (verbose : Bool) :
    ∃ s, List.foldlM (fun (st : Stats × Nat) (j : Game × Color) => PyStyle.analyse_pgn.job j.1 j.2 st.1 st.2)
        (PyStyle.Stats.default, 0) jobs = .ok (s, jobs.length) ∧
      PyStyle.main.report s verbose = .ok () ∧
      ∀ f ∈ PyStyle.main.styles.map (·.2),
        (jobs = [] → f s verbose = .ok none) ∧ (jobs ≠ [] → ∃ q, f s verbose = .ok (some q) ∧ Unit01 q) :=
  C20_code_c_no_abort jobs (fun j hj => C20_wf_of_chess (h j hj) j.2) verbose

/-- the refutation witness of `C20c_refuted` (one game without moves: no capture, no non-capture) goes through the
regenerated, repaired script: statistics of one game, the report returns, three scores in `[0,1]`. -/
theorem C20_code_c_witness_fixed (verbose : Bool) :
    ∃ s, PyStyle.analyse_pgn.job zeroMoveGame WHITE PyStyle.Stats.default 0 = .ok (s, 1) ∧ s.numGames = 1 ∧
      s.totalCaptures = 0 ∧ s.totalNoncaptures = 0 ∧ PyStyle.main.report s verbose = .ok () ∧
      ∃ q, PyStyle.get_aggression_score s verbose = .ok (some q) ∧ Unit01 q := by
  obtain ⟨s, hjob, hI⟩ :=
    C20_code_a_job zeroMoveGame WHITE PyStyle.Stats.default 0 C20_code_a_init.1 zeroMoveGame_wf
  have hfacts : (match PyStyle.analyse_pgn.job zeroMoveGame WHITE PyStyle.Stats.default 0 with
      | .ok (s, _) => decide (s.numGames = 1 ∧ s.totalCaptures = 0 ∧ s.totalNoncaptures = 0)
      | .error _ => false) = true := by decide +kernel
  rw [hjob] at hfacts
  simp only [decide_eq_true_eq] at hfacts
  obtain ⟨n1, n2, n3⟩ := hfacts
  exact ⟨s, hjob, n1, n2, n3, C20_code_c_report hI verbose, ((C20_code_b_scores_total hI verbose).2 (by omega)).1⟩

/-- the hypotheses of `C20_code_c_no_abort` on a non-trivial set (`1. e4 d5 2. exd5` and a game without moves), and
its conclusion: the pipeline returns with two games counted. -/
example : ∃ s, List.foldlM (fun (st : Stats × Nat) (j : Game × Color) => PyStyle.analyse_pgn.job j.1 j.2 st.1 st.2)
      (PyStyle.Stats.default, 0) [(sampleGame, WHITE), (zeroMoveGame, BLACK)] = .ok (s, 2) ∧ s.numGames = 2 ∧
    PyStyle.main.report s true = .ok () ∧
    ∃ q, PyStyle.get_positional_score s true = .ok (some q) ∧ Unit01 q := by
  have hwf : ∀ j ∈ [(sampleGame, WHITE), (zeroMoveGame, BLACK)], WFGame j.2 j.1 := by
    intro j hj
    simp only [List.mem_cons, List.not_mem_nil, or_false] at hj
    rcases hj with rfl | rfl
    · exact (wfGame_iff _ _).mp (by decide +kernel)
    · exact (wfGame_iff _ _).mp (by decide +kernel)
  obtain ⟨s, h1, hI, _, hn⟩ := C20_code_a _ hwf
  exact ⟨s, h1, hn, C20_code_c_report hI true, ((C20_code_b_scores_total hI true).2 (by rw [hn]; decide)).2.1⟩

/-- the regenerated feature functions listed in `codeFeatures` are the fifteen of the three `features` lists. -/
example : codeFeatures.length = 15 ∧ PyStyle.main.styles.length = 3 := ⟨rfl, rfl⟩

end Rawr.Style

#print axioms Rawr.Style.C20_code_a_init
#print axioms Rawr.Style.C20_code_a_step
#print axioms Rawr.Style.C20_code_a_job
#print axioms Rawr.Style.C20_code_a
#print axioms Rawr.Style.C20_code_b_features
#print axioms Rawr.Style.C20_code_b_scores
#print axioms Rawr.Style.C20_code_b_scores_total
#print axioms Rawr.Style.C20_code_c_report
#print axioms Rawr.Style.C20_code_c_styles
#print axioms Rawr.Style.C20_code_c_no_abort
#print axioms Rawr.Style.C20_code_a_chess
#print axioms Rawr.Style.C20_code_c_no_abort_chess
#print axioms Rawr.Style.C20_code_c_witness_fixed
