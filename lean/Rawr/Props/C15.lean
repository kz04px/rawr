import Rawr.Proofs.UciSafe
/-! # C15 — shape and totality of the UCI conversation (model level)

`listen ar clock lines : Option (List String)` is the transcript of the process (`none` = panic).

* shape: `C15_isready` (an `isready` line is answered by exactly `readyok`, state unchanged),
   `C15_search_one_bestmove` (a well-formed search request is answered by `info …` lines followed by exactly ONE
   `bestmove …` line), `C15_other_lines_silent` (no other line produces a `bestmove …` or `readyok` line),
   `C15_quit_ends`, `C15_quit_in_first_loop`, `C15_eof` ; assembled:
   `C15_transcript_shape` : #`readyok` = `expectedReady script`, #`bestmove …` = `expectedBest script`, the two
   counting functions being defined on the script alone (`firstSyn`, `beforeQuit`, `isReadyLine`, `isSearchLine`).
   `parseGo_total` (Proofs/UciGo) only records that the model of `parse_go` is `Option`-valued (`none` = `Err("Uh oh")`);
   that the regenerated `parse_go` returns on every token list is `C15_code_parse_go_total`.
* totality: `C15_no_panic_partial` : a script that is `ListenSafe` — every `position` FEN accepted by `setFen`, every
   `root` / `perft` / `makemove` call made returns — never panics; nothing else can panic.
   `C15_no_panic_iff` : and conversely.
   The clause for a search request (`GoSafe`, and `hr` of `C15_search_answered`) is that `root` returns on the fuel `1000`
   which `doGo` hands it. `Props/C15_termination.lean` shows that `root` returns on every fuel from `rootFuelP p` on
   (52 632 for the three-man stalemate `staleV` there, 1 697 382 for the start position), and fuel monotonicity goes upward only: it does not
   discharge that clause, and nothing here proves it for any class of positions. -/
namespace Rawr

variable {ar : Arith} {clock : Nat → Bool}

/-- every `isready` (second loop) is answered with exactly `readyok`; the state is untouched. -/
theorem C15_isready (s : UState) (l : List Char) (h : isReadyLine l = true) :
    stepSecond ar clock s l = some (s, ["readyok"], false) :=
  stepSecond_isready ar clock s l (beq_iff_eq.1 h)

/-- a well-formed search request (`go` + arguments parsed as time/movetime/depth/nodes/infinite) whose search
returns is answered by `info …` lines followed by exactly one `bestmove …` line. -/
theorem C15_search_one_bestmove {s s' : UState} {l : List Char} {o : List String} {q : Bool}
    (hl : isSearchLine l = true) (h : stepSecond ar clock s l = some (s', o, q)) :
    SearchShape o ∧ q = false :=
  stepSecond_search hl h

/-- a well-formed search request on which `root` returns is answered: the step returns, with that shape. -/
theorem C15_search_answered {s : UState} {l : List Char} {k : GoKind} (hc : cmdOf l = str "go")
    (hp : parseGo (argsOf l) = some k) (hk : k.isSearch = true)
    (hr : (root (k.limit clock) 1000 s.pos s.hist s.tt).isSome = true) :
    ∃ s' o, stepSecond ar clock s l = some (s', o, false) ∧ SearchShape o := by
  have hg : GoSafe clock s (argsOf l) := by
    unfold GoSafe
    rw [hp]
    cases k with
    | perft | split => cases hk
    | time | movetime | depth | nodes | infinite => exact hr
  obtain ⟨⟨s', o⟩, hgo⟩ := Option.isSome_iff_exists.1 ((go_safe_iff (ar := ar)).2 hg)
  refine ⟨s', o, ?_, doGo_one_bestmove hp hk hgo⟩
  rw [stepSecond_go ar clock s l hc, hgo]
  rfl

/-- all other lines (`ucinewgame`, `print`, `go perft/split`, unparsable `go`, `position`, `moves`,
`setoption`, `history`, `eval`, `quit`, unknown, empty) print neither a `bestmove …` line nor `readyok`. -/
theorem C15_other_lines_silent {s s' : UState} {l : List Char} {o : List String} {q : Bool}
    (h1 : isReadyLine l = false) (h2 : isSearchLine l = false) (h : stepSecond ar clock s l = some (s', o, q)) :
    nReady o = 0 ∧ nBest o = 0 :=
  counts_of_neutral (stepSecond_silent h1 h2 h)

/-- `quit` ends the second loop: the lines after it are never looked at. -/
theorem C15_quit_ends (a b : List (List Char)) (q : List Char) (hq : isQuitLine q = true) (s : UState)
    (out : List String) :
    secondLoop ar clock (a ++ q :: b) s out = secondLoop ar clock (a ++ [q]) s out := by
  have hc : cmdOf q = str "quit" := beq_iff_eq.1 hq
  have e : ∀ t c, steps ar clock t (q :: c) = some (t, [], true) := by
    intro t c
    simp only [steps, stepSecond_quit ar clock t q hc]
  rw [secondLoop_eq, secondLoop_eq, steps_append, steps_append]
  cases steps ar clock s a with
  | none => rfl
  | some r =>
    obtain ⟨s', o, qq⟩ := r
    cases qq with
    | true => rfl
    | false => simp only [e]

theorem firstLoop_quit (opts b : List (List Char)) (q : List Char)
    (hopts : ∀ l ∈ opts, cmdOf l = str "setoption") (hq : isQuitLine q = true) (s : UState) :
    firstLoop (opts ++ q :: b) s = none := by
  induction opts generalizing s with
  | nil => exact firstLoop_cons_quit (beq_iff_eq.1 hq) b s
  | cons l ls ih =>
    rw [List.cons_append, firstLoop_cons_setoption (hopts l List.mem_cons_self)]
    exact ih (fun x hx => hopts x (List.mem_cons_of_mem _ hx)) _

/-- `quit` during the first loop (after `setoption` lines only): the process returns silently. -/
theorem C15_quit_in_first_loop (opts b : List (List Char)) (q : List Char)
    (hopts : ∀ l ∈ opts, cmdOf l = str "setoption") (hq : isQuitLine q = true) :
    listen ar clock (opts ++ q :: b) = some (banner false 16) := by
  rw [listen_eq, afterFirst, firstLoop_quit opts b q hopts hq]
  rfl

/-- end of input ends the process cleanly: in the second loop by definition, … -/
theorem C15_eof_second (s : UState) (out : List String) : secondLoop ar clock [] s out = some out := rfl

/-- … in the first loop after one round of the second loop on an empty line. -/
theorem C15_eof : listen ar clock [] = some (banner false 16) := by
  have h : ∀ s, stepSecond ar clock s [] = some (s, [], false) := fun s =>
    stepSecond_other ar clock s [] (by decide +kernel)
  rw [listen_eq, afterFirst, firstLoop]
  simp only [Option.map_some, steps, h, Bool.false_eq_true, ↓reduceIte, List.append_nil]

/-- **C15 (transcript shape).** If the process does not panic, its transcript contains exactly as many `readyok`
lines as the script has `isready` lines that get processed (the one ending the first loop plus those of the second
loop before the first `quit`), and exactly as many `bestmove …` lines as well-formed search requests processed. -/
theorem C15_transcript_shape {lines : List (List Char)} {out : List String}
    (h : listen ar clock lines = some out) :
    out.count "readyok" = expectedReady lines ∧ out.countP isBest = expectedBest lines :=
  listen_shape h

/-- **C15 (no panic).** A `ListenSafe` script never panics. `ListenSafe` (Proofs/UciSafe) names the ONLY panic
sources of the model: a FEN rejected by `setFen` in a `position` line, and `root` / `perft` / `makemove` calls
returning `none`. -/
theorem C15_no_panic_partial {lines : List (List Char)} (h : ListenSafe ar clock lines) :
    listen ar clock lines ≠ none :=
  Option.isSome_iff_ne_none.1 (listen_safe_iff.2 h)

/-- and conversely: `ListenSafe` is EXACTLY "no panic" — each named source does panic the process. -/
theorem C15_no_panic_iff {lines : List (List Char)} :
    listen ar clock lines ≠ none ↔ ListenSafe ar clock lines := by
  rw [← listen_safe_iff, Option.isSome_iff_ne_none]

theorem StepSafe_of_other (s : UState) (l : List Char) (h1 : cmdOf l ≠ str "go") (h2 : cmdOf l ≠ str "position")
    (h3 : cmdOf l ≠ str "moves") : StepSafe ar clock s l :=
  ⟨fun e => absurd e h1, fun e => absurd e h2, fun e => absurd e h3⟩

theorem GoSafe_of_unparsed (s : UState) (toks : List (List Char)) (h : parseGo toks = none) :
    GoSafe clock s toks := by
  unfold GoSafe; rw [h]; trivial

namespace C15Ex

def clk : Nat → Bool := fun _ => false

/-- `movestogo 0` parses (the division by `movestogo.max(1)` cannot trap) … -/
example : (parseGo (splitWs (str "wtime 1000 btime 1000 movestogo 0"))).map GoKind.isSearch = some true := by
  decide +kernel
/-- … garbage does not (`Err("Uh oh")`, the line is ignored) … -/
example : (parseGo (splitWs (str "depth 3 foo"))).isNone = true := by decide +kernel
/-- … mixed limits are rejected … -/
example : (parseGo (splitWs (str "depth 3 nodes 5"))).isNone = true := by decide +kernel
example : isSearchLine (str "go depth 3") = true ∧ isSearchLine (str "go perft 3") = false ∧
    isSearchLine (str "go depth x") = false ∧ isSearchLine (str "  go   infinite ") = true := by decide +kernel

/-- `go split 0` is total (saturating subtraction): 20 move lines with count 1, `time ?`, `nodes 20`. -/
example : (doGo .trap clk initState (splitWs (str "split 0"))).map (fun r => (r.2.length, r.2.getLast?)) =
    some (22, some "nodes 20") := by decide +kernel

/-- a script through both loops: options, `isready`, queries, a malformed `go`, `quit`, trailing garbage.
It is `ListenSafe` … -/
def script : List (List Char) :=
  [str "setoption name UCI_Chess960 value true", str "isready", str "isready",
   str "position startpos moves e2e4 zz", str "go perft 1", str "go depth", str "print", str "history", str "eval",
   str "isready", str "quit", str "isready"]

theorem script_runs : (listen .trap clk script).isSome = true := by
  rw [listen_eq]
  decide +kernel

/-- … its transcript exists and has 3 `readyok` lines and no `bestmove` (no search request). -/
example : ∃ out, listen .trap clk script = some out ∧ out.count "readyok" = 3 ∧ out.countP isBest = 0 ∧
    expectedReady script = 3 := by
  obtain ⟨out, ho⟩ := Option.isSome_iff_exists.1 script_runs
  have e : expectedReady script = 3 ∧ expectedBest script = 0 := by decide +kernel
  have := C15_transcript_shape ho
  exact ⟨out, ho, this.1.trans e.1, this.2.trans e.2, e.1⟩

/-- the hypothesis of `C15_no_panic_partial` holds for it. -/
example : ListenSafe .trap clk script := by
  rw [← listen_safe_iff]
  exact script_runs

theorem badFen_panics : listen .trap clk [str "isready", str "position fen 8/8 w - - 0 1"] = none := by
  rw [listen_eq]
  decide +kernel

/-- the hypothesis is needed: a `position` line with a FEN that `setFen` rejects panics the process
(as `set_fen` does in the engine). -/
example : listen .trap clk [str "isready", str "position fen 8/8 w - - 0 1"] = none := badFen_panics
example : ¬ ListenSafe .trap clk [str "isready", str "position fen 8/8 w - - 0 1"] :=
  fun h => C15_no_panic_partial h badFen_panics

/-- the counting functions count search requests: two of them here (a third after `quit` is not processed). -/
example : expectedBest [str "isready", str "go depth 2", str "go perft 2", str "go nodes 10", str "quit",
    str "go depth 1"] = 2 ∧
    expectedReady [str "go depth 2", str "isready"] = 1 ∧ expectedBest [str "go depth 2", str "isready"] = 1 ∧
    expectedReady [] = 0 ∧ expectedReady [str "quit", str "isready"] = 0 := by decide +kernel

end C15Ex

#print axioms C15_isready
#print axioms C15_search_one_bestmove
#print axioms C15_search_answered
#print axioms C15_other_lines_silent
#print axioms C15_quit_ends
#print axioms C15_quit_in_first_loop
#print axioms C15_eof
#print axioms C15_transcript_shape
#print axioms C15_no_panic_partial
#print axioms C15_no_panic_iff
#print axioms parseGo_total
end Rawr
