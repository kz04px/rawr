import Rawr.Proofs.RulesLevel
/-! # C11 in terms of the rules of chess

"Every move of the root leads to a position drawn by rule ⇒ the draw score from iteration 2 on, and a legal move"
(`C11_iterations`, `C11_iterations_new_table`, `C11_root_all_children_drawn'` of `Props/C11.lean`) with the
hypotheses on the tree discharged for every root of the domain `V ∧ E`. By the rules (`Spec`) are stated that the root has a
legal move and, in `C11_iterations_count_rules`, that the move handed back is legal; the premises on the children still
range over the model's `legalMoves p` and `makemove`, which C01 and C02 identify with the rules on `V ∧ E`.

* `AllChildrenDrawn.child`, "`makemove` succeeds": C02 (`makemove_total_V`);
* `AllChildrenDrawn.child`, `QEvalOk Bd qFuel c`: the children are in `V ∧ E` (C02 + E-closure), the evaluation on
  their capture trees is within `Bd := EB = 174416 < INF` (C17; `qEvalOk_of_VE`);
* `AllChildrenDrawn.ne`: stated by the rules, `Spec.legalMoves (abs p) ≠ []` (C01);
* `AllChildrenDrawn.len` (at most 218 moves): for `C11_iterations…` it follows from the hypothesis that the driver
  returns (`len_of_root_some`: iteration 1 has ordered the moves).

What is left, and why:
* every child is drawn by the fifty-move rule or has occurred before (`OccurredBefore`, the index form of the
  repetition test, `C11_repetition_iff`) — the premise of the property;
* `hkey`: **no child has the root's key** (a 64-bit collision): from iteration 2 on the table holds the root's
  entry; a child with the same key would read it instead of being scored as a draw;
* `NoChildHit p tt` (no entry under a child's key in the table handed in; for a fresh or all-default table: no
  child has key 0) — an entry under a child's key is used instead of the draw test (the table probe comes first);
* counter room `halfmoves/fullmoves + (fuel + 2) + 64 < 2^31` (validity of the children, which needs one ply and the 64 of
  quiescence; the `fuel` is what `root_code_model` asks in `Props/C11_code.lean`, so that one pair of hypotheses serves both);
* for the *total* form `C11_root_all_children_drawn_rules` (the call is shown to return) the bound
  `(legalMoves p).length ≤ 218` stays: that no position of `V ∧ E` has more than 218 legal moves is a fact about
  chess that the project does not prove (`Term.MovesFit`, `Proofs/TerminationChess.lean`); with more moves `sortNm`,
  hence the call, returns `none`. Neither E nor counter room is needed there. -/
namespace Rawr
open Br DM RulesLevel

/-- the table-independent hypotheses of C11 from validity. -/
theorem allChildrenDrawn_rules (fuel : Nat) (p : Position)
    (hV : ValidPos p = true) (hE : Spec.EpConsistent (abs p) = true)
    (hh : p.halfmoves + (fuel + 2) + 64 < 2147483648) (hfm : p.fullmoves + (fuel + 2) + 64 < 2147483648)
    (hist : List BB)
    (hne : Spec.legalMoves (abs p) ≠ [])
    (hlen : (legalMoves p).length ≤ Gen.orderBufNegamax)
    (hdrawn : ∀ m ∈ legalMoves p, ∀ c, p.makemove m true = some c → c.halfmoves ≥ 100 ∨ OccurredBefore hist c)
    (hkey : ∀ m ∈ legalMoves p, ∀ c, p.makemove m true = some c → c.hash ≠ p.hash) :
    AllChildrenDrawn EB p hist := by
  have hVE : VE (fuel + 1 + 1) p := ⟨hV, hE, hh, hfm⟩
  refine ⟨fun hnil => hne ((C01_no_moves p hV hE).mp hnil), hlen, fun m hm => ?_⟩
  obtain ⟨c, hmk⟩ := makemove_total_V hV hm
  exact ⟨c, hmk, (hdrawn m hm c hmk).imp id (C11_repetition_iff c.hash hist c.halfmoves).2, hkey m hm c hmk,
    qEvalOk_of_VE (searchDomC_VE.move _ _ _ _ hVE hm hmk)⟩

/-- **C11.4 by the rules.** `go depth D`, `2 ≤ D < MAX_DEPTH`, on a root of `V ∧ E` that has a legal move, every
child of which is drawn by the fifty-move rule or has occurred before in `hist`, no child with the root's key,
no table entry under a child's key: if the driver returns, the best move is a legal move, there is exactly one
info record per depth `1 … D`, and every record of depth ≥ 2 carries the score `-DRAW_SCORE`. -/
theorem C11_iterations_rules (D : Int) (hD2 : 2 ≤ D) (hD : D < Gen.MAX_DEPTH) (fuel : Nat) (p : Position)
    (hV : ValidPos p = true) (hE : Spec.EpConsistent (abs p) = true)
    (hh : p.halfmoves + (fuel + 2) + 64 < 2147483648) (hfm : p.fullmoves + (fuel + 2) + 64 < 2147483648)
    (hist : List BB) (tt : Table TTEntry)
    (hne : Spec.legalMoves (abs p) ≠ [])
    (hdrawn : ∀ m ∈ legalMoves p, ∀ c, p.makemove m true = some c → c.halfmoves ≥ 100 ∨ OccurredBefore hist c)
    (hkey : ∀ m ∈ legalMoves p, ∀ c, p.makemove m true = some c → c.hash ≠ p.hash)
    (hT : NoChildHit p tt) (res : RootResult)
    (h : root (.depth D) (fuel + 2) p hist tt = some res) :
    (∃ m ∈ legalMoves p, res.best = some m) ∧
    res.infos.map (·.depth) = (List.range D.toNat).map (fun i : Nat => (i : Int) + 1) ∧
    ∀ r ∈ res.infos, 2 ≤ r.depth → r.score = -Gen.DRAW_SCORE :=
  C11_iterations D hD2 hD fuel p hist tt EB EB_lt_INF
    (allChildrenDrawn_rules fuel p hV hE hh hfm hist hne
      (len_of_root_some D (by omega) (fuel + 1) p hist tt res h) hdrawn hkey) hT res h

/-- the move handed back is legal by the rules, and the counts in the words of the property. -/
theorem C11_iterations_count_rules (D : Int) (hD2 : 2 ≤ D) (hD : D < Gen.MAX_DEPTH) (fuel : Nat) (p : Position)
    (hV : ValidPos p = true) (hE : Spec.EpConsistent (abs p) = true)
    (hh : p.halfmoves + (fuel + 2) + 64 < 2147483648) (hfm : p.fullmoves + (fuel + 2) + 64 < 2147483648)
    (hist : List BB) (tt : Table TTEntry)
    (hne : Spec.legalMoves (abs p) ≠ [])
    (hdrawn : ∀ m ∈ legalMoves p, ∀ c, p.makemove m true = some c → c.halfmoves ≥ 100 ∨ OccurredBefore hist c)
    (hkey : ∀ m ∈ legalMoves p, ∀ c, p.makemove m true = some c → c.hash ≠ p.hash)
    (hT : NoChildHit p tt) (res : RootResult)
    (h : root (.depth D) (fuel + 2) p hist tt = some res) :
    res.infos.length = D.toNat ∧
    (∀ d : Int, 2 ≤ d → d ≤ D → ∃ r ∈ res.infos, r.depth = d ∧ r.score = -Gen.DRAW_SCORE) ∧
    ∃ m, res.best = some m ∧ decodeMove p m ∈ Spec.legalMoves (abs p) := by
  obtain ⟨h1, _, h3, m, hm, hb⟩ := C11_iterations_count D hD2 hD fuel p hist tt EB EB_lt_INF
    (allChildrenDrawn_rules fuel p hV hE hh hfm hist hne
      (len_of_root_some D (by omega) (fuel + 1) p hist tt res h) hdrawn hkey) hT res h
  exact ⟨h1, h3, m, hb, (C01_sound p hV hE m hm).1⟩

/-- C11.4 for a freshly allocated table (any size, also zero slots): `NoChildHit` becomes "no child has key 0". -/
theorem C11_iterations_new_table_rules (D : Int) (hD2 : 2 ≤ D) (hD : D < Gen.MAX_DEPTH) (fuel : Nat) (p : Position)
    (hV : ValidPos p = true) (hE : Spec.EpConsistent (abs p) = true)
    (hh : p.halfmoves + (fuel + 2) + 64 < 2147483648) (hfm : p.fullmoves + (fuel + 2) + 64 < 2147483648)
    (hist : List BB) (mb : Nat)
    (hne : Spec.legalMoves (abs p) ≠ [])
    (hdrawn : ∀ m ∈ legalMoves p, ∀ c, p.makemove m true = some c → c.halfmoves ≥ 100 ∨ OccurredBefore hist c)
    (hkey : ∀ m ∈ legalMoves p, ∀ c, p.makemove m true = some c → c.hash ≠ p.hash ∧ c.hash ≠ 0#64)
    (res : RootResult)
    (h : root (.depth D) (fuel + 2) p hist (Table.new mb Gen.ttEntrySize) = some res) :
    (∃ m ∈ legalMoves p, res.best = some m) ∧
    res.infos.map (·.depth) = (List.range D.toNat).map (fun i : Nat => (i : Int) + 1) ∧
    ∀ r ∈ res.infos, 2 ≤ r.depth → r.score = -Gen.DRAW_SCORE :=
  C11_iterations_rules D hD2 hD fuel p hV hE hh hfm hist _ hne hdrawn (fun m hm c hc => (hkey m hm c hc).1)
    (NoChildHit_new p mb fun m hm c hc => (hkey m hm c hc).2) res h

/-- … and for an all-default table written as `⟨Array.replicate n default⟩` (e.g. `⟨#[default, default, default]⟩`). -/
theorem C11_iterations_empty_table_rules (D : Int) (hD2 : 2 ≤ D) (hD : D < Gen.MAX_DEPTH) (fuel : Nat)
    (p : Position) (hV : ValidPos p = true) (hE : Spec.EpConsistent (abs p) = true)
    (hh : p.halfmoves + (fuel + 2) + 64 < 2147483648) (hfm : p.fullmoves + (fuel + 2) + 64 < 2147483648)
    (hist : List BB) (n : Nat)
    (hne : Spec.legalMoves (abs p) ≠ [])
    (hdrawn : ∀ m ∈ legalMoves p, ∀ c, p.makemove m true = some c → c.halfmoves ≥ 100 ∨ OccurredBefore hist c)
    (hkey : ∀ m ∈ legalMoves p, ∀ c, p.makemove m true = some c → c.hash ≠ p.hash ∧ c.hash ≠ 0#64)
    (res : RootResult)
    (h : root (.depth D) (fuel + 2) p hist ⟨Array.replicate n default⟩ = some res) :
    (∃ m ∈ legalMoves p, res.best = some m) ∧
    res.infos.map (·.depth) = (List.range D.toNat).map (fun i : Nat => (i : Int) + 1) ∧
    ∀ r ∈ res.infos, 2 ≤ r.depth → r.score = -Gen.DRAW_SCORE :=
  C11_iterations_rules D hD2 hD fuel p hV hE hh hfm hist _ hne hdrawn (fun m hm c hc => (hkey m hm c hc).1)
    (noChildHit_replicate p n fun m hm c hc => (hkey m hm c hc).2) res h

/-- **C11.3 by the rules** (total form: the root call of an iteration of depth ≥ 2 is shown to return
`-DRAW_SCORE` with a legal move recorded). Validity gives that every move can be made; the bound of 218 on the
number of moves stays (see the header). -/
theorem C11_root_all_children_drawn_rules (D : Int) (fuel : Nat) (p : Position) (st : SState) (depth : Int)
    (hV : ValidPos p = true)
    (hdepth : 2 ≤ depth) (hD : st.depth ≤ D)
    (hlen : (legalMoves p).length ≤ Gen.orderBufNegamax)
    (hne : legalMoves p ≠ [])
    (hdrawn : ∀ m ∈ legalMoves p, ∀ c, p.makemove m true = some c → c.halfmoves ≥ 100 ∨ OccurredBefore st.hist c)
    (hT : NoChildHit p st.tt) :
    ∃ m₀ st', m₀ ∈ legalMoves p ∧
      negamax (.depth D) (fuel + 2) p st (-Gen.INF) Gen.INF 0 depth false = some (-Gen.DRAW_SCORE, st') ∧
      st'.best = some m₀ ∧ st'.hist = st.hist :=
  C11_root_all_children_drawn' D fuel p st depth hdepth hD hlen hne fun m hm =>
    let ⟨c, hmk⟩ := makemove_total_V hV hm
    ⟨c, hmk, hdrawn m hm c hmk, hT m hm c hmk⟩

namespace C11RulesEx
open C11Ex

/-- `kk 99` of `Props/C11.lean` (white Ka1, black Kh8, white to move, clock 99: every move reaches clock 100) with
the key recomputed, so that it is in the domain V. -/
def kk99V : Position := fixHash (kk 99)

theorem kk99V_valid : ValidPos kk99V = true := by decide +kernel
theorem kk99V_E : Spec.EpConsistent (abs kk99V) = true := by decide +kernel

theorem kk99V_depth3 : (root (.depth 3) 2 kk99V [] tt3).isSome = true := by decide +kernel

theorem kk99V_children : ∀ m ∈ legalMoves kk99V, ∀ c, kk99V.makemove m true = some c →
    c.halfmoves ≥ 100 ∧ c.hash ≠ kk99V.hash ∧ c.hash ≠ 0#64 := by decide +kernel

/-- the hypotheses of `C11_iterations_empty_table_rules` hold on `kk99V`; through the theorem: three records, the draw
score 50 in the last two, a legal best move. -/
example : ∃ res, root (.depth 3) 2 kk99V [] tt3 = some res ∧
    (∃ m ∈ legalMoves kk99V, res.best = some m) ∧ res.infos.map (·.depth) = [1, 2, 3] ∧
    ∀ r ∈ res.infos, 2 ≤ r.depth → r.score = 50 := by
  obtain ⟨res, h1⟩ := Option.isSome_iff_exists.1 kk99V_depth3
  exact ⟨res, h1, C11_iterations_empty_table_rules 3 (by decide) (by decide) 0 kk99V kk99V_valid kk99V_E
    (by decide +kernel) (by decide +kernel) [] 3 (by decide +kernel)
    (fun m hm c hc => Or.inl (kk99V_children m hm c hc).1) (fun m hm c hc => (kk99V_children m hm c hc).2) res h1⟩

/-- the repetition clause: `kk 10` with a history in which each child has occurred at an odd index. The history is
computed from the children's keys (the root's key is recomputed, so the constants of `C11Ex.histRep` do not apply). -/
def kk10V : Position := fixHash (kk 10)

def childKeys (p : Position) : List BB :=
  (legalMoves p).filterMap fun m => (p.makemove m true).map (·.hash)

/-- `[x, k₁, x, k₂, x, k₃]`: the children's keys at the indices 1, 3, 5. -/
def histRepV : List BB := (childKeys kk10V).flatMap fun k => [5#64, k]

theorem kk10V_valid : ValidPos kk10V = true := by decide +kernel
theorem kk10V_E : Spec.EpConsistent (abs kk10V) = true := by decide +kernel

def occurredB (H : List BB) (c : Position) : Bool :=
  (List.range c.halfmoves.toNat).any fun i => decide (2 * i + 1 < c.halfmoves.toNat) && H[2 * i + 1]? == some c.hash

theorem occurred_of_B {H : List BB} {c : Position} (h : occurredB H c = true) : OccurredBefore H c := by
  simp only [occurredB, List.any_eq_true, List.mem_range, Bool.and_eq_true, decide_eq_true_eq, beq_iff_eq] at h
  obtain ⟨i, _, h1, h2⟩ := h
  exact ⟨i, h1, h2⟩

example : ∃ res, root (.depth 2) 2 kk10V histRepV (Table.new 0 Gen.ttEntrySize) = some res ∧
    (∃ m ∈ legalMoves kk10V, res.best = some m) ∧ res.infos.map (·.depth) = [1, 2] ∧
    ∀ r ∈ res.infos, 2 ≤ r.depth → r.score = 50 := by
  have h : (root (.depth 2) 2 kk10V histRepV (Table.new 0 Gen.ttEntrySize)).isSome = true := by decide +kernel
  obtain ⟨res, h1⟩ := Option.isSome_iff_exists.1 h
  have hch : ∀ m ∈ legalMoves kk10V, ∀ c, kk10V.makemove m true = some c →
      occurredB histRepV c = true ∧ c.hash ≠ kk10V.hash ∧ c.hash ≠ 0#64 := by decide +kernel
  exact ⟨res, h1, C11_iterations_new_table_rules 2 (by decide) (by decide) 0 kk10V kk10V_valid kk10V_E
    (by decide +kernel) (by decide +kernel) histRepV 0 (by decide +kernel)
    (fun m hm c hc => Or.inr (occurred_of_B (hch m hm c hc).1)) (fun m hm c hc => (hch m hm c hc).2) res h1⟩

example : ∃ m₀ st', m₀ ∈ legalMoves kk99V ∧
    negamax (.depth 2) 2 kk99V ⟨[], tt3, 2, 0, 0, none, 0⟩ (-Gen.INF) Gen.INF 0 2 false = some (50, st') ∧
    st'.best = some m₀ := by
  obtain ⟨m₀, st', h1, h2, h3, _⟩ := C11_root_all_children_drawn_rules 2 0 kk99V ⟨[], tt3, 2, 0, 0, none, 0⟩ 2
    kk99V_valid (by decide) (show (2 : Int) ≤ 2 by decide) (by decide +kernel) (by decide +kernel)
    (fun m hm c hc => Or.inl (kk99V_children m hm c hc).1)
    (noChildHit_replicate kk99V 3 fun m hm c hc => (kk99V_children m hm c hc).2.2)
  exact ⟨m₀, st', h1, h2, h3⟩

end C11RulesEx

end Rawr

#print axioms Rawr.allChildrenDrawn_rules
#print axioms Rawr.C11_iterations_rules
#print axioms Rawr.C11_iterations_count_rules
#print axioms Rawr.C11_iterations_new_table_rules
#print axioms Rawr.C11_iterations_empty_table_rules
#print axioms Rawr.C11_root_all_children_drawn_rules
