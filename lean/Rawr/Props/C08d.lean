import Rawr.Proofs.AttackLemmas
import Rawr.Generated.StartPos
import Rawr.Proofs.TestPositions
/-!
# C08 (d) — the attack queries of attacks.rs are `Spec.attackedBy`

For every position whose boards are consistent (V.1: `Consistent p`), every square, every set of
squares and both sides, `is_sq_attacked`, `is_bb_attacked`, `get_attacked`, `in_check`,
`in_check_them` and `is_safe` (as called for king steps) agree with the coordinate specification
`Spec.attackedBy` / `Spec.inCheck` on the absolute board `(abs p).board`.

* side `them = false` is the mover, `them = true` the opponent; `sideWhite p them` is that side's
  colour; `absSq p.black` maps the mover-relative square to the absolute one (`s ^^^ 56` for Black).
* `is_sq_attacked` reads `lsb` of the attacker's king board: it needs *at most one* king of the
  attacking side (`count (p.p5 &&& p.side them) ≤ 1`; zero kings is fine: `lsb 0 = 64`, `bit 64 = 0`).
  With two kings the statement is false (`C08d_isSqAttacked_two_kings`). `is_bb_attacked`,
  `get_attacked` and `is_safe` need no hypothesis on kings.
* `in_check`/`in_check_them` additionally read `lsb` of the attacked king: exactly one such king.
* on the domain (`ValidPos`) all king hypotheses hold (`…_valid` corollaries).

Proof layers: `Proofs/AttackGeom.lean` (ray walk ⇄ `clearBetween`, symmetry), `Proofs/SpecMirror.lean`
(mirror symmetry of the specification), `Proofs/AttackLemmas.lean` (bitboard tests ⇄ `attackedBy`),
on top of C10 (table look-up = ray walk for all occupancies; leaper geometry).
-/
namespace Rawr
open Spec Att

/-- C08(d), `is_sq_attacked(sq, side)`. -/
theorem C08d_isSqAttacked (p : Position) (hC : Consistent p = true) (sq : Nat) (hsq : sq < 64)
    (them : Bool) (hk : count (p.p5 &&& p.side them) ≤ 1) :
    p.isSqAttacked sq them
      = Spec.attackedBy (abs p).board (sideWhite p them) (absSq p.black sq) := by
  rw [attackedBy_abs p them sq hsq]
  exact isSqAttacked_rel hC sq hsq them hk

/-- C08(d), `is_bb_attacked(bb, side)`: some square of the set is attacked (no hypothesis on kings). -/
theorem C08d_isBbAttacked (p : Position) (hC : Consistent p = true) (bb : BB) (them : Bool) :
    p.isBbAttacked bb them
      = (toList bb).any (fun s => Spec.attackedBy (abs p).board (sideWhite p them) (absSq p.black s)) := by
  rw [isBbAttacked_rel hC bb them]
  rw [Bool.eq_iff_iff, List.any_eq_true, List.any_eq_true]
  constructor
  · rintro ⟨s, hs, h⟩
    exact ⟨s, hs, by rw [attackedBy_abs p them s ((mem_toList_lt bb s).mp hs).1]; exact h⟩
  · rintro ⟨s, hs, h⟩
    exact ⟨s, hs, by rw [← attackedBy_abs p them s ((mem_toList_lt bb s).mp hs).1]; exact h⟩

/-- C08(d), `get_attacked(mask, side)`: the attacked squares of the mask (no hypothesis on kings). -/
theorem C08d_getAttacked (p : Position) (hC : Consistent p = true) (mask : BB) (them : Bool) :
    ∀ s, s < 64 → (p.getAttacked mask them).getLsbD s
      = (mask.getLsbD s && Spec.attackedBy (abs p).board (sideWhite p them) (absSq p.black s)) := by
  intro s hs
  rw [attackedBy_abs p them s hs]
  exact getAttacked_rel hC mask them s hs

/-- C08(d), `in_check()`: the mover is in check. -/
theorem C08d_inCheck (p : Position) (hC : Consistent p = true)
    (hk0 : count (p.p5 &&& p.c0) = 1) (hk1 : count (p.p5 &&& p.c1) ≤ 1) :
    p.inCheck = Spec.inCheck (abs p).board (!p.black) := by
  have := inCheck_abs p false
  simp only [sideWhite, Bool.false_eq_true, if_false, Bool.not_false] at this
  rw [this]
  exact inCheck_rel hC hk0 hk1

/-- C08(d), `in_check_them()`: the side not to move is in check. -/
theorem C08d_inCheckThem (p : Position) (hC : Consistent p = true)
    (hk0 : count (p.p5 &&& p.c0) ≤ 1) (hk1 : count (p.p5 &&& p.c1) = 1) :
    p.inCheckThem = Spec.inCheck (abs p).board p.black := by
  have := inCheck_abs p true
  simp only [sideWhite, if_true, Bool.not_true] at this
  rw [this]
  exact inCheckThem_rel hC hk0 hk1

/-- C08(d), `is_safe` as called by the king-step loop: the target is not attacked by the opponent on
the board from which the piece on `ksq` (the mover's king) has been lifted. -/
theorem C08d_isSafe (p : Position) (hC : Consistent p = true) (ksq : Nat) (hk64 : ksq < 64)
    (hk : p.c0.getLsbD ksq = true) (to : Nat) (hto : to < 64) :
    isSafe to (p.occ ^^^ bit ksq) (p.c1 &&& p.p0) (p.c1 &&& p.p1) (p.c1 &&& p.p2) (p.c1 &&& p.p3)
        (p.c1 &&& p.p4) (p.c1 &&& p.p5)
      = !Spec.attackedBy (Spec.setSq (abs p).board (absSq p.black ksq) none) p.black
          (absSq p.black to) := by
  rw [isSafe_lift hC ksq hk64 hk to hto, absBoard_frame]
  have e := frameB_setSq p.black (relBoard p) ksq none
  simp only [Option.map_none] at e
  rw [← e]
  have := attackedBy_frame p.black (setSq (relBoard p) ksq none) false to hto
  rw [absCol_false] at this
  rw [this]

theorem C08d_isSqAttacked_valid (p : Position) (hV : ValidPos p = true) (sq : Nat) (hsq : sq < 64)
    (them : Bool) :
    p.isSqAttacked sq them
      = Spec.attackedBy (abs p).board (sideWhite p them) (absSq p.black sq) :=
  C08d_isSqAttacked p (valid_consistent hV) sq hsq them (Nat.le_of_eq (valid_kings hV them))

theorem C08d_inCheck_valid (p : Position) (hV : ValidPos p = true) :
    p.inCheck = Spec.inCheck (abs p).board (!p.black) :=
  C08d_inCheck p (valid_consistent hV) (valid_kings hV false) (Nat.le_of_eq (valid_kings hV true))

theorem C08d_inCheckThem_valid (p : Position) (hV : ValidPos p = true) :
    p.inCheckThem = Spec.inCheck (abs p).board p.black :=
  C08d_inCheckThem p (valid_consistent hV) (Nat.le_of_eq (valid_kings hV false)) (valid_kings hV true)

/-- two kings of the mover on a1 and h8 (and nothing else): g8 is attacked by the h8 king, but
`is_sq_attacked` looks at the `lsb` king (a1) only. -/
def twoKings : Position :=
  { Position.dflt with c0 := 0x8000000000000001#64, p5 := 0x8000000000000001#64 }

theorem C08d_isSqAttacked_two_kings :
    Consistent twoKings = true ∧ twoKings.isSqAttacked 62 false = false ∧
    Spec.attackedBy (abs twoKings).board (sideWhite twoKings false) (absSq twoKings.black 62) = true := by
  decide

/-- a position with a check by a slider: white Kg1 (6), Rf1 (5), pawns g2 h2 (14, 15), Nf3 (21);
black Kg8 (62), Qd4 (27, checking along the diagonal d4–g1), Bb7 (49), pawn f7 (53). -/
def attPos : Position :=
  { Position.dflt with
    c0 := (bit 6 ||| bit 5 ||| bit 14 ||| bit 15 ||| bit 21),
    c1 := (bit 62 ||| bit 27 ||| bit 49 ||| bit 53),
    p0 := (bit 14 ||| bit 15 ||| bit 53), p1 := bit 21, p2 := bit 49, p3 := bit 5, p4 := bit 27,
    p5 := (bit 6 ||| bit 62) }

example : Consistent attPos = true ∧ count (attPos.p5 &&& attPos.c0) = 1 ∧
    count (attPos.p5 &&& attPos.c1) = 1 := by decide
/-- the mover is in check by the queen on d4 (f2 is empty), and both sides of the theorem say so. -/
example : attPos.inCheck = true ∧ Spec.inCheck (abs attPos).board (!attPos.black) = true := by decide
example : attPos.isSqAttacked 21 true = true ∧ attPos.isSqAttacked 8 true = false := by decide
/-- the same position with Black to move (mirrored representation): hypotheses hold, the frame change
is not the identity. -/
example : Consistent attPos.flip = true ∧ attPos.flip.black = true ∧
    attPos.flip.inCheckThem = true := by decide
example : ValidPos Gen.startpos = true := startpos_valid
/-- `is_safe` with the king lifted: f2 (13) is attacked by the queen, h1 (7) is safe. -/
example : attPos.c0.getLsbD 6 = true ∧
    isSafe 13 (attPos.occ ^^^ bit 6) (attPos.c1 &&& attPos.p0) (attPos.c1 &&& attPos.p1)
      (attPos.c1 &&& attPos.p2) (attPos.c1 &&& attPos.p3) (attPos.c1 &&& attPos.p4)
      (attPos.c1 &&& attPos.p5) = false ∧
    isSafe 7 (attPos.occ ^^^ bit 6) (attPos.c1 &&& attPos.p0) (attPos.c1 &&& attPos.p1)
      (attPos.c1 &&& attPos.p2) (attPos.c1 &&& attPos.p3) (attPos.c1 &&& attPos.p4)
      (attPos.c1 &&& attPos.p5) = true := by decide

#print axioms C08d_isSqAttacked
#print axioms C08d_isBbAttacked
#print axioms C08d_getAttacked
#print axioms C08d_inCheck
#print axioms C08d_inCheckThem
#print axioms C08d_isSafe
#print axioms C08d_isSqAttacked_valid
#print axioms C08d_inCheck_valid
#print axioms C08d_inCheckThem_valid
#print axioms C08d_isSqAttacked_two_kings

end Rawr
