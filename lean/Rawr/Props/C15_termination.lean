import Rawr.Proofs.TerminationChess
import Rawr.Props.C03
import Rawr.Props.C03_rules
import Rawr.Props.C14
/-! # C15 (termination) — the search model never hangs: explicit fuel bounds

The model functions `qsearch`, `negamax`, `rootIter`, `root` of `Rawr/Model/Search.lean` take fuel and answer
`none` when it runs out. This file shows that the fuel is not an observable and bounds it.

1. **Fuel monotonicity** (no hypotheses; `Proofs/TerminationMono.lean`): `Term.qsearch_fuel_mono`,
   `Term.negamax_fuel_mono`, `Term.root_fuel_mono`: once the model answers, every larger fuel gives the same answer.
2. **Quiescence terminates**: every fuel from `count p.occ` on suffices (`C15_qsearch_terminates_ge`: every capture
   removes a man); `C15_qsearch_terminates`, `C15_qminimax_defined`, `C15_qsearch_total_sound` are stated for the fuel
   `count p.occ + 1`, `C15_qsearch_qFuel` for `qFuel = 64 ≥ count p.occ`, the fuel `negamax` hands to quiescence.
3. **Negamax terminates**: `C15_negamax_terminates` with the explicit fuel
   `negamaxFuel p ply depth = rank Φ (depth + 1) Φ clk + 1`, `Φ = potP p` (men plus remaining pawn advancement),
   `rank B e φ c = e · 102 · (B + 1) + 102 · φ + c`. The measure is lexicographic in
   (depth bound `depth + 1` ≥ depth after the check extension, potential `Φ`, `100 - halfmoves`; the root, which
   ignores the fifty-move rule, counts as clock 101): a child is called with depth at most the parent's extended
   depth minus one, so its bound does not exceed the parent's; a capture or pawn move lowers `Φ`; any other move
   keeps `Φ` and raises the clock, and a non-root node with `halfmoves ≥ 100` returns at once; the null-move
   child has its bound lowered by two.
4. **The driver terminates** for every limit and every clock oracle (`C15_root_terminates`, fuel `rootFuelP p`
   ≤ 6 750 054), and `C03_root_total`, `C14_depth_total` restate C03 / C14 without the "if it returns" hypothesis.

5. **On the domain `D = V ∧ E ∧ M`** (`InD`) everything above holds under one hypothesis about chess, not proved here:
   `MovesFit` (a position of `D` has at most 218 legal moves — the size of the ordering buffers) for
   `C15_negamax_terminates_inD`, `C15_root_terminates_inD` and `C03_rules_total` (C03 against the rules of chess, total);
   the quiescence forms `C15_qsearch_terminates_inD`, `C15_qminimax_defined_inD` ask only its consequence for captures,
   `CapturesFit` (`Term.MovesFit.captures`).

Hypotheses of 2–4 (all explicit):
* `ValidPos p` (domain V), `0 ≤ ply`, counters far enough below `2^31` (`ValidPos` is only preserved while
  `halfmoves + 1`, `fullmoves + 1 < 2^31`; the search goes at most *fuel* plies deep);
* `ChessDom D`, `D p` (for quiescence alone `CaptDom D`): `D` is any set of positions closed under the three kinds of
  ply the search makes (generated move with key update, generated capture without, null move where the model
  tries one), on which the move lists fit the 218-entry ordering buffer (`fit`) and every generated move is
  legal by the rules (`legal` — the bridge C01, `decodeMove q m ∈ Spec.legalMoves (abs q)`; needed because
  `C02_valid_preserved` asks for it). Every clause is asked only of positions that are valid (up to the stored
  key, which quiescence leaves stale: `ValidH`). Validity of every visited position is *derived* (C02), not
  assumed. `chessDom_EM` (`Proofs/TerminationChess.lean`): `E ∧ M` is such a set, given `MovesFit`.
  `st.tt` is arbitrary (also zero slots), as are history, window, limit and `canNull`. -/
namespace Rawr
open Rawr.Term

/-- quiescence answers on every fuel from `count p.occ` (the number of men) on. -/
theorem C15_qsearch_terminates_ge {D : Position → Prop} (hD : CaptDom D) (p : Position) (hp : D p)
    (hV : ValidPos p = true) (hh : p.halfmoves + 64 < 2147483648) (hf : p.fullmoves + 64 < 2147483648)
    (f : Nat) (hfuel : count p.occ ≤ f) (st : QState) (α β ply : Int) : qsearch f p st α β ply ≠ none :=
  ne_none_of_ex (qsearch_total_chess hD hp (validH_of_valid hV) hh hf f
    (by rw [menP_eq_count (validPos_parts hV).consistent]; exact hfuel) st α β ply)

theorem C15_qsearch_terminates {D : Position → Prop} (hD : CaptDom D) (p : Position) (hp : D p)
    (hV : ValidPos p = true) (hh : p.halfmoves + 64 < 2147483648) (hf : p.fullmoves + 64 < 2147483648)
    (st : QState) (α β ply : Int) : qsearch (count p.occ + 1) p st α β ply ≠ none :=
  C15_qsearch_terminates_ge hD p hp hV hh hf _ (by omega) st α β ply

/-- the fuel `negamax` hands to quiescence always suffices. -/
theorem C15_qsearch_qFuel {D : Position → Prop} (hD : CaptDom D) (p : Position) (hp : D p)
    (hV : ValidPos p = true) (hh : p.halfmoves + 64 < 2147483648) (hf : p.fullmoves + 64 < 2147483648)
    (st : QState) (α β ply : Int) : qsearch qFuel p st α β ply ≠ none :=
  C15_qsearch_terminates_ge hD p hp hV hh hf _
    (by rw [← menP_eq_count (validPos_parts hV).consistent]; exact menP_le p) st α β ply

/-- the exact reference value of C19 (`qminimax`, `Rawr/Props/C19.lean`) is defined. -/
theorem C15_qminimax_defined {D : Position → Prop} (hD : CaptDom D) (p : Position) (hp : D p)
    (hV : ValidPos p = true) (hh : p.halfmoves + 64 < 2147483648) (hf : p.fullmoves + 64 < 2147483648) :
    qminimax (count p.occ + 1) p ≠ none :=
  ne_none_of_ex (qminimax_total_chess hD hp (validH_of_valid hV) hh hf _
    (by rw [menP_eq_count (validPos_parts hV).consistent]; omega))

/-- … and with it the total form of C19: quiescence returns, and its result obeys the three fail-soft clauses
against the exact value of the capture tree. -/
theorem C15_qsearch_total_sound {D : Position → Prop} (hD : CaptDom D) (p : Position) (hp : D p)
    (hV : ValidPos p = true) (hh : p.halfmoves + 64 < 2147483648) (hf : p.fullmoves + 64 < 2147483648)
    (st : QState) (α β ply : Int) (hαβ : α < β) :
    ∃ v r st', qminimax (count p.occ + 1) p = some v ∧ qsearch (count p.occ + 1) p st α β ply = some (r, st') ∧
      (α < v ∧ v < β → r = v) ∧ (r ≤ α → v ≤ r) ∧ (β ≤ r → r ≤ v) := by
  obtain ⟨v, hv⟩ := qminimax_total_chess hD hp (validH_of_valid hV) hh hf (count p.occ + 1)
    (by rw [menP_eq_count (validPos_parts hV).consistent]; omega)
  obtain ⟨⟨r, st'⟩, hr⟩ := qsearch_total_chess hD hp (validH_of_valid hV) hh hf (count p.occ + 1)
    (by rw [menP_eq_count (validPos_parts hV).consistent]; omega) st α β ply
  exact ⟨v, r, st', hv, hr, C19_qsearch_sound _ p st α β ply r st' hαβ hr _ v hv⟩

/-- fuel sufficient for a call of `negamax` on `p` at `ply` with remaining depth `depth`. -/
def negamaxFuel (p : Position) (ply depth : Int) : Nat :=
  rank (potP p) (depth + 1) (potP p) (clk ply p.halfmoves) + 1

theorem negamaxFuel_eq (p : Position) (ply depth : Int) :
    negamaxFuel p ply depth = (depth + 1).toNat * (102 * (potP p + 1)) + potP p * 102 +
      (if ply = 0 then 101 else (100 - p.halfmoves).toNat) + 1 := rfl

theorem C15_negamax_terminates (lim : Limit) {D : Position → Prop} (hD : ChessDom D) (p : Position) (hp : D p)
    (hV : ValidPos p = true) (ply depth : Int) (hply : 0 ≤ ply)
    (hh : p.halfmoves + negamaxFuel p ply depth + 64 < 2147483648)
    (hf : p.fullmoves + negamaxFuel p ply depth + 64 < 2147483648)
    (st : SState) (α β : Int) (cn : Bool) :
    ∀ f, negamaxFuel p ply depth ≤ f → negamax lim f p st α β ply depth cn ≠ none := by
  intro f hle
  obtain ⟨r, hr⟩ := negamax_total lim (chessDom_ndom hD) (potP p) (negamaxFuel p ply depth) p st α β ply depth cn
    hply ⟨hp, hV, hh, hf⟩ (Nat.le_refl _) (by unfold negamaxFuel; omega)
  exact ne_none_of_ex ⟨r, negamax_fuel_mono hr hle⟩

theorem C15_negamax_terminates' (lim : Limit) {D : Position → Prop} (hD : ChessDom D) (p : Position) (hp : D p)
    (hV : ValidPos p = true) (ply depth : Int) (hply : 0 ≤ ply)
    (hh : p.halfmoves + negamaxFuel p ply depth + 64 < 2147483648)
    (hf : p.fullmoves + negamaxFuel p ply depth + 64 < 2147483648)
    (st : SState) (α β : Int) (cn : Bool) :
    ∃ F, ∀ f ≥ F, negamax lim f p st α β ply depth cn ≠ none :=
  ⟨negamaxFuel p ply depth, C15_negamax_terminates lim hD p hp hV ply depth hply hh hf st α β cn⟩

/-- fuel sufficient for all `MAX_DEPTH - 1` iterations of the driver on `p`. -/
def rootFuelP (p : Position) : Nat := rootFuel (potP p) (potP p)

theorem rootFuelP_eq (p : Position) :
    rootFuelP p = 128 * (102 * (potP p + 1)) + potP p * 102 + 101 + 1 := rfl

theorem rootFuelP_le (p : Position) : rootFuelP p ≤ 6750054 := by
  rw [rootFuelP_eq]; have := potP_le p; omega

/-- **the driver terminates**, for every limit (depth, nodes, any clock oracle, infinite): the iteration loop
is bounded by `MAX_DEPTH`, each root call by (3). -/
theorem C15_root_terminates (lim : Limit) {D : Position → Prop} (hD : ChessDom D) (p : Position) (hp : D p)
    (hV : ValidPos p = true) (hh : p.halfmoves < 2140000000) (hf : p.fullmoves < 2140000000)
    (hist : List BB) (tt : Table TTEntry) :
    ∃ res, ∀ f, rootFuelP p ≤ f → root lim f p hist tt = some res := by
  have hle := rootFuelP_le p
  obtain ⟨res, hr⟩ := root_total lim (chessDom_ndom hD) (potP p) p hist tt (Nat.le_refl _)
    ⟨hp, hV, by unfold rootFuelP at hle; omega, by unfold rootFuelP at hle; omega⟩
  exact ⟨res, fun f hle' => root_fuel_mono hr hle'⟩

theorem C15_root_never_hangs (lim : Limit) {D : Position → Prop} (hD : ChessDom D) (p : Position) (hp : D p)
    (hV : ValidPos p = true) (hh : p.halfmoves < 2140000000) (hf : p.fullmoves < 2140000000)
    (hist : List BB) (tt : Table TTEntry) :
    ∃ F, ∀ f ≥ F, root lim f p hist tt ≠ none := by
  obtain ⟨res, h⟩ := C15_root_terminates lim hD p hp hV hh hf hist tt
  exact ⟨rootFuelP p, fun f hle => by rw [h f hle]; exact fun e => by cases e⟩

/-- **C03 without "if it returns"**: the driver returns (the same result on every fuel from `rootFuelP p` on),
with a member of `legalMoves p` when there is one and with `Err("No bestmove")` only when there is none.
(`SearchDom G`, `G fuel p`, `TTBounded tt` are the hypotheses of C03; its bound `fuel ≤ INF + MATE_SCORE` on the
recursion depth is discharged: `rootFuelP p ≤ 6 750 054`.) -/
theorem C03_root_total (lim : Limit) {D : Position → Prop} (hD : ChessDom D) (G : Nat → Position → Prop)
    (hG : SearchDom G) (p : Position) (hp : D p) (hGp : G (rootFuelP p) p) (hV : ValidPos p = true)
    (hh : p.halfmoves < 2140000000) (hf : p.fullmoves < 2140000000)
    (hist : List BB) (tt : Table TTEntry) (htt : TTBounded tt) :
    ∃ res, (∀ f, rootFuelP p ≤ f → root lim f p hist tt = some res) ∧
      (legalMoves p ≠ [] → ∃ m ∈ legalMoves p, res.best = some m) ∧ (legalMoves p = [] → res.best = none) := by
  obtain ⟨res, h⟩ := C15_root_terminates lim hD p hp hV hh hf hist tt
  have hle := rootFuelP_le p
  refine ⟨res, h, C03_root_returns_legal lim G hG (rootFuelP p) p hist tt res hGp htt ?_ (h _ (Nat.le_refl _))⟩
  have e : Gen.INF + Gen.MATE_SCORE = 11000000 := rfl
  rw [e]; omega

theorem C03_root_total_inv (lim : Limit) {D : Position → Prop} (hD : ChessDom D) (G : Position → Prop)
    (hG : EvalBoundedOn G) (p : Position) (hp : D p) (hGp : G p) (hV : ValidPos p = true)
    (hh : p.halfmoves < 2140000000) (hf : p.fullmoves < 2140000000)
    (hist : List BB) (tt : Table TTEntry) (htt : TTBounded tt) :
    ∃ res, (∀ f, rootFuelP p ≤ f → root lim f p hist tt = some res) ∧
      (legalMoves p ≠ [] → ∃ m ∈ legalMoves p, res.best = some m) ∧ (legalMoves p = [] → res.best = none) :=
  C03_root_total lim hD (fun _ => G) hG.dom p hp hGp hV hh hf hist tt htt

/-- **C14 (depth limits) without "if it returns"**: with `go depth Dl`, `1 ≤ Dl < MAX_DEPTH`, on a root that has
legal moves, the driver returns and has reported exactly the iterations `1, …, Dl`. -/
theorem C14_depth_total (Dl : Int) (hD1 : 1 ≤ Dl) (hD2 : Dl < Gen.MAX_DEPTH)
    {D : Position → Prop} (hD : ChessDom D) (G : Nat → Position → Prop)
    (hG : SearchDom G) (p : Position) (hp : D p) (hGp : G (rootFuelP p) p) (hV : ValidPos p = true)
    (hh : p.halfmoves < 2140000000) (hf : p.fullmoves < 2140000000)
    (hist : List BB) (tt : Table TTEntry) (htt : TTBounded tt) (hlegal : legalMoves p ≠ []) :
    ∃ res, (∀ f, rootFuelP p ≤ f → root (.depth Dl) f p hist tt = some res) ∧
      res.infos.map (·.depth) = (List.range' 1 Dl.toNat).map Int.ofNat := by
  obtain ⟨res, h⟩ := C15_root_terminates (.depth Dl) hD p hp hV hh hf hist tt
  have hle := rootFuelP_le p
  refine ⟨res, h, C14_depth_iterations Dl hD1 hD2 G hG (rootFuelP p) p hist tt res hGp htt ?_
    hlegal (h _ (Nat.le_refl _))⟩
  have e : Gen.INF + Gen.MATE_SCORE = 11000000 := rfl
  rw [e]; omega

/-! ## 5. on the domain `D = V ∧ E ∧ M` of DESIGN.md §4

With C01 (`C01_sound`) and the closure of E and M under moves (`Props/C02_domain.lean`) the set `E ∧ M` is closed
in the sense of `ChessDom` (`chessDom_EM`); the only hypothesis left is `MovesFit` / `CapturesFit`: a position of
`D` (stored key aside) has at most 218 legal moves / captures — the size of the ordering buffers. -/

theorem C15_qsearch_terminates_inD (hfit : CapturesFit) (p : Position) (hD : InD p = true)
    (hh : p.halfmoves + 64 < 2147483648) (hf : p.fullmoves + 64 < 2147483648)
    (st : QState) (α β ply : Int) : qsearch (count p.occ + 1) p st α β ply ≠ none :=
  C15_qsearch_terminates (captDom_EM hfit) p (em_of_inD hD).2 (em_of_inD hD).1 hh hf st α β ply

theorem C15_qminimax_defined_inD (hfit : CapturesFit) (p : Position) (hD : InD p = true)
    (hh : p.halfmoves + 64 < 2147483648) (hf : p.fullmoves + 64 < 2147483648) :
    qminimax (count p.occ + 1) p ≠ none :=
  C15_qminimax_defined (captDom_EM hfit) p (em_of_inD hD).2 (em_of_inD hD).1 hh hf

theorem C15_negamax_terminates_inD (lim : Limit) (hfit : MovesFit) (p : Position) (hD : InD p = true)
    (ply depth : Int) (hply : 0 ≤ ply)
    (hh : p.halfmoves + negamaxFuel p ply depth + 64 < 2147483648)
    (hf : p.fullmoves + negamaxFuel p ply depth + 64 < 2147483648)
    (st : SState) (α β : Int) (cn : Bool) :
    ∀ f, negamaxFuel p ply depth ≤ f → negamax lim f p st α β ply depth cn ≠ none :=
  C15_negamax_terminates lim (chessDom_EM hfit) p (em_of_inD hD).2 (em_of_inD hD).1 ply depth hply hh hf st α β cn

theorem C15_root_terminates_inD (lim : Limit) (hfit : MovesFit) (p : Position) (hD : InD p = true)
    (hh : p.halfmoves < 2140000000) (hf : p.fullmoves < 2140000000) (hist : List BB) (tt : Table TTEntry) :
    ∃ res, ∀ f, rootFuelP p ≤ f → root lim f p hist tt = some res :=
  C15_root_terminates lim (chessDom_EM hfit) p (em_of_inD hD).2 (em_of_inD hD).1 hh hf hist tt

/-- **C03 against the rules of chess, total**: for every position of `D`, every limit, history and bounded table the
driver returns — the same result on every fuel from `rootFuelP p` on — with a move that is legal by the rules
when there is one, `Err("No bestmove")` otherwise, and a bounded table. (`C03_rules` without its "if it returns"
hypothesis and without its fuel bound.) -/
theorem C03_rules_total (lim : Limit) (hfit : MovesFit) (p : Position) (hD : InD p = true)
    (hh : p.halfmoves < 2140000000) (hf : p.fullmoves < 2140000000)
    (hist : List BB) (tt : Table TTEntry) (htt : TTBounded tt) :
    ∃ res, (∀ f, rootFuelP p ≤ f → root lim f p hist tt = some res) ∧
      (Spec.legalMoves (abs p) ≠ [] →
        ∃ m, res.best = some m ∧ decodeMove p m ∈ Spec.legalMoves (abs p) ∧ encodeMove p (decodeMove p m) = m) ∧
      (Spec.legalMoves (abs p) = [] → res.best = none) ∧ TTBounded res.tt := by
  obtain ⟨res, h⟩ := C15_root_terminates_inD lim hfit p hD hh hf hist tt
  have hle := rootFuelP_le p
  obtain ⟨hV, hE, _⟩ := (inD_iff p).mp hD
  have e : Gen.INF + Gen.MATE_SCORE = 11000000 := rfl
  exact ⟨res, h, C03_rules lim (rootFuelP p) p hist tt res hV hE htt (by rw [e]; omega) (by omega) (by omega)
    (h _ (Nat.le_refl _))⟩

namespace C15TermEx

/-- kernel-evaluable form of `CaptDom` for a finite list of positions. -/
def captClosedB (l : List Position) : Bool :=
  l.all fun q => decide ((legalCaptures q).length ≤ Gen.orderBufQsearch) &&
    (legalCaptures q).all fun m => decide (decodeMove q m ∈ Spec.legalMoves (abs q)) &&
      match q.makemove m false with
      | none => false
      | some q' => decide (q' ∈ l)

theorem captDom_of_closedB {l : List Position} (h : captClosedB l = true) : CaptDom (· ∈ l) := by
  simp only [captClosedB, List.all_eq_true, Bool.and_eq_true, decide_eq_true_eq] at h
  refine ⟨fun q m q' hq _ hm hmk => ?_, fun q hq _ => (h q hq).1, fun q hq _ m hm => ((h q hq).2 m hm).1⟩
  have := ((h q hq).2 m hm).2
  rw [hmk] at this
  exact of_decide_eq_true this

/-- after 1.e4 d5 (position of C19): the capture tree is exd5, Qxd5 — three positions, the last two with the
stale key quiescence leaves behind. -/
def q0 : Position := posE4D5
def q1 : Position := (q0.makemove ⟨28, 35, 6⟩ false).getD default
def q2 : Position := (q1.makemove ⟨3, 27, 6⟩ false).getD default

theorem q0_valid : ValidPos q0 = true := by decide +kernel
theorem capt_closed : captClosedB [q0, q1, q2] = true := by decide +kernel

/-- the hypotheses of (2) hold on a three-ply capture tree with 32 men; conclusions through the theorems. -/
example : count q0.occ = 32 ∧ qsearch 33 q0 ⟨0, 0⟩ (-50) 50 0 ≠ none ∧ qminimax 33 q0 ≠ none ∧
    qsearch qFuel q0 ⟨0, 0⟩ (-50) 50 0 ≠ none :=
  ⟨by decide +kernel,
   C15_qsearch_terminates (captDom_of_closedB capt_closed) q0 (by simp) q0_valid (by decide) (by decide) _ _ _ _,
   C15_qminimax_defined (captDom_of_closedB capt_closed) q0 (by simp) q0_valid (by decide) (by decide),
   C15_qsearch_qFuel (captDom_of_closedB capt_closed) q0 (by simp) q0_valid (by decide) (by decide) _ _ _ _⟩

/-- a position without legal moves is a closed set by itself (the null move is only asked for out of check and
when the side to move has more than two pieces). -/
theorem chessDom_terminal (p : Position) (h1 : legalMoves p = []) (h2 : legalCaptures p = [])
    (h3 : p.inCheck = true ∨ isEndgame p = true) : ChessDom (· = p) := by
  refine ⟨?_, ?_, ?_, ?_, ?_⟩
  · intro q m q' hq _ hm; subst hq; rw [h1] at hm; cases hm
  · intro q m q' hq _ hm; subst hq; rw [h2] at hm; cases hm
  · intro q hq _ hc he; subst hq
    rcases h3 with h | h
    · rw [h] at hc; cases hc
    · rw [h] at he; cases he
  · intro q hq _; subst hq; rw [h1]; decide
  · intro q hq _ m hm; subst hq; rw [h1] at hm; cases hm

/-- the stalemate of C13 (white Ka1; black Qc2, Kh8; white to move), key recomputed. -/
def staleV : Position := fixHash C13Ex.stale

/-- a checkmate (white Kf7, pawn g7; black Kh8, pawn h7; black to move — boards relative to the mover). -/
def matedV : Position := fixHash
  { c0 := 0x8080#64, c1 := 0x6000#64,
    p0 := 0xC000#64, p1 := 0#64, p2 := 0#64, p3 := 0#64, p4 := 0#64, p5 := 0x2080#64,
    halfmoves := 0, fullmoves := 60, black := true, ep := none,
    usK := false, usQ := false, themK := false, themQ := false,
    cf0 := 7, cf1 := 0, cf2 := 7, cf3 := 0, hash := 0#64, frc := false }

theorem staleV_valid : ValidPos staleV = true := by decide +kernel
theorem staleV_dom : ChessDom (· = staleV) :=
  chessDom_terminal staleV (by decide +kernel) (by decide +kernel) (Or.inr (by decide +kernel))
theorem matedV_valid : ValidPos matedV = true := by decide +kernel
theorem matedV_dom : ChessDom (· = matedV) :=
  chessDom_terminal matedV (by decide +kernel) (by decide +kernel) (Or.inl (by decide +kernel))

/-- the hypotheses of (3) and (4) hold on a stalemate and on a checkmate, for an arbitrary clock oracle, table and
history. (A set `D` closed under *all* legal moves that is small enough to be checked by evaluation consists of
positions without legal moves; for positions with moves `ChessDom` is the statement C01 + "at most 218 moves".) -/
example (o : Nat → Bool) (hist : List BB) (tt : Table TTEntry) :
    ∃ res, ∀ f, rootFuelP staleV ≤ f → root (.clock o) f staleV hist tt = some res :=
  C15_root_terminates (.clock o) staleV_dom staleV rfl staleV_valid (by decide) (by decide) hist tt

example (hist : List BB) (tt : Table TTEntry) :
    ∃ res, ∀ f, rootFuelP matedV ≤ f → root (.depth 5) f matedV hist tt = some res :=
  C15_root_terminates (.depth 5) matedV_dom matedV rfl matedV_valid (by decide) (by decide) hist tt

example : rootFuelP staleV = 52632 ∧ rootFuelP matedV = 157896 ∧ negamaxFuel matedV 3 5 = 8567 := by decide +kernel

/-- a non-root call in the middle of a search (in check: the depth is extended, the move loop finds no move). -/
example : ∀ f, negamaxFuel matedV 3 5 ≤ f →
    negamax (.nodes 10) f matedV C13Ex.st0 (-7) 9 3 5 true ≠ none :=
  C15_negamax_terminates _ matedV_dom matedV rfl matedV_valid 3 5 (by decide) (by decide +kernel)
    (by decide +kernel) _ _ _ _

/-- the start position is in `D`; under the 218-move bound the driver terminates on it (any limit, history, table),
with the fuel shown. -/
example (hfit : MovesFit) (lim : Limit) (hist : List BB) (tt : Table TTEntry) :
    ∃ res, ∀ f, rootFuelP Gen.startpos ≤ f → root lim f Gen.startpos hist tt = some res :=
  C15_root_terminates_inD lim hfit Gen.startpos startpos_inD (by decide +kernel) (by decide +kernel) hist tt

example : potP Gen.startpos = 128 ∧ rootFuelP Gen.startpos = 1697382 := by decide +kernel

end C15TermEx

#print axioms Term.qsearch_fuel_mono
#print axioms Term.negamax_fuel_mono
#print axioms Term.root_fuel_mono
#print axioms C15_qsearch_terminates
#print axioms C15_qsearch_qFuel
#print axioms C15_qminimax_defined
#print axioms C15_qsearch_total_sound
#print axioms C15_negamax_terminates
#print axioms C15_root_terminates
#print axioms C15_root_never_hangs
#print axioms C03_root_total
#print axioms C03_root_total_inv
#print axioms C14_depth_total
#print axioms C15_qsearch_terminates_inD
#print axioms C15_qminimax_defined_inD
#print axioms C15_negamax_terminates_inD
#print axioms C15_root_terminates_inD
#print axioms C03_rules_total

end Rawr
