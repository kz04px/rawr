import Rawr.Props.C18
import Rawr.Proofs.RustSearchAgree
/-!
# C18 on the regenerated code: `R.tt_poll`, `R.tt_add`, `R.tt_clear`, `R.tt_resize`, `R.tt_hashfull`, `R.tt_len`, `R.tt_new`

hashtable.rs is regenerated on every run (`Rawr/Generated/RustSearch.lean`, generic in the entry type `α` with
`T::default()` = `default`).  The regenerated functions return `Option` where the Rust code can panic (index out of
bounds, remainder / division by zero); `Rawr.Table.agree_tt_*` prove them equal to the model's `Table` operations:
unconditionally for `poll`, `add`, `clear`, `len`, `hashfull` (`R.tt_hashfull t = some (t.hashfull.map Int.ofNat)`: an
`i32` counter, never a panic), and for `resize` / `new` under `size_of::<T>() ≠ 0` (`es ≠ 0`; with a zero-sized entry
type the Rust code divides by zero — the engine's `TTEntry` has 24 bytes).

* `C18_code_step`, `C18_code_run`: the operational semantics of `Props/C18.lean` (`C18.step`, `C18.run`: one operation /
  a sequence of operations `add`, `poll`, `clear`, `resize`, `hashfull`, `len`) executed by the REGENERATED functions;
  `C18_code_step_eq`, `C18_code_run_eq`: equal to the model's for `es ≠ 0`.
* `C18_code_step_refines`, `C18_code_run_refines`, `C18_code_run_isSome` (never a panic), `C18_code_lookup_most_recent`,
  `C18_code_history_invariant`: the headline theorems, with `es ≠ 0` as the only EXTRA hypothesis (the agreement's).
* `C18_code_poll_add`, `…_poll_add_other`, `…_add_slot`, `…_zero_slot`, `…_clear_spec`, `…_hashfull`: exact transfers;
  `C18_code_resize_spec`, `C18_code_new_spec`: with `es ≠ 0`.
`SlotSpec`, `C18.abs`, `KeepsAll`, `lenAfterAll` are the specification side of `Props/C18.lean`, `Table.slot` is of `Proofs/Hashtable.lean`.
-/
namespace Rawr
open C18 Table

variable {α : Type} [Inhabited α] [DecidableEq α]

/-- one operation, executed by the regenerated hashtable.rs (`none` = panic). -/
def C18_code_step (es : Nat) (t : Table α) : Op α → Option (Table α × Out α)
  | .add k e => (R.tt_add t k e).map fun t' => (t', .unit)
  | .poll k => (R.tt_poll t k).map fun e => (t, .entry e)
  | .clear => some (R.tt_clear t, .unit)
  | .resize mb => (R.tt_resize t mb es).map fun t' => (t', .unit)
  | .hashfull => (R.tt_hashfull t).map fun h => (t, .fill (h.map Int.toNat))
  | .len => some (t, .len (R.tt_len t))

def C18_code_run (es : Nat) : Table α → List (Op α) → Option (Table α × List (Out α))
  | t, [] => some (t, [])
  | t, op :: ops =>
    match C18_code_step es t op with
    | none => none
    | some (t', o) =>
      match C18_code_run es t' ops with
      | none => none
      | some (t'', os) => some (t'', o :: os)

theorem C18_code_step_eq (es : Nat) (hes : es ≠ 0) (t : Table α) (op : Op α) :
    C18_code_step es t op = C18.step es t op := by
  cases op with
  | add k e => simp only [C18_code_step, C18.step, agree_tt_add]
  | poll k => simp only [C18_code_step, C18.step, agree_tt_poll]
  | clear => simp only [C18_code_step, C18.step, agree_tt_clear]
  | resize mb => simp only [C18_code_step, C18.step, agree_tt_resize t mb es hes, Option.map_some]
  | hashfull =>
    simp only [C18_code_step, C18.step, agree_tt_hashfull, Option.map_some, Option.map_map]
    congr 3
    cases t.hashfull <;> rfl
  | len => simp only [C18_code_step, C18.step, agree_tt_len]

theorem C18_code_run_eq (es : Nat) (hes : es ≠ 0) (t : Table α) (ops : List (Op α)) :
    C18_code_run es t ops = C18.run es t ops := by
  induction ops generalizing t with
  | nil => rfl
  | cons op ops ih =>
    unfold C18_code_run C18.run
    rw [C18_code_step_eq es hes]
    cases C18.step es t op with
    | none => rfl
    | some r => obtain ⟨t', o⟩ := r; simp only [ih]; rfl

/-- **C18 on the code**: every step of the regenerated code is the specification step under `abs`: same definedness
(always defined), same output, and `abs` of the new table is the new specification state. -/
theorem C18_code_step_refines (es : Nat) (hes : es ≠ 0) (t : Table α) (op : Op α) :
    (C18_code_step es t op).map (fun p => (C18.abs p.1, p.2)) = SlotSpec.step es (C18.abs t) op := by
  rw [C18_code_step_eq es hes]; exact step_refines es t op

theorem C18_code_run_refines (es : Nat) (hes : es ≠ 0) (t : Table α) (ops : List (Op α)) :
    (C18_code_run es t ops).map (fun p => (C18.abs p.1, p.2)) = SlotSpec.run es (C18.abs t) ops := by
  rw [C18_code_run_eq es hes]; exact run_refines es t ops

/-- the regenerated code never panics, on any table, for any operation sequence (zero-slot tables included: F8). -/
theorem C18_code_run_isSome (es : Nat) (hes : es ≠ 0) (t : Table α) (ops : List (Op α)) :
    (C18_code_run es t ops).isSome = true := by
  rw [C18_code_run_eq es hes]; exact run_isSome es t ops

/-- `poll` and `add` never panic (no hypothesis at all). -/
theorem C18_code_poll_add_total (t : Table α) (k : Nat) (e : α) :
    (∃ x, R.tt_poll t k = some x) ∧ ∃ t', R.tt_add t k e = some t' := by
  rw [agree_tt_poll, agree_tt_add]; exact ⟨poll_ne_none t k, add_ne_none t k e⟩

/-- the zero-slot table: the regenerated `poll` answers `default`, the regenerated `add` is a no-op. -/
theorem C18_code_zero_slot (t : Table α) (k : Nat) (e : α) (h : R.tt_len t = 0) :
    R.tt_poll t k = some default ∧ R.tt_add t k e = some t := by
  rw [agree_tt_poll, agree_tt_add]; exact zero_slot t k e h

theorem C18_code_poll_add (t : Table α) (k : Nat) (e : α) (h : 0 < R.tt_len t) :
    ∃ t', R.tt_add t k e = some t' ∧ R.tt_poll t' k = some e := by
  simp only [agree_tt_poll, agree_tt_add]; exact poll_add t k e h

/-- aliasing keys: every key of the same slot sees the stored entry, every other key is unaffected. -/
theorem C18_code_poll_add_other (t t' : Table α) (k k' : Nat) (e : α) (h : 0 < R.tt_len t)
    (hadd : R.tt_add t k e = some t') :
    R.tt_poll t' k' = if k' % R.tt_len t = k % R.tt_len t then some e else R.tt_poll t k' := by
  rw [agree_tt_add] at hadd
  simp only [agree_tt_poll]
  exact poll_add_other t t' k k' e h hadd

theorem C18_code_add_slot (t t' : Table α) (k : Nat) (e : α) (h : 0 < R.tt_len t) (hadd : R.tt_add t k e = some t') :
    R.tt_len t' = R.tt_len t ∧ t'.slot (k % R.tt_len t) = e ∧ ∀ i, i ≠ k % R.tt_len t → t'.slot i = t.slot i := by
  rw [agree_tt_add] at hadd; exact add_slot t t' k e h hadd

theorem C18_code_clear_spec (t : Table α) :
    R.tt_len (R.tt_clear t) = R.tt_len t ∧ (∀ i, (R.tt_clear t).slot i = default) ∧
      ∀ i (h : i < (R.tt_clear t).entries.size), (R.tt_clear t).entries[i] = default :=
  clear_spec t

/-- exactly `mb * 2^20 / size_of::<T>()` slots; the common prefix is kept, everything else is `default`. -/
theorem C18_code_resize_spec (t : Table α) (mb es : Nat) (hes : es ≠ 0) :
    ∃ t', R.tt_resize t mb es = some t' ∧ R.tt_len t' = mb * 1024 * 1024 / es ∧
      ∀ i, t'.slot i = if i < mb * 1024 * 1024 / es then t.slot i else default :=
  ⟨_, agree_tt_resize t mb es hes, resize_spec t mb es⟩

theorem C18_code_new_spec (mb es : Nat) (hes : es ≠ 0) :
    ∃ t : Table α, R.tt_new mb es = some t ∧ R.tt_len t = mb * 1024 * 1024 / es ∧ ∀ i, t.slot i = default :=
  ⟨_, agree_tt_new mb es hes, new_spec mb es⟩

/-- `hashfull` never panics; it returns `None` exactly for the zero-slot table, otherwise a value in `0 … 1000`
not above the number of slots. -/
theorem C18_code_hashfull (t : Table α) :
    ∃ h : Option Int, R.tt_hashfull t = some h ∧ (h = none ↔ R.tt_len t = 0) ∧
      ∀ v, h = some v → 0 ≤ v ∧ v ≤ 1000 ∧ v ≤ (R.tt_len t : Int) := by
  refine ⟨_, agree_tt_hashfull t, ?_, ?_⟩
  · rw [Option.map_eq_none_iff]; exact hashfull_eq_none_iff t
  · intro v hv
    rw [Option.map_eq_some_iff] at hv
    obtain ⟨n, hn, rfl⟩ := hv
    have := hashfull_le t n hn
    show (0 : Int) ≤ (n : Int) ∧ (n : Int) ≤ 1000 ∧ (n : Int) ≤ (t.len : Int)
    omega

/-- after ANY operation sequence executed by the regenerated code on a table created by the regenerated `new`, every
slot, every looked-up value and every value a later lookup can return is `default` or the argument of one of the
`add`s of the sequence. -/
theorem C18_code_history_invariant (es mb : Nat) (hes : es ≠ 0) (t0 t : Table α) (ops : List (Op α))
    (outs : List (Out α)) (h0 : R.tt_new mb es = some t0)
    (h : C18_code_run es t0 ops = some (t, outs)) :
    (∀ i, t.slot i = default ∨ ∃ k, Op.add k (t.slot i) ∈ ops) ∧
    (∀ e, Out.entry e ∈ outs → e = default ∨ ∃ k, Op.add k e ∈ ops) ∧
    (∀ k e, R.tt_poll t k = some e → e = default ∨ ∃ k', Op.add k' e ∈ ops) := by
  rw [agree_tt_new mb es hes] at h0; cases h0
  rw [C18_code_run_eq es hes] at h
  simp only [agree_tt_poll]
  exact history_invariant es mb t ops outs h

/-- **(c), strong form, on the code**: after any operation sequence on a fresh table, a lookup of `key` by the
regenerated `poll` returns the entry most recently added to the slot `key % len` since the last `clear` / truncating
`resize` across it, else `default`. -/
theorem C18_code_lookup_most_recent (es mb : Nat) (hes : es ≠ 0) (t0 t : Table α) (ops : List (Op α))
    (outs : List (Out α)) (h0 : R.tt_new mb es = some t0)
    (hr : C18_code_run es t0 ops = some (t, outs)) (key : Nat) :
    let i := key % R.tt_len t
    (KeepsAll es (numEntries mb es) i ops ∧ R.tt_poll t key = some default) ∨
    ∃ pre op post, ops = pre ++ op :: post ∧
      KeepsAll es (op.lenAfter es (lenAfterAll es (numEntries mb es) pre)) i post ∧
      ((∃ k e, op = .add k e ∧ 0 < lenAfterAll es (numEntries mb es) pre ∧
          k % lenAfterAll es (numEntries mb es) pre = i ∧ R.tt_poll t key = some e) ∨
       ((op = .clear ∨ ∃ mb', op = .resize mb' ∧ numEntries mb' es ≤ i) ∧
          R.tt_poll t key = some default)) := by
  rw [agree_tt_new mb es hes] at h0; cases h0
  rw [C18_code_run_eq es hes] at hr
  simp only [agree_tt_poll]
  exact lookup_most_recent es mb t ops outs hr key

example : R.tt_new (α := Nat) 1 ES = some T0 := by decide
/-- store, look up, overwrite, look up; aliasing keys 2 and 6 share slot 2 — on the regenerated code. -/
example : (R.tt_add T0 6 11).bind (R.tt_poll · 6) = some 11 := by decide
example : ((R.tt_add T0 6 11).bind (R.tt_add · 2 12)).bind (R.tt_poll · 6) = some 12 := by decide
/-- F8 on the regenerated code: the zero-slot table answers `default`, ignores stores, `hashfull` is `None`. -/
example : C18_code_run ES (Table.new 0 ES : Table Nat) [.add 5 1, .poll 5, .hashfull, .resize 1, .add 5 1, .poll 5] =
    some (⟨#[0, 1, 0, 0]⟩, [.unit, .entry 0, .fill none, .unit, .unit, .entry 1]) := by decide

/-- the demo run of `Props/C18.lean` executed by the regenerated code … -/
theorem C18_code_demo_run : C18_code_run ES T0 demoOps =
    some (⟨#[0, 3, 0, 0]⟩,
      [.unit, .entry 11, .unit, .fill (some 2), .unit, .len 8, .entry 0, .unit, .unit, .entry 0,
       .entry 11, .unit, .entry 0, .unit, .fill (some 1)]) := by decide

/-- … and the theorems applied to it. -/
example := C18_code_lookup_most_recent ES 1 (by decide) T0 _ demoOps _ (by decide) C18_code_demo_run 5
example : ∀ k e, R.tt_poll (⟨#[0, 3, 0, 0]⟩ : Table Nat) k = some e → e = default ∨ ∃ k', Op.add k' e ∈ demoOps :=
  (C18_code_history_invariant ES 1 (by decide) T0 _ demoOps _ (by decide) C18_code_demo_run).2.2
example : (SlotSpec.run ES (C18.abs T0) demoOps).map (·.2) = (C18_code_run ES T0 demoOps).map (·.2) := by
  rw [← C18_code_run_refines ES (by decide)]; simp only [Option.map_map]; rfl

end Rawr

#print axioms Rawr.C18_code_step_eq
#print axioms Rawr.C18_code_run_eq
#print axioms Rawr.C18_code_step_refines
#print axioms Rawr.C18_code_run_refines
#print axioms Rawr.C18_code_run_isSome
#print axioms Rawr.C18_code_poll_add_total
#print axioms Rawr.C18_code_zero_slot
#print axioms Rawr.C18_code_poll_add
#print axioms Rawr.C18_code_poll_add_other
#print axioms Rawr.C18_code_add_slot
#print axioms Rawr.C18_code_clear_spec
#print axioms Rawr.C18_code_resize_spec
#print axioms Rawr.C18_code_new_spec
#print axioms Rawr.C18_code_hashfull
#print axioms Rawr.C18_code_history_invariant
#print axioms Rawr.C18_code_lookup_most_recent
