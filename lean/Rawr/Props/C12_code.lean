import Rawr.Props.C12_rules
import Rawr.Props.C03_code
/-!
# C12 on the regenerated code: mate in one is found by `R.root`

`Props/C12_rules.lean` proves, for the model's `root (.depth D)`, that on a root of `V ∧ E` with clock below 99 that has a
mating move the driver plays a mating move at every depth ≥ 1 and every record scores `MATE_SCORE - 1` — under the
hypotheses "no 64-bit key collision" (`MateKeysOk`), "mated children are not repetitions", and a table invariant
(`TTInv` / sane table / empty table).  Here the same statements for the regenerated `R.root … (.Depth D) (fuel + 2)`.

Transfer: `agree_root_rules` needs `ValidPos`, `EpConsistent` (hypotheses of `C12_rules` already), and the counter room
`halfmoves/fullmoves + (fuel + 2) + 64 < 2^31`.  `C12_rules` has the `fullmoves` room as hypothesis `hfm` and derives the
`halfmoves` room from `halfmoves < 99` and `fuel + 1 < MATE_SCORE` — so does the proof here: NO extra hypothesis.

Hypotheses kept as in `C12_rules` (they are predicates over the search TREE, defined with the model's `legalMoves`,
`makemove`, `inCheck` — function-equal to `R.legal_moves`, `R.makemove`, `R.in_check`): `IsMating p m`
(`C12_code_isMating_iff` spells it out on the code), `Mated c`, `MateKeysOk Kp Ks fuel p`.  The table invariant is spelled
out with `R.tt_poll`.  In the conclusion the records are read through `infoToModel` (`score.getD 0`, `pv`).

`C12_code_any_table_false`: finding F12 replayed on the regenerated driver by kernel evaluation — with an entry stored
under the mated child's key the code does NOT play the mate.
-/
namespace Rawr
open Spec DM RulesLevel

theorem C12_code_isMating_iff (p : Position) (m : Mv) :
    IsMating p m ↔ ∃ c, R.makemove p m true = some c ∧ R.legal_moves c = [] ∧ R.in_check c = true := by
  rw [agree_makemove, agree_legal_moves, agree_in_check]; rfl

theorem ttInv_code {Kp Ks : BB → Prop} {tt : Table TTEntry}
    (hT : ∀ key e, R.tt_poll tt key = some e → (Kp e.hash ∨ (-RS ≤ e.score ∧ e.score ≤ RS)) ∧ ¬ Ks e.hash) :
    TTInv Kp Ks tt := by
  simp only [Table.agree_tt_poll] at hT; exact hT

/-- **C12 on the code.** `go depth D`, `D ≥ 1`, on a root of `V ∧ E` with clock below 99 that has a mating move, any
history in which the mated children have not occurred, no key collision, a table in which every entry has a sane score
(or sits under the root's key) and none sits under a mated child's key: if the regenerated driver returns, its
`Result` is `Ok` of a generated move that checkmates, and every info record — the last one in particular — carries
the score `MATE_SCORE - 1` and a principal variation consisting of a mating move. -/
theorem C12_code_rules (clock : Nat → Nat) (D : Int) (hD1 : 1 ≤ D) (fuel : Nat)
    (hfuel : (fuel : Int) + 1 < Gen.MATE_SCORE)
    (p : Position) (hV : ValidPos p = true) (hE : Spec.EpConsistent (abs p) = true) (h50 : p.halfmoves < 99)
    (hfm : p.fullmoves + (fuel + 2) + 64 < 2147483648)
    (hmate : ∃ m ∈ R.legal_moves p, IsMating p m)
    (hist : List BB) (tt : Table TTEntry) (Kp Ks : BB → Prop)
    (hkeys : MateKeysOk Kp Ks fuel p)
    (hrep : ∀ m ∈ R.legal_moves p, ∀ c, R.makemove p m true = some c → Mated c → ¬ OccurredBefore hist c)
    (hT : ∀ key e, R.tt_poll tt key = some e → (Kp e.hash ∨ (-RS ≤ e.score ∧ e.score ≤ RS)) ∧ ¬ Ks e.hash)
    (r : Except String Mv × List BB × Table TTEntry × List R.Info)
    (h : R.root clock p hist tt (.Depth D) (fuel + 2) = some r) :
    (∃ m ∈ R.legal_moves p, IsMating p m ∧ r.1 = .ok m) ∧
      r.2.2.2.getLast?.map (fun i => i.score.getD 0) = some (Gen.MATE_SCORE - 1) ∧
      ∀ i ∈ r.2.2.2, i.score.getD 0 = Gen.MATE_SCORE - 1 ∧ ∃ m ∈ R.legal_moves p, IsMating p m ∧ i.pv = [m] := by
  have hM : Gen.MATE_SCORE + 163 ≤ 2147483648 := by decide
  have hh : p.halfmoves + (fuel + 2) + 64 < 2147483648 := by omega
  rw [agree_legal_moves] at hmate ⊢
  rw [agree_legal_moves, agree_makemove] at hrep
  obtain ⟨⟨m, hm, hmt, e⟩, h2, h3⟩ := C12_rules D hD1 fuel hfuel p hV hE h50 hfm hmate hist tt Kp Ks hkeys hrep
    (ttInv_code hT) (rootResultOf r) (root_code_model (lim := .depth D) rfl hV hE hh hfm h)
  refine ⟨⟨m, hm, hmt, toOption_eq_some_iff.mp e⟩, ?_, fun i hi => h3 _ (mem_infos_code hi)⟩
  rw [← h2]
  simp only [rootResultOf, List.getLast?_map, Option.map_map]
  rfl

/-- the same over a table with sane scores (`|score| ≤ MATE_SCORE - 2`) and no entry under a key in `Ks`. -/
theorem C12_code_rules_sane_table (clock : Nat → Nat) (D : Int) (hD1 : 1 ≤ D) (fuel : Nat)
    (hfuel : (fuel : Int) + 1 < Gen.MATE_SCORE)
    (p : Position) (hV : ValidPos p = true) (hE : Spec.EpConsistent (abs p) = true) (h50 : p.halfmoves < 99)
    (hfm : p.fullmoves + (fuel + 2) + 64 < 2147483648)
    (hmate : ∃ m ∈ R.legal_moves p, IsMating p m)
    (hist : List BB) (tt : Table TTEntry) (Kp Ks : BB → Prop)
    (hkeys : MateKeysOk Kp Ks fuel p)
    (hrep : ∀ m ∈ R.legal_moves p, ∀ c, R.makemove p m true = some c → Mated c → ¬ OccurredBefore hist c)
    (hsane : ∀ key e, R.tt_poll tt key = some e → -RS ≤ e.score ∧ e.score ≤ RS)
    (hnone : ∀ key e, R.tt_poll tt key = some e → ¬ Ks e.hash)
    (r : Except String Mv × List BB × Table TTEntry × List R.Info)
    (h : R.root clock p hist tt (.Depth D) (fuel + 2) = some r) :
    (∃ m ∈ R.legal_moves p, IsMating p m ∧ r.1 = .ok m) ∧
      r.2.2.2.getLast?.map (fun i => i.score.getD 0) = some (Gen.MATE_SCORE - 1) ∧
      ∀ i ∈ r.2.2.2, i.score.getD 0 = Gen.MATE_SCORE - 1 ∧ ∃ m ∈ R.legal_moves p, IsMating p m ∧ i.pv = [m] :=
  C12_code_rules clock D hD1 fuel hfuel p hV hE h50 hfm hmate hist tt Kp Ks hkeys hrep
    (fun key e he => ⟨Or.inr (hsane key e he), hnone key e he⟩) r h

/-- the same over an all-default table of any size (`n = 0` included): the table hypothesis reduces to "no mated child
has key 0" (`¬ Ks 0`). -/
theorem C12_code_rules_empty_table (clock : Nat → Nat) (D : Int) (hD1 : 1 ≤ D) (fuel : Nat)
    (hfuel : (fuel : Int) + 1 < Gen.MATE_SCORE)
    (p : Position) (hV : ValidPos p = true) (hE : Spec.EpConsistent (abs p) = true) (h50 : p.halfmoves < 99)
    (hfm : p.fullmoves + (fuel + 2) + 64 < 2147483648)
    (hmate : ∃ m ∈ R.legal_moves p, IsMating p m)
    (hist : List BB) (n : Nat) (Kp Ks : BB → Prop)
    (hkeys : MateKeysOk Kp Ks fuel p) (hK0 : ¬ Ks 0#64)
    (hrep : ∀ m ∈ R.legal_moves p, ∀ c, R.makemove p m true = some c → Mated c → ¬ OccurredBefore hist c)
    (r : Except String Mv × List BB × Table TTEntry × List R.Info)
    (h : R.root clock p hist ⟨Array.replicate n default⟩ (.Depth D) (fuel + 2) = some r) :
    (∃ m ∈ R.legal_moves p, IsMating p m ∧ r.1 = .ok m) ∧
      r.2.2.2.getLast?.map (fun i => i.score.getD 0) = some (Gen.MATE_SCORE - 1) ∧
      ∀ i ∈ r.2.2.2, i.score.getD 0 = Gen.MATE_SCORE - 1 ∧ ∃ m ∈ R.legal_moves p, IsMating p m ∧ i.pv = [m] :=
  C12_code_rules clock D hD1 fuel hfuel p hV hE h50 hfm hmate hist _ Kp Ks hkeys hrep
    (by simp only [Table.agree_tt_poll]; exact ttInv_replicate Kp Ks n hK0) r h

/-- … with `Kp` = "the root's key", `Ks` = "the key of a mated child" (`MatedKey p`). -/
theorem C12_code_rules_empty_table' (clock : Nat → Nat) (D : Int) (hD1 : 1 ≤ D) (fuel : Nat)
    (hfuel : (fuel : Int) + 1 < Gen.MATE_SCORE)
    (p : Position) (hV : ValidPos p = true) (hE : Spec.EpConsistent (abs p) = true) (h50 : p.halfmoves < 99)
    (hfm : p.fullmoves + (fuel + 2) + 64 < 2147483648)
    (hmate : ∃ m ∈ R.legal_moves p, IsMating p m)
    (hist : List BB) (n : Nat)
    (hmk : ∀ m ∈ R.legal_moves p, ∀ c, R.makemove p m true = some c → Mated c → c.hash ≠ p.hash ∧ c.hash ≠ 0#64)
    (htree : ∀ m ∈ R.legal_moves p, ∀ c, R.makemove p m true = some c → ¬ Mated c →
      KeysOk (· = p.hash) (MatedKey p) (fuel + 1) c)
    (hrep : ∀ m ∈ R.legal_moves p, ∀ c, R.makemove p m true = some c → Mated c → ¬ OccurredBefore hist c)
    (r : Except String Mv × List BB × Table TTEntry × List R.Info)
    (h : R.root clock p hist ⟨Array.replicate n default⟩ (.Depth D) (fuel + 2) = some r) :
    (∃ m ∈ R.legal_moves p, IsMating p m ∧ r.1 = .ok m) ∧
      r.2.2.2.getLast?.map (fun i => i.score.getD 0) = some (Gen.MATE_SCORE - 1) ∧
      ∀ i ∈ r.2.2.2, i.score.getD 0 = Gen.MATE_SCORE - 1 ∧ ∃ m ∈ R.legal_moves p, IsMating p m ∧ i.pv = [m] := by
  have hmk' := hmk
  have htree' := htree
  rw [agree_legal_moves, agree_makemove] at hmk' htree'
  exact C12_code_rules_empty_table clock D hD1 fuel hfuel p hV hE h50 hfm hmate hist n (· = p.hash) (MatedKey p)
    ⟨rfl, fun ⟨m, hm, c, hc, hmt, e⟩ => (hmk' m hm c hc hmt).1 e,
      fun m hm c hc hmt => ⟨m, hm, c, hc, hmt, rfl⟩, htree'⟩
    (fun ⟨m, hm, c, hc, hmt, e⟩ => (hmk' m hm c hc hmt).2 e) hrep r h

theorem C12_code_mated_child_clock (p : Position) (hV : ValidPos p = true) (hE : Spec.EpConsistent (abs p) = true)
    (h50 : p.halfmoves < 99) (m : Mv) (hm : m ∈ R.legal_moves p) (c : Position)
    (hmk : R.makemove p m true = some c) : c.halfmoves < 100 := by
  rw [agree_legal_moves] at hm; rw [agree_makemove] at hmk
  exact C12_mated_child_clock p hV hE h50 m hm c hmk

/-- a move that checkmates BY THE RULES gives the hypothesis `hmate` (counter room for one ply). -/
theorem C12_code_mating_of_rules (p : Position) (hV : ValidPos p = true) (hE : Spec.EpConsistent (abs p) = true)
    (hh : p.halfmoves + 1 < 2147483648) (hfm : p.fullmoves + 1 < 2147483648)
    (M : Move) (hM : M ∈ Spec.legalMoves (abs p)) (hmt : SpecMated (Spec.apply (abs p) M)) :
    ∃ m ∈ R.legal_moves p, IsMating p m := by
  rw [agree_legal_moves]; exact C12_mating_of_rules p hV hE hh hfm M hM hmt

namespace C12CodeEx
open C12Ex C12RulesEx

/-- `kpmV` of `Props/C12_rules.lean` (white Kf7, pawn g6; black Kh8, pawn h7; g6-g7 mates), `go depth 3`, empty history,
three-slot table: the regenerated driver returns because the model's does (`kpmV_depth3`); the hypotheses hold; its best
move mates and the last record reports 999999. -/
example : ∃ r, R.root (fun _ => 0) kpmV [] tt3 (.Depth 3) 3 = some r ∧
    (∃ m ∈ R.legal_moves kpmV, IsMating kpmV m ∧ r.1 = .ok m) ∧
    r.2.2.2.getLast?.map (fun i => i.score.getD 0) = some 999999 ∧ r.2.2.2.length = 3 := by
  obtain ⟨res, h0, hl⟩ := Option.map_eq_some_iff.1 kpmV_depth3
  obtain ⟨r, h1, rfl⟩ := root_code_of_model (clock := fun _ => 0) (s := .Depth 3) rfl kpmV_valid kpmV_E
    (by decide +kernel) (by decide +kernel) h0
  replace hl : r.2.2.2.length = 3 := by rw [← hl]; exact (List.length_map _).symm
  obtain ⟨h2, h3, _⟩ := C12_code_rules_empty_table (fun _ => 0) 3 (by decide) 1 (by decide) kpmV kpmV_valid kpmV_E
    (by decide +kernel) (by decide +kernel) (by rw [agree_legal_moves]; exact kpmV_mate) [] 3 _ _ kpmV_keys
    (by decide +kernel) (fun _ _ _ _ _ ⟨_, _, hi⟩ => by simp at hi) r h1
  exact ⟨r, h1, h2, h3, hl⟩

/-- a one-slot table holding an (exact, deep, score 0) entry under the key of the mated child. -/
def ttBadV : Table TTEntry := ⟨#[⟨kpmVG7.hash, ⟨0, 0, 0⟩, 0, 100, 0⟩]⟩

/-- **F12 on the regenerated code**: "whatever the transposition table contains" is false — on the valid root `kpmV`
(which has the mating move g6-g7) `go depth 1` with `ttBadV` makes the regenerated driver answer `Ok(Kf7-f6)`, not a
mating move, with score 68. -/
theorem C12_code_any_table_false :
    ValidPos kpmV = true ∧ Spec.EpConsistent (abs kpmV) = true ∧ (∃ m ∈ R.legal_moves kpmV, IsMating kpmV m) ∧
    (R.root (fun _ => 0) kpmV [] ttBadV (.Depth 1) 2).map (fun r => (r.1.toOption, r.2.2.2.map (·.score))) =
      some (some ⟨53, 45, 6⟩, [some 68]) ∧
    ¬ IsMating kpmV ⟨53, 45, 6⟩ :=
  ⟨kpmV_valid, kpmV_E, by rw [agree_legal_moves]; exact kpmV_mate, by decide +kernel, by
    rintro ⟨c, hc, hm⟩
    have h : ((kpmV.makemove ⟨53, 45, 6⟩ true).map fun c => decide (Mated c)) = some false := by decide +kernel
    rw [hc] at h
    simp only [Option.map_some, Option.some.injEq, decide_eq_false_iff_not] at h
    exact h hm⟩

end C12CodeEx

end Rawr

#print axioms Rawr.C12_code_isMating_iff
#print axioms Rawr.C12_code_rules
#print axioms Rawr.C12_code_rules_sane_table
#print axioms Rawr.C12_code_rules_empty_table
#print axioms Rawr.C12_code_rules_empty_table'
#print axioms Rawr.C12_code_mated_child_clock
#print axioms Rawr.C12_code_mating_of_rules
#print axioms Rawr.C12CodeEx.C12_code_any_table_false
