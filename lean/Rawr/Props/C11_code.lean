import Rawr.Props.C11_rules
import Rawr.Props.C03_code
/-!
# C11 on the regenerated code: every move leads to a rule draw ⇒ `R.root` reports the draw score and a legal move

`Props/C11_rules.lean` proves C11 for the model's `root` / `negamax` on roots of `V ∧ E`.  Here the statements are
about the regenerated driver `R.root clock p hist tt (.Depth D) fuel` (root.rs, `go depth D`) and the regenerated
`R.negamax`, through `agree_root_rules` / `agree_negamax_rules` (`root_code_model`, `negamax_code_model` of
`Props/C03_code.lean`).

* The theorems about `root` already carry `ValidPos`, `EpConsistent` and the counter room `+ (fuel + 2) + 64` for the
  fuel `fuel + 2` they are stated for — exactly the domain hypotheses of `agree_root_rules`: exact transfers.
  (`toLimit clock p (.Depth D) = some (.depth D)` holds by `rfl`.)
* The hypotheses on the children are stated with `R.legal_moves`, `R.makemove`; `NoChildHit p tt` ("no table entry
  under a child's key") is spelled out with `R.tt_poll`.  `OccurredBefore hist c` is the index form of the repetition
  window (a predicate on the history list, no engine function involved).
* Conclusions about the printed records: the model's `InfoRec` is `infoToModel` of the Rust `Info` (`Option` fields read
  with `getD 0`; root.rs always fills them), so "record of depth `d`" reads `i.depth.getD 0 = d`, its score
  `i.score.getD 0`.  The `Result` is stated as `r.1 = .ok m`.
* `C11_code_root_all_children_drawn` (the total form for one root call of `negamax`): the model theorem needs only
  `ValidPos`; the agreement adds `EpConsistent` and the counter room (EXTRA hypotheses `hE`, `hh`, `hfm`).
-/
namespace Rawr
open DM RulesLevel

theorem noChildHit_code {p : Position} {tt : Table TTEntry}
    (hT : ∀ m ∈ R.legal_moves p, ∀ c, R.makemove p m true = some c →
      (R.tt_poll tt c.hash.toNat).map (·.hash) ≠ some c.hash) : NoChildHit p tt := by
  simp only [agree_legal_moves, agree_makemove, Table.agree_tt_poll] at hT
  exact hT

/-- **C11.4 on the code.** `go depth D`, `2 ≤ D < MAX_DEPTH`, on a root of `V ∧ E` that has a legal move, every child of
which (as generated and made by the regenerated code) is drawn by the fifty-move rule or has occurred before in
`hist`, no child with the root's key, no table entry under a child's key: if the regenerated driver returns, its
`Result` is `Ok` of a generated move, there is exactly one info record per depth `1 … D`, and every record of depth
≥ 2 carries the score `-DRAW_SCORE`. -/
theorem C11_code_iterations (clock : Nat → Nat) (D : Int) (hD2 : 2 ≤ D) (hD : D < Gen.MAX_DEPTH) (fuel : Nat)
    (p : Position) (hV : ValidPos p = true) (hE : Spec.EpConsistent (abs p) = true)
    (hh : p.halfmoves + (fuel + 2) + 64 < 2147483648) (hfm : p.fullmoves + (fuel + 2) + 64 < 2147483648)
    (hist : List BB) (tt : Table TTEntry)
    (hne : Spec.legalMoves (abs p) ≠ [])
    (hdrawn : ∀ m ∈ R.legal_moves p, ∀ c, R.makemove p m true = some c →
      c.halfmoves ≥ 100 ∨ OccurredBefore hist c)
    (hkey : ∀ m ∈ R.legal_moves p, ∀ c, R.makemove p m true = some c → c.hash ≠ p.hash)
    (hT : ∀ m ∈ R.legal_moves p, ∀ c, R.makemove p m true = some c →
      (R.tt_poll tt c.hash.toNat).map (·.hash) ≠ some c.hash)
    (r : Except String Mv × List BB × Table TTEntry × List R.Info)
    (h : R.root clock p hist tt (.Depth D) (fuel + 2) = some r) :
    (∃ m ∈ R.legal_moves p, r.1 = .ok m) ∧
    r.2.2.2.map (fun i => i.depth.getD 0) = (List.range D.toNat).map (fun i : Nat => (i : Int) + 1) ∧
    ∀ i ∈ r.2.2.2, 2 ≤ i.depth.getD 0 → i.score.getD 0 = -Gen.DRAW_SCORE := by
  have hT' := noChildHit_code hT
  rw [agree_legal_moves, agree_makemove] at hdrawn hkey
  obtain ⟨⟨m, hm, e⟩, h2, h3⟩ := C11_iterations_rules D hD2 hD fuel p hV hE hh hfm hist tt hne hdrawn hkey hT'
    (rootResultOf r) (root_code_model (lim := .depth D) rfl hV hE hh hfm h)
  refine ⟨⟨m, by rw [agree_legal_moves]; exact hm, toOption_eq_some_iff.mp e⟩, ?_, fun i hi => h3 _ (mem_infos_code hi)⟩
  rw [← h2]
  simp only [rootResultOf, List.map_map]
  rfl

/-- the move handed back is legal by the rules, and the counts in the words of the property. -/
theorem C11_code_iterations_count (clock : Nat → Nat) (D : Int) (hD2 : 2 ≤ D) (hD : D < Gen.MAX_DEPTH) (fuel : Nat)
    (p : Position) (hV : ValidPos p = true) (hE : Spec.EpConsistent (abs p) = true)
    (hh : p.halfmoves + (fuel + 2) + 64 < 2147483648) (hfm : p.fullmoves + (fuel + 2) + 64 < 2147483648)
    (hist : List BB) (tt : Table TTEntry)
    (hne : Spec.legalMoves (abs p) ≠ [])
    (hdrawn : ∀ m ∈ R.legal_moves p, ∀ c, R.makemove p m true = some c →
      c.halfmoves ≥ 100 ∨ OccurredBefore hist c)
    (hkey : ∀ m ∈ R.legal_moves p, ∀ c, R.makemove p m true = some c → c.hash ≠ p.hash)
    (hT : ∀ m ∈ R.legal_moves p, ∀ c, R.makemove p m true = some c →
      (R.tt_poll tt c.hash.toNat).map (·.hash) ≠ some c.hash)
    (r : Except String Mv × List BB × Table TTEntry × List R.Info)
    (h : R.root clock p hist tt (.Depth D) (fuel + 2) = some r) :
    r.2.2.2.length = D.toNat ∧
    (∀ d : Int, 2 ≤ d → d ≤ D → ∃ i ∈ r.2.2.2, i.depth.getD 0 = d ∧ i.score.getD 0 = -Gen.DRAW_SCORE) ∧
    ∃ m, r.1 = .ok m ∧ decodeMove p m ∈ Spec.legalMoves (abs p) := by
  have hT' := noChildHit_code hT
  rw [agree_legal_moves, agree_makemove] at hdrawn hkey
  obtain ⟨h1, h2, m, e, hL⟩ := C11_iterations_count_rules D hD2 hD fuel p hV hE hh hfm hist tt hne hdrawn hkey hT'
    (rootResultOf r) (root_code_model (lim := .depth D) rfl hV hE hh hfm h)
  refine ⟨by simpa [rootResultOf] using h1, fun d hd2 hdD => ?_, m, toOption_eq_some_iff.mp e, hL⟩
  obtain ⟨ir, hir, e1, e2⟩ := h2 d hd2 hdD
  obtain ⟨i, hi, rfl⟩ := List.mem_map.mp hir
  exact ⟨i, hi, e1, e2⟩

/-- C11.4 on the code for a table freshly allocated by the regenerated `tt_new` (any size, also zero slots): the
table hypothesis becomes "no child has key 0". -/
theorem C11_code_iterations_new_table (clock : Nat → Nat) (D : Int) (hD2 : 2 ≤ D) (hD : D < Gen.MAX_DEPTH)
    (fuel : Nat) (p : Position) (hV : ValidPos p = true) (hE : Spec.EpConsistent (abs p) = true)
    (hh : p.halfmoves + (fuel + 2) + 64 < 2147483648) (hfm : p.fullmoves + (fuel + 2) + 64 < 2147483648)
    (hist : List BB) (mb : Nat) (tt : Table TTEntry) (htt : R.tt_new mb Gen.ttEntrySize = some tt)
    (hne : Spec.legalMoves (abs p) ≠ [])
    (hdrawn : ∀ m ∈ R.legal_moves p, ∀ c, R.makemove p m true = some c →
      c.halfmoves ≥ 100 ∨ OccurredBefore hist c)
    (hkey : ∀ m ∈ R.legal_moves p, ∀ c, R.makemove p m true = some c → c.hash ≠ p.hash ∧ c.hash ≠ 0#64)
    (r : Except String Mv × List BB × Table TTEntry × List R.Info)
    (h : R.root clock p hist tt (.Depth D) (fuel + 2) = some r) :
    (∃ m ∈ R.legal_moves p, r.1 = .ok m) ∧
    r.2.2.2.map (fun i => i.depth.getD 0) = (List.range D.toNat).map (fun i : Nat => (i : Int) + 1) ∧
    ∀ i ∈ r.2.2.2, 2 ≤ i.depth.getD 0 → i.score.getD 0 = -Gen.DRAW_SCORE := by
  rw [Table.agree_tt_new mb Gen.ttEntrySize (by decide)] at htt
  cases htt
  refine C11_code_iterations clock D hD2 hD fuel p hV hE hh hfm hist _ hne hdrawn
    (fun m hm c hc => (hkey m hm c hc).1) ?_ r h
  have := NoChildHit_new p mb (fun m hm c hc => (hkey m (by rw [agree_legal_moves]; exact hm) c
    (by rw [agree_makemove]; exact hc)).2)
  intro m hm c hc
  rw [Table.agree_tt_poll]
  rw [agree_legal_moves] at hm; rw [agree_makemove] at hc
  exact this m hm c hc

/-- **C11.3 on the code** (total form: the root call of the regenerated `negamax` in an iteration of depth ≥ 2 RETURNS
`-DRAW_SCORE` with a generated move recorded, history untouched).  The stop closure is the one root.rs builds for
`go depth D`. -/
theorem C11_code_root_all_children_drawn (clock : Nat → Nat) (p0 : Position) (D : Int) (fuel : Nat) (p : Position)
    (st : SState) (depth : Int)
    (hV : ValidPos p = true) (hE : Spec.EpConsistent (abs p) = true)
    (hh : p.halfmoves + (fuel + 2) + 64 < 2147483648) (hfm : p.fullmoves + (fuel + 2) + 64 < 2147483648)
    (hdepth : 2 ≤ depth) (hD : st.depth ≤ D)
    (hlen : (R.legal_moves p).length ≤ Gen.orderBufNegamax)
    (hne : R.legal_moves p ≠ [])
    (hdrawn : ∀ m ∈ R.legal_moves p, ∀ c, R.makemove p m true = some c →
      c.halfmoves ≥ 100 ∨ OccurredBefore st.hist c)
    (hT : ∀ m ∈ R.legal_moves p, ∀ c, R.makemove p m true = some c →
      (R.tt_poll st.tt c.hash.toNat).map (·.hash) ≠ some c.hash) :
    ∃ m₀ st', m₀ ∈ R.legal_moves p ∧
      R.negamax (R.root_should_stop p0 (.Depth D) clock) (fuel + 2) p st (-Gen.INF) Gen.INF 0 depth false =
        some (-Gen.DRAW_SCORE, st') ∧
      st'.best = some m₀ ∧ st'.hist = st.hist := by
  have hT' := noChildHit_code hT
  rw [agree_legal_moves] at hlen hne
  rw [agree_legal_moves, agree_makemove] at hdrawn
  rw [negamax_code_model (lim := .depth D) rfl (fuel + 2) p hV hE hh hfm, agree_legal_moves]
  exact C11_root_all_children_drawn_rules D fuel p st depth hV hdepth hD hlen hne hdrawn hT'

namespace C11CodeEx
open C11Ex C11RulesEx

/-- `kk99V` of `Props/C11_rules.lean` (bare kings, clock 99: every move reaches clock 100), `go depth 3`, empty
history, three-slot table: the regenerated driver returns (because the model's does, `kk99V_depth3`) and — through the
theorem — reports three records, the draw score 50 in the last two, and `Ok` of a generated move. -/
example : ∃ r, R.root (fun _ => 0) kk99V [] tt3 (.Depth 3) 2 = some r ∧
    (∃ m ∈ R.legal_moves kk99V, r.1 = .ok m) ∧ r.2.2.2.map (fun i => i.depth.getD 0) = [1, 2, 3] ∧
    ∀ i ∈ r.2.2.2, 2 ≤ i.depth.getD 0 → i.score.getD 0 = 50 := by
  obtain ⟨res, h0⟩ := Option.isSome_iff_exists.1 kk99V_depth3
  obtain ⟨r, h1, _⟩ := root_code_of_model (clock := fun _ => 0) (s := .Depth 3) rfl kk99V_valid kk99V_E
    (by decide +kernel) (by decide +kernel) h0
  have hch : ∀ m ∈ R.legal_moves kk99V, ∀ c, R.makemove kk99V m true = some c →
      c.halfmoves ≥ 100 ∧ c.hash ≠ kk99V.hash ∧ c.hash ≠ 0#64 := by
    rw [agree_legal_moves, agree_makemove]; exact kk99V_children
  have hT : ∀ m ∈ R.legal_moves kk99V, ∀ c, R.makemove kk99V m true = some c →
      (R.tt_poll tt3 c.hash.toNat).map (·.hash) ≠ some c.hash := by
    simp only [agree_legal_moves, agree_makemove, Table.agree_tt_poll]
    exact noChildHit_replicate kk99V 3 fun m hm c hc => (kk99V_children m hm c hc).2.2
  exact ⟨r, h1, C11_code_iterations (fun _ => 0) 3 (by decide) (by decide) 0 kk99V kk99V_valid kk99V_E
    (by decide +kernel) (by decide +kernel) [] tt3 (by decide +kernel)
    (fun m hm c hc => Or.inl (hch m hm c hc).1) (fun m hm c hc => (hch m hm c hc).2.1) hT r h1⟩

end C11CodeEx

end Rawr

#print axioms Rawr.C11_code_iterations
#print axioms Rawr.C11_code_iterations_count
#print axioms Rawr.C11_code_iterations_new_table
#print axioms Rawr.C11_code_root_all_children_drawn
