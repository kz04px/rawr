import Rawr.Props.C10
import Rawr.Proofs.RustFnsAgree
/-!
# C10 on the regenerated code: the fills `R.ray*`, the leapers `R.knights`, `R.pawns`, `R.adjacent` and the table

`Props/C10.lean` proves the attack tables exact against the coordinate walks of `Spec/Walk.lean`.  What the code
contributes to C10 comes from two sources:

* **rays.rs / bitboard.rs** — the eight unrolled fills `ray_n … ray_sw`, `knights`, `pawns::<US>`, `adjacent`, the shifts.
  These are regenerated on every run as `Rawr.R.rayN … R.raySW`, `R.knights`, `R.pawns`, `R.adjacent`, `R.fromSquare`
  (`Generated/RustFns.lean`) and `agree_ray*`, `agree_knights`, `agree_pawns`, `agree_adjacent`, `agree_fromSquare`
  (`Proofs/RustFnsAgree.lean`) prove them equal to the model's functions AS FUNCTIONS (no hypothesis).  Every C10 theorem
  that mentions them is restated below on the `R.*` terms: exact transfers, same hypotheses (`sq < 64` or none).
* **the magic look-up** `MAGIC_MOVES[idx]` with `idx = offset + ((occ & mask) * magic >> shift)` and the leaper tables
  `KNIGHT_MASKS`, `KING_MASKS` — there is NO `R.` term for these: the table is a build artefact (written by build.rs into
  `$OUT_DIR`), translated row by row by `tools/extract.py` into `Generated/MagicTable_*.lean`; the index arithmetic and the
  two 64-entry leaper tables are the model's `bishopIndex`, `rookIndex`, `knightMask`, `kingMask` (`Model/Magic.lean`,
  tied to the code by the correspondence check and by `C10_constants_agree`).  The regenerated move generator, attack
  tests and evaluation call exactly these (`Rawr.bishopMoves`, `Rawr.rookMoves`, `Rawr.queenMoves`, `Rawr.knights` occur
  literally in `Generated/RustImp.lean`).  So the slider theorems `C10_bishop`, `C10_rook`, `C10_queen`, their `_get` and
  `_mem` forms, `C10_constants_agree`, `C10_knightMask`, `C10_kingMask` are already statements about the only term there is
  and are not repeated here.  What CAN be restated for the look-up is its relation to the regenerated code:
  `C10_code_fills_eq_table` (the look-up equals the union of the four regenerated fills — the two independent
  implementations of slider attacks in the source agree on all 64 × 2^64 inputs), `C10_code_queen`, and
  `C10_code_masks_eq_leapers` (the two leaper tables equal the regenerated `knights` / `adjacent` of the one-square set).

`C10_steps_are_spec`, `C10_walk_fuel` speak about the specification only and need no restatement.
-/
namespace Rawr
open Spec

theorem C10_code_rays (s : Nat) (hs : s < 64) (blockers : BB) :
    R.rayN s blockers = setBB (walk 0 1 s blockers.getLsbD) ∧
    R.rayS s blockers = setBB (walk 0 (-1) s blockers.getLsbD) ∧
    R.rayE s blockers = setBB (walk 1 0 s blockers.getLsbD) ∧
    R.rayW s blockers = setBB (walk (-1) 0 s blockers.getLsbD) ∧
    R.rayNE s blockers = setBB (walk 1 1 s blockers.getLsbD) ∧
    R.rayNW s blockers = setBB (walk (-1) 1 s blockers.getLsbD) ∧
    R.raySE s blockers = setBB (walk 1 (-1) s blockers.getLsbD) ∧
    R.raySW s blockers = setBB (walk (-1) (-1) s blockers.getLsbD) := by
  rw [agree_rayN, agree_rayS, agree_rayE, agree_rayW, agree_rayNE, agree_rayNW, agree_raySE, agree_raySW]
  exact C10_rays s hs blockers

theorem C10_code_fills_eq_walk (s : Nat) (hs : s < 64) (occ : BB) :
    R.rayNE s occ ||| (R.rayNW s occ ||| (R.raySE s occ ||| (R.raySW s occ ||| 0#64))) = walkBB diag s occ ∧
    R.rayE s occ ||| (R.rayW s occ ||| (R.rayN s occ ||| (R.rayS s occ ||| 0#64))) = walkBB orth s occ := by
  obtain ⟨h1, h2⟩ := C10_fills_eq_table s hs occ
  rw [agree_rayN, agree_rayS, agree_rayE, agree_rayW, agree_rayNE, agree_rayNW, agree_raySE, agree_raySW,
    ← h1, ← h2, C10_bishop s hs, C10_rook s hs]
  exact ⟨rfl, rfl⟩

theorem C10_code_fills_mem (s : Nat) (hs : s < 64) (occ : BB) (t : Nat) :
    (R.rayNE s occ ||| (R.rayNW s occ ||| (R.raySE s occ ||| (R.raySW s occ ||| 0#64)))).getLsbD t
      = (decide (t < 64) && walkSet4 diag s occ.getLsbD t) ∧
    (R.rayE s occ ||| (R.rayW s occ ||| (R.rayN s occ ||| (R.rayS s occ ||| 0#64)))).getLsbD t
      = (decide (t < 64) && walkSet4 orth s occ.getLsbD t) := by
  obtain ⟨h1, h2⟩ := C10_code_fills_eq_walk s hs occ
  rw [h1, h2, getLsbD_walkBB, getLsbD_walkBB]
  exact ⟨rfl, rfl⟩

theorem C10_code_fills_eq_table (s : Nat) (hs : s < 64) (occ : BB) :
    bishopMoves s occ = R.rayNE s occ ||| (R.rayNW s occ ||| (R.raySE s occ ||| (R.raySW s occ ||| 0#64))) ∧
    rookMoves s occ = R.rayE s occ ||| (R.rayW s occ ||| (R.rayN s occ ||| (R.rayS s occ ||| 0#64))) := by
  rw [agree_rayN, agree_rayS, agree_rayE, agree_rayW, agree_rayNE, agree_rayNW, agree_raySE, agree_raySW]
  exact C10_fills_eq_table s hs occ

theorem C10_code_get (s : Nat) (hs : s < 64) (occ : BB) :
    magicGet (bishopIndex s occ)
      = some (R.rayNE s occ ||| (R.rayNW s occ ||| (R.raySE s occ ||| (R.raySW s occ ||| 0#64)))).toNat ∧
    magicGet (rookIndex s occ)
      = some (R.rayE s occ ||| (R.rayW s occ ||| (R.rayN s occ ||| (R.rayS s occ ||| 0#64)))).toNat := by
  obtain ⟨h1, h2⟩ := C10_code_fills_eq_walk s hs occ
  rw [h1, h2]
  exact ⟨C10_bishop_get s hs occ, C10_rook_get s hs occ⟩

theorem C10_code_queen (s : Nat) (hs : s < 64) (occ : BB) :
    queenMoves s occ
      = (R.rayNE s occ ||| (R.rayNW s occ ||| (R.raySE s occ ||| (R.raySW s occ ||| 0#64)))) |||
        (R.rayE s occ ||| (R.rayW s occ ||| (R.rayN s occ ||| (R.rayS s occ ||| 0#64)))) := by
  obtain ⟨h1, h2⟩ := C10_code_fills_eq_table s hs occ
  unfold queenMoves
  rw [h1, h2]

/-- `R.fromSquare` is the regenerated `Bitboard::from_square`. -/
theorem C10_code_leapers_bit (sq : Nat) (h : sq < 64) :
    R.knights (R.fromSquare sq) = geomBB (knightStep sq) ∧ R.adjacent (R.fromSquare sq) = geomBB (kingStep sq) ∧
    ∀ us, R.pawns us (R.fromSquare sq) = geomBB (pawnStep us sq) := by
  rw [agree_knights, agree_adjacent, agree_pawns, agree_fromSquare]
  exact C10_leapers_bit sq h

theorem C10_code_knights (b : BB) (t : Nat) :
    (R.knights b).getLsbD t
      = (decide (t < 64) && (List.range 64).any fun s => b.getLsbD s && knightStep s t) := by
  rw [agree_knights]; exact C10_knights b t

theorem C10_code_adjacent (b : BB) (t : Nat) :
    (R.adjacent b).getLsbD t
      = (decide (t < 64) && (List.range 64).any fun s => b.getLsbD s && kingStep s t) := by
  rw [agree_adjacent]; exact C10_adjacent b t

theorem C10_code_pawns (us : Bool) (b : BB) (t : Nat) :
    (R.pawns us b).getLsbD t
      = (decide (t < 64) && (List.range 64).any fun s => b.getLsbD s && pawnStep us s t) := by
  rw [agree_pawns]; exact C10_pawnsAtt us b t

theorem C10_code_masks_eq_leapers (sq : Nat) (h : sq < 64) :
    knightMask sq = R.knights (R.fromSquare sq) ∧ kingMask sq = R.adjacent (R.fromSquare sq) := by
  obtain ⟨h1, h2, _⟩ := C10_code_leapers_bit sq h
  rw [h1, h2]
  exact ⟨C10_knightMask sq h, C10_kingMask sq h⟩

/-- the regenerated north-east fill from a1 with a blocker on d4 stops on d4. -/
example : R.rayNE 0 (R.fromSquare 27) = setBB [9, 18, 27] := by
  rw [(C10_code_rays 0 (by decide) _).2.2.2.2.1]; decide

/-- bishop on d4 (27), blockers f6 (45) and b2 (9): the look-up, through the theorem, is the union of the regenerated
fills, which stop on the blockers. -/
example : bishopMoves 27 (bit 45 ||| bit 9) = setBB [36, 45, 34, 41, 48, 20, 13, 6, 18, 9] := by
  rw [(C10_code_fills_eq_table 27 (by decide) _).1]; decide

/-- no wrap-around in the regenerated leapers: knight on h1, king on a4, white pawns on a2 and h2. -/
example : R.knights (R.fromSquare 7) = setBB [13, 22] := by decide
example : R.adjacent (R.fromSquare 24) = setBB [16, 17, 25, 32, 33] := by decide
example : R.pawns true (R.fromSquare 8 ||| R.fromSquare 15) = setBB [17, 22] := by decide
example : (R.knights (R.fromSquare 7)).getLsbD 22 = true ∧ (R.knights (R.fromSquare 7)).getLsbD 8 = false := by
  rw [C10_code_knights, C10_code_knights]; decide

end Rawr

#print axioms Rawr.C10_code_rays
#print axioms Rawr.C10_code_fills_eq_walk
#print axioms Rawr.C10_code_fills_mem
#print axioms Rawr.C10_code_fills_eq_table
#print axioms Rawr.C10_code_get
#print axioms Rawr.C10_code_queen
#print axioms Rawr.C10_code_leapers_bit
#print axioms Rawr.C10_code_knights
#print axioms Rawr.C10_code_adjacent
#print axioms Rawr.C10_code_pawns
#print axioms Rawr.C10_code_masks_eq_leapers
