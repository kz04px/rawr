import Rawr.Model.Search
import Rawr.Generated.StartPos
import Rawr.Proofs.AlphaBeta
import Rawr.Proofs.SelSort
import Rawr.Proofs.IteRules
/-! C19 — quiescence search is an exact, sound alpha-beta over the capture tree.

`qminimax` is the reference: plain recursion without pruning and without ordering over the model's own
capture generator (`legalCaptures`) and successor (`Position.makemove · · false`).
`C19_qsearch_sound` relates every successful `qsearch` to it with the three fail-soft clauses (through the generic
`AB.loop_bound`); `C19_qsearch_sound_full_false` refutes the form that asks the reference to be defined on the same fuel.
`QTreeOk` (no node overflows the ordering buffer) gives definedness (`C19_qsearch_defined`, `C19_qsearch_total`);
`C19_qsearch_counters_mono`, `C19_qsearch_score_indep`: the counters only grow and do not influence the score.
The example positions `posE4D5` and `posExd5` are used again by `Props/C19_code.lean`. -/
namespace Rawr

def qmmFold (rec : Position → Option Int) (p : Position) : List Mv → Int → Option Int
  | [], acc => some acc
  | m :: ms, acc =>
    match p.makemove m false with
    | none => none
    | some np =>
      match rec np with
      | none => none
      | some v => qmmFold rec p ms (max acc (-v))

/-- exact minimax value of the capture-only game tree: the side to move either accepts the static
evaluation or plays any legal capture. `none` = fuel exhausted somewhere in the tree, or `makemove` failed. -/
def qminimax : Nat → Position → Option Int
  | 0, _ => none
  | f + 1, p => qmmFold (qminimax f) p (legalCaptures p) (eval p)

/-- the exact value of the child reached by `m`, seen from the parent. -/
def qcv (rec : Position → Option Int) (p : Position) (m : Mv) : Option Int :=
  match p.makemove m false with
  | none => none
  | some np =>
    match rec np with
    | none => none
    | some v => some (-v)

theorem qcv_eq_some {rec : Position → Option Int} {p : Position} {m : Mv} {c : Int} :
    qcv rec p m = some c ↔ ∃ np v, p.makemove m false = some np ∧ rec np = some v ∧ c = -v := by
  unfold qcv
  constructor
  · intro h
    split at h
    · cases h
    · rename_i np hm
      split at h
      · cases h
      · rename_i v hv
        exact ⟨np, v, hm, hv, (Option.some.inj h).symm⟩
  · rintro ⟨np, v, hm, hv, rfl⟩
    simp only [hm, hv]

theorem qmmFold_eq_foldMax (rec : Position → Option Int) (p : Position) :
    ∀ (ms : List Mv) (acc : Int), qmmFold rec p ms acc = AB.foldMax (qcv rec p) ms acc
  | [], _ => rfl
  | m :: ms, acc => by
    simp only [qmmFold, AB.foldMax, qcv]
    cases p.makemove m false with
    | none => rfl
    | some np =>
      simp only
      cases rec np with
      | none => rfl
      | some v => exact qmmFold_eq_foldMax rec p ms _

theorem qminimax_succ (f : Nat) (p : Position) :
    qminimax (f + 1) p = AB.foldMax (qcv (qminimax f) p) (legalCaptures p) (eval p) := by
  rw [qminimax, qmmFold_eq_foldMax]

theorem qminimax_succ_foldlM (f : Nat) (p : Position) :
    qminimax (f + 1) p = (legalCaptures p).foldlM (fun acc m => do
      let np ← p.makemove m false
      let v ← qminimax f np
      pure (max acc (-v))) (eval p) := by
  rw [qminimax]
  generalize legalCaptures p = ms
  generalize eval p = acc
  induction ms generalizing acc with
  | nil => rfl
  | cons m ms ih =>
    simp only [qmmFold, List.foldlM_cons, Option.bind_eq_bind, Option.pure_def]
    cases p.makemove m false with
    | none => rfl
    | some np =>
      simp only [Option.bind_some]
      cases qminimax f np with
      | none => rfl
      | some v =>
        simp only [Option.bind_some]
        exact ih _

theorem qminimax_ge_eval (f : Nat) (p : Position) (v : Int) (h : qminimax f p = some v) : eval p ≤ v := by
  cases f with
  | zero => cases h
  | succ f => rw [qminimax_succ] at h; exact AB.foldMax_ge _ _ _ _ h

/-- more fuel does not change a defined reference value: "the exact value" is well defined. -/
theorem qminimax_mono (f f' : Nat) (p : Position) (v : Int) (hle : f ≤ f') (h : qminimax f p = some v) :
    qminimax f' p = some v := by
  induction f generalizing f' p v with
  | zero => cases h
  | succ f ih =>
    cases f' with
    | zero => omega
    | succ f' =>
      rw [qminimax_succ] at h ⊢
      refine AB.foldMax_congr _ _ _ ?_ _ _ h
      intro m _ c hc
      obtain ⟨np, vc, hm, hvc, rfl⟩ := qcv_eq_some.mp hc
      exact qcv_eq_some.mpr ⟨np, vc, hm, ih f' np vc (by omega) hvc, rfl⟩

theorem qminimax_unique (f f' : Nat) (p : Position) (v v' : Int)
    (h : qminimax f p = some v) (h' : qminimax f' p = some v') : v = v' := by
  have a := qminimax_mono f (max f f') p v (by omega) h
  have b := qminimax_mono f' (max f f') p v' (by omega) h'
  rw [a] at b; exact Option.some.inj b

/-- the recursive call of `qloop` on move `m`. -/
def qcall (rec : Position → QState → Int → Int → Int → Option (Int × QState)) (p : Position) (ply : Int)
    (m : Mv) (st : QState) (a b : Int) : Option (Int × QState) :=
  match p.makemove m false with
  | none => none
  | some np => rec np { st with nodes := st.nodes + 1 } a b (ply + 1)

theorem qcall_eq_some {rec : Position → QState → Int → Int → Int → Option (Int × QState)} {p : Position}
    {ply : Int} {m : Mv} {st : QState} {a b : Int} {x : Int × QState} :
    qcall rec p ply m st a b = some x ↔
      ∃ np, p.makemove m false = some np ∧ rec np { st with nodes := st.nodes + 1 } a b (ply + 1) = some x := by
  unfold qcall
  cases p.makemove m false <;> simp

theorem qloop_eq_loop (rec : Position → QState → Int → Int → Int → Option (Int × QState)) (p : Position)
    (beta ply : Int) : ∀ (ms : List Mv) (st : QState) (alpha best : Int),
    qloop rec p beta ply ms st alpha best = AB.loop (qcall rec p ply) beta ms st alpha best
  | [], _, _, _ => rfl
  | m :: ms, st, alpha, best => by
    rw [AB.loop_cons]
    simp only [qloop, qcall]
    cases p.makemove m false with
    | none => rfl
    | some np =>
      simp only
      cases rec np { st with nodes := st.nodes + 1 } (-beta) (-alpha) (ply + 1) with
      | none => rfl
      | some x =>
        obtain ⟨sc, st1⟩ := x
        simp only [AB.ite_gt_eq_max, ge_iff_le]
        split
        · rfl
        · exact qloop_eq_loop rec p beta ply ms _ _ _

theorem qsearch_succ (fuel : Nat) (p : Position) (st : QState) (alpha beta ply : Int) :
    qsearch (fuel + 1) p st alpha beta ply =
      if eval p ≥ beta then some (eval p, { st with seldepth := max st.seldepth ply })
      else (sortQs p (legalCaptures p)).bind fun moves =>
        AB.loop (qcall (qsearch fuel) p ply) beta moves
          { st with seldepth := max st.seldepth ply } (max alpha (eval p)) (eval p) := by
  simp only [qsearch, qloop_eq_loop, AB.ite_gt_eq_max]
  split
  · rfl
  · cases sortQs p (legalCaptures p) <;> rfl

/-- Soundness in the by-result form (`AB.Bound`): failing low gives an upper bound, a result strictly
inside the window is exact, failing high gives a lower bound. The reference may use any fuel. -/
theorem qsearch_bound (fuel : Nat) (p : Position) (st : QState) (α β ply r : Int) (st' : QState)
    (hαβ : α < β) (h : qsearch fuel p st α β ply = some (r, st'))
    (fuel' : Nat) (v : Int) (hv : qminimax fuel' p = some v) : AB.Bound α β r v := by
  induction fuel generalizing p st α β ply r st' fuel' v with
  | zero => cases h
  | succ fuel ih =>
    cases fuel' with
    | zero => cases hv
    | succ fuel' =>
    rw [qsearch_succ] at h
    rw [qminimax_succ] at hv
    have hge := AB.foldMax_ge _ _ _ _ hv
    split at h
    · rename_i hcut
      simp only [Option.some.injEq, Prod.mk.injEq] at h
      obtain ⟨rfl, _⟩ := h
      refine ⟨fun _ => ?_, fun _ => ?_, fun _ => ?_⟩ <;> omega
    · rename_i hnc
      cases hs : sortQs p (legalCaptures p) with
      | none => rw [hs] at h; cases h
      | some moves =>
        rw [hs] at h
        simp only [Option.bind_some] at h
        rw [← AB.foldMax_perm _ (sortQs_perm p _ _ hs)] at hv
        refine AB.loop_bound (qcv (qminimax fuel') p) (qcall (qsearch fuel) p ply) α β moves ?_
          _ (eval p) (eval p) r st' v (AB.Bound.refl _ _ _) (by omega) h hv
        intro m _ st1 a b r1 st1' hab hcall c hc
        obtain ⟨np, hm, hcall⟩ := qcall_eq_some.mp hcall
        obtain ⟨np', vc, hm', hvc, rfl⟩ := qcv_eq_some.mp hc
        cases hm.symm.trans hm'
        rw [Int.neg_neg]
        exact ih np _ a b _ r1 st1' hab hcall fuel' vc hvc

/-- **C19** (soundness). Whenever `qsearch` returns, its result relates to the exact minimax value `v` of the
capture tree — computed by `qminimax` with any fuel on which it is defined — by the three clauses:
exact when `v` is strictly inside the window, an upper bound when the result fails low,
a lower bound when it fails high. -/
theorem C19_qsearch_sound (fuel : Nat) (p : Position) (st : QState) (α β ply r : Int) (st' : QState)
    (hαβ : α < β) (h : qsearch fuel p st α β ply = some (r, st'))
    (fuel' : Nat) (v : Int) (hv : qminimax fuel' p = some v) :
    (α < v ∧ v < β → r = v) ∧ (r ≤ α → v ≤ r) ∧ (β ≤ r → r ≤ v) := by
  have hb := qsearch_bound fuel p st α β ply r st' hαβ h fuel' v hv
  exact ⟨hb.exact_of_inside, hb.1, hb.2.2⟩

theorem C19_qsearch_exact_of_result_inside (fuel : Nat) (p : Position) (st : QState) (α β ply r : Int)
    (st' : QState) (hαβ : α < β) (h : qsearch fuel p st α β ply = some (r, st'))
    (fuel' : Nat) (v : Int) (hv : qminimax fuel' p = some v) (hr : α < r ∧ r < β) : r = v :=
  (qsearch_bound fuel p st α β ply r st' hαβ h fuel' v hv).2.1 hr

/-- `r ≤ v` is not true in general for a fail-soft search (a fail-low result is only an upper bound),
but it does hold whenever the result is above `α`. -/
theorem C19_qsearch_le_exact_of_gt_alpha (fuel : Nat) (p : Position) (st : QState) (α β ply r : Int)
    (st' : QState) (hαβ : α < β) (h : qsearch fuel p st α β ply = some (r, st'))
    (fuel' : Nat) (v : Int) (hv : qminimax fuel' p = some v) (hr : α < r) : r ≤ v := by
  obtain ⟨_, h2, h3⟩ := qsearch_bound fuel p st α β ply r st' hαβ h fuel' v hv
  by_cases hb : β ≤ r
  · exact h3 hb
  · have := h2 ⟨hr, by omega⟩; omega

/-- The same-fuel form: the reference is required to be defined *on the same fuel*
as a consequence of `qsearch` returning. It is false: `qsearch` prunes, so it can return on a fuel on
which the unpruned reference is still undefined (see `C19_qsearch_sound_full_false`). -/
def C19_qsearch_sound_full : Prop :=
  ∀ (fuel : Nat) (p : Position) (st : QState) (α β ply r : Int) (st' : QState), α < β →
    qsearch fuel p st α β ply = some (r, st') →
    ∃ v, qminimax fuel p = some v ∧ (α < v ∧ v < β → r = v) ∧ (r ≤ α → v ≤ r) ∧ (β ≤ r → r ≤ v)

theorem C19_qsearch_sound_same_fuel (fuel : Nat) (p : Position) (st : QState) (α β ply r : Int)
    (st' : QState) (hαβ : α < β) (h : qsearch fuel p st α β ply = some (r, st'))
    (hdef : (qminimax fuel p).isSome) :
    ∃ v, qminimax fuel p = some v ∧ (α < v ∧ v < β → r = v) ∧ (r ≤ α → v ≤ r) ∧ (β ≤ r → r ≤ v) := by
  obtain ⟨v, hv⟩ := Option.isSome_iff_exists.mp hdef
  exact ⟨v, hv, C19_qsearch_sound fuel p st α β ply r st' hαβ h fuel v hv⟩

/-- **C19** (full window). With the window `(-INF, INF)` the result is the exact value,
given that the exact value is strictly inside (a consequence of the evaluation bound). -/
theorem C19_full_window (fuel : Nat) (p : Position) (st : QState) (ply r : Int) (st' : QState)
    (h : qsearch fuel p st (-Gen.INF_QS) Gen.INF_QS ply = some (r, st'))
    (fuel' : Nat) (v : Int) (hv : qminimax fuel' p = some v)
    (hin : -Gen.INF_QS < v ∧ v < Gen.INF_QS) : r = v :=
  (C19_qsearch_sound fuel p st (-Gen.INF_QS) Gen.INF_QS ply r st' (by decide) h fuel' v hv).1 hin

theorem C19_qsearch_counters_mono : ∀ (fuel : Nat) (p : Position) (st : QState) (α β ply r : Int)
    (st' : QState), qsearch fuel p st α β ply = some (r, st') →
    st.seldepth ≤ st'.seldepth ∧ st.nodes ≤ st'.nodes
  | 0, _, _, _, _, _, _, _, h => by cases h
  | fuel + 1, p, st, α, β, ply, r, st', h => by
    rw [qsearch_succ] at h
    split at h
    · simp only [Option.some.injEq, Prod.mk.injEq] at h
      obtain ⟨_, rfl⟩ := h
      exact ⟨by simp only; omega, Nat.le_refl _⟩
    · cases hs : sortQs p (legalCaptures p) with
      | none => rw [hs] at h; cases h
      | some moves =>
        rw [hs] at h
        simp only [Option.bind_some] at h
        have := AB.loop_mono (qcall (qsearch fuel) p ply) β
          (fun s t : QState => s.seldepth ≤ t.seldepth ∧ s.nodes ≤ t.nodes)
          (fun _ => ⟨Int.le_refl _, Nat.le_refl _⟩)
          (fun _ _ _ h1 h2 => ⟨Int.le_trans h1.1 h2.1, Nat.le_trans h1.2 h2.2⟩) moves ?_ _ _ _ r st' h
        · simp only at this; omega
        · intro m _ st1 a b r1 st1' hcall
          obtain ⟨np, _, hcall⟩ := qcall_eq_some.mp hcall
          have := C19_qsearch_counters_mono fuel np _ a b _ r1 st1' hcall
          simp only at this ⊢; omega

/-- the score (and whether the search returns at all) depends neither on the incoming counters nor on `ply`. -/
theorem C19_qsearch_score_indep : ∀ (fuel : Nat) (p : Position) (st₁ st₂ : QState) (α β ply₁ ply₂ : Int),
    (qsearch fuel p st₁ α β ply₁).map Prod.fst = (qsearch fuel p st₂ α β ply₂).map Prod.fst
  | 0, _, _, _, _, _, _, _ => rfl
  | fuel + 1, p, st₁, st₂, α, β, ply₁, ply₂ => by
    rw [qsearch_succ, qsearch_succ]
    split
    · rfl
    · cases sortQs p (legalCaptures p) with
      | none => rfl
      | some moves =>
        simp only [Option.bind_some]
        apply AB.loop_score_indep
        intro m _ s₁ s₂ a b
        simp only [qcall]
        cases p.makemove m false with
        | none => rfl
        | some np => exact C19_qsearch_score_indep fuel np _ _ a b _ _

/-! ## definedness: `qsearch` fails only on fuel exhaustion, buffer overflow or a failing `makemove` -/

/-- no node of the capture tree (to depth `fuel`) has more captures than the ordering buffer holds. -/
def QTreeOk : Nat → Position → Prop
  | 0, _ => True
  | f + 1, p => (legalCaptures p).length ≤ Gen.orderBufQsearch ∧
      ∀ m ∈ legalCaptures p, ∀ np, p.makemove m false = some np → QTreeOk f np

theorem C19_qsearch_defined (fuel : Nat) (p : Position) (st : QState) (α β ply v : Int)
    (hv : qminimax fuel p = some v) (hok : QTreeOk fuel p) :
    ∃ r st', qsearch fuel p st α β ply = some (r, st') := by
  induction fuel generalizing p st α β ply v with
  | zero => cases hv
  | succ fuel ih =>
    rw [qsearch_succ]
    rw [qminimax_succ] at hv
    obtain ⟨hlen, hch⟩ := hok
    split
    · exact ⟨_, _, rfl⟩
    · obtain ⟨moves, hs⟩ := sortQs_isSome p (legalCaptures p) hlen
      rw [hs]
      simp only [Option.bind_some]
      apply AB.loop_isSome
      intro m hm st1 a b
      have hm' : m ∈ legalCaptures p := (sortQs_perm p _ _ hs).mem_iff.mp hm
      obtain ⟨c, hc⟩ := (AB.foldMax_isSome_iff _ _ _).mp ⟨v, hv⟩ m hm'
      obtain ⟨np, vc, hmk, hvc, _⟩ := qcv_eq_some.mp hc
      obtain ⟨r, st', h⟩ := ih np { st1 with nodes := st1.nodes + 1 } a b (ply + 1) vc hvc (hch m hm' np hmk)
      exact ⟨r, st', qcall_eq_some.mpr ⟨np, hmk, h⟩⟩

/-- **C19** (total form). On a capture tree that `fuel` exhausts and whose nodes fit the ordering buffer,
`qsearch` returns and its result obeys the three clauses against the exact value. -/
theorem C19_qsearch_total (fuel : Nat) (p : Position) (st : QState) (α β ply v : Int) (hαβ : α < β)
    (hv : qminimax fuel p = some v) (hok : QTreeOk fuel p) :
    ∃ r st', qsearch fuel p st α β ply = some (r, st') ∧
      (α < v ∧ v < β → r = v) ∧ (r ≤ α → v ≤ r) ∧ (β ≤ r → r ≤ v) := by
  obtain ⟨r, st', h⟩ := C19_qsearch_defined fuel p st α β ply v hv hok
  exact ⟨r, st', h, C19_qsearch_sound fuel p st α β ply r st' hαβ h fuel v hv⟩

def qTreeOkB : Nat → Position → Bool
  | 0, _ => true
  | f + 1, p => decide ((legalCaptures p).length ≤ Gen.orderBufQsearch) &&
      (legalCaptures p).all fun m =>
        match p.makemove m false with
        | none => true
        | some np => qTreeOkB f np

theorem qTreeOkB_iff (f : Nat) (p : Position) : qTreeOkB f p = true ↔ QTreeOk f p := by
  induction f generalizing p with
  | zero => simp only [qTreeOkB, QTreeOk]
  | succ f ih =>
    simp only [qTreeOkB, QTreeOk, Bool.and_eq_true, decide_eq_true_eq, List.all_eq_true]
    refine and_congr_right fun _ => forall_congr' fun m => forall_congr' fun _ => ?_
    cases p.makemove m false with
    | none => exact ⟨fun _ np h => (by cases h), fun _ => rfl⟩
    | some np =>
      simp only [Option.some.injEq]
      exact ⟨fun h np' e => e ▸ (ih np).mp h, fun h => (ih np).mpr (h np rfl)⟩

/-- after 1.e4 d5 (White to move; the only capture is exd5). -/
def posE4D5 : Position :=
  { c0 := 0x000000001000efff#64, c1 := 0xfff7000800000000#64,
    p0 := 0x00f700081000ef00#64, p1 := 0x4200000000000042#64, p2 := 0x2400000000000024#64,
    p3 := 0x8100000000000081#64, p4 := 0x0800000000000008#64, p5 := 0x1000000000000010#64,
    halfmoves := 0, fullmoves := 1, black := false, ep := some 43,
    usK := true, usQ := true, themK := true, themQ := true,
    cf0 := 7, cf1 := 0, cf2 := 7, cf3 := 0, hash := 0x3e60c10927683aff#64, frc := false }

/-- after 1.e4 d5 2.exd5 (Black to move, a pawn down; the only capture is Qxd5, which wins it back).
Boards are relative to the side to move, as everywhere in the model. -/
def posExd5 : Position :=
  { c0 := 0x000000000000f7ff#64, c1 := 0xffef000008000000#64,
    p0 := 0x00ef00000800f700#64, p1 := 0x4200000000000042#64, p2 := 0x2400000000000024#64,
    p3 := 0x8100000000000081#64, p4 := 0x0800000000000008#64, p5 := 0x1000000000000010#64,
    halfmoves := 0, fullmoves := 1, black := true, ep := none,
    usK := true, usQ := true, themK := true, themQ := true,
    cf0 := 7, cf1 := 0, cf2 := 7, cf3 := 0, hash := 0x23659eab172e71f7#64, frc := false }

theorem posE4D5_captures : legalCaptures posE4D5 = [⟨28, 35, 6⟩] := by decide +kernel
theorem posE4D5_exd5 : posE4D5.makemove ⟨28, 35, 6⟩ true = some posExd5 := by decide +kernel
theorem posExd5_captures : legalCaptures posExd5 = [⟨3, 27, 6⟩] := by decide +kernel
theorem posExd5_eval : eval posExd5 = -109 := by decide +kernel
theorem posExd5_qminimax : qminimax 2 posExd5 = some 28 := by decide +kernel

theorem posExd5_qsearch : (qsearch 2 posExd5 ⟨0, 0⟩ (-100) 100 0).isSome = true := by decide +kernel

/-- The hypotheses of `C19_qsearch_sound` hold on a position where a capture changes the value
(static evaluation −109, exact value 28), with a window containing the value; the theorem yields `r = 28`. -/
example : ∃ r st', qsearch 2 posExd5 ⟨0, 0⟩ (-100) 100 0 = some (r, st') ∧
    qminimax 2 posExd5 = some 28 ∧ eval posExd5 = -109 ∧ r = 28 := by
  obtain ⟨r, st', h⟩ := isSome_pair posExd5_qsearch
  exact ⟨r, st', h, posExd5_qminimax, posExd5_eval,
    (C19_qsearch_sound 2 posExd5 ⟨0, 0⟩ (-100) 100 0 r st' (by decide) h 2 28 posExd5_qminimax).1
      (by decide)⟩

/-- fail-high and fail-low on the same position: the window `(-200, -100)` lies below the value 28,
the window `(100, 200)` above it; the model returns 28 both times (a lower resp. an upper bound). -/
example : (qsearch 2 posExd5 ⟨0, 0⟩ (-200) (-100) 0).map Prod.fst = some 28 ∧
    (qsearch 2 posExd5 ⟨0, 0⟩ 100 200 0).map Prod.fst = some 28 := by decide +kernel

/-- `C19_full_window` on the start position (no captures; fuel 1 suffices) … -/
example : ∃ r st', qsearch 1 Gen.startpos ⟨0, 0⟩ (-Gen.INF_QS) Gen.INF_QS 0 = some (r, st') ∧
    qminimax 1 Gen.startpos = some 0 ∧ r = 0 := by
  have hv : qminimax 1 Gen.startpos = some 0 := by decide +kernel
  obtain ⟨r, st', h⟩ := isSome_pair (o := qsearch 1 Gen.startpos ⟨0, 0⟩ (-Gen.INF_QS) Gen.INF_QS 0)
    (by decide +kernel)
  exact ⟨r, st', h, hv, C19_full_window 1 Gen.startpos ⟨0, 0⟩ 0 r st' h 1 0 hv (by decide)⟩

/-- the three-ply capture tree of 1.e4 d5 (exd5 Qxd5 and no further capture). -/
theorem posE4D5_qminimax : qminimax 3 posE4D5 = some (-21) := by decide +kernel
theorem posE4D5_treeOk : QTreeOk 3 posE4D5 := (qTreeOkB_iff 3 posE4D5).mp (by decide +kernel)

/-- … and on that tree: the reference is defined on fuel 3 and the tree fits the ordering buffer, so `qsearch` returns
(`C19_qsearch_defined`). -/
example : ∃ r st', qsearch 3 posE4D5 ⟨0, 0⟩ (-Gen.INF_QS) Gen.INF_QS 0 = some (r, st') ∧
    qminimax 3 posE4D5 = some (-21) ∧ r = -21 := by
  obtain ⟨r, st', h⟩ := C19_qsearch_defined 3 posE4D5 ⟨0, 0⟩ (-Gen.INF_QS) Gen.INF_QS 0 _ posE4D5_qminimax posE4D5_treeOk
  exact ⟨r, st', h, posE4D5_qminimax, C19_full_window 3 posE4D5 ⟨0, 0⟩ 0 r st' h 3 (-21) posE4D5_qminimax (by decide)⟩

example : qminimax 3 posE4D5 = some (-21) ∧ QTreeOk 3 posE4D5 := ⟨posE4D5_qminimax, posE4D5_treeOk⟩

/-- fuel 1 does not reach below the capture exd5. -/
theorem posE4D5_qminimax_one : qminimax 1 posE4D5 = none := by
  rw [qminimax_succ 0 posE4D5, posE4D5_captures]
  simp only [AB.foldMax, qcv]
  cases posE4D5.makemove ⟨28, 35, 6⟩ false <;> rfl

/-- The same-fuel existence claim is false: with the window `(eval p - 1, eval p)` the stand-pat cut-off
makes `qsearch 1` return at once, while the unpruned reference needs fuel for the capture exd5. -/
theorem C19_qsearch_sound_full_false : ¬ C19_qsearch_sound_full := by
  intro H
  obtain ⟨v, hv, _⟩ := H 1 posE4D5 ⟨0, 0⟩ (eval posE4D5 - 1) (eval posE4D5) 0 (eval posE4D5)
    { seldepth := max 0 0, nodes := 0 } (by omega) (by rw [qsearch_succ, if_pos (Int.le_refl _)])
  rw [posE4D5_qminimax_one] at hv
  cases hv

#print axioms C19_qsearch_sound
#print axioms C19_qsearch_exact_of_result_inside
#print axioms C19_qsearch_sound_same_fuel
#print axioms C19_full_window
#print axioms C19_qsearch_counters_mono
#print axioms C19_qsearch_score_indep
#print axioms C19_qsearch_defined
#print axioms C19_qsearch_total
#print axioms C19_qsearch_sound_full_false
#print axioms sortQs_perm
#print axioms qminimax_mono

end Rawr
