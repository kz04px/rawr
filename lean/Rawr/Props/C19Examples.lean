import Rawr.Props.C19
import Rawr.Model.Fen
/-! C19, kernel-evaluated example: the clause "play ANY legal capture" is not
idle for under-promotions. In `r7/1Pk5/5n2/8/6Q1/8/8/7K w - - 0 1` the knight promotion b7xa8=N gives check — Black may
only stand pat or answer the check, so the queen on g4 survives — while after b7xa8=Q Black plays Nf6xg4. The exact value of
the capture tree is that of the KNIGHT promotion; a quiescence search that looks at queen promotions only is not exact here.
(The differential leg constructs such positions in every run: `underpromo_check_fens` in tools/props_search.py.) -/
namespace Rawr
namespace C19Ex

/-- `r7/1Pk5/5n2/8/6Q1/8/8/7K w - - 0 1` (boards relative to the side to move, as printed by the model's `set_fen`). -/
def upc : Position :=
  { c0 := 562951027163264#64, c1 := 73218678316859392#64,
    p0 := 562949953421312#64, p1 := 35184372088832#64, p2 := 0#64,
    p3 := 72057594037927936#64, p4 := 1073741824#64, p5 := 1125899906842752#64,
    halfmoves := 0, fullmoves := 1, black := false, ep := none,
    usK := false, usQ := false, themK := false, themQ := false,
    cf0 := 7, cf1 := 0, cf2 := 7, cf3 := 0, hash := 8291968485078949747#64, frc := false }

theorem upc_is_fen : setFen .wrap false "r7/1Pk5/5n2/8/6Q1/8/8/7K w - - 0 1".toList = some upc := by decide +kernel

theorem upc_knight_promo_is_capture : (⟨49, 56, 1⟩ : Mv) ∈ legalCaptures upc := by decide +kernel

theorem upc_eval : eval upc < 578 := by decide +kernel

/-- seen from the root: queen promotion 578, knight promotion 881. -/
theorem upc_queen_promo_value : qcv (qminimax 6) upc ⟨49, 56, 4⟩ = some 578 := by decide +kernel
theorem upc_knight_promo_value : qcv (qminimax 6) upc ⟨49, 56, 1⟩ = some 881 := by decide +kernel

theorem upc_qminimax : qminimax 7 upc = some 881 := by decide +kernel

/-- so if the model of `qsearch` returns there with the full window (that it does is not shown here), it returns 881 —
by `C19_full_window`, not by evaluation. -/
example : ∀ r st', qsearch 64 upc ⟨0, 0⟩ (-Gen.INF_QS) Gen.INF_QS 0 = some (r, st') → r = 881 := by
  intro r st' h
  exact C19_full_window 64 upc ⟨0, 0⟩ 0 r st' h 7 881 upc_qminimax (by decide)

end C19Ex
end Rawr

#print axioms Rawr.C19Ex.upc_qminimax
#print axioms Rawr.C19Ex.upc_knight_promo_value
