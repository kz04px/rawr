import Rawr.Props.C07
import Rawr.Props.C06
import Rawr.Props.C08d
/-! # C07(c) and C06 without the bridge hypothesis

`C07c_accepts`, `C06a_roundtrip`, `C06b_parse_print` carry the hypothesis that `validate`'s attack test
(the model's `isSqAttacked` on the king of the side not to move) is passed. On the engine's domain this is
`Spec.Valid`'s clause "the side not to move is not in check", by C08d (`C08d_inCheckThem_valid`). -/
namespace Rawr
open Spec FenC

/-- the bridge: on `ValidPos`, the attack test of `validate` is passed. -/
theorem C07_bridge (p : Position) (hV : ValidPos p = true) :
    p.isSqAttacked (lsb (p.c1 &&& p.p5)) false = false := by
  have h := C08d_inCheckThem_valid p hV
  unfold Position.inCheckThem at h
  rw [BitVec.and_comm] at h
  rw [h]
  exact (VB.of_validPos hV).2.2

/-- **C07(c)**, unconditional: every FEN (X-FEN, Shredder, or — when every right's rook is the outermost —
`KQkq` spelling) of a valid position with pieces on the 64 squares only and counters below `2^31` is
accepted in both arithmetics and read to exactly that position. -/
theorem C07c_complete : C07c_full := fun ar a frc st hV hb hh hf hst =>
  C07c_accepts ar a frc st hV hb hh hf hst (C07_bridge _ (validPos_rel a frc hV hb hh hf))

/-- **C06(a)**, unconditional. -/
theorem C06a_complete : C06a_full := fun ar p hV s hs =>
  C06a_roundtrip_exact ar p hV (C07_bridge p hV) s hs

/-- **C06(b)**, unconditional. -/
theorem C06b_complete : C06b_full := fun ar a frc hV hb hh hf =>
  C06b_parse_print ar a frc hV hb hh hf (C07_bridge _ (validPos_rel a frc hV hb hh hf))

/-- on the domain `set_fen ∘ get_fen` is the identity up to the castle files of absent rights,
and `get_fen` never fails. -/
theorem C06a_domain (ar : Arith) (p : Position) (hV : ValidPos p = true) :
    ∃ s, getFen p = some s ∧ setFen ar p.frc s = some (normCf p) :=
  ⟨_, C06a_prints p hV, C06a_complete ar p hV _ (C06a_prints p hV)⟩

/-- every FEN of a position of the domain is accepted (both arithmetics), and the position read is structurally valid. -/
theorem C07c_domain_complete (ar : Arith) (p : Position) (st : CastleStyle) (hV : ValidPos p = true)
    (hst : st = .kqkq → AllOutermost (abs p)) :
    setFen ar p.frc (printFen (abs p) st) = some (normCf p) ∧ StructurallyValid (normCf p) := by
  have h := C07c_domain ar p st hV hst (C07_bridge p hV)
  exact ⟨h, C07a_sound ar p.frc _ _ h⟩

#print axioms C07_bridge
#print axioms C07c_complete
#print axioms C06a_complete
#print axioms C06b_complete
#print axioms C06a_domain
#print axioms C07c_domain_complete
end Rawr
