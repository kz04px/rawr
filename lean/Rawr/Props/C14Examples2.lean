import Rawr.Props.C14Examples
/-! Non-vacuity for C03 / C14 (kernel evaluation): a depth-2 search of K+P v K. -/
namespace Rawr
namespace C14Ex
open C13Ex C03Ex

/-- depth limit 2 (late-move re-searches, interior polls, table stores and probes all occur): the hypotheses
of `C14_depth_iterations`, `C14_scores_inside_mate_bounds_partial` and `C03_root_returns_legal` hold; through
the theorems: iterations 1 and 2 are reported in order and nothing deeper, the scores are inside the mate
bounds, the move played is legal and is the head of the last principal variation. -/
example : ∃ res, root (.depth 2) 3 kpk hist2 tt3 = some res ∧ res.infos.map (·.depth) = [1, 2] ∧
    (∀ r ∈ res.infos, -Gen.MATE_SCORE < r.score ∧ r.score < Gen.MATE_SCORE) ∧
    (∃ m ∈ legalMoves kpk, res.best = some m) ∧
    res.best = (res.infos.getLast?).bind (·.pv.head?) := by
  have h : (root (.depth 2) 3 kpk hist2 tt3).isSome = true := by decide +kernel
  obtain ⟨res, h1⟩ := Option.isSome_iff_exists.1 h
  exact ⟨res, h1,
    C14_depth_iterations 2 (by decide) (by decide) _ sDomB_dom 3 kpk hist2 tt3 res kpk_dom3 tt3_sane.bounded
      (by decide) kpk_legal h1,
    C14_scores_inside_mate_bounds_partial _ _ sDomB_dom 3 kpk hist2 tt3 res kpk_dom3 tt3_sane (by decide) h1,
    (C03_root_returns_legal _ _ sDomB_dom 3 kpk hist2 tt3 res kpk_dom3 tt3_sane.bounded (by decide) h1).1
      kpk_legal,
    C14_best_is_pv_head _ _ _ _ _ _ h1⟩

end C14Ex
end Rawr
