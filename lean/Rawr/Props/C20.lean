import Rawr.Proofs.StyleScore
import Rawr.Proofs.StyleChess
import Rawr.Gen
/-!
# C20 — style tool: statistics stay consistent and every style score lies in [0,1]

Model: `Rawr.Style` (`Rawr/Model/Style.lean`), a model of `/repo/tools/style/style.py` over exact rationals,
tied to the real script by `tools/style_corr.py`.  Games are *annotated games*; `WFGame side g`
(`Rawr/Proofs/StyleWF.lean`) lists the chess facts about games from the standard starting position that
the theorems use (fewer than 1024 half-moves; own pawns never move to their first two ranks; final
material ≤ 206; early pawn arrivals on rank `r+1` ≤ those on rank `r` for the 4th…7th rank).
`Q.val : Q → ℚ` is the rational denoted by a model fraction, `Unit01 x` says `x` has a positive
denominator and `0 ≤ x.val ≤ 1`.

* `WFGame` is not an assumption about chess: `C20_wf_of_chess` derives it from `Rawr.Spec` for every
  annotated game that agrees with a legal move sequence (< 1024 half-moves) from the standard starting
  position; the `*_chess` theorems at the end restate (a)–(c) for such games (`ChessGame`).
* (a) `C20a_*`: the invariant `Inv` holds of `Stats()`, is preserved by `analyse_game`, implies
  `is_valid`, and no index is ever out of range.
* (b) `C20b_*`: every feature and every score that returns is in `[0,1]`; the only exception a score
  function can raise is `ZeroDivisionError` (so no range assertion ever fails, over ℚ).
* (c) `C20c_full v`: "no exception for any set of games", for the script text `v`.
  It is FALSE for `.current`, the text without the four zero guards (`C20c_refuted`: one game without
  moves), TRUE for `.guarded`, the text with them (`C20c_guarded`), and for `.current` the exact condition for an
  abort is `total_captures = 0 ∨ total_noncaptures = 0` with at least one game (`C20c_partial`,
  `C20c_exact`). The names notwithstanding, the script as it stands in /repo has the guards: it is `.guarded`
  (`Props/C20_code.lean`), and `.current` is its text before that repair.
-/
namespace Rawr.Style

theorem C20a_init : Inv Stats.fresh ∧ isValid Stats.fresh = .ok true :=
  ⟨inv_fresh, isValid_of_inv inv_fresh⟩

/-- one analysed game: from any state satisfying the invariant, `analyse_game` on a well-formed game
returns (no `IndexError`: ply < 1024, material ≤ 206, distance ≤ 7, rank ≤ 7), the invariant holds again
and `is_valid` is true. -/
theorem C20a_step (g : Game) (side : Color) (s : Stats) (hI : Inv s) (hwf : WFGame side g) :
    ∃ s', analyseGame g side s = .ok s' ∧ Inv s' ∧ isValid s' = .ok true := by
  obtain ⟨s', h1, h2, _⟩ := analyseGame_inv g side s hI hwf
  exact ⟨s', h1, h2, isValid_of_inv h2⟩

/-- any set of games, analysed for either side in any order: `analyse_pgn` (which asserts `is_valid`
after every game) returns, and the accumulated statistics satisfy the invariant and `is_valid`. -/
theorem C20a (jobs : List (Game × Color)) (hwf : ∀ j ∈ jobs, WFGame j.2 j.1) :
    ∃ s, analysePgn jobs Stats.fresh = .ok s ∧ Inv s ∧ isValid s = .ok true ∧ s.numGames = jobs.length := by
  obtain ⟨s, h1, h2, h3⟩ := analysePgn_inv jobs Stats.fresh inv_fresh hwf
  exact ⟨s, h1, h2, isValid_of_inv h2, h3.trans (Nat.zero_add _)⟩

/-- every feature of every score function: a returned value is in `[0,1]`, a raised exception is
`ZeroDivisionError`. -/
theorem C20b_features {s : Stats} (hI : Inv s) (v : Variant) (f : Feature)
    (hf : f ∈ Aggression.features v ++ Positional.features v ++ PawnPusher.features) :
    (∀ x, f.func s = .ok x → Unit01 x) ∧ (∀ e, f.func s = .error e → e = .zeroDivision) := by
  simp only [List.mem_append] at hf
  rcases hf with (hf | hf) | hf
  · exact (aggr_features_spec hI v f hf).1
  · exact (pos_features_spec hI v f hf).1
  · exact (pawn_features_ok s f hf).safe

/-- every score that is returned is in `[0,1]`; `None` is returned exactly when there are no games; the
only possible exception is `ZeroDivisionError` (in particular neither range assertion can fail). -/
theorem C20b_scores {s : Stats} (hI : Inv s) (v : Variant) :
    (∀ q, getAggressionScore v s = .ok (some q) → Unit01 q) ∧
    (∀ q, getPositionalScore v s = .ok (some q) → Unit01 q) ∧
    (∀ q, getPawnPusherScore s = .ok (some q) → Unit01 q) ∧
    (∀ e, getAggressionScore v s = .error e → e = .zeroDivision) ∧
    (∀ e, getPositionalScore v s = .error e → e = .zeroDivision) ∧
    (∀ e, getPawnPusherScore s ≠ .error e) ∧
    (s.numGames = 0 → getAggressionScore v s = .ok none ∧ getPositionalScore v s = .ok none ∧
      getPawnPusherScore s = .ok none) := by
  have ha := getAggressionScore_spec hI v
  have hp := getPositionalScore_spec hI v
  have hw := getPawnPusherScore_spec s
  refine ⟨fun q hq => ha.2.1.1 _ hq q rfl, fun q hq => hp.2.1.1 _ hq q rfl, fun q hq => hw.2.1.1 _ hq q rfl,
    ha.2.1.2, hp.2.1.2, ?_, fun h0 => ⟨ha.1 h0, hp.1 h0, hw.1 h0⟩⟩
  intro e he
  by_cases hn : s.numGames = 0
  · rw [hw.1 hn] at he; cases he
  · obtain ⟨q, hq, _⟩ := hw.2.2 (by omega)
    rw [hq] at he; cases he

/-- the run for one filter does not raise, whatever the (well-formed) games. -/
def C20c_full (v : Variant) : Prop :=
  ∀ jobs : List (Game × Color), (∀ j ∈ jobs, WFGame j.2 j.1) → ∃ r, runTool v jobs = .ok r

theorem mainScores_spec {s : Stats} (hI : Inv s) (v : Variant) :
    Safe (fun o => ∀ sc, o = some sc →
      (∀ q, sc.aggressive = some q → Unit01 q) ∧ (∀ q, sc.positional = some q → Unit01 q) ∧
      (∀ q, sc.pawnPusher = some q → Unit01 q)) (mainScores v s) ∧
    ((s.numGames = 0 ∨ ((v = .guarded ∨ 0 < s.totalCaptures) ∧ (v = .guarded ∨ 0 < s.totalNoncaptures))) →
      ∃ r, mainScores v s = .ok r) := by
  have ha := getAggressionScore_spec hI v
  have hp := getPositionalScore_spec hI v
  have hw := getPawnPusherScore_spec s
  unfold mainScores
  split
  · exact ⟨.ok nofun, fun _ => ⟨_, rfl⟩⟩
  · rename_i hn
    refine ⟨ha.2.1.bind fun a hA => hp.2.1.bind fun p hP => hw.2.1.bind fun w hW =>
      .ok fun sc hsc => by cases hsc; exact ⟨hA, hP, hW⟩, fun hc => ?_⟩
    obtain ⟨hcap, hnc⟩ := hc.resolve_left (by omega)
    obtain ⟨a, hA, _⟩ := ha.2.2 (by omega) hcap hnc
    obtain ⟨p, hP, _⟩ := hp.2.2 (by omega) hcap
    obtain ⟨w, hW, _⟩ := hw.2.2 (by omega)
    exact ⟨_, by rw [hA, hP, hW]; rfl⟩

/-- the game without moves, a draw: final board = starting position. -/
def zeroMoveGame : Game :=
  { result := .draw, plies := [], finalWhite := ⟨8, 2, 2, 2, 1⟩, finalBlack := ⟨8, 2, 2, 2, 1⟩ }

theorem zeroMoveGame_wf : WFGame WHITE zeroMoveGame := by decide

/-- the unguarded script aborts with `ZeroDivisionError` on a single game without moves … -/
theorem C20c_witness : runTool .current [(zeroMoveGame, WHITE)] = .error .zeroDivision := by decide +kernel

/-- … hence "never aborts" is false for the unguarded text of the script (finding F9). -/
theorem C20c_refuted : ¬ C20c_full .current := by
  intro h
  obtain ⟨r, hr⟩ := h [(zeroMoveGame, WHITE)] (by simpa using zeroMoveGame_wf)
  rw [C20c_witness] at hr
  cases hr

/-- with the four zero guards the full statement holds. -/
theorem C20c_guarded : C20c_full .guarded := by
  intro jobs hwf
  obtain ⟨s, h1, hI, _, _⟩ := C20a jobs hwf
  obtain ⟨r, hr⟩ := (mainScores_spec hI .guarded).2 (Or.inr ⟨Or.inl rfl, Or.inl rfl⟩)
  exact ⟨r, by simp only [runTool, h1, bind, Except.bind, hr]⟩

/-- the unguarded text under the conditions the guards test: if the analysed side made at least one capture and at
least one non-capture over the whole set (or the set is empty), nothing is raised and all three scores
are in `[0,1]`. -/
theorem C20c_partial (jobs : List (Game × Color)) (hwf : ∀ j ∈ jobs, WFGame j.2 j.1) :
    ∃ s, analysePgn jobs Stats.fresh = .ok s ∧ Inv s ∧
      ((s.numGames = 0 ∨ (0 < s.totalCaptures ∧ 0 < s.totalNoncaptures)) →
        ∃ r, runTool .current jobs = .ok r ∧
          ∀ sc, r = some sc → (∀ q, sc.aggressive = some q → Unit01 q) ∧
            (∀ q, sc.positional = some q → Unit01 q) ∧ (∀ q, sc.pawnPusher = some q → Unit01 q)) := by
  obtain ⟨s, h1, hI, _, _⟩ := C20a jobs hwf
  refine ⟨s, h1, hI, fun hc => ?_⟩
  have hrun : runTool .current jobs = mainScores .current s := by
    simp only [runTool, h1, bind, Except.bind]
  obtain ⟨r, hr⟩ := (mainScores_spec hI .current).2 (by
    rcases hc with hc | ⟨hc, hnc⟩
    · exact Or.inl hc
    · exact Or.inr ⟨Or.inr hc, Or.inr hnc⟩)
  exact ⟨r, by rw [hrun, hr], (mainScores_spec hI .current).1.1 r hr⟩

/-- for the unguarded text, the exact condition: the run raises iff at least one game was analysed and the
analysed side made no capture or no non-capture at all; and it can only raise `ZeroDivisionError`. -/
theorem C20c_exact (jobs : List (Game × Color)) (hwf : ∀ j ∈ jobs, WFGame j.2 j.1) :
    ∃ s, analysePgn jobs Stats.fresh = .ok s ∧ Inv s ∧
      (runTool .current jobs = .error .zeroDivision ↔
        (0 < s.numGames ∧ (s.totalCaptures = 0 ∨ s.totalNoncaptures = 0))) ∧
      (∀ e, runTool .current jobs = .error e → e = .zeroDivision) := by
  obtain ⟨s, h1, hI, _, _⟩ := C20a jobs hwf
  have hrun : runTool .current jobs = mainScores .current s := by
    simp only [runTool, h1, bind, Except.bind]
  refine ⟨s, h1, hI, ⟨fun herr => ?_, fun ⟨hn, hz⟩ => ?_⟩,
    fun e he => (mainScores_spec hI .current).1.2 e (by rw [← hrun]; exact he)⟩
  · -- it raised: so neither escape clause applies
    by_cases hn : s.numGames = 0
    · obtain ⟨r, hr⟩ := (mainScores_spec hI .current).2 (Or.inl hn)
      rw [hrun, hr] at herr; cases herr
    · refine ⟨by omega, ?_⟩
      by_cases hc : 0 < s.totalCaptures ∧ 0 < s.totalNoncaptures
      · obtain ⟨r, hr⟩ := (mainScores_spec hI .current).2 (Or.inr ⟨Or.inr hc.1, Or.inr hc.2⟩)
        rw [hrun, hr] at herr; cases herr
      · omega
  · have hA := getAggressionScore_current_raises hI hn hz
    rw [hrun]
    unfold mainScores
    rw [if_neg (by omega)]
    simp only [hA, bind, Except.bind]

/-- `1. e4 d5 2. exd5` analysed for White: one capture, one non-capture, a pawn arriving on the 4th and
the 5th rank. -/
def sampleGame : Game :=
  { result := .whiteWins,
    plies :=
      [ { turn := true, piece := PAWN, frm := 12, «to» := 28, isCapture := false, ksCastle := false,
          qsCastle := false, checkAfter := false, queensW := 1, queensB := 1, rooksW := 2, rooksB := 2,
          knightsW := 2, knightsB := 2, bishopsW := 2, bishopsB := 2, enemyKing := 60 },
        { turn := false, piece := PAWN, frm := 51, «to» := 35, isCapture := false, ksCastle := false,
          qsCastle := false, checkAfter := false, queensW := 1, queensB := 1, rooksW := 2, rooksB := 2,
          knightsW := 2, knightsB := 2, bishopsW := 2, bishopsB := 2, enemyKing := 4 },
        { turn := true, piece := PAWN, frm := 28, «to» := 35, isCapture := true, ksCastle := false,
          qsCastle := false, checkAfter := false, queensW := 1, queensB := 1, rooksW := 2, rooksB := 2,
          knightsW := 2, knightsB := 2, bishopsW := 2, bishopsB := 2, enemyKing := 60 } ],
    finalWhite := ⟨8, 2, 2, 2, 1⟩, finalBlack := ⟨7, 2, 2, 2, 1⟩ }

/-- the hypotheses of `C20a`, `C20c_partial`, `C20c_exact` are satisfiable by a non-trivial game set, … -/
example : ∀ j ∈ [(sampleGame, WHITE), (zeroMoveGame, WHITE)], WFGame j.2 j.1 := by
  intro j hj
  simp only [List.mem_cons, List.not_mem_nil, or_false] at hj
  rcases hj with rfl | rfl
  · exact (wfGame_iff _ _).mp (by decide +kernel)
  · exact zeroMoveGame_wf

/-- … whose statistics have a capture and a non-capture (the guard of `C20c_partial`), … -/
example : (match analysePgn [(sampleGame, WHITE), (zeroMoveGame, WHITE)] Stats.fresh with
    | .ok s => decide (0 < s.totalCaptures ∧ 0 < s.totalNoncaptures ∧ s.numGames = 2)
    | .error _ => false) = true := by decide +kernel

/-- … and on which the unguarded script returns three scores. -/
example : (match runTool .current [(sampleGame, WHITE), (zeroMoveGame, WHITE)] with
    | .ok (some sc) => sc.aggressive.isSome && sc.positional.isSome && sc.pawnPusher.isSome
    | _ => false) = true := by decide +kernel

/-- the refutation witness satisfies the hypotheses of `C20c_full`. -/
example : WFGame WHITE zeroMoveGame ∧ Inv Stats.fresh := ⟨zeroMoveGame_wf, inv_fresh⟩

open Rawr.Spec Rawr.Style.Chess in
/-- `g` annotates a legal game of fewer than 1024 half-moves from the standard starting position: per
half-move it states the side to move, the type of the moved piece and the target square correctly, and
its final piece counts are those of the final board.  (Nothing is required of the other annotations.) -/
def ChessGame (g : Game) : Prop :=
  ∃ ms : List Spec.Move, LegalSeq stdStart ms ∧ ms.length < 1024 ∧ Agrees stdStart ms g.plies ∧
    g.finalWhite = countsOf (play stdStart ms).board true ∧
    g.finalBlack = countsOf (play stdStart ms).board false

/-- the well-formedness hypothesis of the theorems above follows from the rules of chess. -/
theorem C20_wf_of_chess {g : Game} (h : ChessGame g) (side : Color) : WFGame side g := by
  obtain ⟨ms, h1, h2, h3, h4, h5⟩ := h
  exact Chess.wfGame_of_legal ms g h1 h2 h3 h4 h5 side

/-- (a) for chess games: any set of legal games, analysed for either side, in any order. -/
theorem C20a_chess (jobs : List (Game × Color)) (h : ∀ j ∈ jobs, ChessGame j.1) :
    ∃ s, analysePgn jobs Stats.fresh = .ok s ∧ Inv s ∧ isValid s = .ok true ∧ s.numGames = jobs.length :=
  C20a jobs (fun j hj => C20_wf_of_chess (h j hj) j.2)

def C20c_full_chess (v : Variant) : Prop :=
  ∀ jobs : List (Game × Color), (∀ j ∈ jobs, ChessGame j.1) → ∃ r, runTool v jobs = .ok r

theorem zeroMoveGame_chess : ChessGame zeroMoveGame :=
  ⟨[], trivial, by decide, trivial, by decide +kernel, by decide +kernel⟩

/-- the unguarded script aborts on a legal chess game set (one game without moves). -/
theorem C20c_refuted_chess : ¬ C20c_full_chess .current := by
  intro h
  obtain ⟨r, hr⟩ := h [(zeroMoveGame, WHITE)] (by simpa using zeroMoveGame_chess)
  rw [C20c_witness] at hr
  cases hr

/-- with the four zero guards no set of legal chess games makes the tool raise. -/
theorem C20c_guarded_chess : C20c_full_chess .guarded :=
  fun jobs h => C20c_guarded jobs (fun j hj => C20_wf_of_chess (h j hj) j.2)

/-- (b)+(c) for chess games and the unguarded text: the only possible abort is the `ZeroDivisionError`, exactly
when the analysed side has a game but no capture or no non-capture. -/
theorem C20c_exact_chess (jobs : List (Game × Color)) (h : ∀ j ∈ jobs, ChessGame j.1) :
    ∃ s, analysePgn jobs Stats.fresh = .ok s ∧ Inv s ∧
      (runTool .current jobs = .error .zeroDivision ↔
        (0 < s.numGames ∧ (s.totalCaptures = 0 ∨ s.totalNoncaptures = 0))) ∧
      (∀ e, runTool .current jobs = .error e → e = .zeroDivision) :=
  C20c_exact jobs (fun j hj => C20_wf_of_chess (h j hj) j.2)

open Rawr.Spec Rawr.Style.Chess in
/-- non-vacuity: `1. e4 d5 2. exd5` is a `ChessGame`. -/
example : ChessGame sampleGame :=
  ⟨[.normal 12 28 none, .normal 51 35 none, .normal 28 35 none], by decide +kernel, by decide,
    by decide +kernel, by decide +kernel, by decide +kernel⟩

open Rawr.Spec Rawr.Style.Chess in
/-- `stdStart` is the position the harness starts its games from (`gstart 518 518 0` of the driver). -/
example : (∀ s, s < 64 → stdStart.board s =
      (GenPos.startFrom (GenPos.backRank960 518) (GenPos.backRank960 518)).board s) ∧
    (GenPos.startFrom (GenPos.backRank960 518) (GenPos.backRank960 518)).whiteToMove = stdStart.whiteToMove ∧
    (GenPos.startFrom (GenPos.backRank960 518) (GenPos.backRank960 518)).ep = stdStart.ep ∧
    (GenPos.startFrom (GenPos.backRank960 518) (GenPos.backRank960 518)).wK = stdStart.wK ∧
    (GenPos.startFrom (GenPos.backRank960 518) (GenPos.backRank960 518)).wQ = stdStart.wQ ∧
    (GenPos.startFrom (GenPos.backRank960 518) (GenPos.backRank960 518)).bK = stdStart.bK ∧
    (GenPos.startFrom (GenPos.backRank960 518) (GenPos.backRank960 518)).bQ = stdStart.bQ := by
  decide +kernel

end Rawr.Style

open Rawr.Style in
#print axioms C20a_init
open Rawr.Style in
#print axioms C20a_step
open Rawr.Style in
#print axioms C20a
open Rawr.Style in
#print axioms C20b_features
open Rawr.Style in
#print axioms C20b_scores
open Rawr.Style in
#print axioms mainScores_spec
open Rawr.Style in
#print axioms C20c_witness
open Rawr.Style in
#print axioms C20c_refuted
open Rawr.Style in
#print axioms C20c_guarded
open Rawr.Style in
#print axioms C20c_partial
open Rawr.Style in
#print axioms C20c_exact
open Rawr.Style in
#print axioms C20_wf_of_chess
open Rawr.Style in
#print axioms C20a_chess
open Rawr.Style in
#print axioms C20c_refuted_chess
open Rawr.Style in
#print axioms C20c_guarded_chess
open Rawr.Style in
#print axioms C20c_exact_chess
