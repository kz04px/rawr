import Rawr.Props.C12
/-! C12, kernel-evaluated examples: the hypotheses of `C12_depth1` on a concrete position, and the counterexample to
"whatever the transposition table contains". -/
namespace Rawr
open DM
namespace C12Ex

theorem isSome_elim2 {α β : Type} {o : Option (α × β)} (h : o.isSome = true) : ∃ a b, o = some (a, b) :=
  isSome_pair h

/-- the hypotheses of `C12_depth1` hold on `kpm` (all of them from `kpm_hyp`, `tt3_inv`). -/
example : ∃ v st', negamax (.depth 1) 2 kpm ⟨[], tt3, 1, 0, 0, none, 0⟩ (-Gen.INF) Gen.INF 0 1 false = some (v, st') ∧
    v = Gen.MATE_SCORE - 1 ∧ ∃ m, m ∈ legalMoves kpm ∧ IsMating kpm m ∧ st'.best = some m := by
  obtain ⟨v, st', h⟩ := isSome_elim2 (o := negamax (.depth 1) 2 kpm ⟨[], tt3, 1, 0, 0, none, 0⟩ (-Gen.INF) Gen.INF 0 1 false)
    (by decide +kernel)
  have hm := kpm_hyp.mateInOne (by decide) (by decide) (.depth 1)
  exact ⟨v, st', h, C12_depth1 (.depth 1) 0 kpm _ _ rfl (show (1 : Int) ≤ 1 by decide) tt3_inv hm.mate hm.mated
    (hm.others 1) v st' h⟩

/-- a three-slot table with an (exact, deep, score 0) entry under the key of the mated child — an entry the
engine itself never writes (a mated node stores nothing) short of a 64-bit key collision. -/
def ttBad : Table TTEntry := ⟨#[default, ⟨0xebb5ea8e70cfb81d#64, ⟨0, 0, 0⟩, 0, 100, 0⟩, default]⟩

/-- "Whatever the transposition table contains" is false for the model: with `ttBad` the mating move, tried
second with a null window, is cut off by the table with score 0, which does not exceed `alpha` (a pawn up after
g6xh7), so there is no re-search; `go depth 1` answers Kf6 with an evaluation of 68, not a mate. -/
theorem C12_any_table_false : ¬ C12_full := by
  intro H
  have h : ((root (.depth 1) 2 kpm [] ttBad).map fun r => r.infos.getLast?.map (·.score)) = some (some 68) := by
    decide +kernel
  obtain ⟨res, hres, hsc⟩ := Option.map_eq_some_iff.1 h
  have := (H 1 2 kpm [] ttBad res (by decide) (by decide) (by decide) kpm_hyp.mate
    (fun m hm c hc hM => let ⟨h50, hrep, _⟩ := kpm_hyp.matedOk m hm c hc hM; ⟨h50, hrep⟩) hres).2
  rw [hsc] at this
  revert this
  decide

end C12Ex
end Rawr

#print axioms Rawr.C12Ex.C12_any_table_false
