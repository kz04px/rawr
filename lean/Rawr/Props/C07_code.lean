import Rawr.Props.C07_valid
import Rawr.Props.C07Examples
import Rawr.Proofs.RustTextAgree_SetFen
/-!
# C07 on the regenerated code: `R.set_fen` accepts only positions of the domain, and all of them

`Rawr.R.set_fen fuel ar self fen` is regenerated from set_fen.rs on every run (board loop, castling letters,
en-passant and counter fields, the call of the regenerated `R.validate`), for both `u8` arithmetics.
`agree_set_fen ar n self fen : R.set_fen (n + 2) ar self fen = setFen ar self.frc fen` holds for ALL strings, both
arithmetics and every `self` (only its `is_frc` flag matters), with no domain hypothesis; likewise
`agree_from_fen`, `agree_validate`.  So every C07 theorem is an exact transfer (same hypotheses, same conclusion).
`n + 2` is the recursion fuel of the translation (the Rust function calls itself once, for `"startpos"`).
-/
namespace Rawr
open Spec FenC

/-- **C07(a) on the code.** For every input string, every `self`, both arithmetics: if the regenerated `set_fen`
accepts, the position satisfies V.1–V.8 (`StructurallyValid`). -/
theorem C07_code_a_sound (ar : Arith) (n : Nat) (self : Position) (s : List Char) (p : Position) :
    R.set_fen (n + 2) ar self s = some p → StructurallyValid p := by
  rw [agree_set_fen]; exact C07a_sound ar self.frc s p

/-- **C07 on the code, domain form**: an accepted string yields a position of the domain `ValidPos` over which C01,
C02, C03, … and the agreement theorems are stated. -/
theorem C07_code_accepted_validPos (ar : Arith) (n : Nat) (self : Position) (s : List Char) (p : Position) :
    R.set_fen (n + 2) ar self s = some p → ValidPos p = true := by
  rw [agree_set_fen]; exact C07_accepted_validPos ar self.frc s p

/-- files of absent rights are the defaults 7, 0, 7, 0, all four files are on the board, `is_frc` is kept. -/
theorem C07_code_accepted_files (ar : Arith) (n : Nat) (self : Position) (s : List Char) (p : Position)
    (h : R.set_fen (n + 2) ar self s = some p) :
    (p.cf0 < 8 ∧ p.cf1 < 8 ∧ p.cf2 < 8 ∧ p.cf3 < 8) ∧ normCf p = p ∧ p.frc = self.frc := by
  rw [agree_set_fen] at h
  exact ⟨setFen_castle_files ar self.frc s p h, setFen_normCf ar self.frc s p h⟩

/-- **C07 on the code, exact range**: the positions the regenerated `set_fen` can return are exactly the positions of
the domain with default files for the absent rights and the `is_frc` flag of `self`. -/
theorem C07_code_accepted_iff (ar : Arith) (n : Nat) (self : Position) (p : Position) :
    (∃ s, R.set_fen (n + 2) ar self s = some p) ↔ (ValidPos p = true ∧ normCf p = p ∧ p.frc = self.frc) := by
  simp only [agree_set_fen]; exact C07_accepted_iff ar self.frc p

/-- the two builds accept the same set of positions (not the same set of strings). -/
theorem C07_code_accepted_range_arith (n : Nat) (self : Position) (p : Position) :
    (∃ s, R.set_fen (n + 2) .wrap self s = some p) ↔ (∃ s, R.set_fen (n + 2) .trap self s = some p) := by
  simp only [agree_set_fen]; exact C07_accepted_range_arith self.frc p

/-- `Position::from_fen` (default position, then `set_fen`). -/
theorem C07_code_from_fen_validPos (ar : Arith) (n : Nat) (s : List Char) (p : Position) :
    R.from_fen (n + 2) ar s = some p → ValidPos p = true := by
  rw [agree_from_fen]; exact C07_accepted_validPos ar false s p

/-- the regenerated `validate` answers `Ok` exactly when its tests pass (the tests spelled out with the regenerated
getters and the regenerated attack query). -/
theorem C07_code_a_validate_iff (p : Position) : R.validate p = none ↔
    ((p.p0 &&& 0xFF000000000000FF#64).isOcc = false ∧ (R.get_white p &&& R.get_black p).isOcc = false ∧
     (p.p0 &&& p.p1).isOcc = false ∧ (p.p0 &&& p.p2).isOcc = false ∧ (p.p0 &&& p.p3).isOcc = false ∧
     (p.p0 &&& p.p4).isOcc = false ∧ (p.p0 &&& p.p5).isOcc = false ∧ (p.p1 &&& p.p2).isOcc = false ∧
     (p.p1 &&& p.p3).isOcc = false ∧ (p.p1 &&& p.p4).isOcc = false ∧ (p.p1 &&& p.p5).isOcc = false ∧
     (p.p2 &&& p.p3).isOcc = false ∧ (p.p2 &&& p.p4).isOcc = false ∧ (p.p2 &&& p.p5).isOcc = false ∧
     (p.p3 &&& p.p4).isOcc = false ∧ (p.p3 &&& p.p5).isOcc = false ∧ (p.p4 &&& p.p5).isOcc = false) ∧
    valEpOk p = true ∧
    (count (R.get_white p &&& p.p5) = 1 ∧ count (R.get_black p &&& p.p5) = 1 ∧ 0 ≤ p.halfmoves ∧ 1 ≤ p.fullmoves) ∧
    ((p.usK = true → rankOf (lsb (p.c0 &&& p.p5)) = 0) ∧ (p.usQ = true → rankOf (lsb (p.c0 &&& p.p5)) = 0) ∧
     (p.themK = true → rankOf (lsb (p.c1 &&& p.p5)) = 7) ∧ (p.themQ = true → rankOf (lsb (p.c1 &&& p.p5)) = 7) ∧
     (p.usK = true → (p.c0 &&& p.p3).isSet (fromCoords p.cf0 0) = true) ∧
     (p.usQ = true → (p.c0 &&& p.p3).isSet (fromCoords p.cf1 0) = true) ∧
     (p.themK = true → (p.c1 &&& p.p3).isSet (fromCoords p.cf2 7) = true) ∧
     (p.themQ = true → (p.c1 &&& p.p3).isSet (fromCoords p.cf3 7) = true)) ∧
    R.is_sq_attacked p (lsb (p.c1 &&& p.p5)) false = false := by
  rw [agree_validate, agree_get_white, agree_get_black, agree_is_sq_attacked]; exact validate_none_iff p

/-- **C07(b,c) on the code**, unconditional: every FEN (X-FEN, Shredder, or — when every right's rook is the outermost
— `KQkq` spelling) of a valid absolute position with pieces on the 64 squares only and counters below `2^31` is
accepted by the regenerated `set_fen` in both arithmetics and read to exactly that position. -/
theorem C07_code_c_complete (ar : Arith) (n : Nat) (self : Position) (a : APos) (st : CastleStyle)
    (hV : Spec.Valid a = true) (hboard : ∀ s, 64 ≤ s → a.board s = none)
    (hh : a.half < 2147483648) (hf : a.full < 2147483648) (hst : st = .kqkq → AllOutermost a) :
    R.set_fen (n + 2) ar self (printFen a st) = some (rel a self.frc) := by
  rw [agree_set_fen]; exact C07c_complete ar a self.frc st hV hboard hh hf hst

/-- **C07(b)**: on well-formed input no `u8` operation overflows — the two builds agree. -/
theorem C07_code_b_arith_agree (n : Nat) (self : Position) (a : APos) (st : CastleStyle)
    (hV : Spec.Valid a = true) (hboard : ∀ s, 64 ≤ s → a.board s = none)
    (hh : a.half < 2147483648) (hf : a.full < 2147483648) (hst : st = .kqkq → AllOutermost a) :
    R.set_fen (n + 2) .wrap self (printFen a st) = R.set_fen (n + 2) .trap self (printFen a st) := by
  rw [C07_code_c_complete .wrap n self a st hV hboard hh hf hst,
    C07_code_c_complete .trap n self a st hV hboard hh hf hst]

/-- **C07(b)**: the accepted position denotes exactly the absolute position the string spells out. -/
theorem C07_code_b_exact (ar : Arith) (n : Nat) (self : Position) (a : APos) (st : CastleStyle)
    (hV : Spec.Valid a = true) (hboard : ∀ s, 64 ≤ s → a.board s = none)
    (hh : a.half < 2147483648) (hf : a.full < 2147483648) (hst : st = .kqkq → AllOutermost a) :
    ∃ p, R.set_fen (n + 2) ar self (printFen a st) = some p ∧ abs p = a ∧ p.frc = self.frc ∧ ValidPos p = true := by
  have hchk := C07_bridge _ (validPos_rel a self.frc hV hboard hh hf)
  obtain ⟨p, h1, h2, h3, _⟩ := C07b_exact ar a self.frc st hV hboard hh hf hst hchk
  rw [← agree_set_fen ar n self] at h1
  exact ⟨p, h1, h2, h3, C07_code_accepted_validPos ar n self _ p h1⟩

/-- every FEN of a position of the domain is accepted (both arithmetics) and read back to it, up to the castle files of
absent rights. -/
theorem C07_code_c_domain_complete (ar : Arith) (n : Nat) (self : Position) (p : Position) (st : CastleStyle)
    (hfrc : self.frc = p.frc) (hV : ValidPos p = true) (hst : st = .kqkq → AllOutermost (abs p)) :
    R.set_fen (n + 2) ar self (printFen (abs p) st) = some (normCf p) ∧ StructurallyValid (normCf p) := by
  rw [agree_set_fen, hfrc]; exact C07c_domain_complete ar p st hV hst

/-- the start FEN through the regenerated parser: accepted, so the built-in start position is in the domain. -/
example : ValidPos Gen.startpos = true :=
  C07_code_accepted_validPos .wrap 0 Gen.startpos startFen Gen.startpos
    ((agree_set_fen .wrap 0 Gen.startpos startFen).trans setFen_startFen.1)

/-- a Chess960 X-FEN with a file-letter right (`c07vFrcFen` of `Props/C07_valid.lean`), checked build. -/
example : ∃ p, R.set_fen 2 .trap { Gen.startpos with frc := true } c07vFrcFen = some p ∧ ValidPos p = true ∧
    normCf p = p ∧ p.frc = true := by
  have h := c07vFrcFen_accepted
  rw [← agree_set_fen .trap 0 { Gen.startpos with frc := true }] at h
  obtain ⟨p, hp, _⟩ := Option.map_eq_some_iff.mp h
  exact ⟨p, hp, C07_code_accepted_validPos _ _ _ _ p hp, (C07_code_accepted_files _ _ _ _ p hp).2⟩

/-- the 320-square board field of `Props/C07.lean`: accepted by the optimised build, trapped by the checked build —
on the regenerated code. -/
example : R.set_fen 2 .wrap Gen.startpos fen320 = some Gen.startpos ∧ R.set_fen 2 .trap Gen.startpos fen320 = none :=
  ⟨(agree_set_fen .wrap 0 Gen.startpos fen320).trans setFen_fen320.1,
    (agree_set_fen .trap 0 Gen.startpos fen320).trans setFen_fen320.2⟩

/-- completeness on the absolute start position, all three castling styles, both builds. -/
example (ar : Arith) (st : CastleStyle) :
    R.set_fen 2 ar Gen.startpos (printFen (abs Gen.startpos) st) = some (rel (abs Gen.startpos) false) :=
  C07_code_c_complete ar 0 Gen.startpos _ st startA_hyps.1 (absBoard_ge _) startA_hyps.2.1 startA_hyps.2.2.1
    (fun _ => startA_outermost)

end Rawr

#print axioms Rawr.C07_code_a_sound
#print axioms Rawr.C07_code_accepted_validPos
#print axioms Rawr.C07_code_accepted_files
#print axioms Rawr.C07_code_accepted_iff
#print axioms Rawr.C07_code_accepted_range_arith
#print axioms Rawr.C07_code_from_fen_validPos
#print axioms Rawr.C07_code_a_validate_iff
#print axioms Rawr.C07_code_c_complete
#print axioms Rawr.C07_code_b_arith_agree
#print axioms Rawr.C07_code_b_exact
#print axioms Rawr.C07_code_c_domain_complete
