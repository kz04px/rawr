import Rawr.Proofs.RulesLevel
/-! # C12 in terms of the rules of chess

"Mate in one is found" (`C12_partial`, `Props/C12.lean`) with the hypotheses on the search tree discharged for
every root of the domain `V ∧ E` (`ValidPos p`, `Spec.EpConsistent (abs p)`). As in `Props/C11_rules.lean` the premises still
range over the model's `legalMoves p` and `makemove`; `C12_mating_of_rules` gives the mating move from one by the rules.

* the evaluation clause of `TreeOk` (`QEvalOk B`) holds with `B = EB = 174416` (C17, `treeOk_of_keysOk` in
  `Proofs/RulesLevel.lean`); `0 ≤ EB`, `EB + 300 ≤ MATE_SCORE - 2`;
* the clock of the mated children is below 100 because the root's is below 99 (`C12_mated_child_clock`, through
  `C02_counters`);
* the half-move counter room is implied by `p.halfmoves < 99` and `fuel + 1 < MATE_SCORE`.

What is left, and cannot be removed:
* **the mating move** (`∃ m ∈ legalMoves p, IsMating p m`; by the rules: `C12_mating_of_rules`);
* **no 64-bit key collision** (`MateKeysOk Kp Ks fuel p`: `KeysOk` below the non-mated children, the root's key is
  in `Kp` and not in `Ks`, the mated children's keys are in `Ks`). A collision between the root and a node below
  would let that node read the root's entry (score `MATE_SCORE - 1`, outside the range the proof maintains); a
  collision between a mated child and a node that stores would make the mated child hit the table in a later
  iteration — `C12_any_table_false` (`Props/C12Examples.lean`) is the concrete witness for such an entry;
* **the mated children are not repetitions** w.r.t. the game history (no checkmated position of a legal game is;
  the history is an arbitrary list here);
* **the table** satisfies `TTInv Kp Ks` (`C12_rules`), or has sane scores and nothing stored under a mated child's
  key (`C12_rules_sane_table`), or is all-default and no mated child has key `0` (`C12_rules_empty_table`: an
  empty slot carries key 0, so a mated child with key 0 would *hit* it and answer the stored score 0);
* the move-number counter room `p.fullmoves + (fuel + 2) + 64 < 2^31` and `fuel + 1 < MATE_SCORE`. -/
namespace Rawr
open Spec SV Br DM RulesLevel

/-- **no key collision** for C12: `Kp` holds of the root's key, `Ks` of the keys of the mated children and not of
the root's; below every non-mated child, as far as `fuel + 1` reaches (null-move children included where the search
may try one), no node has a key in `Kp` and no node with a legal move has a key in `Ks`. (`MateInOneTree` of
`Props/C12.lean` without the clock, repetition and evaluation clauses.) -/
structure MateKeysOk (Kp Ks : BB → Prop) (fuel : Nat) (p : Position) : Prop where
  rootKp : Kp p.hash
  rootKs : ¬ Ks p.hash
  matedKs : ∀ m ∈ legalMoves p, ∀ c, p.makemove m true = some c → Mated c → Ks c.hash
  tree : ∀ m ∈ legalMoves p, ∀ c, p.makemove m true = some c → ¬ Mated c → KeysOk Kp Ks (fuel + 1) c

instance (Kp Ks : BB → Prop) [DecidablePred Kp] [DecidablePred Ks] (fuel : Nat) (p : Position) :
    Decidable (MateKeysOk Kp Ks fuel p) :=
  decidable_of_iff (_ ∧ _ ∧ _ ∧ _) ⟨fun ⟨a, b, c, d⟩ => ⟨a, b, c, d⟩, fun h => ⟨h.rootKp, h.rootKs, h.matedKs, h.tree⟩⟩

/-- `TreeOk` from `KeysOk` on the domain, restated here: the evaluation clause is C17's. -/
theorem TreeOk_of_KeysOk (Kp Ks : BB → Prop) (f : Nat) (q : Position)
    (hV : ValidPos q = true) (hE : Spec.EpConsistent (abs q) = true)
    (hh : q.halfmoves + f + 64 < 2147483648) (hfm : q.fullmoves + f + 64 < 2147483648)
    (hk : KeysOk Kp Ks f q) : TreeOk Kp Ks EB f q :=
  treeOk_of_keysOk Kp Ks f q ⟨hV, hE, hh, hfm⟩ hk

theorem C12_mated_child_clock (p : Position) (hV : ValidPos p = true) (hE : Spec.EpConsistent (abs p) = true)
    (h50 : p.halfmoves < 99) (m : Mv) (hm : m ∈ legalMoves p) (c : Position) (hmk : p.makemove m true = some c) :
    c.halfmoves < 100 := by
  have := (child_clock hV hE hm hmk).2
  omega

/-- the hypotheses of `C12_partial` from those of `C12_rules`. -/
theorem mateInOneTree_rules (fuel : Nat) (hfuel : (fuel : Int) + 1 < Gen.MATE_SCORE) (p : Position)
    (hV : ValidPos p = true) (hE : Spec.EpConsistent (abs p) = true) (h50 : p.halfmoves < 99)
    (hfm : p.fullmoves + (fuel + 2) + 64 < 2147483648)
    (hmate : ∃ m ∈ legalMoves p, IsMating p m) (hist : List BB) (Kp Ks : BB → Prop)
    (hkeys : MateKeysOk Kp Ks fuel p)
    (hrep : ∀ m ∈ legalMoves p, ∀ c, p.makemove m true = some c → Mated c → ¬ OccurredBefore hist c) :
    MateInOneTree EB fuel p hist Kp Ks := by
  have hM : Gen.MATE_SCORE + 163 ≤ 2147483648 := by decide
  have h0 : 0 ≤ p.halfmoves := ((valid_iff _).mp (validPos_parts hV).spec).half
  have hVE : VE (fuel + 1 + 1) p := ⟨hV, hE, by omega, by omega⟩
  refine ⟨hmate, fun m hm c hmk hmt => ?_, hkeys.rootKp, hkeys.rootKs, fun m hm c hmk hnm => ?_⟩
  · exact ⟨C12_mated_child_clock p hV hE h50 m hm c hmk, (rep_lt_two_iff hist c).2 (hrep m hm c hmk hmt),
      hkeys.matedKs m hm c hmk hmt⟩
  · exact treeOk_of_keysOk Kp Ks (fuel + 1) c (searchDomC_VE.move _ _ _ _ hVE hm hmk) (hkeys.tree m hm c hmk hnm)

/-- **C12 by the rules.** `go depth D`, `D ≥ 1`, on a root of `V ∧ E` with clock below 99 that has a mating move,
any history in which the mated children have not occurred, no key collision (`MateKeysOk`), a table satisfying
`TTInv Kp Ks`: if the driver returns, the best move is a legal move that checkmates, and every info record — the
last one in particular — carries the mate-in-one score `MATE_SCORE - 1` and a principal variation consisting of a
mating move. -/
theorem C12_rules (D : Int) (hD1 : 1 ≤ D) (fuel : Nat) (hfuel : (fuel : Int) + 1 < Gen.MATE_SCORE)
    (p : Position) (hV : ValidPos p = true) (hE : Spec.EpConsistent (abs p) = true) (h50 : p.halfmoves < 99)
    (hfm : p.fullmoves + (fuel + 2) + 64 < 2147483648)
    (hmate : ∃ m ∈ legalMoves p, IsMating p m)
    (hist : List BB) (tt : Table TTEntry) (Kp Ks : BB → Prop)
    (hkeys : MateKeysOk Kp Ks fuel p)
    (hrep : ∀ m ∈ legalMoves p, ∀ c, p.makemove m true = some c → Mated c → ¬ OccurredBefore hist c)
    (hT : TTInv Kp Ks tt) (res : RootResult)
    (h : root (.depth D) (fuel + 2) p hist tt = some res) :
    (∃ m ∈ legalMoves p, IsMating p m ∧ res.best = some m) ∧
      res.infos.getLast?.map (·.score) = some (Gen.MATE_SCORE - 1) ∧
      ∀ r ∈ res.infos, r.score = Gen.MATE_SCORE - 1 ∧ ∃ m ∈ legalMoves p, IsMating p m ∧ r.pv = [m] :=
  C12_partial D hD1 fuel p hist tt Kp Ks EB EB_nonneg EB_mate hfuel
    (mateInOneTree_rules fuel hfuel p hV hE h50 hfm hmate hist Kp Ks hkeys hrep) hT res h

/-- the same over a table with sane scores (`|score| ≤ MATE_SCORE - 2`) and no entry under a key in `Ks`. -/
theorem C12_rules_sane_table (D : Int) (hD1 : 1 ≤ D) (fuel : Nat) (hfuel : (fuel : Int) + 1 < Gen.MATE_SCORE)
    (p : Position) (hV : ValidPos p = true) (hE : Spec.EpConsistent (abs p) = true) (h50 : p.halfmoves < 99)
    (hfm : p.fullmoves + (fuel + 2) + 64 < 2147483648)
    (hmate : ∃ m ∈ legalMoves p, IsMating p m)
    (hist : List BB) (tt : Table TTEntry) (Kp Ks : BB → Prop)
    (hkeys : MateKeysOk Kp Ks fuel p)
    (hrep : ∀ m ∈ legalMoves p, ∀ c, p.makemove m true = some c → Mated c → ¬ OccurredBefore hist c)
    (hsane : DM.TTSane tt) (hnone : ∀ key e, tt.poll key = some e → ¬ Ks e.hash) (res : RootResult)
    (h : root (.depth D) (fuel + 2) p hist tt = some res) :
    (∃ m ∈ legalMoves p, IsMating p m ∧ res.best = some m) ∧
      res.infos.getLast?.map (·.score) = some (Gen.MATE_SCORE - 1) ∧
      ∀ r ∈ res.infos, r.score = Gen.MATE_SCORE - 1 ∧ ∃ m ∈ legalMoves p, IsMating p m ∧ r.pv = [m] :=
  C12_rules D hD1 fuel hfuel p hV hE h50 hfm hmate hist tt Kp Ks hkeys hrep (TTInv_of_sane hsane hnone) res h

/-- the same over an all-default table of any size (`n = 0` included: a zero-slot table answers the default entry):
the table hypothesis reduces to "no mated child has key 0" (`¬ Ks 0`). -/
theorem C12_rules_empty_table (D : Int) (hD1 : 1 ≤ D) (fuel : Nat) (hfuel : (fuel : Int) + 1 < Gen.MATE_SCORE)
    (p : Position) (hV : ValidPos p = true) (hE : Spec.EpConsistent (abs p) = true) (h50 : p.halfmoves < 99)
    (hfm : p.fullmoves + (fuel + 2) + 64 < 2147483648)
    (hmate : ∃ m ∈ legalMoves p, IsMating p m)
    (hist : List BB) (n : Nat) (Kp Ks : BB → Prop)
    (hkeys : MateKeysOk Kp Ks fuel p) (hK0 : ¬ Ks 0#64)
    (hrep : ∀ m ∈ legalMoves p, ∀ c, p.makemove m true = some c → Mated c → ¬ OccurredBefore hist c)
    (res : RootResult)
    (h : root (.depth D) (fuel + 2) p hist ⟨Array.replicate n default⟩ = some res) :
    (∃ m ∈ legalMoves p, IsMating p m ∧ res.best = some m) ∧
      res.infos.getLast?.map (·.score) = some (Gen.MATE_SCORE - 1) ∧
      ∀ r ∈ res.infos, r.score = Gen.MATE_SCORE - 1 ∧ ∃ m ∈ legalMoves p, IsMating p m ∧ r.pv = [m] :=
  C12_rules D hD1 fuel hfuel p hV hE h50 hfm hmate hist _ Kp Ks hkeys hrep (ttInv_replicate Kp Ks n hK0) res h

def MatedKey (p : Position) (k : BB) : Prop :=
  ∃ m ∈ legalMoves p, ∃ c, p.makemove m true = some c ∧ Mated c ∧ c.hash = k

/-- `C12_rules_empty_table` with `Kp` = "the root's key", `Ks` = "the key of a mated child": the collision
hypotheses read
* no mated child has the root's key, or key 0;
* below every non-mated child, as far as `fuel + 1` reaches, no node has the root's key, and no node that has a
  legal move has the key of a mated child of the root. -/
theorem C12_rules_empty_table' (D : Int) (hD1 : 1 ≤ D) (fuel : Nat) (hfuel : (fuel : Int) + 1 < Gen.MATE_SCORE)
    (p : Position) (hV : ValidPos p = true) (hE : Spec.EpConsistent (abs p) = true) (h50 : p.halfmoves < 99)
    (hfm : p.fullmoves + (fuel + 2) + 64 < 2147483648)
    (hmate : ∃ m ∈ legalMoves p, IsMating p m)
    (hist : List BB) (n : Nat)
    (hmk : ∀ m ∈ legalMoves p, ∀ c, p.makemove m true = some c → Mated c → c.hash ≠ p.hash ∧ c.hash ≠ 0#64)
    (htree : ∀ m ∈ legalMoves p, ∀ c, p.makemove m true = some c → ¬ Mated c →
      KeysOk (· = p.hash) (MatedKey p) (fuel + 1) c)
    (hrep : ∀ m ∈ legalMoves p, ∀ c, p.makemove m true = some c → Mated c → ¬ OccurredBefore hist c)
    (res : RootResult)
    (h : root (.depth D) (fuel + 2) p hist ⟨Array.replicate n default⟩ = some res) :
    (∃ m ∈ legalMoves p, IsMating p m ∧ res.best = some m) ∧
      res.infos.getLast?.map (·.score) = some (Gen.MATE_SCORE - 1) ∧
      ∀ r ∈ res.infos, r.score = Gen.MATE_SCORE - 1 ∧ ∃ m ∈ legalMoves p, IsMating p m ∧ r.pv = [m] :=
  C12_rules_empty_table D hD1 fuel hfuel p hV hE h50 hfm hmate hist n (· = p.hash) (MatedKey p)
    ⟨rfl, fun ⟨m, hm, c, hc, hmt, e⟩ => (hmk m hm c hc hmt).1 e,
      fun m hm c hc hmt => ⟨m, hm, c, hc, hmt, rfl⟩, htree⟩
    (fun ⟨m, hm, c, hc, hmt, e⟩ => (hmk m hm c hc hmt).2 e) hrep res h

def SpecMated (a : APos) : Prop := Spec.legalMoves a = [] ∧ Spec.inCheck a.board a.whiteToMove = true

theorem mated_iff_spec {c : Position} (hV : ValidPos c = true) (hE : Spec.EpConsistent (abs c) = true) :
    Mated c ↔ SpecMated (abs c) := by
  unfold Mated SpecMated
  rw [C01_no_moves c hV hE, C08d_inCheck_valid c hV]
  exact Iff.rfl

/-- a move that checkmates by the rules gives the hypothesis `hmate` of `C12_rules` (counter room for one ply). -/
theorem C12_mating_of_rules (p : Position) (hV : ValidPos p = true) (hE : Spec.EpConsistent (abs p) = true)
    (hh : p.halfmoves + 1 < 2147483648) (hfm : p.fullmoves + 1 < 2147483648)
    (M : Move) (hM : M ∈ Spec.legalMoves (abs p)) (hmt : SpecMated (Spec.apply (abs p) M)) :
    ∃ m ∈ legalMoves p, IsMating p m := by
  obtain ⟨hm, hdec⟩ := C01_complete p hV hE M hM
  obtain ⟨c, hmk⟩ := makemove_total_V hV hm
  obtain ⟨hVc, hEc, habs⟩ := child_V_E hV hE hh hfm hm hmk
  rw [hdec] at habs
  exact ⟨encodeMove p M, hm, c, hmk, (mated_iff_spec hVc hEc).2 (by rw [habs]; exact hmt)⟩

namespace C12RulesEx
open C12Ex

/-- `kpm` of `Props/C12.lean` (white Kf7, pawn g6; black Kh8, pawn h7; white to move; g6-g7 mates) with the key
recomputed, so that it is in the domain V. -/
def kpmV : Position := fixHash kpm

/-- the position after g6-g7#. -/
def kpmVG7 : Position := (kpmV.makemove ⟨46, 54, 6⟩ true).getD kpmV

theorem kpmV_valid : ValidPos kpmV = true := by decide +kernel
theorem kpmV_E : Spec.EpConsistent (abs kpmV) = true := by decide +kernel

/-- key predicates: the root's key; the mated child's key. -/
def kpV : BB → Bool := fun k => k == kpmV.hash
def ksV : BB → Bool := fun k => k == kpmVG7.hash

theorem kpmV_mate : ∃ m ∈ legalMoves kpmV, IsMating kpmV m :=
  ⟨⟨46, 54, 6⟩, by decide +kernel, kpmVG7, by decide +kernel, by decide +kernel⟩

/-- no key collision in the tree that `fuel = 1` reaches below `kpmV` (two plies below the non-mated children). -/
theorem kpmV_keys : MateKeysOk (fun k => kpV k = true) (fun k => ksV k = true) 1 kpmV :=
  by decide +kernel

theorem kpmV_depth3 : ((root (.depth 3) 3 kpmV [] tt3).map fun r => r.infos.length) = some 3 := by decide +kernel

/-- the hypotheses of `C12_rules_empty_table` hold there; through the theorem: the driver's best move mates and the
last record reports 999999. -/
example : ∃ res, root (.depth 3) 3 kpmV [] tt3 = some res ∧
    (∃ m ∈ legalMoves kpmV, IsMating kpmV m ∧ res.best = some m) ∧
    res.infos.getLast?.map (·.score) = some 999999 ∧ res.infos.length = 3 := by
  obtain ⟨res, h1, hl⟩ := Option.map_eq_some_iff.1 kpmV_depth3
  obtain ⟨h2, h3, _⟩ := C12_rules_empty_table 3 (by decide) 1 (by decide) kpmV kpmV_valid kpmV_E
    (by decide +kernel) (by decide +kernel) kpmV_mate [] 3 _ _ kpmV_keys (by decide +kernel)
    (fun _ _ _ _ _ ⟨_, _, hi⟩ => by simp at hi) res h1
  exact ⟨res, h1, h2, h3, hl⟩

/-- the mating move of `kpmV` by the rules: the pawn push g6-g7 is legal and checkmates. -/
example : ∃ M ∈ Spec.legalMoves (abs kpmV), SpecMated (Spec.apply (abs kpmV) M) := by
  obtain ⟨m, hm, c, hmk, hmt⟩ := kpmV_mate
  obtain ⟨hVc, hEc, habs⟩ := child_V_E kpmV_valid kpmV_E (by decide +kernel) (by decide +kernel) hm hmk
  refine ⟨decodeMove kpmV m, (C01_sound kpmV kpmV_valid kpmV_E m hm).1, ?_⟩
  rw [← habs]
  exact (mated_iff_spec hVc hEc).1 hmt

end C12RulesEx

end Rawr

#print axioms Rawr.TreeOk_of_KeysOk
#print axioms Rawr.C12_mated_child_clock
#print axioms Rawr.C12_rules
#print axioms Rawr.C12_rules_sane_table
#print axioms Rawr.C12_rules_empty_table
#print axioms Rawr.C12_rules_empty_table'
#print axioms Rawr.C12_mating_of_rules
