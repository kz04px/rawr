import Rawr.Proofs.MakeMoveMain
import Rawr.Proofs.TestPositions
/-! # C02  Making a move yields exactly the successor position prescribed by the rules

`Position.makemove` (model of makemove.rs + flip.rs) against `Spec.apply`, through the abstraction `abs`.
Hypothesis on the position: `ValidPos p` (the domain V of DESIGN.md §4). Hypothesis on the move:
`MoveShape p m` (the shape of every generated move, `Rawr/Proofs/HashMeta.lean`) **plus** `PawnGeom p m`:
a pawn advances exactly one rank, or two ranks straight (`dst = src + 16`). `MoveShape` alone does not
say where a pawn comes from, and the engine decides "double push" by `dst - src == 16` and removes the
en-passant victim on `dst - 8`, while the rules look at the ranks of `src` and `dst`; see
`C02_shape_alone_insufficient` below for a shaped non-move on which the two differ. Every generated move
satisfies `PawnGeom` (`MoveGen.lean`: pawn targets are `north`, `north∘north`, `northEast`, `northWest`
images of the pawn's square). `MoveShape2 = MoveShape ∧ PawnGeom`.

Covered: quiet moves, captures, double pushes, en passant, promotions with and without capture; castling either
side in Chess960 geometry, including king or rook already on its target square. -/
namespace Rawr
open Position Spec ZH MM SV

/-! ## (1) refinement -/

/-- Making a shaped move in a valid position yields exactly the position `Spec.apply` prescribes:
placement, side to move, the four castling rights (as rook files), en-passant target, half-move clock,
full-move number. Holds for both instantiations of `UPDATE_HASH`. -/
theorem C02_makemove_refines (p : Position) (m : Mv) (q : Position) (u : Bool) (hV : ValidPos p = true)
    (hs : MoveShape2 p m = true) (h : p.makemove m u = some q) :
    AbsEq (abs q) (Spec.apply (abs p) (decodeMove p m)) := by
  simp only [MoveShape2, Bool.and_eq_true] at hs
  obtain ⟨_, q', _, hq, so⟩ := makemove_out hV hs.1 u
  rw [hq] at h
  cases h
  exact so.refines hs.2

/-- `MoveShape` alone is not enough: a pawn "capturing" from a2 to b4 has the shape; the engine sets no
en-passant square (`dst - src = 17`), the rules (two ranks) would. No generated move looks like this. -/
def shapeOnlyPos : Position :=
  mkPos 0x110#64 0x1000000002000000#64 0x100#64 0x2000000#64 0 0 0 0x1000000000000010#64 none false false false false

theorem C02_shape_alone_insufficient :
    ValidPos shapeOnlyPos = true ∧ MoveShape shapeOnlyPos ⟨8, 25, 6⟩ = true ∧
    PawnGeom shapeOnlyPos ⟨8, 25, 6⟩ = false ∧
    ∃ q, shapeOnlyPos.makemove ⟨8, 25, 6⟩ true = some q ∧
      (abs q).ep ≠ (Spec.apply (abs shapeOnlyPos) (decodeMove shapeOnlyPos ⟨8, 25, 6⟩)).ep := by
  refine ⟨by decide +kernel, by decide +kernel, by decide +kernel, ?_⟩
  have h1 : (shapeOnlyPos.makemove ⟨8, 25, 6⟩ true).isSome = true := by decide +kernel
  obtain ⟨q, hq⟩ := Option.isSome_iff_exists.mp h1
  refine ⟨q, hq, ?_⟩
  have h2 : ((shapeOnlyPos.makemove ⟨8, 25, 6⟩ true).map fun q => (abs q).ep) = some none := by decide +kernel
  rw [hq] at h2
  have h3 : (abs q).ep = none := by simpa using h2
  rw [h3]
  decide +kernel

/-! ## (2) totality, and independence of the `UPDATE_HASH` flag -/

/-- no `unwrap` of `makemove` (nor of `predict_hash`) fails on a shaped move of a valid position. -/
theorem C02_makemove_total' (p : Position) (m : Mv) (u : Bool) (hV : ValidPos p = true)
    (hs : MoveShape p m = true) : ∃ q, p.makemove m u = some q := by
  obtain ⟨_, q, _, hq, _⟩ := makemove_out hV hs u
  exact ⟨q, hq⟩

theorem C02_makemove_total (p : Position) (m : Mv) (hV : ValidPos p = true) (hs : MoveShape p m = true) :
    ∃ q, p.makemove m true = some q := C02_makemove_total' p m true hV hs

/-- `makemove::<false>` and `makemove::<true>` agree on every field except `hash` (no hypotheses). -/
theorem C02_update_hash_irrelevant (p : Position) (m : Mv) (q1 q2 : Position)
    (h1 : p.makemove m true = some q1) (h2 : p.makemove m false = some q2) :
    { q1 with hash := q2.hash } = q2 := makemove_flag h1 h2

theorem C02_no_update_keeps_hash (p : Position) (m : Mv) (q : Position) (h : p.makemove m false = some q) :
    q.hash = p.hash :=
  makemove_false_hash h

/-! ## (3) null move -/

/-- A null move only passes the turn and clears the en-passant target (the engine also zeroes the
half-move clock; the property does not constrain that field): placement, castling rights and full-move
number are untouched. -/
theorem C02_null (p : Position) (hV : ValidPos p = true) :
    AbsEq (abs p.makenull) { abs p with whiteToMove := !(abs p).whiteToMove, ep := none, half := 0 } := by
  rw [abs_makenull hV]
  exact AbsEq.refl _

/-! ## (4) validity is preserved

Legality by the rules is `decodeMove p m ∈ Spec.legalMoves (abs p)`. With it the pawn geometry need not be
assumed (`C02_shape2_of_legal`), and `Spec.Valid` of the result follows from a theorem about the
specification alone (`C02_spec_valid_preserved`: every legal move of a valid position leads to a valid
position — `Proofs/SpecApply`, `SpecLegal`, `SpecValid`, `SpecValidApply`, no engine model involved). -/

theorem C02_shape2_of_legal (p : Position) (m : Mv) (hV : ValidPos p = true) (hs : MoveShape p m = true)
    (hL : decodeMove p m ∈ Spec.legalMoves (abs p)) : MoveShape2 p m = true := shape2_of_legal hV hs hL

/-- (1) again, for a shaped legal move, as an *equation* between absolute positions (off the 64 squares
both boards are empty). -/
theorem C02_makemove_eq (p : Position) (m : Mv) (q : Position) (u : Bool) (hV : ValidPos p = true)
    (hs : MoveShape p m = true) (hL : decodeMove p m ∈ Spec.legalMoves (abs p))
    (h : p.makemove m u = some q) : abs q = Spec.apply (abs p) (decodeMove p m) :=
  abs_eq_apply hV (shape2_of_legal hV hs hL) h

/-- V.1: the eight boards of the result are consistent (no legality needed). -/
theorem C02_consistent (p : Position) (m : Mv) (q : Position) (u : Bool) (hV : ValidPos p = true)
    (hs : MoveShape p m = true) (h : p.makemove m u = some q) : Consistent q = true := by
  obtain ⟨_, q', _, hq, so⟩ := makemove_out hV hs u
  rw [hq] at h
  cases h
  exact so.consistent

/-- the castle files travel with the sides (and `frc` stays). -/
theorem C02_castle_files (p : Position) (m : Mv) (q : Position) (u : Bool) (hV : ValidPos p = true)
    (hs : MoveShape p m = true) (h : p.makemove m u = some q) :
    q.cf0 = p.cf2 ∧ q.cf1 = p.cf3 ∧ q.cf2 = p.cf0 ∧ q.cf3 = p.cf1 ∧ q.frc = p.frc := by
  obtain ⟨_, q', _, hq, so⟩ := makemove_out hV hs u
  rw [hq] at h
  cases h
  exact so.cf

theorem C02_spec_valid_preserved (a : APos) (mv : Move) (hv : Spec.Valid a = true)
    (hl : mv ∈ Spec.legalMoves a) : Spec.Valid (Spec.apply a mv) = true := valid_apply hv hl

/-- V.2–V.7 hold of the result. -/
theorem C02_spec_valid (p : Position) (m : Mv) (q : Position) (u : Bool) (hV : ValidPos p = true)
    (hs : MoveShape p m = true) (hL : decodeMove p m ∈ Spec.legalMoves (abs p))
    (h : p.makemove m u = some q) : Spec.Valid (abs q) = true := by
  rw [C02_makemove_eq p m q u hV hs hL h]
  exact valid_apply (validPos_parts hV).spec hL

section clauses
variable (p : Position) (m : Mv) (q : Position) (u : Bool) (hV : ValidPos p = true)
  (hs : MoveShape p m = true) (hL : decodeMove p m ∈ Spec.legalMoves (abs p)) (h : p.makemove m u = some q)
include hV hs hL h

theorem C02_mover_not_in_check : inCheck (abs q).board (!(abs q).whiteToMove) = false :=
  ((valid_iff _).mp (C02_spec_valid p m q u hV hs hL h)).notInCheck

theorem C02_one_king_each :
    countPieces (abs q).board (fun pc => pc == ⟨true, .king⟩) = 1 ∧
    countPieces (abs q).board (fun pc => pc == ⟨false, .king⟩) = 1 := by
  have v := (valid_iff _).mp (C02_spec_valid p m q u hV hs hL h)
  exact ⟨by simpa using (king_clause _ true).mpr v.kw, by simpa using (king_clause _ false).mpr v.kb⟩

theorem C02_no_back_rank_pawns (s : Nat) (hs64 : s < 64) (pc : Piece) (hpc : (abs q).board s = some pc)
    (hk : pc.kind = .pawn) : rank s ≠ 0 ∧ rank s ≠ 7 :=
  ((valid_iff _).mp (C02_spec_valid p m q u hV hs hL h)).pawns s hs64 pc hpc hk

/-- every remaining castling right is backed: its rook on its square, the king on the home rank on the
proper side of it (`Spec.Valid` clause 5). -/
theorem C02_rights_backed (w ks : Bool) (f : Nat) (hr : right (abs q) w ks = some f) :
    f < 8 ∧ (abs q).board (sq f (homeRank w)) = some ⟨w, .rook⟩ ∧
    ∃ k, kingSquares (abs q).board w = [k] ∧ rank k = homeRank w ∧
      (if ks = true then file k < (f : Int) else (f : Int) < file k) :=
  ((valid_iff _).mp (C02_spec_valid p m q u hV hs hL h)).rights w ks f hr

/-- an en-passant target lies on the mover's third / sixth rank, is empty, and the pushed pawn stands in
front of it (`Spec.Valid` clause 6). -/
theorem C02_ep_target (e : Nat) (he : (abs q).ep = some e) :
    rank e = (if (abs q).whiteToMove = true then 5 else 2) ∧ (abs q).board e = none ∧
    (abs q).board (sq (file e) (if (abs q).whiteToMove = true then 4 else 3)) =
      some ⟨!(abs q).whiteToMove, .pawn⟩ :=
  ((valid_iff _).mp (C02_spec_valid p m q u hV hs hL h)).ep e he

theorem C02_counters : 0 ≤ q.halfmoves ∧ q.halfmoves ≤ p.halfmoves + 1 ∧ 1 ≤ q.fullmoves ∧
    q.fullmoves ≤ p.fullmoves + 1 := by
  have v := (valid_iff _).mp (C02_spec_valid p m q u hV hs hL h)
  have v0 := (valid_iff _).mp (validPos_parts hV).spec
  have he := C02_makemove_eq p m q u hV hs hL h
  obtain ⟨b1, b2⟩ := counters_apply (abs p) (decodeMove p m) v0.half
  rw [← he] at b1 b2
  exact ⟨v.half, b1, v.full, b2⟩

end clauses

/-- V.8: the stored key is the recomputed key — this is `C04a_predict` / `C04a_valid` (Rawr/Props/C04.lean). -/
theorem C02_hash (p : Position) (m : Mv) (q : Position) (hV : ValidPos p = true) (hs : MoveShape p m = true)
    (h : p.makemove m true = some q) : q.hash = q.calculateHash :=
  (move_preserves (keyHyps_of_valid hV) hs (validPos_parts hV).hash h).2

/-- **the result is again in the domain V**, as long as the counters do not leave the `i32` range. -/
theorem C02_valid_preserved (p : Position) (m : Mv) (q : Position) (hV : ValidPos p = true)
    (hs : MoveShape p m = true) (hL : decodeMove p m ∈ Spec.legalMoves (abs p))
    (h : p.makemove m true = some q)
    (hh : p.halfmoves + 1 < 2147483648) (hf : p.fullmoves + 1 < 2147483648) : ValidPos q = true :=
  (validPos_step hV (shape2_of_legal hV hs hL) hL h hh hf).1

theorem C02_null_valid (p : Position) (hV : ValidPos p = true)
    (hc : inCheck (abs p).board (abs p).whiteToMove = false) :
    ValidPos p.makenull = true ∧ abs p.makenull = specPass (abs p) :=
  ⟨(validPos_null hV hc).1, abs_makenull hV⟩

/-! ## (5) sequences -/

/-- `C02Path n p a r b`: `n` plies lead the engine from `p` to `r` and the specification from `a` to `b`.
A ply is a move of the generated shape that is legal by the rules (the specification plays
`decodeMove p m`), made with key update, or a null move when the side to move is not in check (the
specification passes the turn). -/
inductive C02Path : Nat → Position → APos → Position → APos → Prop
  | nil (p : Position) (a : APos) : C02Path 0 p a p a
  | move {n : Nat} {p q r : Position} {a b : APos} (m : Mv) :
      MoveShape p m = true → decodeMove p m ∈ Spec.legalMoves a → p.makemove m true = some q →
      C02Path n q (Spec.apply a (decodeMove p m)) r b → C02Path (n + 1) p a r b
  | null {n : Nat} {p r : Position} {a b : APos} :
      inCheck a.board a.whiteToMove = false →
      C02Path n p.makenull (specPass a) r b → C02Path (n + 1) p a r b

/-- along any sequence of shaped legal moves and null moves from a valid position, the engine position
denotes exactly the position the rules prescribe, and stays in the domain (counters within `i32`). -/
theorem C02_sequence {n : Nat} {p r : Position} {a b : APos} (path : C02Path n p a r b)
    (hV : ValidPos p = true) (ha : abs p = a)
    (hh : p.halfmoves + n < 2147483648) (hf : p.fullmoves + n < 2147483648) :
    abs r = b ∧ ValidPos r = true := by
  induction path with
  | nil p a => exact ⟨ha, hV⟩
  | @move n p q r a b m hs hL hq _ ih =>
    subst ha
    have hs2 := shape2_of_legal hV hs hL
    obtain ⟨hVq, b1, b2⟩ := validPos_step hV hs2 hL hq (by omega) (by omega)
    exact ih hVq (abs_eq_apply hV hs2 hq) (by omega) (by omega)
  | @null n p r a b hc _ ih =>
    subst ha
    obtain ⟨hVq, b1, b2⟩ := validPos_null hV hc
    have h0 : 0 ≤ p.halfmoves := ((valid_iff _).mp (validPos_parts hV).spec).half
    exact ih hVq (abs_makenull hV) (by rw [b1]; omega) (by rw [b2]; omega)

/-- a position given by its (mover-relative) boards, with castle files and side to move; key recomputed. -/
def mkP (black : Bool) (c0 c1 p0 p1 p2 p3 p4 p5 : BB) (ep : Option Nat) (uK uQ tK tQ : Bool)
    (f0 f1 f2 f3 : Nat) (hm fm : Int) : Position :=
  let p : Position :=
    { c0 := c0, c1 := c1, p0 := p0, p1 := p1, p2 := p2, p3 := p3, p4 := p4, p5 := p5,
      halfmoves := hm, fullmoves := fm, black := black, ep := ep,
      usK := uK, usQ := uQ, themK := tK, themQ := tQ, cf0 := f0, cf1 := f1, cf2 := f2, cf3 := f3,
      hash := 0#64, frc := true }
  { p with hash := p.calculateHash }

def absEqB (a b : APos) : Bool :=
  (List.range 64).all (fun s => a.board s == b.board s) && a.whiteToMove == b.whiteToMove &&
  a.wK == b.wK && a.wQ == b.wQ && a.bK == b.bK && a.bQ == b.bQ && a.ep == b.ep && a.half == b.half &&
  a.full == b.full

/-- hypotheses of (1) hold and the conclusion is observed, on a concrete input. -/
def c02Example (p : Position) (m : Mv) : Bool :=
  ValidPos p && MoveShape2 p m &&
  match p.makemove m true, p.makemove m false with
  | some q, some q' => absEqB (abs q) (Spec.apply (abs p) (decodeMove p m)) && ({ q with hash := q'.hash } == q')
  | _, _ => false

theorem c02Example_hyps {p : Position} {m : Mv} (h : c02Example p m = true) :
    ValidPos p = true ∧ MoveShape p m = true := by
  simp only [c02Example, MoveShape2, Bool.and_eq_true] at h
  exact ⟨h.1.1, h.1.2.1⟩

-- 1. e4 from the start position (double push: en-passant target e3)
theorem startpos_e4 : c02Example Gen.startpos ⟨12, 28, 6⟩ = true := by
  rw [c02Example, startpos_valid]; decide +kernel
example : c02Example Gen.startpos ⟨12, 28, 6⟩ = true := startpos_e4
-- Chess960 O-O with king f1, rook g1 (they swap: each stands on the other's target), Black to move
-- (mover-relative squares; absolute: black Kf8, Rg8), opponent king e1
def exK : Position :=
  mkP true 0x60#64 0x1000000000000000#64 0 0 0 0x40#64 0 0x1000000000000020#64 none true false false false 6 0 7 0 3 17
theorem exK_castle : c02Example exK ⟨5, 6, 6⟩ = true := by decide +kernel
theorem exK_decode : decodeMove exK ⟨5, 6, 6⟩ = .castle true := by decide +kernel
example : c02Example exK ⟨5, 6, 6⟩ = true := exK_castle
example : decodeMove exK ⟨5, 6, 6⟩ = .castle true := exK_decode
-- Chess960 O-O-O with the rook already on d1: king e1 takes rook d1 (Kc1, Rd1 stays)
def exQ : Position :=
  mkP false 0x18#64 0x1000000000000000#64 0 0 0 0x8#64 0 0x1000000000000010#64 none false true false false 7 3 7 0 0 1
example : c02Example exQ ⟨4, 3, 6⟩ = true := by decide +kernel
-- O-O where the king already stands on g1 (rook h1 → f1)
def exK2 : Position :=
  mkP false 0xC0#64 0x1000000000000000#64 0 0 0 0x80#64 0 0x1000000000000040#64 none true false false false 7 0 7 0 0 1
example : c02Example exK2 ⟨6, 7, 6⟩ = true := by decide +kernel
-- en passant by Black (mover-relative e5xd6; absolute e4xd3)
def exEp : Position :=
  mkP true 0x1000000010#64 0x1000000800000000#64 0x1800000000#64 0 0 0 0 0x1000000000000010#64 (some 43)
    false false false false 7 0 7 0 0 9
theorem exEp_capture : c02Example exEp ⟨36, 43, 6⟩ = true := by decide +kernel
example : c02Example exEp ⟨36, 43, 6⟩ = true := exEp_capture
-- b7xa8=Q capturing the rook that backs the opponent's queen-side right: the right is gone afterwards
def exPromo : Position :=
  mkP false 0x2000000000010#64 0x1100000000000000#64 0x2000000000000#64 0 0 0x100000000000000#64 0
    0x1000000000000010#64 none false false false true 7 0 7 0 5 30
example : c02Example exPromo ⟨49, 56, 4⟩ = true := by decide +kernel
example : (abs exPromo).bQ = some 0 ∧
    ((exPromo.makemove ⟨49, 56, 4⟩ true).map fun q => ((abs q).bQ, (abs q).half, (abs q).board 56)) =
      some (none, 0, some ⟨true, .queen⟩) := by decide +kernel
-- a king move loses both rights, a rook move one (start position with the pieces out of the way is not
-- needed: shape and validity are all that is asked)
def exRights : Position :=
  mkP false 0x91#64 0x1000000000000000#64 0 0 0 0x81#64 0 0x1000000000000010#64 none true true false false 7 0 7 0 0 1
example : c02Example exRights ⟨4, 12, 6⟩ = true := by decide +kernel
example : c02Example exRights ⟨7, 15, 6⟩ = true := by decide +kernel
example : ((exRights.makemove ⟨4, 12, 6⟩ true).map fun q => ((abs q).wK, (abs q).wQ)) = some (none, none) ∧
    ((exRights.makemove ⟨7, 15, 6⟩ true).map fun q => ((abs q).wK, (abs q).wQ)) = some (none, some 0) := by
  decide +kernel
-- null move in `exEp`: the en-passant target (d3) disappears
example : ValidPos exEp = true ∧ (abs exEp).ep = some 19 ∧ (abs exEp.makenull).ep = none :=
  ⟨(c02Example_hyps exEp_capture).1, by decide +kernel⟩

-- (4): 1. e4 is legal by the rules in the start position; the result is valid
theorem e4_legal : decodeMove Gen.startpos ⟨12, 28, 6⟩ ∈ Spec.legalMoves (abs Gen.startpos) := by decide +kernel
example : ValidPos Gen.startpos = true ∧ MoveShape Gen.startpos ⟨12, 28, 6⟩ = true ∧
    decodeMove Gen.startpos ⟨12, 28, 6⟩ ∈ Spec.legalMoves (abs Gen.startpos) :=
  ⟨(c02Example_hyps startpos_e4).1, (c02Example_hyps startpos_e4).2, e4_legal⟩
-- castling, en passant and the promotion-capture above are legal by the rules, too
theorem exK_legal : decodeMove exK ⟨5, 6, 6⟩ ∈ Spec.legalMoves (abs exK) := by decide +kernel
example : decodeMove exK ⟨5, 6, 6⟩ ∈ Spec.legalMoves (abs exK) ∧
    decodeMove exQ ⟨4, 3, 6⟩ ∈ Spec.legalMoves (abs exQ) ∧
    decodeMove exEp ⟨36, 43, 6⟩ ∈ Spec.legalMoves (abs exEp) ∧
    decodeMove exPromo ⟨49, 56, 4⟩ ∈ Spec.legalMoves (abs exPromo) := ⟨exK_legal, by decide +kernel⟩

-- (5): 1. e4, (null), 2. d4 from the start position
def seqQ1 : Position := (Gen.startpos.makemove ⟨12, 28, 6⟩ true).getD default
def seqQ2 : Position := seqQ1.makenull
def seqQ3 : Position := (seqQ2.makemove ⟨11, 27, 6⟩ true).getD default
def seqA1 : APos := Spec.apply (abs Gen.startpos) (decodeMove Gen.startpos ⟨12, 28, 6⟩)
def seqA3 : APos := Spec.apply (specPass seqA1) (decodeMove seqQ2 ⟨11, 27, 6⟩)

theorem e4_made : Gen.startpos.makemove ⟨12, 28, 6⟩ true = some seqQ1 := by decide +kernel

theorem seqPath : C02Path 3 Gen.startpos (abs Gen.startpos) seqQ3 seqA3 :=
  .move ⟨12, 28, 6⟩ (c02Example_hyps startpos_e4).2 e4_legal e4_made
    (.null (by decide +kernel)
      (.move ⟨11, 27, 6⟩ (by decide +kernel) (by decide +kernel) (by decide +kernel) (.nil _ _)))

example : abs seqQ3 = seqA3 ∧ ValidPos seqQ3 = true :=
  C02_sequence seqPath (c02Example_hyps startpos_e4).1 rfl (by decide +kernel) (by decide +kernel)

#print axioms C02_makemove_refines
#print axioms C02_shape_alone_insufficient
#print axioms C02_makemove_total
#print axioms C02_update_hash_irrelevant
#print axioms C02_no_update_keeps_hash
#print axioms C02_null
#print axioms C02_shape2_of_legal
#print axioms C02_makemove_eq
#print axioms C02_consistent
#print axioms C02_spec_valid_preserved
#print axioms C02_spec_valid
#print axioms C02_mover_not_in_check
#print axioms C02_one_king_each
#print axioms C02_no_back_rank_pawns
#print axioms C02_rights_backed
#print axioms C02_ep_target
#print axioms C02_counters
#print axioms C02_hash
#print axioms C02_valid_preserved
#print axioms C02_null_valid
#print axioms C02_sequence

end Rawr
