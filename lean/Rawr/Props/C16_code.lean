import Rawr.Props.C16
import Rawr.Props.C15_code
/-!
# C16 on the regenerated code: the `ucinewgame` arm of `R.listen_loop5_step`, `R.listen_loop5`, `R.position`, `R.listen`

`Props/C16.lean` proves for the model's state machine `stepSecond` that `ucinewgame` makes the engine forget everything
but its option values.  The second command loop of uci/listen.rs is regenerated on every run: `R.listen_loop5_step` (one
iteration; loop-carried variables `(exited, input, stdin, got_isready, pos, history, tt, out, hash, is_frc)` =
`Sess.st5 ex input stdin got s out` for the model state `s = ⟨hash, is_frc, pos, history.reverse, tt⟩`), `R.listen_loop5`,
`R.listen`; `agree_listen_loop5_step`, `agree_listen_loop5`, `agree_listen` tie them to `stepSecond`, `secondLoop`,
`listen` (see `Props/C15_code.lean` for the bundled hypotheses `StepHyps`, `LoopHyps`, `ListenHyps` — exactly those of
the agreements — and for the projection `Sess.transcript` / the relation `Sess.Out` through which printed text is compared).

`stepState r`, `stepDone r`, `stepOut r` read the session state `(hash, is_frc, pos, history, tt)`, the
continue / stop decision and the printed stream off the result of an iteration; `step_code_result`: a returning
iteration IS a returning `stepSecond` with that state and decision, its new text having the model's canonical form.

* `C16_code_newgame_arm` — the `ucinewgame` arm, no hypothesis at all: start position with the current Chess960 flag,
  one-entry history, CLEARED table, option values kept, nothing printed (canonically).
* `C16_code_newgame_fresh` = `stepSecond_ucinewgame_fresh`, `C16_code_newgame_resets` = `C16_newgame_resets`: under the loop
  invariant `UInv` (table length = configured size, `pos.is_frc = is_frc`; preserved by every iteration:
  `C16_code_step_inv` = `stepSecond_inv`) the variables after the arm are those of a fresh engine with the same option
  values — from two states with the same option values the same variables.  Exact transfers (the arm needs no `StepOk`).
* `C16_code_step_determined` — an iteration depends on `(x, exited, stdin, out)` only through what it echoes: same new
  state, same decision, canonically the same text.  `C16_code_newgame_position_determines_state` =
  `C16_newgame_position_determines_state` (explicit two-iteration form): hypothesis added = `StepHyps` of the second line
  at the fresh state.
* `C16_code_later_outputs_equal` = `C16_later_outputs_equal` on `R.listen_loop5` (for any continuation `qs`, not only
  `L :: qs`): `LoopHyps` is asked of the FRESH run only (`sessOk_newgame` transports it).
* `C16_code_position_determines_pos_hist` = `C16_position_determines_pos_hist` on `R.position`; `C16_code_position_line` =
  `C16_position_line` on the iteration (`StepHyps` asked of one of the two states only).
* `C16_code_fresh_process` = `C16_fresh_process` on `R.listen`: `ListenHyps` for each of the two input streams.
-/
namespace Rawr

/-- the session state in the loop-carried variables. -/
def stateOfSt5 (t : Sess.St5) : UState :=
  { hashMb := t.2.2.2.2.2.2.2.2.1, frc := t.2.2.2.2.2.2.2.2.2, pos := t.2.2.2.2.1, hist := t.2.2.2.2.2.1.reverse,
    tt := t.2.2.2.2.2.2.1 }

def stepState : ForInStep Sess.St5 → UState
  | .done t => stateOfSt5 t
  | .yield t => stateOfSt5 t
/-- `true`: the iteration ended the loop. -/
def stepDone : ForInStep Sess.St5 → Bool
  | .done _ => true
  | .yield _ => false
def stepOut : ForInStep Sess.St5 → List Char
  | .done t => t.2.2.2.2.2.2.2.1
  | .yield t => t.2.2.2.2.2.2.2.1

theorem stateOf_st5 (ex : Bool) (input : List Char) (stdin : List (List Char)) (got : Bool) (s : UState) (out : List Char) :
    stateOfSt5 (Sess.st5 ex input stdin got s out) = s := by
  cases s
  simp only [stateOfSt5, Sess.st5, List.reverse_reverse]

/-- a returning iteration of the regenerated loop is a returning model step: same new state, same decision, and the
text printed by it has the model's canonical form. -/
theorem step_code_result {fuel : Nat} {ar : Arith} {clk : Nat → Nat} {o : Nat → Bool} {s : UState} {input : List Char}
    (hyp : StepHyps fuel ar clk o s input) (x : Nat) (ex : Bool) (stdin : List (List Char)) (out : List Char)
    {r : ForInStep Sess.St5}
    (h : R.listen_loop5_step fuel ar 1000 clk x ex input stdin false s.pos s.hist.reverse s.tt out s.hashMb s.frc = some r) :
    ∃ L, stepSecond ar o s input = some (stepState r, L, stepDone r) ∧
      ∃ y, stepOut r = out ++ y ∧ Sess.Out y L ∧ Sess.transcript y = L := by
  obtain ⟨s', L, q, hm, hcase⟩ := stepRel_some (step_code_model hyp x ex stdin out) h
  rcases hcase with ⟨rfl, rfl, rfl⟩ | ⟨rfl, y, rfl, hy⟩
  · exact ⟨[], by rw [hm]; simp only [stepState, stepDone, stateOf_st5],
      [], by simp [stepOut, Sess.st5], Sess.Out.nil, Sess.Out.nil.transcript⟩
  · exact ⟨L, by rw [hm]; simp only [stepState, stepDone, stateOf_st5], y, by simp [stepOut, Sess.st5], hy, hy.transcript⟩

theorem step_code_none_iff {fuel : Nat} {ar : Arith} {clk : Nat → Nat} {o : Nat → Bool} {s : UState} {input : List Char}
    (hyp : StepHyps fuel ar clk o s input) (x : Nat) (ex : Bool) (stdin : List (List Char)) (out : List Char) :
    R.listen_loop5_step fuel ar 1000 clk x ex input stdin false s.pos s.hist.reverse s.tt out s.hashMb s.frc = none ↔
      stepSecond ar o s input = none := by
  have hrel := step_code_model hyp x ex stdin out
  constructor
  · intro hx
    cases hm : stepSecond ar o s input with
    | none => rfl
    | some r =>
      obtain ⟨s', L, q⟩ := r
      rw [hm] at hrel
      cases q with
      | true => rw [(stepRel_quit hrel).1] at hx; cases hx
      | false => obtain ⟨y, e, _⟩ := stepRel_cont hrel; rw [e] at hx; cases hx
  · intro hm
    rw [hm] at hrel
    exact stepRel_none hrel

/-- **the loop invariant on the code** (`stepSecond_inv`): table length = configured size and `pos.is_frc = is_frc` are
preserved by every returning iteration. -/
theorem C16_code_step_inv {fuel : Nat} {ar : Arith} {clk : Nat → Nat} {o : Nat → Bool} {s : UState} {input : List Char}
    (hyp : StepHyps fuel ar clk o s input) (hs : UInv s) (x : Nat) (ex : Bool) (stdin : List (List Char)) (out : List Char)
    {r : ForInStep Sess.St5}
    (h : R.listen_loop5_step fuel ar 1000 clk x ex input stdin false s.pos s.hist.reverse s.tt out s.hashMb s.frc = some r) :
    UInv (stepState r) := by
  obtain ⟨L, hm, _⟩ := step_code_result hyp x ex stdin out h
  exact stepSecond_inv hs hm

/-- an iteration depends on the iteration counter, the exit flag, the unread lines and the text printed so far only
through what it echoes: from the same `(pos, history, tt, hash, is_frc)` and line, two calls panic alike, and otherwise
reach the same state, take the same decision and print canonically the same text. -/
theorem C16_code_step_determined {fuel : Nat} {ar : Arith} {clk : Nat → Nat} {o : Nat → Bool} {s : UState}
    {input : List Char} (hyp : StepHyps fuel ar clk o s input) (x x' : Nat) (ex ex' : Bool) (stdin stdin' : List (List Char))
    (out out' : List Char) :
    (R.listen_loop5_step fuel ar 1000 clk x ex input stdin false s.pos s.hist.reverse s.tt out s.hashMb s.frc = none ↔
      R.listen_loop5_step fuel ar 1000 clk x' ex' input stdin' false s.pos s.hist.reverse s.tt out' s.hashMb s.frc = none) ∧
    ∀ r r',
      R.listen_loop5_step fuel ar 1000 clk x ex input stdin false s.pos s.hist.reverse s.tt out s.hashMb s.frc = some r →
      R.listen_loop5_step fuel ar 1000 clk x' ex' input stdin' false s.pos s.hist.reverse s.tt out' s.hashMb s.frc = some r' →
      stepState r = stepState r' ∧ stepDone r = stepDone r' ∧
      ∃ y y', stepOut r = out ++ y ∧ stepOut r' = out' ++ y' ∧ Sess.transcript y = Sess.transcript y' := by
  refine ⟨by rw [step_code_none_iff hyp, step_code_none_iff hyp], fun r r' h h' => ?_⟩
  obtain ⟨L, hm, y, e, _, ht⟩ := step_code_result hyp x ex stdin out h
  obtain ⟨L', hm', y', e', _, ht'⟩ := step_code_result hyp x' ex' stdin' out' h'
  rw [hm] at hm'
  simp only [Option.some.injEq, Prod.mk.injEq] at hm'
  obtain ⟨e1, e2, e3⟩ := hm'
  exact ⟨e1, e3, y, y', e, e', by rw [ht, ht', e2]⟩

/-- **the `ucinewgame` arm of the regenerated loop** (no hypothesis): the iteration continues the loop with the start
position carrying the current Chess960 flag, the one-entry history of its key, the CLEARED table and the option values
unchanged; `input`, `stdin` are untouched and what it printed is canonically nothing. -/
theorem C16_code_newgame_arm (fuel : Nat) (ar : Arith) (clk : Nat → Nat) (x : Nat) (ex : Bool) (N : List Char)
    (stdin : List (List Char)) (s : UState) (out : List Char) (hN : cmdOf N = str "ucinewgame") :
    ∃ y, R.listen_loop5_step fuel ar 1000 clk x ex N stdin false s.pos s.hist.reverse s.tt out s.hashMb s.frc =
        some (ForInStep.yield (ex, N, stdin, true, { Gen.startpos with frc := s.frc }, [Gen.startpos.hash], s.tt.clear,
          out ++ y, s.hashMb, s.frc)) ∧
      Sess.transcript y = [] := by
  have hrel := step_code_model (stepHyps_plain fuel ar clk (fun _ => false) s hN (by decide)) x ex stdin out
  rw [stepSecond_ucinewgame ar _ s N hN] at hrel
  obtain ⟨y, e, hy⟩ := stepRel_cont hrel
  exact ⟨y, e, hy.transcript⟩

/-- **`stepSecond_ucinewgame_fresh` on the code**: under the loop invariant the variables after the arm are those of a
FRESH engine with the same option values (`fresh hash is_frc`: in particular the cleared table is the new table of the
configured size). -/
theorem C16_code_newgame_fresh (fuel : Nat) (ar : Arith) (clk : Nat → Nat) (x : Nat) (ex : Bool) (N : List Char)
    (stdin : List (List Char)) (s : UState) (hs : UInv s) (out : List Char) (hN : cmdOf N = str "ucinewgame") :
    ∃ y, R.listen_loop5_step fuel ar 1000 clk x ex N stdin false s.pos s.hist.reverse s.tt out s.hashMb s.frc =
        some (ForInStep.yield (Sess.st5 ex N stdin true (fresh s.hashMb s.frc) (out ++ y))) ∧
      Sess.transcript y = [] := by
  have hrel := step_code_model (stepHyps_plain fuel ar clk (fun _ => false) s hN (by decide)) x ex stdin out
  rw [stepSecond_ucinewgame_fresh ar _ s hs.len N hN] at hrel
  obtain ⟨y, e, hy⟩ := stepRel_cont hrel
  exact ⟨y, e, hy.transcript⟩

/-- the state after the `ucinewgame` iteration, whatever it returned. -/
theorem C16_code_newgame_state {fuel : Nat} {ar : Arith} {clk : Nat → Nat} {x : Nat} {ex : Bool} {N : List Char}
    {stdin : List (List Char)} {s : UState} (hs : UInv s) {out : List Char} (hN : cmdOf N = str "ucinewgame")
    {a : ForInStep Sess.St5}
    (h : R.listen_loop5_step fuel ar 1000 clk x ex N stdin false s.pos s.hist.reverse s.tt out s.hashMb s.frc = some a) :
    stepState a = fresh s.hashMb s.frc := by
  obtain ⟨y, e, _⟩ := C16_code_newgame_fresh fuel ar clk x ex N stdin s hs out hN
  rw [h] at e
  injection e with e
  rw [e]
  simp only [stepState, stateOf_st5]

/-- **`C16_newgame_resets` on the code**: from two states satisfying the invariant, with the same option values, the
`ucinewgame` arm leads to the same `(pos, history, tt, hash, is_frc)` — whatever position, history and table contents
the two states had. -/
theorem C16_code_newgame_resets (fuel : Nat) (ar : Arith) (clk : Nat → Nat) (x x' : Nat) (ex ex' : Bool) (N : List Char)
    (stdin stdin' : List (List Char)) (s t : UState) (hs : UInv s) (ht : UInv t) (hh : s.hashMb = t.hashMb)
    (hf : s.frc = t.frc) (out out' : List Char) (hN : cmdOf N = str "ucinewgame") :
    ∃ r r', R.listen_loop5_step fuel ar 1000 clk x ex N stdin false s.pos s.hist.reverse s.tt out s.hashMb s.frc = some r ∧
      R.listen_loop5_step fuel ar 1000 clk x' ex' N stdin' false t.pos t.hist.reverse t.tt out' t.hashMb t.frc = some r' ∧
      stepState r = stepState r' ∧ stepState r = fresh s.hashMb s.frc ∧ stepDone r = false ∧ stepDone r' = false ∧
      ∃ y y', stepOut r = out ++ y ∧ stepOut r' = out' ++ y' ∧ Sess.transcript y = [] ∧ Sess.transcript y' = [] := by
  obtain ⟨y, e, hy⟩ := C16_code_newgame_fresh fuel ar clk x ex N stdin s hs out hN
  obtain ⟨y', e', hy'⟩ := C16_code_newgame_fresh fuel ar clk x' ex' N stdin' t ht out' hN
  refine ⟨_, _, e, e', ?_, ?_, rfl, rfl, y, y', ?_, ?_, hy, hy'⟩
  · simp only [stepState, stateOf_st5, hh, hf]
  · simp only [stepState, stateOf_st5]
  · simp [stepOut, Sess.st5]
  · simp [stepOut, Sess.st5]

/-- **`C16_newgame_position_determines_state` on the code** (explicit form): run the `ucinewgame` iteration from any
state `s` with the invariant and from a fresh engine with the same option values, then the iteration on a second line
`L` from the variables reached: the two runs end in the same `(pos, history, tt, hash, is_frc)` — all components —
with the same decision, and `L` printed canonically the same text.  (`_hL` as in the model theorem: `L` may be any line.) -/
theorem C16_code_newgame_position_determines_state {fuel : Nat} {ar : Arith} {clk : Nat → Nat} {o : Nat → Bool}
    (s : UState) (hs : UInv s) (N L : List Char) (hN : cmdOf N = str "ucinewgame") (_hL : cmdOf L = str "position")
    (hyp : StepHyps fuel ar clk o (fresh s.hashMb s.frc) L)
    (x1 x2 x1' x2' : Nat) (ex1 ex2 ex1' ex2' : Bool) (in1 in2 in1' in2' : List (List Char)) (o1 o2 o1' o2' : List Char)
    (a1 a2 b1 b2 : ForInStep Sess.St5)
    (ha1 : R.listen_loop5_step fuel ar 1000 clk x1 ex1 N in1 false s.pos s.hist.reverse s.tt o1 s.hashMb s.frc = some a1)
    (ha2 : R.listen_loop5_step fuel ar 1000 clk x2 ex2 L in2 false (stepState a1).pos (stepState a1).hist.reverse
      (stepState a1).tt o2 (stepState a1).hashMb (stepState a1).frc = some a2)
    (hb1 : R.listen_loop5_step fuel ar 1000 clk x1' ex1' N in1' false (fresh s.hashMb s.frc).pos
      (fresh s.hashMb s.frc).hist.reverse (fresh s.hashMb s.frc).tt o1' s.hashMb s.frc = some b1)
    (hb2 : R.listen_loop5_step fuel ar 1000 clk x2' ex2' L in2' false (stepState b1).pos (stepState b1).hist.reverse
      (stepState b1).tt o2' (stepState b1).hashMb (stepState b1).frc = some b2) :
    (stepState a2).pos = (stepState b2).pos ∧ (stepState a2).hist = (stepState b2).hist ∧
    (stepState a2).tt = (stepState b2).tt ∧ (stepState a2).hashMb = (stepState b2).hashMb ∧
    (stepState a2).frc = (stepState b2).frc ∧ stepState a2 = stepState b2 ∧ stepDone a2 = stepDone b2 ∧
    ∃ y y', stepOut a2 = o2 ++ y ∧ stepOut b2 = o2' ++ y' ∧ Sess.transcript y = Sess.transcript y' := by
  have ea : stepState a1 = fresh s.hashMb s.frc := C16_code_newgame_state hs hN ha1
  have eb : stepState b1 = fresh s.hashMb s.frc :=
    C16_code_newgame_state (s := fresh s.hashMb s.frc) (fresh_inv _ _) hN hb1
  rw [ea] at ha2
  rw [eb] at hb2
  obtain ⟨h1, h2, h3⟩ := (C16_code_step_determined hyp x2 x2' ex2 ex2' in2 in2' o2 o2').2 a2 b2 ha2 hb2
  exact ⟨by rw [h1], by rw [h1], by rw [h1], by rw [h1], by rw [h1], h1, h2, h3⟩

/-- the side conditions of a run that starts with `ucinewgame` are those of the run from the fresh state. -/
theorem sessOk_newgame (G : Nat → Position → Prop) (fuel : Nat) (ar : Arith) (clk : Nat → Nat) (o : Nat → Bool)
    (s : UState) (hs : UInv s) (N : List Char) (hN : cmdOf N = str "ucinewgame") (qs : List (List Char))
    (h : Sess.SessOk G fuel ar clk o (N :: qs) (fresh s.hashMb s.frc)) : Sess.SessOk G fuel ar clk o (N :: qs) s := by
  refine ⟨Sess.stepOk_plain G fuel ar clk o s hN (by decide), fun s' L hstep => h.2 s' L ?_⟩
  rw [← C16_newgame_resets ar o s (fresh s.hashMb s.frc) hs (fresh_inv _ _) rfl rfl N hN]
  exact hstep

/-- **`C16_later_outputs_equal` on the code**: from `ucinewgame` on, the regenerated second loop started in any state
with the invariant behaves — panic or not, exit flag, canonical transcript of everything printed — as started in the
fresh state with the same option values.  (`out`, `out'`: the streams printed before, with the same canonical form
`acc`.)  The side conditions `LoopHyps` are asked of the fresh run only. -/
theorem C16_code_later_outputs_equal {fuel : Nat} {ar : Arith} {clk : Nat → Nat} {o : Nat → Bool}
    (s : UState) (hs : UInv s) (N : List Char) (hN : cmdOf N = str "ucinewgame") (qs : List (List Char))
    (h : LoopHyps fuel ar clk o (fresh s.hashMb s.frc) (N :: qs)) (it it' : List Nat)
    (hlen : (N :: qs).length < it.length) (hlen' : (N :: qs).length < it'.length) (input input' : List Char)
    (out out' : List Char) (acc : List String) (ho : Sess.Out out acc) (ho' : Sess.Out out' acc) :
    (R.listen_loop5 fuel ar 1000 clk it input (N :: qs) true s.pos s.hist.reverse s.tt out s.hashMb s.frc).map
        (fun t => (t.1, Sess.transcript t.2.2.2.2.2.2.2.1)) =
    (R.listen_loop5 fuel ar 1000 clk it' input' (N :: qs) true (fresh s.hashMb s.frc).pos
        (fresh s.hashMb s.frc).hist.reverse (fresh s.hashMb s.frc).tt out' s.hashMb s.frc).map
        (fun t => (t.1, Sess.transcript t.2.2.2.2.2.2.2.1)) := by
  have hS : LoopHyps fuel ar clk o s (N :: qs) := by
    obtain ⟨G, hI, hM, hS, hok⟩ := h
    exact ⟨G, hI, hM, hS, sessOk_newgame G fuel ar clk o s hs N hN qs hok⟩
  have e1 := loop5_code_model hS it hlen input out acc ho
  have e2 := loop5_code_model h it' hlen' input' out' acc ho'
  rw [e1]
  refine Eq.trans ?_ e2.symm
  rw [secondLoop_eq, secondLoop_eq,
    C16_newgame_steps_eq ar o s (fresh s.hashMb s.frc) hs (fresh_inv _ _) rfl rfl N hN qs]

/-- **`C16_position_determines_pos_hist` on the code**: what the regenerated `uci::position::position` returns —
position (with the caller's `pos.is_frc = is_frc`), history, `info string` lines, or a panic — depends on the old
position only through its Chess960 flag, and not on the old history.  Hypothesis added: `hfen` of `agree_position`
(the position `set_fen` accepts lies in `G (number of move tokens)`). -/
theorem C16_code_position_determines_pos_hist (G : Nat → Position → Prop) (hI : ∀ n p, G (n + 1) p → MovesOnBoard p)
    (hM : ∀ n p, G (n + 1) p → G n p)
    (hS : ∀ n p m np, G (n + 1) p → m ∈ legalMoves p → p.makemove m true = some np → G n np)
    (ar : Arith) (n : Nat) (p1 p2 : Position) (h1 h2 : List BB) (f : Bool) (hpf : p1.frc = p2.frc)
    (toks : List (List Char))
    (hfen : ∀ p, setFen ar p1.frc (positionArgs toks).1 = some p → G (positionArgs toks).2.length p) :
    (R.position (n + 2) ar toks p1 h1).map (fun r => (({ r.2.1 with frc := f } : Position), r.2.2.1, r.2.2.2)) =
      (R.position (n + 2) ar toks p2 h2).map (fun r => (({ r.2.1 with frc := f } : Position), r.2.2.1, r.2.2.2)) := by
  let s : UState := ⟨0, f, p1, [], Table.new 0 Gen.ttEntrySize⟩
  let t : UState := ⟨0, f, p2, [], Table.new 0 Gen.ttEntrySize⟩
  have a1 := agree_position G hI hM hS ar n s h1 toks hfen
  have a2 := agree_position G hI hM hS ar n t h2 toks (by show ∀ p, setFen ar p2.frc _ = some p → _; rw [← hpf]; exact hfen)
  have key := C16_position_determines_pos_hist ar s t rfl hpf toks
  rw [← a1, ← a2, Option.map_map, Option.map_map] at key
  have := congrArg (Option.map fun (r : Position × List BB × List String) => (r.1, r.2.1.reverse, r.2.2)) key
  simp only [Option.map_map] at this
  simpa [Function.comp_def, s, t] using this

/-- the side conditions of a `position` line depend on the state only through `pos.is_frc`. -/
theorem stepHyps_position_transport {fuel : Nat} {ar : Arith} {clk : Nat → Nat} {o : Nat → Bool} {s t : UState}
    {L : List Char} (hL : cmdOf L = str "position") (hpf : s.pos.frc = t.pos.frc)
    (h : StepHyps fuel ar clk o s L) : StepHyps fuel ar clk o t L := by
  obtain ⟨G, hI, hM, hS, hok⟩ := h
  exact ⟨G, hI, hM, hS, fun e => absurd e (Sess.ne_str hL (by decide)), fun e => hpf ▸ hok.2.1 e,
    fun e => absurd e (Sess.ne_str hL (by decide)),
    fun e => e.elim (fun e => absurd e (Sess.ne_str hL (by decide))) fun e =>
      e.elim (fun e => absurd e (Sess.ne_str hL (by decide))) fun e => absurd e (Sess.ne_str hL (by decide))⟩

/-- **`C16_position_line` on the code**: for two states with the invariant and the same `UCI_Chess960` value the
regenerated iteration on a `position` line panics alike and otherwise yields the same position and history and
canonically the same text; table and option values of each state are left alone. -/
theorem C16_code_position_line {fuel : Nat} {ar : Arith} {clk : Nat → Nat} {o : Nat → Bool} (s t : UState)
    (hs : UInv s) (ht : UInv t) (hf : s.frc = t.frc) (L : List Char) (hL : cmdOf L = str "position")
    (hyp : StepHyps fuel ar clk o s L) (x x' : Nat) (ex ex' : Bool) (stdin stdin' : List (List Char))
    (out out' : List Char) :
    (R.listen_loop5_step fuel ar 1000 clk x ex L stdin false s.pos s.hist.reverse s.tt out s.hashMb s.frc = none ↔
      R.listen_loop5_step fuel ar 1000 clk x' ex' L stdin' false t.pos t.hist.reverse t.tt out' t.hashMb t.frc = none) ∧
    ∀ r r',
      R.listen_loop5_step fuel ar 1000 clk x ex L stdin false s.pos s.hist.reverse s.tt out s.hashMb s.frc = some r →
      R.listen_loop5_step fuel ar 1000 clk x' ex' L stdin' false t.pos t.hist.reverse t.tt out' t.hashMb t.frc = some r' →
      (stepState r).pos = (stepState r').pos ∧ (stepState r).hist = (stepState r').hist ∧
      (stepState r).tt = s.tt ∧ (stepState r').tt = t.tt ∧
      (stepState r).hashMb = s.hashMb ∧ (stepState r').hashMb = t.hashMb ∧
      ∃ y y', stepOut r = out ++ y ∧ stepOut r' = out' ++ y' ∧ Sess.transcript y = Sess.transcript y' := by
  have hpf : s.pos.frc = t.pos.frc := by rw [hs.frc, ht.frc, hf]
  have hyp' := stepHyps_position_transport hL hpf hyp
  have key := C16_position_line ar o s t hs ht hf L hL
  refine ⟨?_, fun r r' h h' => ?_⟩
  · rw [step_code_none_iff hyp, step_code_none_iff hyp']
    cases h1 : stepSecond ar o s L <;> cases h2 : stepSecond ar o t L <;> simp [h1, h2] at key ⊢
  · obtain ⟨Ls, hm, y, e, _, hty⟩ := step_code_result hyp x ex stdin out h
    obtain ⟨Lt, hm', y', e', _, hty'⟩ := step_code_result hyp' x' ex' stdin' out' h'
    obtain ⟨k1, k2⟩ := stepSecond_position_keeps hL hm
    obtain ⟨k1', k2'⟩ := stepSecond_position_keeps hL hm'
    rw [hm, hm'] at key
    simp only [Option.map_some, Option.some.injEq, Prod.mk.injEq] at key
    exact ⟨key.1, key.2.1, k1, k1', k2, k2', y, y', e, e', by rw [hty, hty', key.2.2.1]⟩

/-- **`C16_fresh_process` on the code.**  A process (the regenerated `listen`) that was configured by `opts`, answered
`isready`, executed ANY lines `mid` (without quitting or panicking: `hmid`, on the model's state machine, which also
names the state `s2` reached) and then reads `ucinewgame; L; qs`, and a freshly started process configured by `opts'`
to the same option values that reads `ucinewgame; L; qs` at once: there is one `tail` such that the canonical
transcripts are `banner, readyok, o2, tail` and `banner, readyok, tail` — or both processes panic (`tail = none`). -/
theorem C16_code_fresh_process {fuel fuel' : Nat} {ar : Arith} {clk clk' : Nat → Nat} {o : Nat → Bool}
    {version version' : Option (List Char)} (opts opts' mid qs : List (List Char)) (R0 R0' N L : List Char)
    (hyp : ListenHyps fuel ar clk o version (opts ++ R0 :: (mid ++ N :: L :: qs)))
    (hyp' : ListenHyps fuel' ar clk' o version' (opts' ++ R0' :: N :: L :: qs))
    (hopts : ∀ l ∈ opts, cmdOf l = str "setoption") (hopts' : ∀ l ∈ opts', cmdOf l = str "setoption")
    (hR : cmdOf R0 = str "isready") (hR' : cmdOf R0' = str "isready") (hN : cmdOf N = str "ucinewgame")
    (s2 : UState) (o2 : List String) (hmid : steps ar o (started opts) mid = some (s2, o2, false))
    (hsame : (started opts').hashMb = s2.hashMb ∧ (started opts').frc = s2.frc) :
    ∃ tail : Option (List String),
      (R.listen fuel ar 1000 clk version (opts ++ R0 :: (mid ++ N :: L :: qs))).map (fun r => Sess.transcript r.2) =
        tail.map (fun t => banner false 16 ++ ["readyok"] ++ o2 ++ t) ∧
      (R.listen fuel' ar 1000 clk' version' (opts' ++ R0' :: N :: L :: qs)).map (fun r => Sess.transcript r.2) =
        tail.map (fun t => banner false 16 ++ ["readyok"] ++ t) := by
  obtain ⟨tail, h1, h2⟩ := C16_fresh_process ar o opts opts' mid qs R0 R0' N L hopts hopts' hR hR' hN s2 o2 hmid hsame
  exact ⟨tail, by rw [listen_code_model hyp, h1], by rw [listen_code_model hyp', h2]⟩

namespace C16CodeEx
open C16Ex

set_option maxRecDepth 4096 in
/-- the dirty state of `Props/C16.lean` (Black to move, odd counters, three history keys, zero-slot table) as loop
variables: the regenerated `ucinewgame` arm leads to the variables of `fresh 0 false` — for every clock. -/
example (clk : Nat → Nat) : ∃ y,
    R.listen_loop5_step 5 .trap 1000 clk 0 false (str "ucinewgame\n") [str "isready"] false
      { Gen.startpos with black := true, halfmoves := 7 } [3#64, 2#64, 1#64] ⟨#[]⟩ (str "readyok\n") 0 false =
    some (ForInStep.yield (false, str "ucinewgame\n", [str "isready"], true, Gen.startpos, [Gen.startpos.hash],
      Table.new 0 Gen.ttEntrySize, str "readyok\n" ++ y, 0, false)) ∧ Sess.transcript y = [] := by
  obtain ⟨y, e, hy⟩ := C16_code_newgame_fresh 5 .trap clk 0 false (str "ucinewgame\n") [str "isready"] dirty dirty_inv
    (str "readyok\n") (by decide +kernel)
  exact ⟨y, e, hy⟩

/-- whole processes without `go` / `position` / `moves` (so that `ListenHyps` holds outright): a process that changed
`Hash`, printed the board and the history, and one started with that `Hash` value, from `ucinewgame; eval; history` on. -/
def linesA : List (List Char) :=
  [str "setoption name Hash value 2"] ++ str "isready" :: ([str "print", str "history"] ++
    str "ucinewgame" :: str "eval" :: [str "history", str "quit"])
def linesB : List (List Char) :=
  [str "setoption name Hash value 2"] ++ str "isready" :: str "ucinewgame" :: str "eval" :: [str "history", str "quit"]

theorem linesA_nomoves : ∀ l ∈ linesA, Sess.NoMoveCmd l := Sess.noMoveCmd_of_all (by decide +kernel)
theorem linesB_nomoves : ∀ l ∈ linesB, Sess.NoMoveCmd l := Sess.noMoveCmd_of_all (by decide +kernel)

example (clk clk' : Nat → Nat) : ∃ (o2 : List String) (tail : Option (List String)), o2.length = 17 ∧
    (R.listen 20 .trap 1000 clk none linesA).map (fun r => Sess.transcript r.2) =
      tail.map (fun t => banner false 16 ++ ["readyok"] ++ o2 ++ t) ∧
    (R.listen 30 .trap 1000 clk' (some (str "1.0")) linesB).map (fun r => Sess.transcript r.2) =
      tail.map (fun t => banner false 16 ++ ["readyok"] ++ t) := by
  have h : ((steps .trap (fun _ => false) (started [str "setoption name Hash value 2"]) [str "print", str "history"]).map
      fun r => (r.1.hashMb, r.1.frc, r.2.1.length, r.2.2)) = some (2, false, 17, false) := by decide +kernel
  obtain ⟨⟨s2, o2, q⟩, h1, h2⟩ := Option.map_eq_some_iff.1 h
  simp only [Prod.mk.injEq] at h2
  obtain ⟨a, b, c, rfl⟩ := h2
  have hs : (started [str "setoption name Hash value 2"]).hashMb = 2 ∧
      (started [str "setoption name Hash value 2"]).frc = false := by decide +kernel
  obtain ⟨tail, t1, t2⟩ := C16_code_fresh_process (fuel := 20) (fuel' := 30) (clk := clk) (clk' := clk')
    (version := none) (version' := some (str "1.0"))
    [str "setoption name Hash value 2"] [str "setoption name Hash value 2"] [str "print", str "history"]
    [str "history", str "quit"] (str "isready") (str "isready") (str "ucinewgame") (str "eval")
    (listenHyps_nomoves .trap clk (fun _ => false) (by decide) (by decide) linesA_nomoves)
    (listenHyps_nomoves .trap clk' (fun _ => false) (by decide) (by decide +kernel) linesB_nomoves)
    (by decide +kernel) (by decide +kernel) (by decide +kernel) (by decide +kernel) (by decide +kernel) s2 o2 h1 ⟨hs.1.trans a.symm, hs.2.trans b.symm⟩
  exact ⟨o2, tail, c, t1, t2⟩

end C16CodeEx

end Rawr

#print axioms Rawr.step_code_result
#print axioms Rawr.step_code_none_iff
#print axioms Rawr.C16_code_step_inv
#print axioms Rawr.C16_code_step_determined
#print axioms Rawr.C16_code_newgame_arm
#print axioms Rawr.C16_code_newgame_fresh
#print axioms Rawr.C16_code_newgame_resets
#print axioms Rawr.C16_code_newgame_position_determines_state
#print axioms Rawr.C16_code_later_outputs_equal
#print axioms Rawr.C16_code_position_determines_pos_hist
#print axioms Rawr.C16_code_position_line
#print axioms Rawr.C16_code_fresh_process
