import Rawr.Props.C03
/-! # C14 — limits are honoured, the result is coherent

Statements about the model functions `rootIter` / `root` of `Rawr/Model/Search.lean` themselves.

No hypothesis on position, table, history or fuel. For every limit: `C14_depths_consecutive`, `C14_best_is_pv_head`,
`C14_no_info_no_move`, `C14_pv_length`; for a node limit: `C14_nodes_rule`; for a depth limit:
`C14_depth_nothing_deeper`; for a clock whose answers are monotone (`MonoOracle`): `C14_no_report_after_stop`,
`C14_report_requires_all_polls_false`, `C14_expired_clock`.

Under the hypotheses of C03 (`SearchDom G`, `G fuel p`, bounded table, bounded recursion depth):
`C14_depth_general` with its cases `C14_depth_iterations`, `C14_depth_cap` (finding F10), `C14_depth_zero`;
`C14_scores_inside_mate_bounds_partial`, `C14_negamax_inside_mate_bounds`, `C14_root_preserves_TTSane` (with `TTSane`:
stored scores strictly inside the mate bounds, and `fuel ≤ 2·MATE_SCORE`; the statement without the bound on the
recursion depth is kept as `C14_scores_inside_mate_bounds_full`). `SearchDom` does not hold of the valid positions
(`Proofs/RootLemmasRange.lean`); for them these theorems are proved again in `Props/C14_rules.lean`. -/
namespace Rawr

def TTSane (t : Table TTEntry) : Prop := TTIn Gen.MATE_SCORE t

theorem TTSane.bounded {t : Table TTEntry} (h : TTSane t) : TTBounded t :=
  fun e he => (h e he).mono MATE_le_INF

theorem C14_depths_consecutive (lim : Limit) (fuel : Nat) (p : Position) (hist : List BB) (tt : Table TTEntry)
    (res : RootResult) (h : root lim fuel p hist tt = some res) :
    res.infos.map (·.depth) = (List.range' 1 res.infos.length).map Int.ofNat := by
  obtain ⟨n, hn⟩ := rootIter_depths lim fuel p _ _ _ _ _ _ h
  simp only [List.reverse_nil, List.map_nil, List.nil_append] at hn
  have hlen : res.infos.length = n := by
    have := congrArg List.length hn
    simpa [length_intRange] using this
  rw [hn, hlen]
  exact intRange_eq_range' 1 n

/-- `C14_depth_general` over `SearchDomC`, which the valid positions satisfy (`C14_depth_general_rules`). -/
theorem depth_general_of_searchDomC (D : Int) (G : Nat → Position → Prop) (hG : SearchDomC G)
    (fuel : Nat) (p : Position) (hist : List BB) (tt : Table TTEntry) (res : RootResult)
    (hGp : G fuel p) (htt : TTBounded tt) (hf : (fuel : Int) ≤ Gen.INF + Gen.MATE_SCORE)
    (hlegal : legalMoves p ≠ []) (h : root (.depth D) fuel p hist tt = some res) :
    res.infos.map (·.depth) = (List.range' 1 (depthTarget D).toNat).map Int.ofNat := by
  have hlen := rootIter_depth_count_of (negamax_root _ G hG Gen.INF MATE_le_INF (Int.le_refl _) fuel p hGp hf) hlegal
    _ _ _ _ _ _ (by exact htt) (Int.le_refl 1) (by have := (depthTarget_spec D).1; omega) (by decide) h
  rw [C14_depths_consecutive _ _ _ _ _ _ h, hlen]
  simp

/-- for every depth limit `D` (also `D ≤ 0` and `D ≥ MAX_DEPTH`) exactly `max 1 (min D 127)` iterations are
reported. -/
theorem C14_depth_general (D : Int) (G : Nat → Position → Prop) (hG : SearchDom G)
    (fuel : Nat) (p : Position) (hist : List BB) (tt : Table TTEntry) (res : RootResult)
    (hGp : G fuel p) (htt : TTBounded tt) (hf : (fuel : Int) ≤ Gen.INF + Gen.MATE_SCORE)
    (hlegal : legalMoves p ≠ []) (h : root (.depth D) fuel p hist tt = some res) :
    res.infos.map (·.depth) = (List.range' 1 (depthTarget D).toNat).map Int.ofNat :=
  depth_general_of_searchDomC D G hG.toC fuel p hist tt res hGp htt hf hlegal h

/-- With a depth limit `1 ≤ D < MAX_DEPTH` on a root that has legal moves the iterations `1, …, D` are
reported in order and nothing deeper. -/
theorem C14_depth_iterations (D : Int) (hD1 : 1 ≤ D) (hD2 : D < Gen.MAX_DEPTH)
    (G : Nat → Position → Prop) (hG : SearchDom G)
    (fuel : Nat) (p : Position) (hist : List BB) (tt : Table TTEntry) (res : RootResult)
    (hGp : G fuel p) (htt : TTBounded tt) (hf : (fuel : Int) ≤ Gen.INF + Gen.MATE_SCORE)
    (hlegal : legalMoves p ≠ []) (h : root (.depth D) fuel p hist tt = some res) :
    res.infos.map (·.depth) = (List.range' 1 D.toNat).map Int.ofNat := by
  rw [C14_depth_general D G hG fuel p hist tt res hGp htt hf hlegal h, depthTarget_of_lt hD1 hD2]

/-- Finding F10: a depth limit `D ≥ MAX_DEPTH = 128` is capped — exactly `MAX_DEPTH - 1 = 127` iterations
are reported. -/
theorem C14_depth_cap (D : Int) (hD : Gen.MAX_DEPTH ≤ D)
    (G : Nat → Position → Prop) (hG : SearchDom G)
    (fuel : Nat) (p : Position) (hist : List BB) (tt : Table TTEntry) (res : RootResult)
    (hGp : G fuel p) (htt : TTBounded tt) (hf : (fuel : Int) ≤ Gen.INF + Gen.MATE_SCORE)
    (hlegal : legalMoves p ≠ []) (h : root (.depth D) fuel p hist tt = some res) :
    res.infos.map (·.depth) = (List.range' 1 127).map Int.ofNat := by
  rw [C14_depth_general D G hG fuel p hist tt res hGp htt hf hlegal h, depthTarget_of_ge hD]
  rfl

/-- `go depth D` with `D ≤ 1` (0 and negative limits included): exactly the first iteration is reported. -/
theorem C14_depth_zero (D : Int) (hD : D ≤ 1)
    (G : Nat → Position → Prop) (hG : SearchDom G)
    (fuel : Nat) (p : Position) (hist : List BB) (tt : Table TTEntry) (res : RootResult)
    (hGp : G fuel p) (htt : TTBounded tt) (hf : (fuel : Int) ≤ Gen.INF + Gen.MATE_SCORE)
    (hlegal : legalMoves p ≠ []) (h : root (.depth D) fuel p hist tt = some res) :
    res.infos.map (·.depth) = [1] := by
  rw [C14_depth_general D G hG fuel p hist tt res hGp htt hf hlegal h, depthTarget_of_le_one hD]
  rfl

/-- the move played is the first move of the last reported principal variation. -/
theorem C14_best_is_pv_head (lim : Limit) (fuel : Nat) (p : Position) (hist : List BB) (tt : Table TTEntry)
    (res : RootResult) (h : root lim fuel p hist tt = some res) :
    res.best = (res.infos.getLast?).bind (·.pv.head?) :=
  rootIter_pv lim fuel p _ _ _ _ _ _ rfl (fun hne => absurd rfl hne) h

theorem C14_no_info_no_move (lim : Limit) (fuel : Nat) (p : Position) (hist : List BB) (tt : Table TTEntry)
    (res : RootResult) (h : root lim fuel p hist tt = some res) (hi : res.infos = []) : res.best = none := by
  rw [C14_best_is_pv_head lim fuel p hist tt res h, hi]; rfl

theorem C14_pv_length (lim : Limit) (fuel : Nat) (p : Position) (hist : List BB) (tt : Table TTEntry)
    (res : RootResult) (h : root lim fuel p hist tt = some res) : ∀ r ∈ res.infos, r.pv.length = 1 := by
  intro r hr
  rcases rootIter_records lim fuel p (fun r => r.pv.length = 1) (fun _ _ _ _ => rfl) _ _ _ _ _ _ h r hr with h1 | h1
  · simp at h1
  · exact h1

/-- With a node limit `N` every reported iteration after the first had spent fewer than `N` nodes when it
was reported (so no iteration after the first is reported once `N` nodes have been spent); the depths are
`1, 2, …` (so the first record, if any, is iteration 1). -/
theorem C14_nodes_rule (N : Nat) (fuel : Nat) (p : Position) (hist : List BB) (tt : Table TTEntry)
    (res : RootResult) (h : root (.nodes N) fuel p hist tt = some res) :
    (∀ r ∈ res.infos, 2 ≤ r.depth → r.nodes < N) ∧
    res.infos.map (·.depth) = (List.range' 1 res.infos.length).map Int.ofNat := by
  refine ⟨?_, C14_depths_consecutive _ _ _ _ _ _ h⟩
  intro r hr hd
  rcases rootIter_records (.nodes N) fuel p (fun r => 2 ≤ r.depth → r.nodes < N) (by
      intro s score m hs hd
      have h1 := hs (by show (1 : Int) < s.depth; have : (mkInfo s score m).depth = s.depth := rfl; omega)
      rw [shouldStop_nodes] at h1
      simp only [decide_eq_false_iff_not] at h1
      show s.nodes < N
      omega) _ _ _ _ _ _ h r hr with h1 | h1
  · simp at h1
  · exact h1 hd

/-- with a depth limit nothing deeper than `max D 1` is ever reported; unlike `C14_depth_general`, no hypothesis
on table, history or fuel. -/
theorem C14_depth_nothing_deeper (D : Int) (fuel : Nat) (p : Position) (hist : List BB) (tt : Table TTEntry)
    (res : RootResult) (h : root (.depth D) fuel p hist tt = some res) :
    ∀ r ∈ res.infos, r.depth ≤ max D 1 := by
  intro r hr
  rcases rootIter_records (.depth D) fuel p (fun r => r.depth ≤ max D 1) (by
      intro s score m hs
      show s.depth ≤ max D 1
      by_cases hgt : 1 < s.depth
      · have h1 := hs hgt
        rw [shouldStop_depth] at h1
        simp only [decide_eq_false_iff_not] at h1
        omega
      · omega) _ _ _ _ _ _ h r hr with h1 | h1
  · simp at h1
  · exact h1

def MonoOracle (o : Nat → Bool) : Prop := ∀ i j, i ≤ j → o i = true → o j = true

/-- After a poll has answered `true` (some poll `j` among those made so far, `j ≤ st.polls`) no
further record is reported: from an iteration `depth > 1` on, the loop hands back exactly the records it
already had. -/
theorem C14_no_report_after_stop (o : Nat → Bool) (ho : MonoOracle o) (fuel : Nat) (p : Position)
    (k : Nat) (depth : Int) (st : SState) (bestMove : Option Mv) (infos : List InfoRec) (res : RootResult)
    (hd : 1 < depth) (hfired : ∃ j, j ≤ st.polls ∧ o j = true)
    (h : rootIter (.clock o) fuel p k depth st bestMove infos = some res) :
    res.infos = infos.reverse := by
  cases k with
  | zero =>
    simp only [rootIter, Option.some.injEq] at h
    rw [← h]
  | succ k =>
    rcases rootIter_step h with ⟨_, hres⟩ | ⟨_, score, s1, hnm, hrest⟩
    · rw [hres]
    · rcases hrest with ⟨_, hres⟩ | ⟨m, _, ⟨_, hres⟩ | ⟨hpoll, _⟩⟩
      · rw [hres]
      · rw [hres]
      · have hfr : st.polls ≤ s1.polls := (negamax_fr _ fuel _ _ _ _ _ _ _ _ _ hnm).2.1
        obtain ⟨j, hj, hoj⟩ := hfired
        have : o s1.polls = true := ho j s1.polls (by omega) hoj
        rw [endPoll_fst_of_gt _ _ _ hd, shouldStop_clock, this] at hpoll
        simp at hpoll

/-- Conversely: if an iteration `depth > 1` leads to anything being reported, then every poll made up to
and including its end-of-iteration poll (index `s1.polls ≥ st.polls`) answered `false`. -/
theorem C14_report_requires_all_polls_false (o : Nat → Bool) (ho : MonoOracle o) (fuel : Nat) (p : Position)
    (k : Nat) (depth : Int) (st : SState) (bestMove : Option Mv) (infos : List InfoRec) (res : RootResult)
    (hd : 1 < depth) (h : rootIter (.clock o) fuel p (k + 1) depth st bestMove infos = some res)
    (hrep : res.infos ≠ infos.reverse) :
    ∃ score s1, negamax (.clock o) fuel p { st with depth := depth } (-Gen.INF) Gen.INF 0 depth false
        = some (score, s1) ∧ st.polls ≤ s1.polls ∧ ∀ j, j ≤ s1.polls → o j = false := by
  rcases rootIter_step h with ⟨_, hres⟩ | ⟨_, score, s1, hnm, hrest⟩
  · rw [hres] at hrep; exact absurd rfl hrep
  · rcases hrest with ⟨_, hres⟩ | ⟨m, _, ⟨_, hres⟩ | ⟨hpoll, _⟩⟩
    · rw [hres] at hrep; exact absurd rfl hrep
    · rw [hres] at hrep; exact absurd rfl hrep
    · refine ⟨score, s1, hnm, (negamax_fr _ fuel _ _ _ _ _ _ _ _ _ hnm).2.1, ?_⟩
      rw [endPoll_fst_of_gt _ _ _ hd, shouldStop_clock] at hpoll
      intro j hj
      cases hoj : o j with
      | false => rfl
      | true => rw [ho j s1.polls hj hoj] at hpoll; simp at hpoll

/-- a clock that has already expired at the first poll: at most the first iteration is reported. -/
theorem C14_expired_clock (o : Nat → Bool) (ho : MonoOracle o) (h0 : o 0 = true) (fuel : Nat) (p : Position)
    (hist : List BB) (tt : Table TTEntry) (res : RootResult)
    (h : root (.clock o) fuel p hist tt = some res) : res.infos.length ≤ 1 := by
  rcases rootIter_step h with ⟨_, hres⟩ | ⟨_, score, s1, hnm, hrest⟩
  · rw [hres]; simp
  · rcases hrest with ⟨_, hres⟩ | ⟨m, _, ⟨_, hres⟩ | ⟨_, hrec⟩⟩
    · rw [hres]; simp
    · rw [hres]; simp
    · rw [C14_no_report_after_stop o ho fuel p _ _ _ _ _ _ (by decide) ⟨0, Nat.zero_le _, h0⟩ hrec]
      simp

/-- the full statement (no bound on the recursion depth). Not proved: a mated node at ply `n` answers
`-MATE_SCORE + n`, which is inside the bounds only while `n < 2·MATE_SCORE`, and nothing in the model bounds
the ply reached except the fuel. -/
def C14_scores_inside_mate_bounds_full : Prop :=
  ∀ (lim : Limit) (G : Nat → Position → Prop), SearchDom G →
    ∀ (fuel : Nat) (p : Position) (hist : List BB) (tt : Table TTEntry) (res : RootResult),
      G fuel p → TTSane tt → root lim fuel p hist tt = some res →
      ∀ r ∈ res.infos, -Gen.MATE_SCORE < r.score ∧ r.score < Gen.MATE_SCORE

/-- proved part: recursion depth at most `2·MATE_SCORE = 2 000 000` (the range lemma `negamax_range` at
`K = MATE_SCORE`, through `root_ok`); at the root a mated or stalemated position reports nothing. -/
theorem C14_scores_inside_mate_bounds_partial (lim : Limit) (G : Nat → Position → Prop) (hG : SearchDom G)
    (fuel : Nat) (p : Position) (hist : List BB) (tt : Table TTEntry) (res : RootResult)
    (hGp : G fuel p) (htt : TTSane tt) (hf : (fuel : Int) ≤ 2 * Gen.MATE_SCORE)
    (h : root lim fuel p hist tt = some res) :
    ∀ r ∈ res.infos, -Gen.MATE_SCORE < r.score ∧ r.score < Gen.MATE_SCORE :=
  fun r hr => ((root_ok (negamax_root lim G hG.toC Gen.MATE_SCORE (Int.le_refl _) MATE_le_INF fuel p hGp (by omega))
    (by decide) htt h).2.2.2 r hr).1

theorem C14_negamax_inside_mate_bounds (lim : Limit) (G : Nat → Position → Prop) (hG : SearchDom G)
    (fuel : Nat) (p : Position) (st : SState) (α β ply depth : Int) (cn : Bool) (v : Int) (st' : SState)
    (hGp : G fuel p) (htt : TTSane st.tt) (hply : 1 ≤ ply) (hbound : ply + fuel ≤ 2 * Gen.MATE_SCORE)
    (h : negamax lim fuel p st α β ply depth cn = some (v, st')) :
    (-Gen.MATE_SCORE < v ∧ v < Gen.MATE_SCORE) ∧ TTSane st'.tt :=
  negamax_range lim G hG.toC Gen.MATE_SCORE (Int.le_refl _) MATE_le_INF fuel p st α β ply depth cn v st' hGp htt hply
    (by omega) h

/-- the table handed back is sane again (so the hypothesis holds for the next search). -/
theorem C14_root_preserves_TTSane (lim : Limit) (G : Nat → Position → Prop) (hG : SearchDom G)
    (fuel : Nat) (p : Position) (hist : List BB) (tt : Table TTEntry) (res : RootResult)
    (hGp : G fuel p) (htt : TTSane tt) (hf : (fuel : Int) ≤ 2 * Gen.MATE_SCORE)
    (h : root lim fuel p hist tt = some res) : TTSane res.tt :=
  (root_ok (negamax_root lim G hG.toC Gen.MATE_SCORE (Int.le_refl _) MATE_le_INF fuel p hGp (by omega)) (by decide) htt h).1

namespace C14Ex
open C13Ex C03Ex

theorem tt3_sane : TTSane tt3 := TTIn.replicate (by decide) 3

/-- depth limit 1: hypotheses of `C14_depth_iterations` and `C14_scores_inside_mate_bounds_partial` hold for
K+P v K; through the theorems: exactly iteration 1 is reported, its score is inside the mate bounds, and the
move played is the head of its principal variation. -/
example : ∃ res, root (.depth 1) 2 kpk hist2 tt3 = some res ∧ res.infos.map (·.depth) = [1] ∧
    (∀ r ∈ res.infos, -Gen.MATE_SCORE < r.score ∧ r.score < Gen.MATE_SCORE) ∧
    res.best = (res.infos.getLast?).bind (·.pv.head?) := by
  obtain ⟨res, h1, _⟩ := Option.map_eq_some_iff.1 kpk_depth1
  exact ⟨res, h1,
    C14_depth_iterations 1 (by decide) (by decide) _ sDomB_dom 2 kpk hist2 tt3 res kpk_dom2 tt3_sane.bounded
      (by decide) kpk_legal h1,
    C14_scores_inside_mate_bounds_partial _ _ sDomB_dom 2 kpk hist2 tt3 res kpk_dom2 tt3_sane (by decide) h1,
    C14_best_is_pv_head _ _ _ _ _ _ h1⟩

/-- node limit 3: iteration 1 (which spends more than 3 nodes) is reported, iteration 2 is not. -/
example : ∃ res, root (.nodes 3) 2 kpk hist2 tt3 = some res ∧ res.infos.length = 1 ∧
    (∀ r ∈ res.infos, 2 ≤ r.depth → r.nodes < 3) := by
  have h : ((root (.nodes 3) 2 kpk hist2 tt3).map fun r => r.infos.length) = some 1 := by decide +kernel
  obtain ⟨res, h1, h2⟩ := Option.map_eq_some_iff.1 h
  exact ⟨res, h1, h2, (C14_nodes_rule 3 2 kpk hist2 tt3 res h1).1⟩

/-- a monotone oracle that fires at the fourth poll; `MonoOracle` is satisfiable and the run returns. -/
example : MonoOracle (fun n => decide (n ≥ 3)) ∧
    ∃ res, root (.clock fun n => decide (n ≥ 3)) 8 kpk hist2 tt3 = some res ∧
      res.best = (res.infos.getLast?).bind (·.pv.head?) := by
  refine ⟨fun i j hij hi => by simp only [decide_eq_true_eq] at *; omega, ?_⟩
  obtain ⟨res, h1, _⟩ := Option.map_eq_some_iff.1 kpk_clock3
  exact ⟨res, h1, C14_best_is_pv_head _ _ _ _ _ _ h1⟩

/-- an expired clock: at most one record. -/
example : ∃ res, root (.clock fun _ => true) 2 kpk hist2 tt3 = some res ∧ res.infos.length ≤ 1 := by
  obtain ⟨res, h1⟩ := Option.isSome_iff_exists.1 kpk_expired
  exact ⟨res, h1, C14_expired_clock _ (fun _ _ _ _ => rfl) rfl 2 kpk hist2 tt3 res h1⟩

end C14Ex

end Rawr

#print axioms Rawr.C14_depths_consecutive
#print axioms Rawr.C14_depth_general
#print axioms Rawr.C14_depth_iterations
#print axioms Rawr.C14_depth_cap
#print axioms Rawr.C14_depth_zero
#print axioms Rawr.C14_best_is_pv_head
#print axioms Rawr.C14_no_info_no_move
#print axioms Rawr.C14_pv_length
#print axioms Rawr.C14_nodes_rule
#print axioms Rawr.C14_depth_nothing_deeper
#print axioms Rawr.C14_no_report_after_stop
#print axioms Rawr.C14_report_requires_all_polls_false
#print axioms Rawr.C14_expired_clock
#print axioms Rawr.C14_scores_inside_mate_bounds_partial
#print axioms Rawr.C14_negamax_inside_mate_bounds
#print axioms Rawr.C14_root_preserves_TTSane
