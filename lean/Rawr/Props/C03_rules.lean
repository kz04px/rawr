import Rawr.Props.C03
import Rawr.Props.C01
import Rawr.Props.C02
import Rawr.Props.C02_domain
import Rawr.Props.C08
import Rawr.Proofs.BridgePerft
import Rawr.Props.C08d
/-! # C03 in terms of the rules of chess

"A search always answers with a legal move when one exists" — *legal by the rules* (`Spec.legalMoves`), and
with the evaluation hypotheses of `C03_root_returns_legal` discharged on the domain `V ∧ E`:

* `C03_root_returns_legal_rules`: the conclusion of `C03_root_returns_legal` restated with
  `Spec.legalMoves (abs p)` through C01 (same hypotheses plus `ValidPos p`, `EpConsistent (abs p)`).
* `searchDomC_VE`: the family `VE n q` = "`q ∈ V ∧ E` with room for `n + 64` more plies in the counters" is a
  search domain (`SearchDomC`, `Proofs/RootLemmasRange.lean`): closed under generated moves (C02 + E-closure),
  under the null move **when not in check** (C02; `in_check` of the engine is check by the rules,
  `C08d_inCheck_valid`), evaluation within `±EB` by C17 (`Consistent`), quiescence within `±EB` because the
  positions quiescence visits (made with `makemove::<false>`, stale key) satisfy `Term.ValidH ∧ E`.
* `C03_rules`: for every `p ∈ V ∧ E`, every limit, history and bounded table, and `fuel ≤ 11 000 000`
  (counters with room for `fuel + 64` plies): a returned result carries a move that is legal by the rules
  iff there is one, and `Err("No bestmove")` otherwise; the table handed back is bounded again.
* `C03_full_partial`: `C03_full` of `Props/C03.lean` with the two hypotheses on `fuel`.
* `VE_le`, `startpos_VE`: `VE` is monotone in `n` and holds of the start position; the agreement proofs
  (`Proofs/Rust*Agree_*Rules.lean`) and the `_rules` properties instantiate their domains with `VE`.

The two hypotheses on `fuel` are the bound `fuel ≤ INF + MATE_SCORE` of `C03_root_returns_legal` and the
counter room (`halfmoves`/`fullmoves` are `i32` in the engine; V bounds them by `2^31`, a search `fuel` plies
deep adds up to `fuel + 64`). `C03_rules_total` (`Props/C15_termination.lean`) removes both, and "if it
returns": under `MovesFit`, for counters below 2 140 000 000, the driver returns on fuel
`rootFuelP p ≤ 6 750 054` with the same answer on every larger fuel. -/
namespace Rawr
open MM SV Br

/-- what C03 concludes about the generator's list, said of the rules' list (C01). -/
theorem best_by_rules {p : Position} (hV : ValidPos p = true) (hE : Spec.EpConsistent (abs p) = true)
    {best : Option Mv}
    (h : (legalMoves p ≠ [] → ∃ m ∈ legalMoves p, best = some m) ∧ (legalMoves p = [] → best = none)) :
    (Spec.legalMoves (abs p) ≠ [] →
      ∃ m, best = some m ∧ decodeMove p m ∈ Spec.legalMoves (abs p) ∧ encodeMove p (decodeMove p m) = m) ∧
    (Spec.legalMoves (abs p) = [] → best = none) := by
  refine ⟨fun hne => ?_, fun hnil => h.2 ((C01_no_moves p hV hE).mpr hnil)⟩
  obtain ⟨m, hm, e⟩ := h.1 fun hnil => hne ((C01_no_moves p hV hE).mp hnil)
  exact ⟨m, e, C01_sound p hV hE m hm⟩

theorem C03_root_returns_legal_rules (lim : Limit) (G : Nat → Position → Prop) (hG : SearchDom G)
    (fuel : Nat) (p : Position) (hist : List BB) (tt : Table TTEntry) (res : RootResult)
    (hV : ValidPos p = true) (hE : Spec.EpConsistent (abs p) = true)
    (hGp : G fuel p) (htt : TTBounded tt) (hf : (fuel : Int) ≤ Gen.INF + Gen.MATE_SCORE)
    (h : root lim fuel p hist tt = some res) :
    (Spec.legalMoves (abs p) ≠ [] →
      ∃ m, res.best = some m ∧ decodeMove p m ∈ Spec.legalMoves (abs p) ∧ encodeMove p (decodeMove p m) = m) ∧
    (Spec.legalMoves (abs p) = [] → res.best = none) :=
  best_by_rules hV hE (C03_root_returns_legal lim G hG fuel p hist tt res hGp htt hf h)

/-- the positions quiescence visits: valid up to the stored key, E, room for `n` plies in the counters. -/
def QVE (n : Nat) (q : Position) : Prop :=
  Term.ValidH q ∧ Spec.EpConsistent (abs q) = true ∧
  q.halfmoves + n < 2147483648 ∧ q.fullmoves + n < 2147483648

theorem qdom_QVE : QDom QVE := by
  constructor
  · intro n q ⟨hV, _⟩
    exact eval_VIn_of_consistent q (validPos_parts hV).consistent
  · intro n q m q' ⟨hV, hE, hh, hf⟩ hm hmk
    obtain ⟨_, q2, hq2, hV2, _, hE2, b1, b2⟩ :=
      step_nohash hV hE (legalCaptures_sub q m hm) (by omega) (by omega)
    rw [hmk] at hq2
    cases hq2
    exact ⟨hV2, hE2, by omega, by omega⟩

/-- the positions the main search visits: `V ∧ E`, room for `n + 64` plies in the counters. -/
def VE (n : Nat) (q : Position) : Prop :=
  ValidPos q = true ∧ Spec.EpConsistent (abs q) = true ∧
  q.halfmoves + n + 64 < 2147483648 ∧ q.fullmoves + n + 64 < 2147483648

theorem VE_le {n m : Nat} {p : Position} (h : VE n p) (hm : m ≤ n) : VE m p := by
  obtain ⟨hV, hE, hh, hf⟩ := h
  exact ⟨hV, hE, by omega, by omega⟩

/-- 1000 is the fuel `doGo` (`Model/Uci.lean`) hands to `root`. -/
theorem startpos_VE : VE 1000 Gen.startpos := by
  have h := startpos_inD
  simp only [InD, Bool.and_eq_true] at h
  exact ⟨h.1.1, h.1.2, by decide, by decide⟩

theorem VE.qve {n : Nat} {q : Position} (h : VE n q) : QVE qFuel q := by
  obtain ⟨hV, hE, hh, hf⟩ := h
  have : qFuel = 64 := rfl
  exact ⟨Term.validH_of_valid hV, hE, by omega, by omega⟩

/-- **`V ∧ E` is a search domain**: the hypotheses `SearchDom G`, `G fuel p` of C03 (null-move clause as the
search uses it) hold for `G = VE`. -/
theorem searchDomC_VE : SearchDomC VE := by
  constructor
  · intro n q m q' ⟨hV, hE, hh, hf⟩ hm hmk
    have hs := gen_moveShape q hV m hm
    have hL := (C01_sound q hV hE m hm).1
    obtain ⟨_, b1, _, b2⟩ := C02_counters q m q' true hV hs hL hmk
    exact ⟨C02_valid_preserved q m q' hV hs hL hmk (by omega) (by omega), E_preserved q hV m hm hE q' hmk,
      by omega, by omega⟩
  · intro n q ⟨hV, _, hh, hf⟩ hnc
    rw [C08d_inCheck_valid q hV] at hnc
    obtain ⟨hVq, b1, b2⟩ := validPos_null hV hnc
    have h0 : 0 ≤ q.halfmoves := ((valid_iff _).mp (validPos_parts hV).spec).half
    refine ⟨hVq, ?_, by rw [b1]; omega, by rw [b2]; omega⟩
    rw [abs_makenull hV]
    rfl
  · intro n q h
    exact ⟨eval_VIn_of_consistent q (validPos_parts h.1).consistent, fun st a b ply v st' hr =>
      qsearch_range QVE qdom_QVE qFuel q st a b ply v st' h.qve hr⟩

/-- **C03 against the rules of chess**, hypotheses on evaluation and quiescence discharged. -/
theorem C03_rules (lim : Limit) (fuel : Nat) (p : Position) (hist : List BB) (tt : Table TTEntry)
    (res : RootResult) (hV : ValidPos p = true) (hE : Spec.EpConsistent (abs p) = true)
    (htt : TTBounded tt) (hf : (fuel : Int) ≤ Gen.INF + Gen.MATE_SCORE)
    (hh : p.halfmoves + fuel + 64 < 2147483648) (hfm : p.fullmoves + fuel + 64 < 2147483648)
    (h : root lim fuel p hist tt = some res) :
    (Spec.legalMoves (abs p) ≠ [] →
      ∃ m, res.best = some m ∧ decodeMove p m ∈ Spec.legalMoves (abs p) ∧ encodeMove p (decodeMove p m) = m) ∧
    (Spec.legalMoves (abs p) = [] → res.best = none) ∧
    TTBounded res.tt := by
  have hGp : VE fuel p := ⟨hV, hE, hh, hfm⟩
  have hok := root_ok (negamax_root lim VE searchDomC_VE Gen.INF MATE_le_INF (Int.le_refl _) fuel p hGp hf) (by decide) htt h
  have hb := best_by_rules hV hE ⟨hok.2.1, hok.2.2.1⟩
  exact ⟨hb.1, hb.2, hok.1⟩

/-- `C03_full` (`Props/C03.lean`) with the recursion-depth bound and the counter room. -/
theorem C03_full_partial (lim : Limit) (fuel : Nat) (p : Position) (hist : List BB) (tt : Table TTEntry)
    (res : RootResult) (hD : InD p = true) (htt : TTBounded tt)
    (hf : (fuel : Int) ≤ Gen.INF + Gen.MATE_SCORE)
    (hh : p.halfmoves + fuel + 64 < 2147483648) (hfm : p.fullmoves + fuel + 64 < 2147483648)
    (h : root lim fuel p hist tt = some res) :
    (Spec.legalMoves (abs p) ≠ [] →
      ∃ m ∈ Spec.legalMoves (abs p), res.best = some (encodeMove p m)) ∧
    (Spec.legalMoves (abs p) = [] → res.best = none) := by
  obtain ⟨hV, hE, _⟩ := (inD_iff p).mp hD
  obtain ⟨h1, h2, _⟩ := C03_rules lim fuel p hist tt res hV hE htt hf hh hfm h
  refine ⟨fun hne => ?_, h2⟩
  obtain ⟨m, e, hL, henc⟩ := h1 hne
  exact ⟨decodeMove p m, hL, by rw [henc]; exact e⟩

/-- the fuel the engine can possibly use is far below the bound: a counter below 2 136 000 000 has room for
every `fuel ≤ 11 000 000` (stated for `halfmoves`; `fullmoves` is the same arithmetic). -/
theorem C03_rules_room (p : Position) (fuel : Nat) (hf : (fuel : Int) ≤ Gen.INF + Gen.MATE_SCORE)
    (hh : p.halfmoves < 2136000000) : p.halfmoves + fuel + 64 < 2147483648 := by
  have : Gen.INF + Gen.MATE_SCORE = 11000000 := by decide
  omega

namespace C03RulesEx
open C13Ex

/-- K+P v K of C13 with the key recomputed. -/
def kpkV : Position := fixHash kpk

theorem kpkV_valid : ValidPos kpkV = true := by decide +kernel
theorem kpkV_E : Spec.EpConsistent (abs kpkV) = true := by decide +kernel

/-- K+P v K, a clock already expired at the first poll, non-empty history: the driver returns. -/
theorem kpkV_expired : (root (.clock fun _ => true) 2 kpkV hist2 tt3).isSome = true := by decide +kernel

/-- the hypotheses of `C03_rules` hold there; through the theorem: the move handed back is legal by the rules of
chess. -/
example : ∃ res m, root (.clock fun _ => true) 2 kpkV hist2 tt3 = some res ∧ res.best = some m ∧
    decodeMove kpkV m ∈ Spec.legalMoves (abs kpkV) := by
  obtain ⟨res, h1⟩ := Option.isSome_iff_exists.1 kpkV_expired
  obtain ⟨m, e, hL, _⟩ := (C03_rules _ 2 kpkV hist2 tt3 res kpkV_valid kpkV_E (TTIn.replicate (by decide) 3)
    (by decide) (by decide +kernel) (by decide +kernel) h1).1 (by decide +kernel)
  exact ⟨res, m, h1, e, hL⟩

/-- `VE` holds of the start position for the largest fuel allowed. -/
example : VE 11000000 Gen.startpos := ⟨startpos_valid, startpos_E, by decide +kernel, by decide +kernel⟩

end C03RulesEx

#print axioms C03_root_returns_legal_rules
#print axioms searchDomC_VE
#print axioms C03_rules
#print axioms C03_full_partial

end Rawr
