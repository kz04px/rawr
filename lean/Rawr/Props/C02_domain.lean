import Rawr.Props.C01
import Rawr.Props.C02
import Rawr.Proofs.BridgeE
import Rawr.Proofs.BridgeM
/-! # Domain closure: the reachable positions stay in D  ("R ⊆ D" of DESIGN.md §4.1)

`D = V ∧ E ∧ M` (`InD`, `Rawr/Abs.lean`): V = `ValidPos` (board consistency, one king each, no pawns on the
back ranks, the side that just moved is not in check, castling rights backed, en-passant square plausible,
counters in range, stored key correct), E = `Spec.EpConsistent` (the en-passant square is consistent with a
double push having just been played), M = `Spec.LegalMaterial` (material reachable from a start position by
captures and promotions).

* `E_preserved`: after a generated move the successor satisfies E — and this needs only the parent's V
  (`E_of_legal`): an en-passant square appears only after a double push, the pawn's origin square is empty
  and putting the pawn back gives the parent's board, on which the side now to move was the side not to
  move, hence not in check (V.4). The parent's E is used only to know that the generated move is legal by
  the rules (C01).
* `M_preserved`: a capture removes a man, a promotion trades a pawn for a piece; `excess ≤ 8 − pawns` is kept.
* `D_closed`, `D_null`, `D_path`: one generated move, one null move, any sequence of them.
* the standard start position is in D (`startpos_inD` of `Proofs/TestPositions.lean`, kernel evaluation); every Chess960 start position is
  (`Br.start960_inD` in `Proofs/BridgeStartAll.lean`: the case of equal back ranks of `Br.start_inD`, which holds
  for any two back ranks passing `Br.RankOk`, with the one evaluation `Br.rankOk_960` over the 960 ranks). -/
namespace Rawr
open Position Spec ZH MM SV

/-- E of the successor from V of the parent, for a move that is legal by the rules (either `UPDATE_HASH`). -/
theorem E_of_legal (p : Position) (m : Mv) (q : Position) (u : Bool) (hV : ValidPos p = true)
    (hs : MoveShape p m = true) (hL : decodeMove p m ∈ Spec.legalMoves (abs p))
    (h : p.makemove m u = some q) : Spec.EpConsistent (abs q) = true := by
  rw [C02_makemove_eq p m q u hV hs hL h]
  exact Br.epConsistent_apply (validPos_parts hV).spec hL

theorem M_of_legal (p : Position) (m : Mv) (q : Position) (u : Bool) (hV : ValidPos p = true)
    (hM : Spec.LegalMaterial (abs p) = true)
    (hs : MoveShape p m = true) (hL : decodeMove p m ∈ Spec.legalMoves (abs p))
    (h : p.makemove m u = some q) : Spec.LegalMaterial (abs q) = true := by
  rw [C02_makemove_eq p m q u hV hs hL h]
  exact Br.legalMaterial_apply (validPos_parts hV).spec hM hL

/-- **E is preserved**: after a generated move the en-passant state is consistent. -/
theorem E_preserved (p : Position) (hV : ValidPos p = true) (m : Mv) (hm : m ∈ legalMoves p)
    (hE : Spec.EpConsistent (abs p) = true) (q : Position) (h : p.makemove m true = some q) :
    Spec.EpConsistent (abs q) = true :=
  E_of_legal p m q true hV (gen_moveShape p hV m hm) (C01_sound p hV hE m hm).1 h

/-- **M is preserved** by generated moves. -/
theorem M_preserved (p : Position) (hV : ValidPos p = true) (m : Mv) (hm : m ∈ legalMoves p)
    (hE : Spec.EpConsistent (abs p) = true) (hM : Spec.LegalMaterial (abs p) = true)
    (q : Position) (h : p.makemove m true = some q) : Spec.LegalMaterial (abs q) = true :=
  M_of_legal p m q true hV hM (gen_moveShape p hV m hm) (C01_sound p hV hE m hm).1 h

theorem inD_iff (p : Position) :
    InD p = true ↔ ValidPos p = true ∧ Spec.EpConsistent (abs p) = true ∧ Spec.LegalMaterial (abs p) = true := by
  unfold InD
  simp only [Bool.and_eq_true, and_assoc]

/-- **D is closed under generated moves** (counters within `i32`). -/
theorem D_closed (p : Position) (m : Mv) (q : Position) (hD : InD p = true) (hm : m ∈ legalMoves p)
    (h : p.makemove m true = some q)
    (hh : p.halfmoves + 1 < 2147483648) (hf : p.fullmoves + 1 < 2147483648) : InD q = true := by
  obtain ⟨hV, hE, hM⟩ := (inD_iff p).mp hD
  have hs := gen_moveShape p hV m hm
  have hL := (C01_sound p hV hE m hm).1
  exact (inD_iff q).mpr ⟨C02_valid_preserved p m q hV hs hL h hh hf, E_of_legal p m q true hV hs hL h,
    M_of_legal p m q true hV hM hs hL h⟩

/-- … and under a null move played when not in check. -/
theorem D_null (p : Position) (hD : InD p = true)
    (hc : inCheck (abs p).board (abs p).whiteToMove = false) : InD p.makenull = true := by
  obtain ⟨hV, _, hM⟩ := (inD_iff p).mp hD
  obtain ⟨hVq, ha⟩ := C02_null_valid p hV hc
  refine (inD_iff _).mpr ⟨hVq, ?_, ?_⟩
  · rw [ha]; rfl
  · rw [ha]; exact hM

/-- `GenPath n p r`: `n` plies lead the engine from `p` to `r`; a ply is a generated move made with key
update, or a null move when the side to move is not in check. -/
inductive GenPath : Nat → Position → Position → Prop
  | nil (p : Position) : GenPath 0 p p
  | move {n : Nat} {p q r : Position} (m : Mv) :
      m ∈ legalMoves p → p.makemove m true = some q → GenPath n q r → GenPath (n + 1) p r
  | null {n : Nat} {p r : Position} :
      inCheck (abs p).board (abs p).whiteToMove = false → GenPath n p.makenull r → GenPath (n + 1) p r

theorem genPath_both {n : Nat} {p r : Position} (path : GenPath n p r) (hD : InD p = true)
    (hh : p.halfmoves + n < 2147483648) (hf : p.fullmoves + n < 2147483648) :
    InD r = true ∧ C02Path n p (abs p) r (abs r) := by
  induction path with
  | nil p => exact ⟨hD, .nil p _⟩
  | @move n p q r m hm hq _ ih =>
    obtain ⟨hV, hE, _⟩ := (inD_iff p).mp hD
    have hs := gen_moveShape p hV m hm
    have hL := (C01_sound p hV hE m hm).1
    obtain ⟨_, b1, _, b2⟩ := C02_counters p m q true hV hs hL hq
    obtain ⟨hr, hp⟩ := ih (D_closed p m q hD hm hq (by omega) (by omega)) (by omega) (by omega)
    rw [C02_makemove_eq p m q true hV hs hL hq] at hp
    exact ⟨hr, .move m hs hL hq hp⟩
  | @null n p r hc _ ih =>
    obtain ⟨hV, _, _⟩ := (inD_iff p).mp hD
    obtain ⟨_, b1, b2⟩ := validPos_null hV hc
    have h0 : 0 ≤ p.halfmoves := ((valid_iff _).mp (validPos_parts hV).spec).half
    obtain ⟨hr, hp⟩ := ih (D_null p hD hc) (by rw [b1]; omega) (by rw [b2]; omega)
    rw [(C02_null_valid p hV hc).2] at hp
    exact ⟨hr, .null hc hp⟩

/-- **R ⊆ D**: every position reached from a position of D by generated moves and null moves is in D, as
long as the counters stay within `i32`. -/
theorem D_path {n : Nat} {p r : Position} (path : GenPath n p r) (hD : InD p = true)
    (hh : p.halfmoves + n < 2147483648) (hf : p.fullmoves + n < 2147483648) : InD r = true :=
  (genPath_both path hD hh hf).1

/-- a `GenPath` from a position of D is a `C02Path`: along it the engine's position denotes the position
the rules prescribe (`C02_sequence`), move by move legal by the rules. -/
theorem genPath_C02Path {n : Nat} {p r : Position} (path : GenPath n p r) (hD : InD p = true)
    (hh : p.halfmoves + n < 2147483648) (hf : p.fullmoves + n < 2147483648) :
    C02Path n p (abs p) r (abs r) :=
  (genPath_both path hD hh hf).2

/-- every position two plies (generated moves or null moves) from the start position is in D. -/
example : ∀ r, GenPath 2 Gen.startpos r → InD r = true :=
  fun _ path => D_path path startpos_inD (by decide +kernel) (by decide +kernel)

def domQ1 : Position := (Gen.startpos.makemove ⟨12, 28, 6⟩ true).getD default
def domQ2 : Position := domQ1.makenull
theorem e4_gen : (⟨12, 28, 6⟩ : Mv) ∈ legalMoves Gen.startpos := startpos_e4_gen
theorem domPath : GenPath 2 Gen.startpos domQ2 :=
  .move ⟨12, 28, 6⟩ e4_gen e4_made (.null (by decide +kernel) (.nil _))
example : InD domQ2 = true := D_path domPath startpos_inD (by decide +kernel) (by decide +kernel)
/-- E of the successor is not vacuous: after 1. e4 there *is* an en-passant square. -/
example : (abs domQ1).ep = some 20 ∧ Spec.EpConsistent (abs domQ1) = true :=
  ⟨by decide +kernel, E_preserved Gen.startpos (c02Example_hyps startpos_e4).1 ⟨12, 28, 6⟩ e4_gen
    ((inD_iff _).mp startpos_inD).2.1 domQ1 e4_made⟩
/-- M through a promotion: b7xa8=Q in `exPromo` of C02. -/
example : Spec.LegalMaterial (abs exPromo) = true ∧ (⟨49, 56, 4⟩ : Mv) ∈ legalMoves exPromo := by decide +kernel

#print axioms E_of_legal
#print axioms E_preserved
#print axioms M_preserved
#print axioms D_closed
#print axioms D_null
#print axioms D_path
#print axioms genPath_C02Path
#print axioms startpos_inD

end Rawr
