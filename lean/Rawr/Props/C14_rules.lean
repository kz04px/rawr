import Rawr.Props.C03_rules
import Rawr.Props.C14
import Rawr.Props.C02_domain
/-! # C14 in terms of the rules of chess

The conditional statements of `Props/C14.lean` (`SearchDom G`, `G fuel p`) for the search domain
`G := VE` of `Props/C03_rules.lean` ("`q ∈ V ∧ E`, counters with room for `n + 64` more plies"), so that the only
hypotheses on the root are `ValidPos p`, `Spec.EpConsistent (abs p)` and the counter room
`halfmoves/fullmoves + fuel + 64 < 2^31`; "the root has a legal move" is stated by the rules
(`Spec.legalMoves (abs p) ≠ []`, through C01).

`VE` is a `SearchDomC` (null-move clause only for positions not in check — the unconditional clause of `SearchDom`
is false for `V`, see `Proofs/RootLemmasRange.lean`), so the theorems of `C14.lean` cannot be applied as they stand:
the underlying lemmas, which are stated for `SearchDomC`, are used instead: `negamax_range`, `root_ok` over
`negamax_root` (`Proofs/RootLemmasIter.lean`), and `depth_general_of_searchDomC`. The theorems of `C14.lean` that have no
hypothesis on the position (listed in its head) hold here as they are.

What cannot be removed: the bound on the recursion depth (`fuel ≤ 2·MATE_SCORE` for the scores,
`fuel ≤ INF + MATE_SCORE` for the depth counts — see `C14_scores_inside_mate_bounds_full`), the counter room,
and `TTSane` / `TTBounded` of the table handed in (a stored score is returned as it is). -/
namespace Rawr

/-- **C14 by the rules, scores**: every reported score lies strictly inside the mate bounds. -/
theorem C14_scores_inside_mate_bounds_rules (lim : Limit) (fuel : Nat) (p : Position) (hist : List BB)
    (tt : Table TTEntry) (res : RootResult)
    (hV : ValidPos p = true) (hE : Spec.EpConsistent (abs p) = true)
    (hh : p.halfmoves + fuel + 64 < 2147483648) (hfm : p.fullmoves + fuel + 64 < 2147483648)
    (htt : TTSane tt) (hf : (fuel : Int) ≤ 2 * Gen.MATE_SCORE)
    (h : root lim fuel p hist tt = some res) :
    ∀ r ∈ res.infos, -Gen.MATE_SCORE < r.score ∧ r.score < Gen.MATE_SCORE :=
  fun r hr => ((root_ok (negamax_root lim VE searchDomC_VE Gen.MATE_SCORE (Int.le_refl _) MATE_le_INF fuel p
    ⟨hV, hE, hh, hfm⟩ (by omega)) (by decide) htt h).2.2.2 r hr).1

theorem C14_negamax_inside_mate_bounds_rules (lim : Limit) (fuel : Nat) (p : Position) (st : SState)
    (α β ply depth : Int) (cn : Bool) (v : Int) (st' : SState)
    (hV : ValidPos p = true) (hE : Spec.EpConsistent (abs p) = true)
    (hh : p.halfmoves + fuel + 64 < 2147483648) (hfm : p.fullmoves + fuel + 64 < 2147483648)
    (htt : TTSane st.tt) (hply : 1 ≤ ply) (hbound : ply + fuel ≤ 2 * Gen.MATE_SCORE)
    (h : negamax lim fuel p st α β ply depth cn = some (v, st')) :
    (-Gen.MATE_SCORE < v ∧ v < Gen.MATE_SCORE) ∧ TTSane st'.tt :=
  negamax_range lim VE searchDomC_VE Gen.MATE_SCORE (Int.le_refl _) MATE_le_INF fuel p st α β ply depth cn v st'
    ⟨hV, hE, hh, hfm⟩ htt hply (by omega) h

theorem C14_root_preserves_TTSane_rules (lim : Limit) (fuel : Nat) (p : Position) (hist : List BB)
    (tt : Table TTEntry) (res : RootResult)
    (hV : ValidPos p = true) (hE : Spec.EpConsistent (abs p) = true)
    (hh : p.halfmoves + fuel + 64 < 2147483648) (hfm : p.fullmoves + fuel + 64 < 2147483648)
    (htt : TTSane tt) (hf : (fuel : Int) ≤ 2 * Gen.MATE_SCORE)
    (h : root lim fuel p hist tt = some res) : TTSane res.tt :=
  (root_ok (negamax_root lim VE searchDomC_VE Gen.MATE_SCORE (Int.le_refl _) MATE_le_INF fuel p ⟨hV, hE, hh, hfm⟩
    (by omega)) (by decide) htt h).1

/-- **C14 by the rules, depth limits**: for every depth limit `D` exactly `max 1 (min D 127)` iterations are reported, on every
root of `V ∧ E` that has a legal move by the rules. -/
theorem C14_depth_general_rules (D : Int) (fuel : Nat) (p : Position) (hist : List BB) (tt : Table TTEntry)
    (res : RootResult) (hV : ValidPos p = true) (hE : Spec.EpConsistent (abs p) = true)
    (hh : p.halfmoves + fuel + 64 < 2147483648) (hfm : p.fullmoves + fuel + 64 < 2147483648)
    (htt : TTBounded tt) (hf : (fuel : Int) ≤ Gen.INF + Gen.MATE_SCORE)
    (hlegal : Spec.legalMoves (abs p) ≠ []) (h : root (.depth D) fuel p hist tt = some res) :
    res.infos.map (·.depth) = (List.range' 1 (depthTarget D).toNat).map Int.ofNat :=
  depth_general_of_searchDomC D VE searchDomC_VE fuel p hist tt res ⟨hV, hE, hh, hfm⟩ htt hf
    (fun hnil => hlegal ((C01_no_moves p hV hE).mp hnil)) h

/-- depth limit `1 ≤ D < MAX_DEPTH`: the iterations `1, …, D` are reported in order and nothing deeper. -/
theorem C14_depth_iterations_rules (D : Int) (hD1 : 1 ≤ D) (hD2 : D < Gen.MAX_DEPTH)
    (fuel : Nat) (p : Position) (hist : List BB) (tt : Table TTEntry)
    (res : RootResult) (hV : ValidPos p = true) (hE : Spec.EpConsistent (abs p) = true)
    (hh : p.halfmoves + fuel + 64 < 2147483648) (hfm : p.fullmoves + fuel + 64 < 2147483648)
    (htt : TTBounded tt) (hf : (fuel : Int) ≤ Gen.INF + Gen.MATE_SCORE)
    (hlegal : Spec.legalMoves (abs p) ≠ []) (h : root (.depth D) fuel p hist tt = some res) :
    res.infos.map (·.depth) = (List.range' 1 D.toNat).map Int.ofNat := by
  rw [C14_depth_general_rules D fuel p hist tt res hV hE hh hfm htt hf hlegal h, depthTarget_of_lt hD1 hD2]

/-- finding F10 on `V ∧ E`: a depth limit `D ≥ MAX_DEPTH = 128` is capped at 127 iterations. -/
theorem C14_depth_cap_rules (D : Int) (hD : Gen.MAX_DEPTH ≤ D)
    (fuel : Nat) (p : Position) (hist : List BB) (tt : Table TTEntry)
    (res : RootResult) (hV : ValidPos p = true) (hE : Spec.EpConsistent (abs p) = true)
    (hh : p.halfmoves + fuel + 64 < 2147483648) (hfm : p.fullmoves + fuel + 64 < 2147483648)
    (htt : TTBounded tt) (hf : (fuel : Int) ≤ Gen.INF + Gen.MATE_SCORE)
    (hlegal : Spec.legalMoves (abs p) ≠ []) (h : root (.depth D) fuel p hist tt = some res) :
    res.infos.map (·.depth) = (List.range' 1 127).map Int.ofNat := by
  rw [C14_depth_general_rules D fuel p hist tt res hV hE hh hfm htt hf hlegal h, depthTarget_of_ge hD]
  rfl

/-- `go depth 0` (and below) on `V ∧ E`: the first iteration is reported all the same. -/
theorem C14_depth_zero_rules (D : Int) (hD : D ≤ 1)
    (fuel : Nat) (p : Position) (hist : List BB) (tt : Table TTEntry)
    (res : RootResult) (hV : ValidPos p = true) (hE : Spec.EpConsistent (abs p) = true)
    (hh : p.halfmoves + fuel + 64 < 2147483648) (hfm : p.fullmoves + fuel + 64 < 2147483648)
    (htt : TTBounded tt) (hf : (fuel : Int) ≤ Gen.INF + Gen.MATE_SCORE)
    (hlegal : Spec.legalMoves (abs p) ≠ []) (h : root (.depth D) fuel p hist tt = some res) :
    res.infos.map (·.depth) = [1] := by
  rw [C14_depth_general_rules D fuel p hist tt res hV hE hh hfm htt hf hlegal h, depthTarget_of_le_one hD]
  rfl

/-- `C14_scores_inside_mate_bounds_rules` and `C14_root_preserves_TTSane_rules` for a root of the domain
`D = V ∧ E ∧ M` (of which only `V ∧ E` is used) and an all-default table of any size. -/
theorem C14_rules_InD (lim : Limit) (fuel : Nat) (p : Position) (hist : List BB) (n : Nat) (res : RootResult)
    (hD : InD p = true)
    (hh : p.halfmoves + fuel + 64 < 2147483648) (hfm : p.fullmoves + fuel + 64 < 2147483648)
    (hf : (fuel : Int) ≤ 2 * Gen.MATE_SCORE)
    (h : root lim fuel p hist ⟨Array.replicate n default⟩ = some res) :
    (∀ r ∈ res.infos, -Gen.MATE_SCORE < r.score ∧ r.score < Gen.MATE_SCORE) ∧ TTSane res.tt := by
  obtain ⟨hV, hE, _⟩ := (inD_iff p).mp hD
  have htt : TTSane ⟨Array.replicate n default⟩ := TTIn.replicate (by decide) n
  exact ⟨C14_scores_inside_mate_bounds_rules lim fuel p hist _ res hV hE hh hfm htt hf h,
    C14_root_preserves_TTSane_rules lim fuel p hist _ res hV hE hh hfm htt hf h⟩

namespace C14RulesEx
open C13Ex C03RulesEx

/-- K+P v K (key recomputed, `kpkV` of `C03_rules.lean`), depth limit 1, non-empty history, three-slot table: the
driver returns. -/
theorem kpkV_depth1 : (root (.depth 1) 2 kpkV hist2 tt3).isSome = true := by decide +kernel

/-- the hypotheses hold there; exactly iteration 1 is reported, its score is inside the mate bounds, the table is
sane. -/
example : ∃ res, root (.depth 1) 2 kpkV hist2 tt3 = some res ∧ res.infos.map (·.depth) = [1] ∧
    (∀ r ∈ res.infos, -Gen.MATE_SCORE < r.score ∧ r.score < Gen.MATE_SCORE) ∧ TTSane res.tt := by
  obtain ⟨res, h1⟩ := Option.isSome_iff_exists.1 kpkV_depth1
  have htt := C14Ex.tt3_sane
  exact ⟨res, h1,
    C14_depth_iterations_rules 1 (by decide) (by decide) 2 kpkV hist2 tt3 res kpkV_valid kpkV_E
      (by decide +kernel) (by decide +kernel) htt.bounded (by decide) (by decide +kernel) h1,
    C14_scores_inside_mate_bounds_rules _ 2 kpkV hist2 tt3 res kpkV_valid kpkV_E (by decide +kernel)
      (by decide +kernel) htt (by decide) h1,
    C14_root_preserves_TTSane_rules _ 2 kpkV hist2 tt3 res kpkV_valid kpkV_E (by decide +kernel)
      (by decide +kernel) htt (by decide) h1⟩

/-- the hypotheses on the root hold for the start position with the largest fuel allowed. -/
example : ValidPos Gen.startpos = true ∧ Spec.EpConsistent (abs Gen.startpos) = true ∧
    Gen.startpos.halfmoves + 2000000 + 64 < 2147483648 ∧ Gen.startpos.fullmoves + 2000000 + 64 < 2147483648 ∧
    Spec.legalMoves (abs Gen.startpos) ≠ [] :=
  ⟨startpos_valid, startpos_E, by decide, by decide, by decide +kernel⟩

end C14RulesEx

end Rawr

#print axioms Rawr.C14_scores_inside_mate_bounds_rules
#print axioms Rawr.C14_negamax_inside_mate_bounds_rules
#print axioms Rawr.C14_root_preserves_TTSane_rules
#print axioms Rawr.C14_depth_general_rules
#print axioms Rawr.C14_depth_iterations_rules
#print axioms Rawr.C14_depth_cap_rules
#print axioms Rawr.C14_depth_zero_rules
#print axioms Rawr.C14_rules_InD
