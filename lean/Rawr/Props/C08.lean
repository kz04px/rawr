import Rawr.Proofs.GenBlocks
import Rawr.Generated.StartPos
/-! # C08 : the bulk counter and the capture generator agree with the move generator

(a) `countMoves p = (moveGenerator p).length` for every `Position` (no validity hypothesis).
(b) `legalCaptures p = (legalMoves p).filter p.isCapture` (as lists) whenever the own pawns share no
    square with an own non-pawn piece; without such a hypothesis the statement is false
    (`C08b_unconditional_false`). -/
namespace Rawr

/-- C08(a): `count_moves` returns the number of callback invocations of `move_generator`,
for every position value whatsoever. -/
theorem C08a_count_eq_length (p : Position) : countMoves p = (moveGenerator p).length := by
  unfold countMoves moveGenerator
  simp only [List.length_append, length_flatMap_pawnArrive]
  -- the source mask of each pawn block splits into promoting and other sources (`mask_out2`, `mask_out3`); a
  -- promoting target counts four times
  simp only [List.length_map, List.length_flatMap,
    mask_out2 north_promo, mask_out2 north_non,
    mask_out3 northEast_promo,
    mask_out3 northEast_non,
    mask_out3 northWest_promo, mask_out3 northWest_non, length_ite_singleton,
    foldl_add_eq_sum, Nat.zero_add, count]
  rcases hep : p.ep with _ | ep
  · simp only [List.length_nil]; omega
  · simp only [List.length_append, length_ite_singleton]; omega

theorem C08a_count_eq_legalMoves_length (p : Position) : countMoves p = (legalMoves p).length := by
  rw [C08a_count_eq_length, legalMoves, List.length_map]

/-- the callback's `piece == Pawn` tag agrees with `is_capture`'s `pawns.is_set(mv.src)` test on every
generated move, hence the two capture predicates agree. -/
theorem capture_pred_agree (p : Position) (h : OwnPawnsDisjoint p) (g : GMv) (hg : g ∈ moveGenerator p) :
    (p.c1.isSet g.mv.dst || (g.piece == 0 && p.ep.isSome && p.ep == some g.mv.dst)) = p.isCapture g.mv := by
  unfold Position.isCapture
  rw [src_tag p h g hg]

/-- C08(b), weakest convenient hypothesis: own pawns are disjoint from own non-pawn pieces. -/
theorem C08b_captures_filter_weak (p : Position) (h : OwnPawnsDisjoint p) :
    legalCaptures p = (legalMoves p).filter p.isCapture := by
  have key : (moveGenerator p).filter (fun g =>
        p.c1.isSet g.mv.dst || (g.piece == 0 && p.ep.isSome && p.ep == some g.mv.dst))
      = (moveGenerator p).filter (p.isCapture ∘ fun g => g.mv) :=
    List.filter_congr fun g hg => capture_pred_agree p h g hg
  unfold legalCaptures legalMoves
  rw [List.filter_map, key]

theorem ownPawnsDisjoint_of_pairwise (p : Position)
    (h : p.p0 &&& p.p1 = 0#64 ∧ p.p0 &&& p.p2 = 0#64 ∧ p.p0 &&& p.p3 = 0#64 ∧
         p.p0 &&& p.p4 = 0#64 ∧ p.p0 &&& p.p5 = 0#64) : OwnPawnsDisjoint p := by
  obtain ⟨h1, h2, h3, h4, h5⟩ := h
  unfold OwnPawnsDisjoint
  apply BitVec.eq_of_getLsbD_eq
  intro i _
  have e1 := congrArg (fun x => x.getLsbD i) h1
  have e2 := congrArg (fun x => x.getLsbD i) h2
  have e3 := congrArg (fun x => x.getLsbD i) h3
  have e4 := congrArg (fun x => x.getLsbD i) h4
  have e5 := congrArg (fun x => x.getLsbD i) h5
  simp only [BitVec.getLsbD_and, BitVec.getLsbD_zero] at e1 e2 e3 e4 e5
  simp only [BitVec.getLsbD_and, BitVec.getLsbD_or, BitVec.getLsbD_zero]
  cases h0 : p.p0.getLsbD i <;> simp_all

/-- C08(b): `legal_captures` is `legal_moves` filtered by `is_capture`, in the same order, provided the
pawn board is disjoint from each of the other five piece boards. -/
theorem C08b_captures_filter (p : Position)
    (h : p.p0 &&& p.p1 = 0#64 ∧ p.p0 &&& p.p2 = 0#64 ∧ p.p0 &&& p.p3 = 0#64 ∧
         p.p0 &&& p.p4 = 0#64 ∧ p.p0 &&& p.p5 = 0#64) :
    legalCaptures p = (legalMoves p).filter p.isCapture :=
  C08b_captures_filter_weak p (ownPawnsDisjoint_of_pairwise p h)

theorem C08b_captures_length_le (p : Position) : (legalCaptures p).length ≤ (legalMoves p).length := by
  unfold legalCaptures legalMoves
  simp only [List.length_map]
  exact List.length_filter_le _ _

/-- The disjointness hypothesis cannot be dropped: a knight and a pawn of the side to move on b1,
en-passant square a3.  The knight move b1a3 is tagged `Knight` by the generator (not a capture for
`legal_captures`) but `is_capture` sees a pawn on its source square. -/
def cexB : Position :=
  { Position.dflt with c0 := 0x2#64, p0 := 0x2#64, p1 := 0x2#64, ep := some 16 }

theorem C08b_unconditional_false :
    ¬ (∀ p : Position, legalCaptures p = (legalMoves p).filter p.isCapture) := by
  intro h
  have := h cexB
  revert this
  decide

/-- promotion with captures: white pawn b7, black rooks a8/c8, kings e1/e8. -/
def promoPos : Position :=
  { Position.dflt with
    c0 := 0x0002000000000010#64, c1 := 0x1500000000000000#64, p0 := 0x0002000000000000#64,
    p3 := 0x0500000000000000#64, p5 := 0x1000000000000010#64 }

/-- en passant: white pawn e5, black pawn d5, ep square d6, kings e1/e8. -/
def epPos : Position :=
  { Position.dflt with
    c0 := 0x0000001000000010#64, c1 := 0x1000000800000000#64, p0 := 0x0000001800000000#64,
    p5 := 0x1000000000000010#64, ep := some 43 }

/-- an invalid value: an own pawn on the eighth rank (b8) beside one on b7; (a) still holds. -/
def rank8Pos : Position :=
  { Position.dflt with
    c0 := 0x0202000000000010#64, c1 := 0x1400000000000000#64, p0 := 0x0202000000000000#64,
    p3 := 0x0400000000000000#64, p5 := 0x1000000000000010#64 }

example : countMoves Gen.startpos = 20 ∧ (moveGenerator Gen.startpos).length = 20 := by decide
example : countMoves promoPos = 17 ∧ (moveGenerator promoPos).length = 17 := by decide
example : countMoves epPos = 7 ∧ (moveGenerator epPos).length = 7 := by decide
example : countMoves rank8Pos = 9 ∧ (moveGenerator rank8Pos).length = 9 := by decide

/-- the hypothesis of (b) holds on the start position and on the two test positions. -/
example : Gen.startpos.p0 &&& Gen.startpos.p1 = 0#64 ∧ Gen.startpos.p0 &&& Gen.startpos.p2 = 0#64 ∧
    Gen.startpos.p0 &&& Gen.startpos.p3 = 0#64 ∧ Gen.startpos.p0 &&& Gen.startpos.p4 = 0#64 ∧
    Gen.startpos.p0 &&& Gen.startpos.p5 = 0#64 := by decide
example : promoPos.p0 &&& promoPos.p1 = 0#64 ∧ promoPos.p0 &&& promoPos.p2 = 0#64 ∧
    promoPos.p0 &&& promoPos.p3 = 0#64 ∧ promoPos.p0 &&& promoPos.p4 = 0#64 ∧
    promoPos.p0 &&& promoPos.p5 = 0#64 := by decide
example : OwnPawnsDisjoint epPos := by decide
/-- both sides of (b) are non-trivial: 8 of 17 moves are captures; the en-passant capture is found. -/
example : (legalCaptures promoPos).length = 8 ∧ ((legalMoves promoPos).filter promoPos.isCapture).length = 8 := by
  decide
example : legalCaptures epPos = [⟨36, 43, 6⟩] ∧ (legalMoves epPos).filter epPos.isCapture = [⟨36, 43, 6⟩] := by
  decide
example : legalCaptures Gen.startpos = [] ∧ (legalMoves Gen.startpos).length = 20 := by decide

#print axioms C08a_count_eq_length
#print axioms C08a_count_eq_legalMoves_length
#print axioms C08b_captures_filter_weak
#print axioms C08b_captures_filter
#print axioms C08b_captures_length_le
#print axioms C08b_unconditional_false

end Rawr
