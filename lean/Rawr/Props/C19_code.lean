import Rawr.Proofs.RustImpAgree_Eval
import Rawr.Props.C19
import Rawr.Proofs.RustSearchAgree_Rules
/-!
# C19 on the regenerated code: `R.qsearch` is an exact, sound alpha-beta over the capture tree

`Rawr.R.qsearch` is regenerated from search/qsearch.rs on every run (with its ordering function `R.qs_sort`).
`agree_qsearch_rules`: on every position with `ValidPos`, `EpConsistent` and counter room
`halfmoves/fullmoves + fuel + 64 < 2^31` it equals the model's `qsearch`, for every state, window and ply (outside that
domain the ordering code may `unwrap()` a `None`).  The C19 theorems of `Props/C19.lean` hold for the model with no
hypothesis on the position; the `_code` versions carry exactly the domain hypotheses of the agreement as EXTRA
hypotheses; conclusions unchanged.

The reference value `qminimax` (plain recursion without pruning and ordering: stand pat or any capture) is itself
re-declared over the REGENERATED capture generator, successor function and evaluation — `qminimax_code`, over
`R.legal_captures`, `R.makemove · · false`, `R.eval` — and proved equal to the model's (`qminimax_code_eq`, no
hypothesis); likewise `QTreeOk_code` ("the ordering buffer never overflows in the capture tree").
-/
namespace Rawr

def qmmFold_code (rec : Position → Option Int) (p : Position) : List Mv → Int → Option Int
  | [], acc => some acc
  | m :: ms, acc =>
    match R.makemove p m false with
    | none => none
    | some np =>
      match rec np with
      | none => none
      | some v => qmmFold_code rec p ms (max acc (-v))

/-- exact minimax value of the capture-only game tree, computed with the regenerated `legal_captures`,
`makemove::<false>` and `eval`. -/
def qminimax_code : Nat → Position → Option Int
  | 0, _ => none
  | f + 1, p => qmmFold_code (qminimax_code f) p (R.legal_captures p) (R.eval p)

theorem qmmFold_code_eq (rec : Position → Option Int) (p : Position) :
    ∀ (ms : List Mv) (acc : Int), qmmFold_code rec p ms acc = qmmFold rec p ms acc
  | [], _ => rfl
  | m :: ms, acc => by
    simp only [qmmFold_code, qmmFold, agree_makemove]
    cases p.makemove m false with
    | none => rfl
    | some np =>
      simp only
      cases rec np with
      | none => rfl
      | some v => exact qmmFold_code_eq rec p ms _

theorem qminimax_code_eq : ∀ (f : Nat) (p : Position), qminimax_code f p = qminimax f p
  | 0, _ => rfl
  | f + 1, p => by
    have ih : qminimax_code f = qminimax f := funext (qminimax_code_eq f)
    simp only [qminimax_code, qminimax, qmmFold_code_eq, ih, agree_legal_captures, agree_eval]

/-- the ordering buffer never overflows in the capture tree, as far as `fuel` reaches (over the regenerated functions). -/
def QTreeOk_code : Nat → Position → Prop
  | 0, _ => True
  | f + 1, p => (R.legal_captures p).length ≤ Gen.orderBufQsearch ∧
      ∀ m ∈ R.legal_captures p, ∀ np, R.makemove p m false = some np → QTreeOk_code f np

theorem QTreeOk_code_iff : ∀ (f : Nat) (p : Position), QTreeOk_code f p ↔ QTreeOk f p
  | 0, _ => Iff.rfl
  | f + 1, p => by
    simp only [QTreeOk_code, QTreeOk, agree_legal_captures, agree_makemove]
    exact and_congr_right fun _ => forall_congr' fun m => forall_congr' fun _ => forall_congr' fun np =>
      forall_congr' fun _ => QTreeOk_code_iff f np

/-- **C19 on the code.** Whenever the regenerated `qsearch` returns `r` on a window `α < β` and the exact value `v` of
the capture tree is defined (on any fuel), the three fail-soft clauses hold: exact inside the window, an upper bound
at or below `α`, a lower bound at or above `β`. -/
theorem C19_code_qsearch_sound (fuel : Nat) (p : Position) (hV : ValidPos p = true)
    (hE : Spec.EpConsistent (abs p) = true)
    (hh : p.halfmoves + fuel + 64 < 2147483648) (hf : p.fullmoves + fuel + 64 < 2147483648)
    (st : QState) (α β ply r : Int) (st' : QState)
    (hαβ : α < β) (h : R.qsearch fuel p st α β ply = some (r, st'))
    (fuel' : Nat) (v : Int) (hv : qminimax_code fuel' p = some v) :
    (α < v ∧ v < β → r = v) ∧ (r ≤ α → v ≤ r) ∧ (β ≤ r → r ≤ v) := by
  rw [agree_qsearch_rules fuel p hV hE hh hf] at h
  rw [qminimax_code_eq] at hv
  exact C19_qsearch_sound fuel p st α β ply r st' hαβ h fuel' v hv

theorem C19_code_qsearch_exact_of_result_inside (fuel : Nat) (p : Position) (hV : ValidPos p = true)
    (hE : Spec.EpConsistent (abs p) = true)
    (hh : p.halfmoves + fuel + 64 < 2147483648) (hf : p.fullmoves + fuel + 64 < 2147483648)
    (st : QState) (α β ply r : Int) (st' : QState)
    (hαβ : α < β) (h : R.qsearch fuel p st α β ply = some (r, st'))
    (fuel' : Nat) (v : Int) (hv : qminimax_code fuel' p = some v) (hr : α < r ∧ r < β) : r = v := by
  rw [agree_qsearch_rules fuel p hV hE hh hf] at h
  rw [qminimax_code_eq] at hv
  exact C19_qsearch_exact_of_result_inside fuel p st α β ply r st' hαβ h fuel' v hv hr

/-- **C19 on the code** (full window `(-INF_QS, INF_QS)`): the result is the exact value. -/
theorem C19_code_full_window (fuel : Nat) (p : Position) (hV : ValidPos p = true)
    (hE : Spec.EpConsistent (abs p) = true)
    (hh : p.halfmoves + fuel + 64 < 2147483648) (hf : p.fullmoves + fuel + 64 < 2147483648)
    (st : QState) (ply r : Int) (st' : QState)
    (h : R.qsearch fuel p st (-Gen.INF_QS) Gen.INF_QS ply = some (r, st'))
    (fuel' : Nat) (v : Int) (hv : qminimax_code fuel' p = some v)
    (hin : -Gen.INF_QS < v ∧ v < Gen.INF_QS) : r = v := by
  rw [agree_qsearch_rules fuel p hV hE hh hf] at h
  rw [qminimax_code_eq] at hv
  exact C19_full_window fuel p st ply r st' h fuel' v hv hin

theorem C19_code_qsearch_sound_same_fuel (fuel : Nat) (p : Position) (hV : ValidPos p = true)
    (hE : Spec.EpConsistent (abs p) = true)
    (hh : p.halfmoves + fuel + 64 < 2147483648) (hf : p.fullmoves + fuel + 64 < 2147483648)
    (st : QState) (α β ply r : Int) (st' : QState) (hαβ : α < β)
    (h : R.qsearch fuel p st α β ply = some (r, st')) (hdef : (qminimax_code fuel p).isSome) :
    ∃ v, qminimax_code fuel p = some v ∧ (α < v ∧ v < β → r = v) ∧ (r ≤ α → v ≤ r) ∧ (β ≤ r → r ≤ v) := by
  rw [agree_qsearch_rules fuel p hV hE hh hf] at h
  rw [qminimax_code_eq] at hdef ⊢
  exact C19_qsearch_sound_same_fuel fuel p st α β ply r st' hαβ h hdef

/-- **totality + soundness**: if the reference is defined on `fuel` and the ordering buffer never overflows, the
regenerated `qsearch` RETURNS on `fuel`, with the three clauses. -/
theorem C19_code_qsearch_total (fuel : Nat) (p : Position) (hV : ValidPos p = true)
    (hE : Spec.EpConsistent (abs p) = true)
    (hh : p.halfmoves + fuel + 64 < 2147483648) (hf : p.fullmoves + fuel + 64 < 2147483648)
    (st : QState) (α β ply v : Int) (hαβ : α < β)
    (hv : qminimax_code fuel p = some v) (hok : QTreeOk_code fuel p) :
    ∃ r st', R.qsearch fuel p st α β ply = some (r, st') ∧
      (α < v ∧ v < β → r = v) ∧ (r ≤ α → v ≤ r) ∧ (β ≤ r → r ≤ v) := by
  rw [agree_qsearch_rules fuel p hV hE hh hf]
  rw [qminimax_code_eq] at hv
  exact C19_qsearch_total fuel p st α β ply v hαβ hv ((QTreeOk_code_iff fuel p).mp hok)

theorem C19_code_qminimax_facts (f f' : Nat) (p : Position) (v : Int) (h : qminimax_code f p = some v) :
    R.eval p ≤ v ∧ (f ≤ f' → qminimax_code f' p = some v) ∧ ∀ v', qminimax_code f' p = some v' → v = v' := by
  simp only [qminimax_code_eq, agree_eval] at h ⊢
  exact ⟨qminimax_ge_eval f p v h, fun hle => qminimax_mono f f' p v hle h, fun v' h' => qminimax_unique f f' p v v' h h'⟩

theorem C19_code_qsearch_counters_mono (fuel : Nat) (p : Position) (hV : ValidPos p = true)
    (hE : Spec.EpConsistent (abs p) = true)
    (hh : p.halfmoves + fuel + 64 < 2147483648) (hf : p.fullmoves + fuel + 64 < 2147483648)
    (st : QState) (α β ply r : Int) (st' : QState) (h : R.qsearch fuel p st α β ply = some (r, st')) :
    st.seldepth ≤ st'.seldepth ∧ st.nodes ≤ st'.nodes := by
  rw [agree_qsearch_rules fuel p hV hE hh hf] at h
  exact C19_qsearch_counters_mono fuel p st α β ply r st' h

theorem C19_code_qsearch_score_indep (fuel : Nat) (p : Position) (hV : ValidPos p = true)
    (hE : Spec.EpConsistent (abs p) = true)
    (hh : p.halfmoves + fuel + 64 < 2147483648) (hf : p.fullmoves + fuel + 64 < 2147483648)
    (st₁ st₂ : QState) (α β ply₁ ply₂ : Int) :
    (R.qsearch fuel p st₁ α β ply₁).map Prod.fst = (R.qsearch fuel p st₂ α β ply₂).map Prod.fst := by
  rw [agree_qsearch_rules fuel p hV hE hh hf, agree_qsearch_rules fuel p hV hE hh hf]
  exact C19_qsearch_score_indep fuel p st₁ st₂ α β ply₁ ply₂

theorem posE4D5_dom : ValidPos posE4D5 = true ∧ Spec.EpConsistent (abs posE4D5) = true ∧
    ValidPos posExd5 = true ∧ Spec.EpConsistent (abs posExd5) = true := by decide +kernel

/-- after 1.e4 d5 2.exd5 (static evaluation −109, exact value 28): the regenerated `qsearch` with a window containing
the value returns it — through the theorem. -/
example : ∃ r st', R.qsearch 2 posExd5 ⟨0, 0⟩ (-100) 100 0 = some (r, st') ∧
    qminimax_code 2 posExd5 = some 28 ∧ R.eval posExd5 = -109 ∧ r = 28 := by
  obtain ⟨r, st', h⟩ := isSome_pair posExd5_qsearch
  rw [← agree_qsearch_rules 2 posExd5 posE4D5_dom.2.2.1 posE4D5_dom.2.2.2 (by decide) (by decide)] at h
  have hv : qminimax_code 2 posExd5 = some 28 := by rw [qminimax_code_eq]; exact posExd5_qminimax
  exact ⟨r, st', h, hv, by rw [agree_eval]; exact posExd5_eval,
    (C19_code_qsearch_sound 2 posExd5 posE4D5_dom.2.2.1 posE4D5_dom.2.2.2 (by decide) (by decide) ⟨0, 0⟩ (-100) 100 0
      r st' (by decide) h 2 28 hv).1 (by decide)⟩

/-- full window on a three-ply capture tree (1.e4 d5: exd5 Qxd5 and no further capture). -/
example : ∃ r st', R.qsearch 3 posE4D5 ⟨0, 0⟩ (-Gen.INF_QS) Gen.INF_QS 0 = some (r, st') ∧ r = -21 := by
  have hv : qminimax_code 3 posE4D5 = some (-21) := by rw [qminimax_code_eq]; exact posE4D5_qminimax
  obtain ⟨r, st', h, _⟩ := C19_code_qsearch_total 3 posE4D5 posE4D5_dom.1 posE4D5_dom.2.1 (by decide) (by decide) ⟨0, 0⟩
    (-Gen.INF_QS) Gen.INF_QS 0 _ (by decide) hv ((QTreeOk_code_iff 3 posE4D5).mpr posE4D5_treeOk)
  exact ⟨r, st', h, C19_code_full_window 3 posE4D5 posE4D5_dom.1 posE4D5_dom.2.1 (by decide) (by decide) ⟨0, 0⟩ 0 r st'
    h 3 (-21) hv (by decide)⟩

/-- the same-fuel existence claim is false on the code as well: with the window `(eval p − 1, eval p)` the stand-pat
cut-off makes the regenerated `qsearch 1` return at once on a valid position, while the unpruned reference needs more
fuel for the capture exd5. -/
theorem C19_code_qsearch_sound_full_false :
    ¬ (∀ (fuel : Nat) (p : Position) (st : QState) (α β ply r : Int) (st' : QState),
        ValidPos p = true → Spec.EpConsistent (abs p) = true →
        p.halfmoves + fuel + 64 < 2147483648 → p.fullmoves + fuel + 64 < 2147483648 → α < β →
        R.qsearch fuel p st α β ply = some (r, st') →
        ∃ v, qminimax_code fuel p = some v ∧ (α < v ∧ v < β → r = v) ∧ (r ≤ α → v ≤ r) ∧ (β ≤ r → r ≤ v)) := by
  intro H
  obtain ⟨v, hv, _⟩ := H 1 posE4D5 ⟨0, 0⟩ (R.eval posE4D5 - 1) (R.eval posE4D5) 0 (eval posE4D5)
    { seldepth := max 0 0, nodes := 0 } posE4D5_dom.1 posE4D5_dom.2.1 (by decide) (by decide) (by omega)
    (by rw [agree_qsearch_rules 1 posE4D5 posE4D5_dom.1 posE4D5_dom.2.1 (by decide) (by decide), agree_eval,
      qsearch_succ, if_pos (Int.le_refl _)])
  rw [qminimax_code_eq, posE4D5_qminimax_one] at hv
  cases hv

end Rawr

#print axioms Rawr.qminimax_code_eq
#print axioms Rawr.QTreeOk_code_iff
#print axioms Rawr.C19_code_qsearch_sound
#print axioms Rawr.C19_code_qsearch_exact_of_result_inside
#print axioms Rawr.C19_code_full_window
#print axioms Rawr.C19_code_qsearch_sound_same_fuel
#print axioms Rawr.C19_code_qsearch_total
#print axioms Rawr.C19_code_qminimax_facts
#print axioms Rawr.C19_code_qsearch_counters_mono
#print axioms Rawr.C19_code_qsearch_score_indep
#print axioms Rawr.C19_code_qsearch_sound_full_false
