import Rawr.Props.C08
import Rawr.Proofs.BridgePerft
import Rawr.Proofs.BridgeCapture
import Rawr.Proofs.TestPositions
import Rawr.Proofs.EvalDomain
/-! # C08(c)  `perft` counts the leaves of the game tree of the rules; `is_capture` is "capture" by the rules

`perft d p` (model of `Position::perft`: `1` at depth 0, `count_moves` at depth 1, otherwise the sum over
`legal_moves` of `perft (d-1)` of the successor made with `makemove::<false>`) returns, for every position
of the domain `V ∧ E`, the number `Spec.leaves (abs p) d` of move sequences of length `d` that are legal by
the rules of chess (`Spec.legalMoves`, `Spec.apply`) — and never panics.

Since `makemove::<false>` leaves the stored key stale, the positions below the root violate clause V.8 of
`ValidPos` (and only that clause). The induction therefore runs over `Term.ValidH` (`ValidPos` of the
position with its key recomputed); move generation, counting,
`makemove::<false>` and `abs` do not read the key (all by `rfl`, `Proofs/BridgePerft.lean`), so C01, C02
and C08(a) are applied to the key-corrected twin.
Ingredients: C08(a) (`count_moves` = number of generated moves), C01 (generated = legal, as a permutation),
C02 (`abs` of the successor = `Spec.apply`, validity preserved), E-closure (`Br.epConsistent_apply`). -/
namespace Rawr
open Position Spec ZH MM SV Br

/-- C08(c) for positions whose stored key may be stale. -/
theorem C08c_perft_nohash (d : Nat) : ∀ (p : Position), Term.ValidH p →
    Spec.EpConsistent (abs p) = true →
    p.halfmoves + d < 2147483648 → p.fullmoves + d < 2147483648 →
    perft d p = some (Spec.leaves (abs p) d) := by
  induction d with
  | zero => intro p _ _ _ _; rfl
  | succ d ih =>
    intro p hV hE hh hf
    have hperm : ((legalMoves p).map (decodeMove p)).Perm (Spec.legalMoves (abs p)) :=
      (C01_generated_are_legal_moves (fixHash p) hV hE).1
    cases d with
    | zero =>
      rw [perft.eq_2, C08a_count_eq_legalMoves_length, Spec.leaves.eq_2]
      simp only [Spec.leaves.eq_1]
      rw [List.map_const', List.sum_replicate_nat, Nat.mul_one, ← hperm.length_eq, List.length_map]
    | succ d =>
      rw [perft.eq_3 p (d + 1) (by omega), Spec.leaves.eq_2]
      have hfold := perft_fold p (d + 1)
        (fun m => Spec.leaves (Spec.apply (abs p) (decodeMove p m)) (d + 1)) (legalMoves p) 0 (by
          intro m hm
          obtain ⟨_, q, hq, hVq, haq, hEq, b1, b2⟩ := step_nohash hV hE hm (by omega) (by omega)
          refine ⟨q, hq, ?_⟩
          rw [← haq]
          exact ih q hVq hEq (by omega) (by omega))
      refine hfold.trans ?_
      rw [Nat.zero_add]
      have := (hperm.map fun M => Spec.leaves (Spec.apply (abs p) M) (d + 1)).sum_nat
      rw [List.map_map] at this
      exact congrArg some this

/-- **C08(c).** On the domain `V ∧ E`, `perft d` is the number of legal move sequences of length `d`. -/
theorem C08c_perft (d : Nat) (p : Position) (hV : ValidPos p = true)
    (hE : Spec.EpConsistent (abs p) = true)
    (hh : p.halfmoves + d < 2147483648) (hf : p.fullmoves + d < 2147483648) :
    perft d p = some (Spec.leaves (abs p) d) :=
  C08c_perft_nohash d p (Term.validH_of_valid hV) hE hh hf

theorem C08c_perft_total (d : Nat) (p : Position) (hV : ValidPos p = true)
    (hE : Spec.EpConsistent (abs p) = true)
    (hh : p.halfmoves + d < 2147483648) (hf : p.fullmoves + d < 2147483648) :
    (perft d p).isSome = true := by
  rw [C08c_perft d p hV hE hh hf]; rfl

/-- `go split`: every line `move: n` reports the leaf count below the move prescribed by the rules. -/
theorem C08c_split (d : Nat) (p : Position) (m : Mv) (hV : ValidPos p = true)
    (hE : Spec.EpConsistent (abs p) = true) (hm : m ∈ legalMoves p)
    (hh : p.halfmoves + (d + 1) < 2147483648) (hf : p.fullmoves + (d + 1) < 2147483648) :
    ∃ np, p.makemove m false = some np ∧
      perft d np = some (Spec.leaves (Spec.apply (abs p) (decodeMove p m)) d) := by
  obtain ⟨_, q, hq, hVq, haq, hEq, b1, b2⟩ :=
    step_nohash (Term.validH_of_valid hV) hE hm (by omega) (by omega)
  refine ⟨q, hq, ?_⟩
  rw [← haq]
  exact C08c_perft_nohash d q hVq hEq (by omega) (by omega)

/-- **`is_capture` is "capture" by the rules** on generated moves: target occupied, or en passant; castling
("king takes own rook") is not a capture. -/
theorem C08c_isCapture (p : Position) (hV : ValidPos p = true) (m : Mv) (hm : m ∈ legalMoves p) :
    p.isCapture m = Spec.isCaptureMove (abs p) (decodeMove p m) := by
  unfold legalMoves at hm
  rw [List.mem_map] at hm
  obtain ⟨g, hg, rfl⟩ := hm
  exact isCapture_of_genOk hV (gen_shape p hV g hg)

/-- with C08(b): the capture generator yields exactly the generated moves that capture by the rules. -/
theorem C08c_captures (p : Position) (hV : ValidPos p = true) :
    legalCaptures p = (legalMoves p).filter fun m => Spec.isCaptureMove (abs p) (decodeMove p m) := by
  obtain ⟨h1, h2, h3, h4, h5, _⟩ := (consistent_parts (Att.valid_consistent hV)).2.1
  rw [C08b_captures_filter p ⟨h1, h2, h3, h4, h5⟩]
  exact List.filter_congr fun m hm => C08c_isCapture p hV m hm

/-- White: Ke1, pawn e2; Black: Ke8. -/
def kpk : Position :=
  mkP false 0x1010#64 0x1000000000000000#64 0x1000#64 0 0 0 0 0x1000000000000010#64 none
    false false false false 7 0 7 0 0 1

theorem kpk_VE : ValidPos kpk = true ∧ Spec.EpConsistent (abs kpk) = true := by decide +kernel
example : ValidPos kpk = true ∧ Spec.EpConsistent (abs kpk) = true := kpk_VE

theorem kpk_perft : perft 1 kpk = some 6 ∧ perft 2 kpk = some 30 := by decide +kernel

/-- by the rules of chess there are 6 first moves and 30 sequences of two moves in that position. -/
example : Spec.leaves (abs kpk) 1 = 6 ∧ Spec.leaves (abs kpk) 2 = 30 := by
  have h1 := C08c_perft 1 kpk kpk_VE.1 kpk_VE.2 (by decide) (by decide)
  have h2 := C08c_perft 2 kpk kpk_VE.1 kpk_VE.2 (by decide) (by decide)
  rw [kpk_perft.1] at h1; rw [kpk_perft.2] at h2
  exact ⟨(Option.some.inj h1).symm, (Option.some.inj h2).symm⟩
/-- the start position: 400 at depth 2. -/
example : Spec.leaves (abs Gen.startpos) 2 = 400 := by
  have h2 := C08c_perft 2 Gen.startpos startpos_valid startpos_E (by decide) (by decide)
  rw [perft_startpos_2] at h2
  exact (Option.some.inj h2).symm
/-- en passant is a capture by both definitions, with an empty target square (`c01Ep` of C01). -/
example : c01Ep.isCapture ⟨36, 43, 6⟩ = true ∧
    Spec.isCaptureMove (abs c01Ep) (decodeMove c01Ep ⟨36, 43, 6⟩) = true ∧ (abs c01Ep).board 43 = none := by
  decide +kernel
/-- castling is not (`exK` of C02: king f8 "takes" rook g8). -/
example : exK.isCapture ⟨5, 6, 6⟩ = false ∧ (⟨5, 6, 6⟩ : Mv) ∈ legalMoves exK := by decide +kernel

#print axioms C08c_perft_nohash
#print axioms C08c_perft
#print axioms C08c_perft_total
#print axioms C08c_split
#print axioms C08c_isCapture
#print axioms C08c_captures

end Rawr
