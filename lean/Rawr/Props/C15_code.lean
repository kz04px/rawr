import Rawr.Props.C15
import Rawr.Props.C15_termination
import Rawr.Props.C03_code
import Rawr.Proofs.RustSessionAgree_GoRules
/-!
# C15 on the regenerated code: `R.listen`, `R.listen_loop5`, `R.listen_loop5_step`, `R.parse_go`, and the search functions

`Props/C15.lean` proves shape and totality of the UCI conversation for the hand-written model (`listen`, `secondLoop`,
`stepSecond`), `Props/C15_termination.lean` the fuel bounds of the search model.  The session layer of the engine is
regenerated from uci/listen.rs, uci/go.rs, … on every run:

* `R.listen fuel ar sfuel clk version stdin : Option (unread lines × printed byte stream)` — `fuel` bounds the number of
  loop iterations, `sfuel` is the fuel handed to the search (the agreements are for `sfuel = 1000`, the model's value),
  `clk` the clock as a function of the poll number, `version` the `CARGO_PKG_VERSION` string; `none` = the process panics
  or the iteration bound is exhausted;
* `R.listen_loop5` the second command loop, `R.listen_loop5_step` one iteration of it (loop-carried variables
  `(exited, input, stdin, got_isready, pos, history, tt, out, hash, is_frc)` = `Sess.st5 ex input stdin got s out` for the
  model state `s = ⟨hash, is_frc, pos, history.reverse, tt⟩`; every tuple of loop variables is of this form).

The agreements (`Proofs/RustSessionAgree_Listen.lean`, `_Step`, `_Rules`, `_GoRules`) relate what the code PRINTS — a byte
stream — to the model's list of lines through the explicit projection `Sess.transcript` (cut at `'\n'`, `time <t>` ↦
`time ?`, `nps <n>` dropped, `id name Rawr <version>` ↦ `id name Rawr ?`), resp. the relation `Sess.Out y L` ("`y` consists of
complete lines whose canonical form is `L`", hence `Sess.transcript y = L`: `Sess.Out.transcript`).  So every statement
below about printed text is a statement about `Sess.transcript` of the printed stream.

**Hypotheses.**  `ListenHyps fuel ar clk o version lines` is EXACTLY the hypothesis list of `agree_listen`, bundled:
`lines.length + 1 < fuel`, no newline in the version string, and a family `G` of position invariants (`hI`, `hM`, `hS`)
with `Sess.ListenOk G fuel ar clk o lines` (the side conditions of the `go` / `position` / `moves` / `print` commands along
the model's run; `o` is the model's stop oracle, tied to `clk` by `ListenOk` for the time controls only).
`listenHyps_nomoves`: for sessions without `go` / `position` / `moves` lines it holds with no condition but the first two
(`agree_listen_nomoves`) — the `…_nomoves` theorems are hypothesis-free in that sense.  `StepHyps` is the same for one
iteration (`agree_listen_loop5_step`: `Sess.StepOk`), `stepHyps_plain` discharges it for every line whose command word is
none of `go position moves print display board`.

Not restated: `C15_search_answered` (its hypothesis "the model's `root` returns" has no counterpart among the loop
variables; its content is `C15_code_search_one_bestmove` + `C15_code_no_panic_iff`); `C15_eof_second` (contained in
`loop5_code_model` for `lines = []`); the `ChessDom D` forms of the termination theorems (the `InD` forms are their
instances for the domain of the other properties; the agreement needs `EpConsistent`, which a general `D` does not give);
`C15_qminimax_defined` (about the reference value, no code in it — `C19_code`).
-/
namespace Rawr

/-- the hypotheses of `agree_listen`. -/
def ListenHyps (fuel : Nat) (ar : Arith) (clk : Nat → Nat) (o : Nat → Bool) (version : Option (List Char))
    (lines : List (List Char)) : Prop :=
  lines.length + 1 < fuel ∧ '\n' ∉ version.getD ['u', 'n', 'k', 'n', 'o', 'w', 'n'] ∧
  ∃ G : Nat → Position → Prop, (∀ n p, G (n + 1) p → MovesOnBoard p) ∧ (∀ n p, G (n + 1) p → G n p) ∧
    (∀ n p m np, G (n + 1) p → m ∈ legalMoves p → p.makemove m true = some np → G n np) ∧
    Sess.ListenOk G fuel ar clk o lines

/-- the hypotheses of `agree_listen_loop5_step` (state `s`, line `input`). -/
def StepHyps (fuel : Nat) (ar : Arith) (clk : Nat → Nat) (o : Nat → Bool) (s : UState) (input : List Char) : Prop :=
  ∃ G : Nat → Position → Prop, (∀ n p, G (n + 1) p → MovesOnBoard p) ∧ (∀ n p, G (n + 1) p → G n p) ∧
    (∀ n p m np, G (n + 1) p → m ∈ legalMoves p → p.makemove m true = some np → G n np) ∧
    Sess.StepOk G fuel ar clk o s (splitWs input)

/-- the hypotheses of `agree_listen_loop5` (second loop from state `s` on the lines `lines`). -/
def LoopHyps (fuel : Nat) (ar : Arith) (clk : Nat → Nat) (o : Nat → Bool) (s : UState) (lines : List (List Char)) : Prop :=
  ∃ G : Nat → Position → Prop, (∀ n p, G (n + 1) p → MovesOnBoard p) ∧ (∀ n p, G (n + 1) p → G n p) ∧
    (∀ n p m np, G (n + 1) p → m ∈ legalMoves p → p.makemove m true = some np → G n np) ∧
    Sess.SessOk G fuel ar clk o lines s

/-- **`agree_listen`**: the canonical transcript of what the regenerated `listen` prints is the model's output. -/
theorem listen_code_model {fuel : Nat} {ar : Arith} {clk : Nat → Nat} {o : Nat → Bool} {version : Option (List Char)}
    {lines : List (List Char)} (h : ListenHyps fuel ar clk o version lines) :
    (R.listen fuel ar 1000 clk version lines).map (fun r => Sess.transcript r.2) = listen ar o lines := by
  obtain ⟨hf, hv, G, hI, hM, hS, hok⟩ := h
  exact agree_listen G hI hM hS fuel ar clk o version lines hf hv hok

theorem listen_code_some {fuel : Nat} {ar : Arith} {clk : Nat → Nat} {o : Nat → Bool} {version : Option (List Char)}
    {lines : List (List Char)} (h : ListenHyps fuel ar clk o version lines) {r : List (List Char) × List Char}
    (hr : R.listen fuel ar 1000 clk version lines = some r) : listen ar o lines = some (Sess.transcript r.2) := by
  rw [← listen_code_model h, hr]; rfl

theorem listen_code_of_model {fuel : Nat} {ar : Arith} {clk : Nat → Nat} {o : Nat → Bool} {version : Option (List Char)}
    {lines : List (List Char)} (h : ListenHyps fuel ar clk o version lines) {out : List String}
    (hm : listen ar o lines = some out) :
    ∃ r, R.listen fuel ar 1000 clk version lines = some r ∧ Sess.transcript r.2 = out := by
  have := listen_code_model h
  rw [hm, Option.map_eq_some_iff] at this
  exact this

/-- sessions without `go` / `position` / `moves` lines satisfy the hypotheses (`Sess.listenOk_nomoves`). -/
theorem listenHyps_nomoves {fuel : Nat} (ar : Arith) (clk : Nat → Nat) (o : Nat → Bool) {version : Option (List Char)}
    {lines : List (List Char)} (hfuel : lines.length + 1 < fuel)
    (hv : '\n' ∉ version.getD ['u', 'n', 'k', 'n', 'o', 'w', 'n']) (hq : ∀ l ∈ lines, Sess.NoMoveCmd l) :
    ListenHyps fuel ar clk o version lines :=
  ⟨hfuel, hv, fun _ _ => False, fun _ _ h => h.elim, fun _ _ h => h.elim, fun _ _ _ _ h => h.elim,
    Sess.listenOk_nomoves _ fuel ar clk o hq⟩

/-- a process that is told to `quit` in the first loop satisfies the hypotheses, whatever follows. -/
theorem listenHyps_quit_first {fuel : Nat} (ar : Arith) (clk : Nat → Nat) (o : Nat → Bool) {version : Option (List Char)}
    (opts b : List (List Char)) (q : List Char) (hfuel : (opts ++ q :: b).length + 1 < fuel)
    (hv : '\n' ∉ version.getD ['u', 'n', 'k', 'n', 'o', 'w', 'n'])
    (hopts : ∀ l ∈ opts, cmdOf l = str "setoption") (hq : isQuitLine q = true) :
    ListenHyps fuel ar clk o version (opts ++ q :: b) := by
  refine ⟨hfuel, hv, fun _ _ => False, fun _ _ h => h.elim, fun _ _ h => h.elim, fun _ _ _ _ h => h.elim, ?_⟩
  intro pos s got rest _ hfl
  rw [firstLoop_quit opts b q hopts hq] at hfl
  cases hfl

/-- **`agree_listen_loop5_step`** with the model's `stepSecond` on the line. -/
theorem step_code_model {fuel : Nat} {ar : Arith} {clk : Nat → Nat} {o : Nat → Bool} {s : UState} {input : List Char}
    (h : StepHyps fuel ar clk o s input) (x : Nat) (ex : Bool) (stdin : List (List Char)) (out : List Char) :
    Sess.StepRel out ex input stdin (stepSecond ar o s input)
      (R.listen_loop5_step fuel ar 1000 clk x ex input stdin false s.pos s.hist.reverse s.tt out s.hashMb s.frc) := by
  obtain ⟨G, hI, hM, hS, hok⟩ := h
  rw [Sess.stepSecond_toks]
  exact agree_listen_loop5_step G hI hM hS fuel ar clk o x ex input stdin s out hok

theorem stepHyps_plain (fuel : Nat) (ar : Arith) (clk : Nat → Nat) (o : Nat → Bool) (s : UState) {input : List Char}
    {c : String} (hc : cmdOf input = str c) (hne : c ∉ ["go", "position", "moves", "print", "display", "board"]) :
    StepHyps fuel ar clk o s input :=
  ⟨fun _ _ => False, fun _ _ h => h.elim, fun _ _ h => h.elim, fun _ _ _ _ h => h.elim,
    Sess.stepOk_plain _ fuel ar clk o s hc hne⟩

/-- **`C15_isready` on the code** (no hypothesis): an `isready` line makes the regenerated iteration continue with all
of `pos, history, tt, hash, is_frc` unchanged, having printed exactly one line, `readyok`. -/
theorem C15_code_isready (fuel : Nat) (ar : Arith) (clk : Nat → Nat) (x : Nat) (ex : Bool) (input : List Char)
    (stdin : List (List Char)) (s : UState) (out : List Char) (h : isReadyLine input = true) :
    ∃ y, R.listen_loop5_step fuel ar 1000 clk x ex input stdin false s.pos s.hist.reverse s.tt out s.hashMb s.frc =
        some (ForInStep.yield (Sess.st5 ex input stdin true s (out ++ y))) ∧
      Sess.Out y ["readyok"] ∧ Sess.transcript y = ["readyok"] := by
  have hyp : StepHyps fuel ar clk (fun _ => false) s input :=
    stepHyps_plain fuel ar clk _ s (beq_iff_eq.1 h) (by decide)
  have hrel := step_code_model hyp x ex stdin out
  rw [C15_isready s input h] at hrel
  obtain ⟨y, e, hy⟩ := stepRel_cont hrel
  exact ⟨y, e, hy, hy.transcript⟩

/-- **`C15_search_one_bestmove` on the code**: when the regenerated iteration on a well-formed search request returns,
it continues the loop and what it printed is, canonically, `info …` lines followed by exactly one `bestmove …` line. -/
theorem C15_code_search_one_bestmove {fuel : Nat} {ar : Arith} {clk : Nat → Nat} {o : Nat → Bool} {s : UState}
    {input : List Char} (hyp : StepHyps fuel ar clk o s input) (x : Nat) (ex : Bool) (stdin : List (List Char))
    (out : List Char) (hl : isSearchLine input = true) {r : ForInStep Sess.St5}
    (h : R.listen_loop5_step fuel ar 1000 clk x ex input stdin false s.pos s.hist.reverse s.tt out s.hashMb s.frc = some r) :
    ∃ s' y L, r = ForInStep.yield (Sess.st5 ex input stdin true s' (out ++ y)) ∧ Sess.transcript y = L ∧ SearchShape L := by
  obtain ⟨s', L, q, hm, hcase⟩ := stepRel_some (step_code_model hyp x ex stdin out) h
  obtain ⟨hshape, hq⟩ := C15_search_one_bestmove hl hm
  rcases hcase with ⟨e, _⟩ | ⟨_, y, hr, hy⟩
  · rw [hq] at e; cases e
  · exact ⟨s', y, L, hr, hy.transcript, hshape⟩

/-- **`C15_other_lines_silent` on the code**: every other line — when the iteration returns — prints, canonically,
neither a `bestmove …` nor a `readyok` line (`quit`: ends the loop having printed nothing). -/
theorem C15_code_other_lines_silent {fuel : Nat} {ar : Arith} {clk : Nat → Nat} {o : Nat → Bool} {s : UState}
    {input : List Char} (hyp : StepHyps fuel ar clk o s input) (x : Nat) (ex : Bool) (stdin : List (List Char))
    (out : List Char) (h1 : isReadyLine input = false) (h2 : isSearchLine input = false) {r : ForInStep Sess.St5}
    (h : R.listen_loop5_step fuel ar 1000 clk x ex input stdin false s.pos s.hist.reverse s.tt out s.hashMb s.frc = some r) :
    ∃ s' y L, (r = ForInStep.yield (Sess.st5 ex input stdin true s' (out ++ y)) ∨
        (r = ForInStep.done (Sess.st5 true input stdin true s' out) ∧ y = [])) ∧
      Sess.transcript y = L ∧ nReady L = 0 ∧ nBest L = 0 := by
  obtain ⟨s', L, q, hm, hcase⟩ := stepRel_some (step_code_model hyp x ex stdin out) h
  obtain ⟨n1, n2⟩ := C15_other_lines_silent h1 h2 hm
  rcases hcase with ⟨_, hr, hL⟩ | ⟨_, y, hr, hy⟩
  · exact ⟨s', [], L, Or.inr ⟨hr, rfl⟩, by rw [hL]; rfl, n1, n2⟩
  · exact ⟨s', y, L, Or.inl hr, hy.transcript, n1, n2⟩

/-- `quit` in the second loop (no hypothesis): the regenerated iteration ends the loop (`done`, `exited = true`) with
the state and the printed stream untouched; the unread lines `stdin` are never looked at. -/
theorem C15_code_quit_step (fuel : Nat) (ar : Arith) (clk : Nat → Nat) (x : Nat) (ex : Bool) (input : List Char)
    (stdin : List (List Char)) (s : UState) (out : List Char) (h : isQuitLine input = true) :
    R.listen_loop5_step fuel ar 1000 clk x ex input stdin false s.pos s.hist.reverse s.tt out s.hashMb s.frc =
      some (ForInStep.done (Sess.st5 true input stdin true s out)) := by
  have hc : cmdOf input = str "quit" := beq_iff_eq.1 h
  have hrel := step_code_model (stepHyps_plain fuel ar clk (fun _ => false) s hc (by decide)) x ex stdin out
  rw [stepSecond_quit ar _ s input hc] at hrel
  exact (stepRel_quit hrel).1

/-- a line read from `stdin` (`got_isready = true`) is processed as if it had been in `input` with its newline
(`Sess.loop5_step_read`; `splitWs (l ++ ['\n']) = splitWs l`, so the classification of the line is that of `l`). -/
theorem C15_code_step_read (fuel : Nat) (ar : Arith) (clk : Nat → Nat) (x : Nat) (ex : Bool) (input l : List Char)
    (ls : List (List Char)) (s : UState) (out : List Char) :
    R.listen_loop5_step fuel ar 1000 clk x ex input (l :: ls) true s.pos s.hist.reverse s.tt out s.hashMb s.frc =
      R.listen_loop5_step fuel ar 1000 clk x ex (l ++ ['\n']) ls false s.pos s.hist.reverse s.tt out s.hashMb s.frc ∧
    cmdOf (l ++ ['\n']) = cmdOf l ∧ argsOf (l ++ ['\n']) = argsOf l :=
  ⟨Sess.loop5_step_read fuel ar clk x ex input l ls s.pos s.hist.reverse s.tt out s.hashMb s.frc,
    by unfold cmdOf; rw [Sess.splitWs_nl], by unfold argsOf; rw [Sess.splitWs_nl]⟩

/-- **`parse_go` is total** (on the model this is no more than the type of `parseGo`): with fuel for its `loop` the
regenerated `parse_go` returns on every token list (`Ok` or `Err("Uh oh")`, never a panic), with the model's
classification. -/
theorem C15_code_parse_go_total (fuel : Nat) (toks : List (List Char)) (h : toks.length + 1 ≤ fuel) :
    ∃ r, R.parse_go fuel toks = some r ∧ r.1.map goToModel = parseGo toks := by
  have := agree_parse_go fuel toks h
  rw [Option.map_eq_some_iff] at this
  exact this

/-- **`agree_listen_loop5`** as an equation: exit flag and canonical transcript of the regenerated second loop, started
with `got_isready = true` on the unread lines `lines`, are the model's (`none` = panic on both sides). -/
theorem loop5_code_model {fuel : Nat} {ar : Arith} {clk : Nat → Nat} {o : Nat → Bool} {s : UState}
    {lines : List (List Char)} (h : LoopHyps fuel ar clk o s lines) (it : List Nat) (hlen : lines.length < it.length)
    (input : List Char) (out : List Char) (acc : List String) (ho : Sess.Out out acc) :
    (R.listen_loop5 fuel ar 1000 clk it input lines true s.pos s.hist.reverse s.tt out s.hashMb s.frc).map
        (fun t => (t.1, Sess.transcript t.2.2.2.2.2.2.2.1)) =
      (secondLoop ar o lines s acc).map fun L => (true, L) := by
  obtain ⟨G, hI, hM, hS, hok⟩ := h
  have hrel := agree_listen_loop5 G hI hM hS fuel ar clk o lines it input lines true s out acc hlen
    (Or.inl ⟨rfl, rfl⟩) hok ho
  unfold Sess.LoopRel at hrel
  cases hm : secondLoop ar o lines s acc with
  | none => rw [hm] at hrel; simp only [] at hrel; rw [hrel]; rfl
  | some L =>
    rw [hm] at hrel
    simp only [] at hrel
    obtain ⟨t, e, h1, h2⟩ := hrel
    rw [e, Option.map_some, Option.map_some, h1, h2.transcript]

/-- the side conditions of a run that ends with `quit` do not depend on what follows the `quit`. -/
theorem sessOk_quit_cut (G : Nat → Position → Prop) (fuel : Nat) (ar : Arith) (clk : Nat → Nat) (o : Nat → Bool)
    (a b : List (List Char)) (q : List Char) (hq : isQuitLine q = true) (s : UState)
    (h : Sess.SessOk G fuel ar clk o (a ++ q :: b) s) : Sess.SessOk G fuel ar clk o (a ++ [q]) s := by
  have hc : cmdOf q = str "quit" := beq_iff_eq.1 hq
  induction a generalizing s with
  | nil =>
    refine ⟨h.1, fun s' L hstep => ?_⟩
    rw [stepSecond_quit ar o s q hc] at hstep
    cases hstep
  | cons l ls ih => exact ⟨h.1, fun s' L hstep => ih s' (h.2 s' L hstep)⟩

/-- **`C15_quit_ends` on the code**: the regenerated second loop does not look at the lines after a `quit` — exit
flag and canonical transcript are those of the run on the lines up to the `quit`. -/
theorem C15_code_quit_ends {fuel : Nat} {ar : Arith} {clk : Nat → Nat} {o : Nat → Bool} {s : UState}
    (a b : List (List Char)) (q : List Char) (hq : isQuitLine q = true)
    (h : LoopHyps fuel ar clk o s (a ++ q :: b)) (it : List Nat) (hlen : (a ++ q :: b).length < it.length)
    (input : List Char) (out : List Char) (acc : List String) (ho : Sess.Out out acc) :
    (R.listen_loop5 fuel ar 1000 clk it input (a ++ q :: b) true s.pos s.hist.reverse s.tt out s.hashMb s.frc).map
        (fun t => (t.1, Sess.transcript t.2.2.2.2.2.2.2.1)) =
    (R.listen_loop5 fuel ar 1000 clk it input (a ++ [q]) true s.pos s.hist.reverse s.tt out s.hashMb s.frc).map
        (fun t => (t.1, Sess.transcript t.2.2.2.2.2.2.2.1)) := by
  have h' : LoopHyps fuel ar clk o s (a ++ [q]) := by
    obtain ⟨G, hI, hM, hS, hok⟩ := h
    exact ⟨G, hI, hM, hS, sessOk_quit_cut G fuel ar clk o a b q hq s hok⟩
  rw [loop5_code_model h it hlen input out acc ho,
    loop5_code_model h' it (by simp only [List.length_append, List.length_cons, List.length_nil] at hlen ⊢; omega)
      input out acc ho,
    C15_quit_ends a b q hq s acc]

/-- **`C15_transcript_shape` on the code.** If the regenerated `listen` returns, the canonical transcript of what it
printed has exactly `expectedReady lines` lines `readyok` and `expectedBest lines` lines `bestmove …` — the two counts
being functions of the input lines alone. -/
theorem C15_code_transcript_shape {fuel : Nat} {ar : Arith} {clk : Nat → Nat} {o : Nat → Bool}
    {version : Option (List Char)} {lines : List (List Char)} (h : ListenHyps fuel ar clk o version lines)
    {r : List (List Char) × List Char} (hr : R.listen fuel ar 1000 clk version lines = some r) :
    (Sess.transcript r.2).count "readyok" = expectedReady lines ∧
    (Sess.transcript r.2).countP isBest = expectedBest lines :=
  C15_transcript_shape (listen_code_some h hr)

/-- **`C15_no_panic_iff` on the code**: the regenerated `listen` returns (no panic; the iteration bound is not
hit) exactly on the `ListenSafe` scripts. -/
theorem C15_code_no_panic_iff {fuel : Nat} {ar : Arith} {clk : Nat → Nat} {o : Nat → Bool}
    {version : Option (List Char)} {lines : List (List Char)} (h : ListenHyps fuel ar clk o version lines) :
    R.listen fuel ar 1000 clk version lines ≠ none ↔ ListenSafe ar o lines := by
  rw [← C15_no_panic_iff, ← listen_code_model h]
  cases R.listen fuel ar 1000 clk version lines <;> simp

/-- **`C15_no_panic_partial` on the code.** -/
theorem C15_code_no_panic_partial {fuel : Nat} {ar : Arith} {clk : Nat → Nat} {o : Nat → Bool}
    {version : Option (List Char)} {lines : List (List Char)} (h : ListenHyps fuel ar clk o version lines)
    (hs : ListenSafe ar o lines) : R.listen fuel ar 1000 clk version lines ≠ none :=
  (C15_code_no_panic_iff h).mpr hs

/-- the iteration bound of the regenerated loops is not an observable: a `ListenSafe` script has ONE transcript, which
the regenerated `listen` produces for every bound, clock-compatible oracle and version string the agreement allows. -/
theorem C15_code_listen_terminates {ar : Arith} {o : Nat → Bool} {lines : List (List Char)}
    (hs : ListenSafe ar o lines) :
    ∃ out, listen ar o lines = some out ∧ ∀ fuel clk version, ListenHyps fuel ar clk o version lines →
      ∃ r, R.listen fuel ar 1000 clk version lines = some r ∧ Sess.transcript r.2 = out := by
  obtain ⟨out, ho⟩ := Option.isSome_iff_exists.1 (listen_safe_iff.2 hs)
  exact ⟨out, ho, fun fuel clk version h => listen_code_of_model h ho⟩

theorem safe_nomoves (ar : Arith) (o : Nat → Bool) :
    ∀ (ls : List (List Char)) (s : UState), (∀ l ∈ ls, Sess.NoMoveCmd l) → Safe ar o s ls := by
  intro ls
  induction ls with
  | nil => intro _ _; trivial
  | cons l ls ih =>
    intro s hq
    obtain ⟨q1, q2, q3⟩ := hq l (by simp)
    exact ⟨StepSafe_of_other s l q1 q2 q3, fun s' _ _ => ih s' (fun x hx => hq x (by simp [hx]))⟩

theorem listenSafe_nomoves (ar : Arith) (o : Nat → Bool) (lines : List (List Char))
    (hq : ∀ l ∈ lines, Sess.NoMoveCmd l) : ListenSafe ar o lines := by
  rw [ListenSafe, afterFirst]
  cases hfl : firstLoop lines initState with
  | none => trivial
  | some r =>
    obtain ⟨s0, g0, rest0⟩ := r
    obtain ⟨_, hsub⟩ := Sess.firstLoop_start lines initState s0 g0 rest0 (by rfl) hfl
    exact safe_nomoves ar o _ _ fun l hl => (hsub l hl).elim (hq l) fun h => h ▸ Sess.noMove_nil

/-- **no panic, no hypothesis**: on every list of input lines none of which is a `go`, `position` or `moves` command
the regenerated `listen` returns (for every arithmetic, clock, version string without newline and iteration bound above
`lines.length + 1`), and its transcript has the shape of `C15_transcript_shape`. -/
theorem C15_code_no_panic_nomoves (fuel : Nat) (ar : Arith) (clk : Nat → Nat) (version : Option (List Char))
    (lines : List (List Char)) (hfuel : lines.length + 1 < fuel)
    (hv : '\n' ∉ version.getD ['u', 'n', 'k', 'n', 'o', 'w', 'n']) (hq : ∀ l ∈ lines, Sess.NoMoveCmd l) :
    ∃ r, R.listen fuel ar 1000 clk version lines = some r ∧
      (Sess.transcript r.2).count "readyok" = expectedReady lines ∧
      (Sess.transcript r.2).countP isBest = expectedBest lines := by
  have hyp := listenHyps_nomoves ar clk (fun _ => false) hfuel hv hq
  have hne := C15_code_no_panic_partial hyp (listenSafe_nomoves ar _ lines hq)
  obtain ⟨r, hr⟩ := Option.isSome_iff_exists.1 (Option.isSome_iff_ne_none.2 hne)
  exact ⟨r, hr, C15_code_transcript_shape hyp hr⟩

/-- **`C15_quit_in_first_loop` on the code** (no hypothesis on what follows the `quit`): the process returns having
printed the banner only. -/
theorem C15_code_quit_in_first_loop (fuel : Nat) (ar : Arith) (clk : Nat → Nat) (version : Option (List Char))
    (opts b : List (List Char)) (q : List Char) (hfuel : (opts ++ q :: b).length + 1 < fuel)
    (hv : '\n' ∉ version.getD ['u', 'n', 'k', 'n', 'o', 'w', 'n'])
    (hopts : ∀ l ∈ opts, cmdOf l = str "setoption") (hq : isQuitLine q = true) :
    (R.listen fuel ar 1000 clk version (opts ++ q :: b)).map (fun r => Sess.transcript r.2) =
      some (banner false 16) := by
  rw [listen_code_model (listenHyps_quit_first ar clk (fun _ => false) opts b q hfuel hv hopts hq)]
  exact C15_quit_in_first_loop opts b q hopts hq

/-- **`C15_eof` on the code**: end of input at once — the banner, and a clean return. -/
theorem C15_code_eof (fuel : Nat) (ar : Arith) (clk : Nat → Nat) (version : Option (List Char)) (hfuel : 1 < fuel)
    (hv : '\n' ∉ version.getD ['u', 'n', 'k', 'n', 'o', 'w', 'n']) :
    (R.listen fuel ar 1000 clk version []).map (fun r => Sess.transcript r.2) = some (banner false 16) := by
  rw [listen_code_model (listenHyps_nomoves ar clk (fun _ => false) (by simpa using hfuel) hv (by simp))]
  exact C15_eof

/-- **`Term.qsearch_fuel_mono` on the code.**  Extra hypotheses: those of `agree_qsearch_rules` for the larger fuel. -/
theorem C15_code_qsearch_fuel_mono {f f' : Nat} {p : Position} {st : QState} {α β ply : Int} {r : Int × QState}
    (hV : ValidPos p = true) (hE : Spec.EpConsistent (abs p) = true)
    (hh : p.halfmoves + f' + 64 < 2147483648) (hf : p.fullmoves + f' + 64 < 2147483648)
    (h : R.qsearch f p st α β ply = some r) (hle : f ≤ f') : R.qsearch f' p st α β ply = some r := by
  rw [agree_qsearch_rules f p hV hE (by omega) (by omega)] at h
  rw [agree_qsearch_rules f' p hV hE hh hf]
  exact Term.qsearch_fuel_mono h hle

/-- **`Term.negamax_fuel_mono` on the code.**  Extra hypotheses: those of `agree_negamax_rules` for the larger fuel. -/
theorem C15_code_negamax_fuel_mono {lim : Limit} {f f' : Nat} {p : Position} {st : SState} {α β ply depth : Int}
    {cn : Bool} {r : Int × SState} (hV : ValidPos p = true) (hE : Spec.EpConsistent (abs p) = true)
    (hh : p.halfmoves + f' + 64 < 2147483648) (hf : p.fullmoves + f' + 64 < 2147483648)
    (h : R.negamax (fun s => some (shouldStop lim s)) f p st α β ply depth cn = some r) (hle : f ≤ f') :
    R.negamax (fun s => some (shouldStop lim s)) f' p st α β ply depth cn = some r := by
  rw [agree_negamax_rules lim f p hV hE (by omega) (by omega)] at h
  rw [agree_negamax_rules lim f' p hV hE hh hf]
  exact Term.negamax_fuel_mono h hle

/-- **`Term.root_fuel_mono` on the code**: once the regenerated driver answers, it answers on every larger fuel with the
same result up to the fields the model does not keep (`rootResultOf`, `Props/C03_code.lean`). -/
theorem C15_code_root_fuel_mono {clock : Nat → Nat} {p : Position} {s : R.Settings} {lim : Limit} {f f' : Nat}
    (hlim : toLimit clock p s = some lim) (hV : ValidPos p = true) (hE : Spec.EpConsistent (abs p) = true)
    (hh : p.halfmoves + f' + 64 < 2147483648) (hf : p.fullmoves + f' + 64 < 2147483648)
    {hist : List BB} {tt : Table TTEntry} {r : Except String Mv × List BB × Table TTEntry × List R.Info}
    (h : R.root clock p hist tt s f = some r) (hle : f ≤ f') :
    ∃ r', R.root clock p hist tt s f' = some r' ∧ rootResultOf r' = rootResultOf r :=
  root_code_of_model hlim hV hE hh hf
    (Term.root_fuel_mono (root_code_model hlim hV hE (by omega) (by omega) h) hle)

/-- **`C15_qsearch_terminates_inD` on the code**: on the domain `D = V ∧ E ∧ M` the regenerated quiescence returns on
fuel `count p.occ + 1` (`CapturesFit`: the undischarged hypothesis of the model theorem).  The counter room is the
agreement's, for that fuel (the model theorem asks `+ 64`). -/
theorem C15_code_qsearch_terminates_inD (hfit : Term.CapturesFit) (p : Position) (hD : InD p = true)
    (hh : p.halfmoves + (count p.occ + 1) + 64 < 2147483648) (hf : p.fullmoves + (count p.occ + 1) + 64 < 2147483648)
    (st : QState) (α β ply : Int) : R.qsearch (count p.occ + 1) p st α β ply ≠ none := by
  obtain ⟨hV, hE, _⟩ := (inD_iff p).mp hD
  rw [agree_qsearch_rules _ p hV hE hh hf]
  exact C15_qsearch_terminates_inD hfit p hD (by omega) (by omega) st α β ply

/-- **`C15_negamax_terminates_inD` on the code**: the regenerated `negamax` returns on every fuel from
`negamaxFuel p ply depth` on (counter room of the agreement for the fuel at hand). -/
theorem C15_code_negamax_terminates_inD (lim : Limit) (hfit : Term.MovesFit) (p : Position) (hD : InD p = true)
    (ply depth : Int) (hply : 0 ≤ ply) (st : SState) (α β : Int) (cn : Bool) :
    ∀ f, negamaxFuel p ply depth ≤ f → p.halfmoves + f + 64 < 2147483648 → p.fullmoves + f + 64 < 2147483648 →
      R.negamax (fun s => some (shouldStop lim s)) f p st α β ply depth cn ≠ none := by
  intro f hle hh hf
  obtain ⟨hV, hE, _⟩ := (inD_iff p).mp hD
  rw [agree_negamax_rules lim f p hV hE hh hf]
  exact C15_negamax_terminates_inD lim hfit p hD ply depth hply (by omega) (by omega) st α β cn f hle

/-- **`C15_root_terminates_inD` on the code**: for every position of `D`, search setting, clock, history and table
there is ONE projected result which the regenerated driver returns on every fuel from `rootFuelP p` (≤ 6 750 054) on. -/
theorem C15_code_root_terminates_inD (clock : Nat → Nat) (s : R.Settings) (lim : Limit) (hfit : Term.MovesFit)
    (p : Position) (hlim : toLimit clock p s = some lim) (hD : InD p = true)
    (hh : p.halfmoves < 2140000000) (hf : p.fullmoves < 2140000000) (hist : List BB) (tt : Table TTEntry) :
    ∃ res : RootResult, ∀ f, rootFuelP p ≤ f → p.halfmoves + f + 64 < 2147483648 →
      p.fullmoves + f + 64 < 2147483648 → ∃ r, R.root clock p hist tt s f = some r ∧ rootResultOf r = res := by
  obtain ⟨hV, hE, _⟩ := (inD_iff p).mp hD
  obtain ⟨res, hall⟩ := C15_root_terminates_inD lim hfit p hD hh hf hist tt
  exact ⟨res, fun f hle h1 h2 => root_code_of_model hlim hV hE h1 h2 (hall f hle)⟩

/-- **`C15_root_never_hangs` on the code** (on `D`). -/
theorem C15_code_root_never_hangs (clock : Nat → Nat) (s : R.Settings) (lim : Limit) (hfit : Term.MovesFit)
    (p : Position) (hlim : toLimit clock p s = some lim) (hD : InD p = true)
    (hh : p.halfmoves < 2140000000) (hf : p.fullmoves < 2140000000) (hist : List BB) (tt : Table TTEntry) :
    ∃ F : Nat, ∀ f : Nat, F ≤ f → p.halfmoves + f + 64 < 2147483648 → p.fullmoves + f + 64 < 2147483648 →
      R.root clock p hist tt s f ≠ none := by
  obtain ⟨res, h⟩ := C15_code_root_terminates_inD clock s lim hfit p hlim hD hh hf hist tt
  refine ⟨rootFuelP p, fun f hle h1 h2 => ?_⟩
  obtain ⟨r, hr, _⟩ := h f hle h1 h2
  rw [hr]; exact fun e => by cases e

namespace C15CodeEx

/-- options, `isready` twice, `ucinewgame`, `print`, `history`, `eval`, an unknown word, `quit`, trailing `isready`. -/
def script : List (List Char) :=
  [str "setoption name UCI_Chess960 value true", str "setoption name Hash value 1", str "isready", str "isready",
   str "ucinewgame", str "print", str "history", str "eval", str "xyzzy", str "quit", str "isready"]

theorem script_nomoves : ∀ l ∈ script, Sess.NoMoveCmd l := by
  unfold Sess.NoMoveCmd
  decide +kernel

/-- the regenerated `listen` returns on it — for every arithmetic and clock — with two `readyok` and no `bestmove`. -/
example (ar : Arith) (clk : Nat → Nat) : ∃ r, R.listen 20 ar 1000 clk none script = some r ∧
    (Sess.transcript r.2).count "readyok" = 2 ∧ (Sess.transcript r.2).countP isBest = 0 := by
  obtain ⟨r, hr, h1, h2⟩ := C15_code_no_panic_nomoves 20 ar clk none script (by decide) (by decide) script_nomoves
  have e : expectedReady script = 2 ∧ expectedBest script = 0 := by decide +kernel
  exact ⟨r, hr, h1.trans e.1, h2.trans e.2⟩

/-- a session WITH a search: `isready`, `go depth 1`, `quit` satisfies `ListenHyps` (`Sess.listenOk_goScript`,
`G = VE`), for every clock and oracle. -/
def goScript : List (List Char) := ["isready".toList, "go depth 1".toList, "quit".toList]

theorem goScript_hyps (ar : Arith) (clk : Nat → Nat) (o : Nat → Bool) : ListenHyps 300 ar clk o none goScript :=
  ⟨by decide, by decide, VE, VE_onBoard, fun n _ h => VE_le h (Nat.le_succ n), searchDomC_VE.move, Sess.listenOk_goScript ar clk o⟩

/-- whenever the regenerated `listen` returns on it, the transcript has one `readyok` and exactly one `bestmove …`. -/
example (ar : Arith) (clk : Nat → Nat) (r : List (List Char) × List Char)
    (hr : R.listen 300 ar 1000 clk none goScript = some r) :
    (Sess.transcript r.2).count "readyok" = 1 ∧ (Sess.transcript r.2).countP isBest = 1 := by
  obtain ⟨h1, h2⟩ := C15_code_transcript_shape (goScript_hyps ar clk (fun _ => false)) hr
  have e : expectedReady goScript = 1 ∧ expectedBest goScript = 1 := by decide +kernel
  exact ⟨h1.trans e.1, h2.trans e.2⟩

/-- one iteration: `isready` on a state in the middle of a game, with an unread line behind it. -/
example (clk : Nat → Nat) : ∃ y, R.listen_loop5_step 5 .trap 1000 clk 0 false (str "isready\n") [str "go"] false
      Gen.startpos [1#64, 2#64] (Table.new 1 Gen.ttEntrySize) (str "uciok\n") 1 false =
    some (ForInStep.yield (false, str "isready\n", [str "go"], true, Gen.startpos, [1#64, 2#64],
      Table.new 1 Gen.ttEntrySize, str "uciok\n" ++ y, 1, false)) ∧ Sess.transcript y = ["readyok"] := by
  obtain ⟨y, e, _, ht⟩ := C15_code_isready 5 .trap clk 0 false (str "isready\n") [str "go"]
    ⟨1, false, Gen.startpos, [2#64, 1#64], Table.new 1 Gen.ttEntrySize⟩ (str "uciok\n") (by decide)
  exact ⟨y, e, ht⟩

example : isQuitLine (str " quit now") = true ∧ isSearchLine (str "go depth 1") = true := by decide +kernel

/-- the start position is in `D`: under the 218-move bound the regenerated driver terminates on it for `go depth 5`. -/
example (hfit : Term.MovesFit) (clock : Nat → Nat) (hist : List BB) (tt : Table TTEntry) :
    ∃ F : Nat, ∀ f : Nat, F ≤ f → Gen.startpos.halfmoves + f + 64 < 2147483648 → Gen.startpos.fullmoves + f + 64 < 2147483648 →
      R.root clock Gen.startpos hist tt (.Depth 5) f ≠ none :=
  C15_code_root_never_hangs clock (.Depth 5) (.depth 5) hfit Gen.startpos rfl startpos_inD (by decide +kernel)
    (by decide +kernel) hist tt

end C15CodeEx

end Rawr

#print axioms Rawr.listen_code_model
#print axioms Rawr.step_code_model
#print axioms Rawr.loop5_code_model
#print axioms Rawr.C15_code_isready
#print axioms Rawr.C15_code_search_one_bestmove
#print axioms Rawr.C15_code_other_lines_silent
#print axioms Rawr.C15_code_quit_step
#print axioms Rawr.C15_code_step_read
#print axioms Rawr.C15_code_parse_go_total
#print axioms Rawr.C15_code_quit_ends
#print axioms Rawr.C15_code_transcript_shape
#print axioms Rawr.C15_code_no_panic_iff
#print axioms Rawr.C15_code_no_panic_partial
#print axioms Rawr.C15_code_listen_terminates
#print axioms Rawr.C15_code_no_panic_nomoves
#print axioms Rawr.C15_code_quit_in_first_loop
#print axioms Rawr.C15_code_eof
#print axioms Rawr.C15_code_qsearch_fuel_mono
#print axioms Rawr.C15_code_negamax_fuel_mono
#print axioms Rawr.C15_code_root_fuel_mono
#print axioms Rawr.C15_code_qsearch_terminates_inD
#print axioms Rawr.C15_code_negamax_terminates_inD
#print axioms Rawr.C15_code_root_terminates_inD
#print axioms Rawr.C15_code_root_never_hangs
