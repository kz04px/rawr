import Rawr.Proofs.GenPawns
/-!
# C01, pawn classes: pushes, double pushes, captures, promotions (and, with E, en passant)

`moveGenerator p` tags pawn moves with piece 0. For a position of the domain:

* `C01_pawns` (needs `V ∧ E`): `gm 0 f t pr` is generated iff an own pawn stands on `f`, `pr` is one of the
  promotion fields 6 (none), 1, 2, 3, 4 (N, B, R, Q) and the decoded move
  `Move.normal (absSq f) (absSq t) (promoOf pr)` is in `Spec.legalMoves (abs p)` — for every kind of pawn
  move, en passant included.
* `C01_pawns_noep` (needs `V` only): the same for every target other than the en-passant square: single
  pushes, double pushes, captures towards either side, promotions.
* readable special cases: `C01_single_push`, `C01_double_push`, `C01_pawn_capture`, `C01_promotions`
  (each of the four promotion pieces is generated iff the corresponding promotion is legal) and
  `C01_promotion_order` (queen, rook, bishop, knight, in this order, exactly once each).
* the pin conditions (`Proofs/GenPawns.lean`, `Proofs/GenPins.lean`): `pinOk_push` — a push (one or two squares) respects the
  pins iff the pawn is not in `hpinned | bpinned` (a pawn pinned on its file may push: it stays on the
  file); `pinOk_cap` — a capture respects the pins iff the pawn is not in `rpinned` and, when in
  `bpinned`, the target is in `bxrays` (it captures along its pin line). Both rest on the safety lemma
  `safe_after_move_rel` (`Proofs/GenSafety.lean`) through `legal_pawn_iff`.
-/
namespace Rawr
open Spec Att

/-- a pawn class lemma about `relPos p`, carried to `abs p`. -/
theorem pawns_abs {p : Position} (hV : ValidPos p = true) {f t pr : Nat} {G A B C : Prop}
    (h : G ↔ (A ∧ B ∧ C ∧ Move.normal f t (promoOf pr) ∈ Spec.legalMoves (relPos p))) :
    G ↔ (A ∧ B ∧ C ∧
      Move.normal (absSq p.black f) (absSq p.black t) (promoOf pr) ∈ Spec.legalMoves (abs p)) :=
  h.trans (and_congr_right' (and_congr_right' (and_congr_right' (legal_frame hV (.normal f t _)).symm)))

/-- C01, all pawn moves (domain `V ∧ E`). -/
theorem C01_pawns (p : Position) (hV : ValidPos p = true) (hE : Spec.EpConsistent (abs p) = true)
    (f t pr : Nat) :
    gm 0 f t pr ∈ moveGenerator p ↔
      (relBoard p f = some ⟨true, .pawn⟩ ∧ t < 64 ∧ PrOk pr ∧
        Move.normal (absSq p.black f) (absSq p.black t) (promoOf pr) ∈ Spec.legalMoves (abs p)) :=
  pawns_abs hV (pawns_core hV ((epConsistent_relPos p).trans hE) f t pr)

/-- C01, pawn moves not onto the en-passant square (domain `V`). -/
theorem C01_pawns_noep (p : Position) (hV : ValidPos p = true) (f t pr : Nat) (hne : p.ep ≠ some t) :
    gm 0 f t pr ∈ moveGenerator p ↔
      (relBoard p f = some ⟨true, .pawn⟩ ∧ t < 64 ∧ PrOk pr ∧
        Move.normal (absSq p.black f) (absSq p.black t) (promoOf pr) ∈ Spec.legalMoves (abs p)) :=
  pawns_abs hV (pawns_core_noep hV f t pr hne)

theorem pawns_noep_field (p : Position) (hV : ValidPos p = true) (f t pr : Nat) (ht : t < 64) (hpr : PrOk pr)
    (hne : p.ep ≠ some t) :
    gm 0 f t pr ∈ moveGenerator p ↔
      (relBoard p f = some ⟨true, .pawn⟩ ∧
        Move.normal (absSq p.black f) (absSq p.black t) (promoOf pr) ∈ Spec.legalMoves (abs p)) := by
  rw [C01_pawns_noep p hV f t pr hne]
  exact ⟨fun h => ⟨h.1, h.2.2.2⟩, fun h => ⟨h.1, ht, hpr, h.2⟩⟩

theorem ep_rank (p : Position) (hV : ValidPos p = true) {t : Nat} (h : p.ep = some t) : t / 8 = 5 :=
  (Att.ep_facts hV h).2.1

theorem C01_single_push (p : Position) (hV : ValidPos p = true) (f : Nat) (hne : p.ep ≠ some (f + 8)) :
    gm 0 f (f + 8) 6 ∈ moveGenerator p ↔
      (relBoard p f = some ⟨true, .pawn⟩ ∧ f + 8 < 64 ∧
        Move.normal (absSq p.black f) (absSq p.black (f + 8)) none ∈ Spec.legalMoves (abs p)) := by
  rw [C01_pawns_noep p hV f (f + 8) 6 hne]
  exact ⟨fun h => ⟨h.1, h.2.1, h.2.2.2⟩, fun h => ⟨h.1, h.2.1, Or.inl rfl, h.2.2⟩⟩

theorem C01_double_push (p : Position) (hV : ValidPos p = true) (f : Nat) :
    gm 0 f (f + 16) 6 ∈ moveGenerator p ↔
      (relBoard p f = some ⟨true, .pawn⟩ ∧ f + 16 < 64 ∧
        Move.normal (absSq p.black f) (absSq p.black (f + 16)) none ∈ Spec.legalMoves (abs p)) := by
  by_cases hne : p.ep = some (f + 16)
  · -- the en-passant square is empty and behind an enemy pawn: neither side holds
    have h5 := ep_rank p hV hne
    obtain ⟨_, _, _, hBP, _, _⟩ := Att.ep_facts hV hne
    constructor
    · intro hg
      exfalso
      rcases (mem_gen_pawn p f (f + 16) 6).mp hg with ⟨_, hf, _⟩ | ⟨h1, _, _⟩ | ⟨_, hf, _⟩ | ⟨_, hf, _⟩ |
        ⟨_, _, ⟨hf, _⟩ | ⟨hf, _⟩⟩
      · omega
      · obtain ⟨ht, hm⟩ := (mem_toList_lt _ _).mp h1
        have := ((dblSet_mem hV ht).mp hm).1
        omega
      · omega
      · omega
      · omega
      · omega
    · rintro ⟨hB, h64, hleg⟩
      exfalso
      have hf : f < 64 := by omega
      have hps := ((mem_legal_normal _ _ _ _).mp ((legal_frame hV (.normal f (f + 16) none)).mp hleg)).1.2
      rw [pseudo_pawn_rel p hf hB] at hps
      rcases hps.2 with ⟨h1, _⟩ | ⟨h1, _⟩ | ⟨h1 | h1, _⟩ <;> omega
  · rw [C01_pawns_noep p hV f (f + 16) 6 hne]
    exact ⟨fun h => ⟨h.1, h.2.1, h.2.2.2⟩, fun h => ⟨h.1, h.2.1, Or.inl rfl, h.2.2⟩⟩

/-- a legal capture without promotion (`t = f + 9` towards the h-file, `t = f + 7` towards the a-file; any
other `t` makes both sides false). -/
theorem C01_pawn_capture (p : Position) (hV : ValidPos p = true) (f t : Nat) (hen : p.c1.isSet t = true) :
    gm 0 f t 6 ∈ moveGenerator p ↔
      (relBoard p f = some ⟨true, .pawn⟩ ∧
        Move.normal (absSq p.black f) (absSq p.black t) none ∈ Spec.legalMoves (abs p)) := by
  have ht : t < 64 := BitVec.lt_of_getLsbD hen
  have hne : p.ep ≠ some t := by
    intro h
    have hC := valid_consistent hV
    obtain ⟨_, _, hBe, _, _, _⟩ := Att.ep_facts hV h
    obtain ⟨q, hq, _⟩ := (enemy_iff hC ht).mp hen
    rw [hBe] at hq; cases hq
  exact pawns_noep_field p hV f t 6 ht (Or.inl rfl) hne

theorem C01_promotions (p : Position) (hV : ValidPos p = true) (f t : Nat) (h7 : t / 8 = 7) :
    (gm 0 f t 4 ∈ moveGenerator p ↔ (relBoard p f = some ⟨true, .pawn⟩ ∧
      Move.normal (absSq p.black f) (absSq p.black t) (some .queen) ∈ Spec.legalMoves (abs p))) ∧
    (gm 0 f t 3 ∈ moveGenerator p ↔ (relBoard p f = some ⟨true, .pawn⟩ ∧
      Move.normal (absSq p.black f) (absSq p.black t) (some .rook) ∈ Spec.legalMoves (abs p))) ∧
    (gm 0 f t 2 ∈ moveGenerator p ↔ (relBoard p f = some ⟨true, .pawn⟩ ∧
      Move.normal (absSq p.black f) (absSq p.black t) (some .bishop) ∈ Spec.legalMoves (abs p))) ∧
    (gm 0 f t 1 ∈ moveGenerator p ↔ (relBoard p f = some ⟨true, .pawn⟩ ∧
      Move.normal (absSq p.black f) (absSq p.black t) (some .knight) ∈ Spec.legalMoves (abs p))) := by
  have ht : t < 64 := by omega
  have hne : p.ep ≠ some t := fun h => by have := ep_rank p hV h; omega
  exact ⟨pawns_noep_field p hV f t 4 ht (Or.inr (Or.inr (Or.inr (Or.inr rfl)))) hne,
    pawns_noep_field p hV f t 3 ht (Or.inr (Or.inr (Or.inr (Or.inl rfl)))) hne,
    pawns_noep_field p hV f t 2 ht (Or.inr (Or.inr (Or.inl rfl))) hne,
    pawns_noep_field p hV f t 1 ht (Or.inr (Or.inl rfl)) hne⟩

/-- a pawn arriving on the last rank yields queen, rook, bishop, knight in this order, once each; any other
arrival yields the plain move once. -/
theorem C01_promotion_order (d t : Nat) :
    (rankOf t = 7 → pawnArrive d t = [gm 0 (t - d) t 4, gm 0 (t - d) t 3, gm 0 (t - d) t 2, gm 0 (t - d) t 1]) ∧
    (rankOf t ≠ 7 → pawnArrive d t = [gm 0 (t - d) t 6]) := by
  unfold pawnArrive
  constructor
  · intro h; simp [h]
  · intro h; simp [h]

/-- White: Ke1 (4), pawns a2 (8), e2 (12, pinned on the e-file by Re8: it may push), g7 (54, promotes on
g8 or captures h8); Black: Ka8 (56), Re8 (60), Nh8 (63). -/
def pawnPos : Position :=
  let q : Position :=
    { Position.dflt with
      c0 := (bit 4 ||| bit 8 ||| bit 12 ||| bit 54), c1 := (bit 56 ||| bit 60 ||| bit 63),
      p0 := (bit 8 ||| bit 12 ||| bit 54), p1 := bit 63, p3 := bit 60, p5 := (bit 4 ||| bit 56) }
  { q with hash := q.calculateHash }

example : ValidPos pawnPos = true ∧ Spec.EpConsistent (abs pawnPos) = true := by decide +kernel
example : (prelude pawnPos).vpinned.isSet 12 = true ∧
    gm 0 12 20 6 ∈ moveGenerator pawnPos ∧ gm 0 12 28 6 ∈ moveGenerator pawnPos ∧
    gm 0 8 24 6 ∈ moveGenerator pawnPos ∧
    gm 0 54 62 4 ∈ moveGenerator pawnPos ∧ gm 0 54 62 1 ∈ moveGenerator pawnPos ∧
    gm 0 54 63 3 ∈ moveGenerator pawnPos := by decide +kernel
example : Spec.Move.normal 12 28 none ∈ Spec.legalMoves (abs pawnPos) :=
  ((C01_double_push pawnPos (by decide +kernel) 12).mp (by decide +kernel)).2.2
example : Spec.Move.normal 54 63 (some .rook) ∈ Spec.legalMoves (abs pawnPos) :=
  (((C01_promotions pawnPos (by decide +kernel) 54 63 (by decide)).2.1).mp (by decide +kernel)).2

#print axioms C01_pawns
#print axioms C01_pawns_noep
#print axioms C01_single_push
#print axioms C01_double_push
#print axioms C01_pawn_capture
#print axioms C01_promotions
#print axioms C01_promotion_order

end Rawr
