import Rawr.Props.C17
import Rawr.Model.Fen
/-! C17, kernel-evaluated example: how much room the mate band needs. Among the
positions `set_fen` accepts there are boards with far more material than legal play can produce; the position below (42 queens
against a bare king) evaluates to 38 206. So the clause "strictly inside the range reserved for mate scores" is a real
constraint on `MATE_SCORE`: the conventional 16-bit value 32 000 would violate it, the engine's 1 000 000 does not
(`C17_bound_consistent`, for every consistent position). The differential leg reaches such positions in every run
(saturated-material family in `run_C17`, tools/props_core.py). -/
namespace Rawr
namespace C17Ex

/-- `7k/QQQQQQ2/QQQQQ1Q1/QQQQ1QQ1/QQQ1QQQ1/QQ1QQQQ1/Q1QQQQQ1/KQQQQQQ1 w - - 0 1` -/
def q42 : Position :=
  { c0 := 17837855883361663#64, c1 := 9223372036854775808#64,
    p0 := 0#64, p1 := 0#64, p2 := 0#64, p3 := 0#64, p4 := 17837855883361662#64, p5 := 9223372036854775809#64,
    halfmoves := 0, fullmoves := 1, black := false, ep := none,
    usK := false, usQ := false, themK := false, themQ := false,
    cf0 := 7, cf1 := 0, cf2 := 7, cf3 := 0, hash := 15496526200524626983#64, frc := false }

/-- the real parser's model accepts it (both arithmetics), so it is a position "the engine can hold" … -/
theorem q42_is_fen :
    setFen .wrap false "7k/QQQQQQ2/QQQQQ1Q1/QQQQ1QQ1/QQQ1QQQ1/QQ1QQQQ1/Q1QQQQQ1/KQQQQQQ1 w - - 0 1".toList = some q42 ∧
    setFen .trap false "7k/QQQQQQ2/QQQQQ1Q1/QQQQ1QQ1/QQQ1QQQ1/QQ1QQQQ1/Q1QQQQQ1/KQQQQQQ1 w - - 0 1".toList = some q42 := by
  decide +kernel

/-- … structurally valid … -/
theorem q42_valid : ValidPos q42 = true := by decide +kernel

/-- … whose static evaluation is 38 206. -/
theorem q42_eval : eval q42 = 38206 := by decide +kernel

/-- A 16-bit style mate band (32 000 − 128) is too small for the positions the engine accepts … -/
theorem C17_band_32000_too_small : ∃ p, ValidPos p = true ∧ ¬ (eval p < 32000 - 128) :=
  ⟨q42, q42_valid, by rw [q42_eval]; decide⟩

/-- … while the engine's band holds it, as `C17_bound_consistent` says it must (instantiated, not evaluated). -/
example : -(Gen.MATE_SCORE - Gen.MAX_DEPTH) < eval q42 ∧ eval q42 < Gen.MATE_SCORE - Gen.MAX_DEPTH :=
  C17_bound_consistent q42 (by decide +kernel)

end C17Ex
end Rawr

#print axioms Rawr.C17Ex.C17_band_32000_too_small
