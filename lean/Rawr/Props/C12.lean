import Rawr.Proofs.MateLemmas
/-! # C12 — mate in one is found

"If the side to move can deliver checkmate in one move and the fifty-move counter stands below 99, every search
of depth one or more, whatever the transposition table contains, returns a move that checkmates, and the last
score it reports is the mate-in-one score."

Statements about the model (`negamax`, `rootIter`, `root`), hypotheses on the model; the numbers go on from the 1–4 of
`Props/C11.lean`:

5. `child_mated_returns` (in `Rawr/Proofs/MateLemmas.lean`, restated here as `C12_child_mated_returns`) — a
   non-root call on a checkmated position returns `-MATE_SCORE + ply` without a table write;
6. `C12_depth1` — the root call of iteration 1 (and `C12_root_call`: of any iteration) returns
   `MATE_SCORE - 1` and records a mating move, given the range requirement `OthersBelowMate` on the other
   children as an explicit hypothesis; `C12_others_below_mate` discharges that hypothesis from bounds on the
   evaluation (`QEvalOk` inside `TreeOk`), sane table scores (`TTInv`) and collision-freeness of the keys in
   the searched tree (`TreeOk`) — through the range lemma `negamax_range`, for every iteration, not only the
   first;
7. `C12_full` (a `def … : Prop`: any depth ≥ 1, any table) and `C12_partial`: `go depth D` for every `D ≥ 1`
   under the hypotheses just named. `C12_any_table_false`: the literal "whatever the table contains" reading is
   false for the model (concrete witness: an entry under the key of the mated child; `Props/C12Examples.lean`, with the
   hypotheses of `C12_depth1` on the same position). -/
namespace Rawr
open DM

/-- **C12.5** A non-root call (`ply ≥ 1`, called with remaining depth ≥ 0: the check extension makes it ≥ 1, so
quiescence is not entered; reverse futility and the null move are disabled in check) on a checkmated position
with clock below 100, not a repetition, no table entry under its key, and a poll that answers `false`:
returns `-MATE_SCORE + ply`; the state changes in `seldepth` and `polls` only. -/
theorem C12_child_mated_returns (lim : Limit) (fuel : Nat) (c : Position) (st : SState) (α β ply depth : Int)
    (cn : Bool) (hply : 1 ≤ ply) (hdepth : 0 ≤ depth) (hmoves : legalMoves c = []) (hcheck : c.inCheck = true)
    (h50 : c.halfmoves < 100) (hrep : repCount st.hist c.halfmoves c.hash < 2)
    (hnohit : (st.tt.poll c.hash.toNat).map (·.hash) ≠ some c.hash)
    (hlim : (shouldStop lim st).1 = false) :
    negamax lim (fuel + 1) c st α β ply depth cn =
      some (-Gen.MATE_SCORE + ply, { st with seldepth := max st.seldepth ply, polls := st.polls + 1 }) :=
  child_mated_returns lim fuel c st α β ply depth cn hply hdepth ⟨hmoves, hcheck⟩ h50 hrep hnohit hlim

/-- **C12.6** (any iteration) The root call (`ply = 0`, full window, depth ≥ 1 after the check extension) under a
limit that does not stop it, over a table satisfying an invariant `I`, when
* some legal move leads to a checkmated position (`IsMating`),
* every checkmated child has clock < 100, is not a repetition, and has no entry under its key in any table
  satisfying `I` (`MatedChildrenOk`: C12.5 applies to it),
* every call on any other child answers above `-MATE_SCORE + 1` and keeps `I` (`OthersBelowMate`):
if the call returns, its value is `MATE_SCORE - 1` and the recorded best move is a legal move that checkmates.
(Every mating move scores exactly `MATE_SCORE - 1`, every other move strictly less; `best` only changes on a
strict improvement, so the first mating move in ordered sequence is kept; `alpha ≤ MATE_SCORE - 1 < INF` means
no cut-off at the root, so every move is tried.) -/
theorem C12_root_call (lim : Limit) (fuel : Nat) (p : Position) (st : SState) (depth : Int)
    (I : Table TTEntry → Prop)
    (hdepth : 1 ≤ (if p.inCheck then depth + 1 else depth))
    (hlim : QuietAt lim st.depth) (hI : I st.tt)
    (hmate : ∃ m ∈ legalMoves p, IsMating p m)
    (hmated : MatedChildrenOk p st.hist I)
    (hothers : OthersBelowMate lim (fuel + 1) p st.hist st.depth I)
    (v : Int) (st' : SState)
    (h : negamax lim (fuel + 2) p st (-Gen.INF) Gen.INF 0 depth false = some (v, st')) :
    v = Gen.MATE_SCORE - 1 ∧ ∃ m, m ∈ legalMoves p ∧ IsMating p m ∧ st'.best = some m ∧ st'.hist = st.hist :=
  let ⟨hv, m, _, hm, hmt, hb, hh, _⟩ :=
    root_mate_in_one lim fuel p st depth I hdepth hlim hI hmate hmated hothers v st' h
  ⟨hv, m, hm, hmt, hb, hh⟩

/-- **C12.6** as asked: iteration 1 (`depth = 1`, `stats.depth = 1`). -/
theorem C12_depth1 (lim : Limit) (fuel : Nat) (p : Position) (st : SState) (I : Table TTEntry → Prop)
    (hst : st.depth = 1) (hlim : QuietAt lim 1) (hI : I st.tt)
    (hmate : ∃ m ∈ legalMoves p, IsMating p m)
    (hmated : MatedChildrenOk p st.hist I)
    (hothers : OthersBelowMate lim (fuel + 1) p st.hist 1 I)
    (v : Int) (st' : SState)
    (h : negamax lim (fuel + 2) p st (-Gen.INF) Gen.INF 0 1 false = some (v, st')) :
    v = Gen.MATE_SCORE - 1 ∧ ∃ m, m ∈ legalMoves p ∧ IsMating p m ∧ st'.best = some m :=
  let ⟨hv, m, hm, hmt, hb, _⟩ := C12_root_call lim fuel p st 1 I (by split <;> omega) (by rw [hst]; exact hlim) hI
    hmate hmated (by rw [hst]; exact hothers) v st' h
  ⟨hv, m, hm, hmt, hb⟩

namespace DM
/-- every stored score is within `[-RS, RS]`. (`Rawr.TTSane` of `Props/C14.lean` is another bound, `TTIn MATE_SCORE`: under
`open DM` write the namespace.) -/
def TTSane (T : Table TTEntry) : Prop := ∀ key e, T.poll key = some e → -RS ≤ e.score ∧ e.score ≤ RS

theorem TTInv_of_sane {Kp Ks : BB → Prop} {T : Table TTEntry} (h : TTSane T)
    (hk : ∀ key e, T.poll key = some e → ¬ Ks e.hash) : TTInv Kp Ks T :=
  fun key e he => ⟨Or.inr (h key e he), hk key e he⟩
end DM

/-- **C12.6, range part.** `OthersBelowMate` holds — for every iteration, window and remaining depth — over the
table invariant `TTInv Kp Ks` (scores within `MATE_SCORE - 2` except under keys in `Kp`; nothing stored under
keys in `Ks`) as soon as the subtree that `fuel` can reach below every non-mated child is `TreeOk`: the
evaluation is within `[-B, B]`, `B + 300 ≤ MATE_SCORE - 2`, on all capture trees (C17 gives `B = 174416` on
consistent positions), no node has a key in `Kp`, no node with a legal move has a key in `Ks`.
The values met are: quiescence values (± evaluations), `0` (stopped), the draw score, reverse-futility values
(`eval - 100·depth`, `depth < 4`), table scores (sane), mate scores at `ply ≥ 2` (`≥ -MATE_SCORE + 2`), and
negations of such from deeper plies. -/
theorem C12_others_below_mate (lim : Limit) (fuel : Nat) (p : Position) (H : List BB) (D : Int)
    (Kp Ks : BB → Prop) (B : Int) (hB0 : 0 ≤ B) (hB : B + 300 ≤ Gen.MATE_SCORE - 2)
    (hfuel : (fuel : Int) < Gen.MATE_SCORE)
    (htree : ∀ m ∈ legalMoves p, ∀ c, p.makemove m true = some c → ¬ Mated c → TreeOk Kp Ks B fuel c) :
    OthersBelowMate lim fuel p H D (TTInv Kp Ks) :=
  have _ := hB0
  othersBelowMate_of_tree lim fuel p H D Kp Ks B hB hfuel htree

/-- the range lemma itself, for reference: at `ply ≥ 1` every value is at most `MATE_SCORE - 2`, and at least
`-(MATE_SCORE - 2)` unless the position is checkmated at `ply = 1`; the table invariant is kept. -/
theorem C12_negamax_range (lim : Limit) (Kp Ks : BB → Prop) (B : Int) (hB0 : 0 ≤ B)
    (hB : B + 300 ≤ Gen.MATE_SCORE - 2) (fuel : Nat) (q : Position) (st : SState) (α β ply depth : Int)
    (cn : Bool) (v : Int) (st' : SState) (htree : TreeOk Kp Ks B fuel q) (hply : 1 ≤ ply)
    (hfuel : ply + fuel ≤ Gen.MATE_SCORE) (hI : TTInv Kp Ks st.tt)
    (h : negamax lim fuel q st α β ply depth cn = some (v, st')) :
    TTInv Kp Ks st'.tt ∧ v ≤ Gen.MATE_SCORE - 2 ∧ ((2 ≤ ply ∨ ¬ Mated q) → -(Gen.MATE_SCORE - 2) ≤ v) :=
  have _ := hB0
  DM.negamax_range lim Kp Ks B hB fuel q st α β ply depth cn v st' htree hply hfuel hI h

/-- The property as worded, on the model: any depth limit ≥ 1, any table, any fuel on which the driver returns.
The mated children are required to be scoreable as mates (clock < 100 — implied by the root's clock < 99 —
and not a repetition, which no checkmated position of a legal game is). Not proved, and false as it stands:
see `C12_any_table_false`. -/
def C12_full : Prop :=
  ∀ (D : Int) (fuel : Nat) (p : Position) (hist : List BB) (tt : Table TTEntry) (res : RootResult),
    1 ≤ D → D < Gen.MAX_DEPTH → p.halfmoves < 99 →
    (∃ m ∈ legalMoves p, IsMating p m) →
    (∀ m ∈ legalMoves p, ∀ c, p.makemove m true = some c → Mated c →
      c.halfmoves < 100 ∧ repCount (c.hash :: hist) c.halfmoves c.hash < 2) →
    root (.depth D) fuel p hist tt = some res →
    (∃ m ∈ legalMoves p, IsMating p m ∧ res.best = some m) ∧
      res.infos.getLast?.map (·.score) = some (Gen.MATE_SCORE - 1)

namespace DM
/-- the hypotheses under which C12 is proved for every depth: on top of those of `C12_full`,
* `Kp` holds of the root's key and of no key in the tree below the non-mated children; `Ks` holds of the keys of
  the mated children, not of the root's key, and of no key of a node with a legal move in that tree
  (no 64-bit key collision between these positions);
* the evaluation is within `[-B, B]` on the capture trees of that tree. -/
structure MateInOneTree (B : Int) (fuel : Nat) (p : Position) (H : List BB) (Kp Ks : BB → Prop) : Prop where
  mate : ∃ m ∈ legalMoves p, IsMating p m
  matedOk : ∀ m ∈ legalMoves p, ∀ c, p.makemove m true = some c → Mated c →
    c.halfmoves < 100 ∧ repCount (c.hash :: H) c.halfmoves c.hash < 2 ∧ Ks c.hash
  rootKp : Kp p.hash
  rootKs : ¬ Ks p.hash
  tree : ∀ m ∈ legalMoves p, ∀ c, p.makemove m true = some c → ¬ Mated c → TreeOk Kp Ks B (fuel + 1) c

instance (B : Int) (fuel : Nat) (p : Position) (H : List BB) (Kp Ks : BB → Prop) [DecidablePred Kp] [DecidablePred Ks] :
    Decidable (MateInOneTree B fuel p H Kp Ks) :=
  decidable_of_iff (_ ∧ _ ∧ _ ∧ _ ∧ _)
    ⟨fun ⟨a, b, c, d, e⟩ => ⟨a, b, c, d, e⟩, fun h => ⟨h.mate, h.matedOk, h.rootKp, h.rootKs, h.tree⟩⟩

theorem MateInOneTree.mateInOne {B : Int} {fuel : Nat} {p : Position} {H : List BB} {Kp Ks : BB → Prop}
    (h : MateInOneTree B fuel p H Kp Ks) (hB : B + 300 ≤ Gen.MATE_SCORE - 2)
    (hfuel : (fuel : Int) + 1 < Gen.MATE_SCORE) (lim : Limit) :
    MateInOne lim fuel p H (TTInv Kp Ks) where
  mate := h.mate
  mated := fun m hm c hmk hmt =>
    let ⟨h1, h2, h3⟩ := h.matedOk m hm c hmk hmt
    ⟨h1, h2, fun _ hT => hT.nohit h3⟩
  others := fun D => othersBelowMate_of_tree lim (fuel + 1) p H D Kp Ks B hB (by omega) h.tree
  store := fun _ _ _ _ _ hT hadd => hT.add hadd (Or.inl h.rootKp) h.rootKs
end DM

/-- **C12, every depth (partial).** `go depth D`, `D ≥ 1`, on a root satisfying `MateInOneTree`, over any table
satisfying `TTInv Kp Ks` (in particular any table with sane scores and no entry under a mated child's key —
e.g. an empty one): if the driver returns, the best move is a legal move that checkmates, every info record —
the last one in particular — carries the mate-in-one score `MATE_SCORE - 1` and a principal variation
consisting of a mating move.
Missing for `C12_full`: the table and tree hypotheses (`TTInv`, `TreeOk`); without the first the statement is
false (`C12_any_table_false`). -/
theorem C12_partial (D : Int) (hD1 : 1 ≤ D) (fuel : Nat) (p : Position) (hist : List BB) (tt : Table TTEntry)
    (Kp Ks : BB → Prop) (B : Int) (hB0 : 0 ≤ B) (hB : B + 300 ≤ Gen.MATE_SCORE - 2)
    (hfuel : (fuel : Int) + 1 < Gen.MATE_SCORE)
    (hyp : MateInOneTree B fuel p hist Kp Ks) (hT : TTInv Kp Ks tt) (res : RootResult)
    (h : root (.depth D) (fuel + 2) p hist tt = some res) :
    (∃ m ∈ legalMoves p, IsMating p m ∧ res.best = some m) ∧
      res.infos.getLast?.map (·.score) = some (Gen.MATE_SCORE - 1) ∧
      ∀ r ∈ res.infos, r.score = Gen.MATE_SCORE - 1 ∧ ∃ m ∈ legalMoves p, IsMating p m ∧ r.pv = [m] := by
  have _ := hB0
  obtain ⟨h1, h2, h3⟩ := root_mate D hD1 fuel p hist tt (TTInv Kp Ks) (hyp.mateInOne hB hfuel _) hT res h
  refine ⟨h1, ?_, h3⟩
  rw [List.getLast?_eq_some_getLast h2]
  have := (h3 _ (List.getLast_mem h2)).1
  simp only [Option.map_some, this]

/-- the root call of any single iteration `k ≤ D` of `go depth D`, same hypotheses. -/
theorem C12_root_call_partial (D : Int) (fuel : Nat) (p : Position) (st : SState) (depth : Int)
    (Kp Ks : BB → Prop) (B : Int) (hB0 : 0 ≤ B) (hB : B + 300 ≤ Gen.MATE_SCORE - 2)
    (hfuel : (fuel : Int) + 1 < Gen.MATE_SCORE)
    (hdepth : 1 ≤ depth) (hD : st.depth ≤ D)
    (hyp : MateInOneTree B fuel p st.hist Kp Ks) (hT : TTInv Kp Ks st.tt) (v : Int) (st' : SState)
    (h : negamax (.depth D) (fuel + 2) p st (-Gen.INF) Gen.INF 0 depth false = some (v, st')) :
    v = Gen.MATE_SCORE - 1 ∧ ∃ m, m ∈ legalMoves p ∧ IsMating p m ∧ st'.best = some m ∧ st'.hist = st.hist :=
  have _ := hB0
  have hm := hyp.mateInOne hB hfuel (.depth D)
  C12_root_call (.depth D) fuel p st depth (TTInv Kp Ks) (by split <;> omega) hD hT hm.mate hm.mated
    (hm.others _) v st' h

namespace DM

/-- a table all of whose slots (and the default entry, which a zero-slot table answers) satisfy the invariant. -/
def ttInvB (kp ks : BB → Bool) (T : Table TTEntry) : Bool :=
  (default :: T.entries.toList).all fun e => (kp e.hash || (decide (-RS ≤ e.score) && decide (e.score ≤ RS))) &&
    !ks e.hash

theorem ttInv_of_B {kp ks : BB → Bool} {T : Table TTEntry} (h : ttInvB kp ks T = true) :
    TTInv (fun k => kp k = true) (fun k => ks k = true) T := by
  simp only [ttInvB, List.all_eq_true, Bool.and_eq_true, Bool.or_eq_true, decide_eq_true_eq,
    Bool.not_eq_true'] at h
  intro key e he
  rw [Table.poll_eq] at he
  cases he
  have hmem : T.slot (key % T.len) ∈ (default : TTEntry) :: T.entries.toList := by
    unfold Table.slot
    cases hi : T.entries[key % T.len]? with
    | none => simp
    | some x =>
      simp only [Option.getD_some]
      exact List.mem_cons_of_mem _ (Array.mem_toList_iff.2 (Array.mem_of_getElem? hi))
  have := h _ hmem
  exact ⟨this.1, by simp [this.2]⟩
end DM

namespace C12Ex

/-- white Kf7, pawn g6; black Kh8, pawn h7; white to move: seven legal moves, g6-g7 mates (and is tried second,
after the capture g6xh7). -/
def kpm : Position :=
  { c0 := 0x20400000000000#64, c1 := 0x8080000000000000#64,
    p0 := 0x80400000000000#64, p1 := 0#64, p2 := 0#64, p3 := 0#64, p4 := 0#64, p5 := 0x8020000000000000#64,
    halfmoves := 0, fullmoves := 60, black := false, ep := none,
    usK := false, usQ := false, themK := false, themQ := false,
    cf0 := 7, cf1 := 0, cf2 := 7, cf3 := 0, hash := 0x1234#64, frc := false }

def tt3 : Table TTEntry := ⟨#[default, default, default]⟩

/-- the position after g6-g7#. -/
def kpmG7 : Position := (kpm.makemove ⟨46, 54, 6⟩ true).getD kpm

theorem kpmG7_mated : Mated kpmG7 := by decide +kernel

/-- C12.5 applies to that position (ply 1, called with remaining depth 0). -/
example : negamax (.depth 1) 1 kpmG7 ⟨[kpmG7.hash], tt3, 1, 0, 1, none, 0⟩ (-Gen.INF) Gen.INF 1 0 true =
    some (-Gen.MATE_SCORE + 1, ⟨[kpmG7.hash], tt3, 1, 1, 1, none, 1⟩) :=
  C12_child_mated_returns (.depth 1) 0 kpmG7 _ _ _ 1 0 true (by decide) (by decide) kpmG7_mated.1 kpmG7_mated.2
    (by decide +kernel) (by decide +kernel) (by decide +kernel) (by decide)

/-- key predicates for `kpm`: `Kp` = the root's key, `Ks` = the key of the mated child. -/
def kp : BB → Bool := fun k => k == 0x1234#64
def ks : BB → Bool := fun k => k == 0xebb5ea8e70cfb81d#64

/-- the hypotheses of `C12_partial` / `C12_root_call_partial` hold on `kpm` with `B = 174416` and the tree that
fuel 2 reaches (fuel 2 is enough for `go depth D` on `kpm` for every `D`: from iteration 2 on the table move —
the mate — is tried first and every other child fails high at once by reverse futility). -/
theorem kpm_hyp : MateInOneTree 174416 0 kpm [] (fun k => kp k = true) (fun k => ks k = true) :=
  by decide +kernel

theorem tt3_inv : TTInv (fun k => kp k = true) (fun k => ks k = true) tt3 := ttInv_of_B (by decide +kernel)

/-- `C12_partial` on `kpm`, `go depth 3`: the driver returns with three records; the best move mates; the last
record reports 999999. -/
example : ∃ res, root (.depth 3) 2 kpm [] tt3 = some res ∧
    (∃ m ∈ legalMoves kpm, IsMating kpm m ∧ res.best = some m) ∧
    res.infos.getLast?.map (·.score) = some 999999 ∧ res.infos.length = 3 := by
  have h : ((root (.depth 3) 2 kpm [] tt3).map fun r => r.infos.length) = some 3 := by decide +kernel
  obtain ⟨res, h1, hl⟩ := Option.map_eq_some_iff.1 h
  obtain ⟨h2, h3, _⟩ := C12_partial 3 (by decide) 0 kpm [] tt3 _ _ 174416 (by decide) (by decide) (by decide)
    kpm_hyp tt3_inv res h1
  exact ⟨res, h1, h2, h3, hl⟩

end C12Ex

end Rawr

#print axioms Rawr.C12_child_mated_returns
#print axioms Rawr.C12_root_call
#print axioms Rawr.C12_depth1
#print axioms Rawr.C12_others_below_mate
#print axioms Rawr.C12_negamax_range
#print axioms Rawr.C12_partial
#print axioms Rawr.C12_root_call_partial
