import Rawr.Props.C13
import Rawr.Props.C03_code
/-!
# C13 on the regenerated code: `R.root` / `R.negamax` leave the game state untouched and are reproducible

The C13 theorems of `Props/C13.lean` hold for the model's `negamax` / `root` with NO hypothesis on the position.  The
regenerated `R.negamax` / `R.root` equal the model's functions on the domain of `agree_negamax_rules` /
`agree_root_rules`: `ValidPos p`, `EpConsistent (abs p)`, counter room `halfmoves/fullmoves + fuel + 64 < 2^31`, and a
search setting (`toLimit clock p s = some lim`; outside this domain the Rust ordering code may `unwrap()` a `None`).
So every `_code` theorem below carries exactly these EXTRA hypotheses and nothing else; conclusions unchanged.
`R.negamax` takes the `should_stop` closure as an argument; it is instantiated with the closure root.rs builds,
`R.root_should_stop p0 s clock` (`p0` = the root position, whose side to move selects the clock).

* history / table-size clauses: `C13_code_negamax_preserves_history`, `…_tt_len`, `C13_code_root_preserves_history`,
  `…_tt_len` (history = `r.2.1`, table = `r.2.2.1` of the tuple `R.root` returns; size through `R.tt_len`);
* reproducibility: for the clock-free settings (`Depth`, `Nodes`, `Infinite`)
  `C13_code_negamax_polls_irrelevant` (the poll counter — the only clock-coupled piece of state — does not influence the
  result) and `C13_code_root_clock_irrelevant` (two runs of the driver with DIFFERENT clocks give the same `Result`,
  history, table and records up to the unmodelled `elapsed`/`pos`/`mate` fields).
  (`root_depth_polls_irrelevant` of the model has no counterpart: `R.root` always starts the poll counter at 0.)
-/
namespace Rawr

theorem C13_code_negamax_preserves_history (clock : Nat → Nat) (p0 : Position) (s : R.Settings) (lim : Limit)
    (hlim : toLimit clock p0 s = some lim) (fuel : Nat) (p : Position)
    (hV : ValidPos p = true) (hE : Spec.EpConsistent (abs p) = true)
    (hh : p.halfmoves + fuel + 64 < 2147483648) (hf : p.fullmoves + fuel + 64 < 2147483648)
    (st : SState) (α β ply depth : Int) (cn : Bool) (v : Int) (st' : SState) :
    R.negamax (R.root_should_stop p0 s clock) fuel p st α β ply depth cn = some (v, st') → st'.hist = st.hist := by
  rw [negamax_code_model hlim fuel p hV hE hh hf]
  exact negamax_preserves_history lim fuel p st α β ply depth cn v st'

theorem C13_code_negamax_preserves_tt_len (clock : Nat → Nat) (p0 : Position) (s : R.Settings) (lim : Limit)
    (hlim : toLimit clock p0 s = some lim) (fuel : Nat) (p : Position)
    (hV : ValidPos p = true) (hE : Spec.EpConsistent (abs p) = true)
    (hh : p.halfmoves + fuel + 64 < 2147483648) (hf : p.fullmoves + fuel + 64 < 2147483648)
    (st : SState) (α β ply depth : Int) (cn : Bool) (v : Int) (st' : SState) :
    R.negamax (R.root_should_stop p0 s clock) fuel p st α β ply depth cn = some (v, st') →
      R.tt_len st'.tt = R.tt_len st.tt := by
  rw [negamax_code_model hlim fuel p hV hE hh hf, Table.agree_tt_len]
  exact negamax_preserves_tt_len lim fuel p st α β ply depth cn v st'

theorem C13_code_root_preserves_history (clock : Nat → Nat) (s : R.Settings) (lim : Limit) (fuel : Nat) (p : Position)
    (hlim : toLimit clock p s = some lim) (hV : ValidPos p = true) (hE : Spec.EpConsistent (abs p) = true)
    (hh : p.halfmoves + fuel + 64 < 2147483648) (hf : p.fullmoves + fuel + 64 < 2147483648)
    (hist : List BB) (tt : Table TTEntry) (r : Except String Mv × List BB × Table TTEntry × List R.Info) :
    R.root clock p hist tt s fuel = some r → r.2.1 = hist :=
  fun h => root_preserves_history lim fuel p hist tt (rootResultOf r) (root_code_model hlim hV hE hh hf h)

theorem C13_code_root_preserves_tt_len (clock : Nat → Nat) (s : R.Settings) (lim : Limit) (fuel : Nat) (p : Position)
    (hlim : toLimit clock p s = some lim) (hV : ValidPos p = true) (hE : Spec.EpConsistent (abs p) = true)
    (hh : p.halfmoves + fuel + 64 < 2147483648) (hf : p.fullmoves + fuel + 64 < 2147483648)
    (hist : List BB) (tt : Table TTEntry) (r : Except String Mv × List BB × Table TTEntry × List R.Info) :
    R.root clock p hist tt s fuel = some r → R.tt_len r.2.2.1 = R.tt_len tt := by
  intro h
  rw [Table.agree_tt_len]
  exact root_preserves_tt_len lim fuel p hist tt (rootResultOf r) (root_code_model hlim hV hE hh hf h)

/-- with a setting that never consults the clock (`lim.clockFree`: `Depth`, `Nodes`, `Infinite`), the regenerated
`negamax` started from two states that differ only in the poll counter returns the same score and states that differ
only in the poll counter (or fails in both). -/
theorem C13_code_negamax_polls_irrelevant (clock : Nat → Nat) (p0 : Position) (s : R.Settings) (lim : Limit)
    (hlim : toLimit clock p0 s = some lim) (hl : lim.clockFree) (fuel : Nat) (p : Position)
    (hV : ValidPos p = true) (hE : Spec.EpConsistent (abs p) = true)
    (hh : p.halfmoves + fuel + 64 < 2147483648) (hf : p.fullmoves + fuel + 64 < 2147483648)
    (st t : SState) (α β ply depth : Int) (cn : Bool) (hst : st.eqUpToPolls t) :
    ResEq (R.negamax (R.root_should_stop p0 s clock) fuel p st α β ply depth cn)
      (R.negamax (R.root_should_stop p0 s clock) fuel p t α β ply depth cn) := by
  rw [negamax_code_model hlim fuel p hV hE hh hf, negamax_code_model hlim fuel p hV hE hh hf]
  exact negamax_polls_irrelevant lim hl fuel p st t α β ply depth cn hst

/-- the same, as an explicit statement about the two results. -/
theorem C13_code_negamax_polls_irrelevant' (clock : Nat → Nat) (p0 : Position) (s : R.Settings) (lim : Limit)
    (hlim : toLimit clock p0 s = some lim) (hl : lim.clockFree) (fuel : Nat) (p : Position)
    (hV : ValidPos p = true) (hE : Spec.EpConsistent (abs p) = true)
    (hh : p.halfmoves + fuel + 64 < 2147483648) (hf : p.fullmoves + fuel + 64 < 2147483648)
    (st t : SState) (α β ply depth : Int) (cn : Bool) (hst : st.eqUpToPolls t) :
    (R.negamax (R.root_should_stop p0 s clock) fuel p st α β ply depth cn = none ∧
      R.negamax (R.root_should_stop p0 s clock) fuel p t α β ply depth cn = none) ∨
    ∃ v s' t', R.negamax (R.root_should_stop p0 s clock) fuel p st α β ply depth cn = some (v, s') ∧
      R.negamax (R.root_should_stop p0 s clock) fuel p t α β ply depth cn = some (v, t') ∧ s'.eqUpToPolls t' := by
  rw [negamax_code_model hlim fuel p hV hE hh hf, negamax_code_model hlim fuel p hV hE hh hf]
  exact negamax_polls_irrelevant' lim hl fuel p st t α β ply depth cn hst

/-- **reproducibility of the driver on the code**: when the setting induces the same limit under two clocks — in
particular for `Depth d`, `Nodes n`, `Infinite`, where the limit does not mention the clock at all — the two runs
return the same `Result`, history, table and (projected) records, or both fail. -/
theorem C13_code_root_clock_irrelevant (clock₁ clock₂ : Nat → Nat) (s : R.Settings) (lim : Limit) (fuel : Nat)
    (p : Position) (hl1 : toLimit clock₁ p s = some lim) (hl2 : toLimit clock₂ p s = some lim)
    (hV : ValidPos p = true) (hE : Spec.EpConsistent (abs p) = true)
    (hh : p.halfmoves + fuel + 64 < 2147483648) (hf : p.fullmoves + fuel + 64 < 2147483648)
    (hist : List BB) (tt : Table TTEntry) :
    (R.root clock₁ p hist tt s fuel).map rootResultOf = (R.root clock₂ p hist tt s fuel).map rootResultOf :=
  (agree_root_rules clock₁ p s lim fuel hl1 hV hE hh hf hist tt).trans
    (agree_root_rules clock₂ p s lim fuel hl2 hV hE hh hf hist tt).symm

theorem C13_code_root_depth_clock_irrelevant (clock₁ clock₂ : Nat → Nat) (d : Int) (fuel : Nat)
    (p : Position) (hV : ValidPos p = true) (hE : Spec.EpConsistent (abs p) = true)
    (hh : p.halfmoves + fuel + 64 < 2147483648) (hf : p.fullmoves + fuel + 64 < 2147483648)
    (hist : List BB) (tt : Table TTEntry) :
    (R.root clock₁ p hist tt (.Depth d) fuel).map rootResultOf =
      (R.root clock₂ p hist tt (.Depth d) fuel).map rootResultOf :=
  C13_code_root_clock_irrelevant clock₁ clock₂ (.Depth d) (.depth d) fuel p rfl rfl hV hE hh hf hist tt

theorem C13_code_root_nodes_clock_irrelevant (clock₁ clock₂ : Nat → Nat) (n : Nat) (fuel : Nat)
    (p : Position) (hV : ValidPos p = true) (hE : Spec.EpConsistent (abs p) = true)
    (hh : p.halfmoves + fuel + 64 < 2147483648) (hf : p.fullmoves + fuel + 64 < 2147483648)
    (hist : List BB) (tt : Table TTEntry) :
    (R.root clock₁ p hist tt (.Nodes n) fuel).map rootResultOf =
      (R.root clock₂ p hist tt (.Nodes n) fuel).map rootResultOf :=
  C13_code_root_clock_irrelevant clock₁ clock₂ (.Nodes n) (.nodes n) fuel p rfl rfl hV hE hh hf hist tt

namespace C13CodeEx
open C13Ex C03RulesEx

/-- K+P v K with a correct key (`kpkV`), a clock limit whose oracle fires during the search (`go movetime 3` with a
clock advancing 1 ms per poll), non-empty history: the regenerated driver returns, history intact, three slots. -/
example : ∃ r, R.root (fun k => k) kpkV hist2 tt3 (.Movetime 3) 8 = some r ∧ r.2.1 = hist2 ∧ R.tt_len r.2.2.1 = 3 := by
  have h : (R.root (fun k => k) kpkV hist2 tt3 (.Movetime 3) 8).isSome = true := by decide +kernel
  obtain ⟨r, h1⟩ := Option.isSome_iff_exists.1 h
  exact ⟨r, h1,
    C13_code_root_preserves_history _ _ _ 8 kpkV rfl kpkV_valid kpkV_E (by decide +kernel) (by decide +kernel) _ _ r h1,
    C13_code_root_preserves_tt_len _ _ _ 8 kpkV rfl kpkV_valid kpkV_E (by decide +kernel) (by decide +kernel) _ _ r h1⟩

/-- a depth-1 search of the regenerated `negamax` (pushes, pops, quiescence, a table store) over a non-empty history. -/
example : ∃ v st', R.negamax (R.root_should_stop kpkV (.Depth 2) fun _ => 0) 2 kpkV st0 (-Gen.INF) Gen.INF 0 1 false =
    some (v, st') ∧ st'.hist = [5#64, 7#64] := by
  obtain ⟨v, st', h⟩ : ∃ v st', R.negamax (R.root_should_stop kpkV (.Depth 2) fun _ => 0) 2 kpkV st0 (-Gen.INF)
      Gen.INF 0 1 false = some (v, st') := exists_of_isSome (by decide +kernel)
  exact ⟨v, st', h, C13_code_negamax_preserves_history _ kpkV (.Depth 2) _ rfl 2 kpkV kpkV_valid kpkV_E
    (by decide +kernel) (by decide +kernel) _ _ _ _ _ _ v st' h⟩

end C13CodeEx

end Rawr

#print axioms Rawr.C13_code_negamax_preserves_history
#print axioms Rawr.C13_code_negamax_preserves_tt_len
#print axioms Rawr.C13_code_root_preserves_history
#print axioms Rawr.C13_code_root_preserves_tt_len
#print axioms Rawr.C13_code_negamax_polls_irrelevant
#print axioms Rawr.C13_code_negamax_polls_irrelevant'
#print axioms Rawr.C13_code_root_clock_irrelevant
#print axioms Rawr.C13_code_root_depth_clock_irrelevant
#print axioms Rawr.C13_code_root_nodes_clock_irrelevant
