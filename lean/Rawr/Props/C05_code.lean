import Rawr.Props.C05
import Rawr.Props.C05_rules
import Rawr.Props.C07_valid
import Rawr.Props.C02_code
import Rawr.Proofs.RustTextAgree_Rules
/-!
# C05 on the regenerated code: `R.moves` (uci/moves.rs) and `R.position` (uci/position.rs)

`R.moves stream pos history : Option (rest of the stream × pos × history × output lines)` and
`R.position fuel ar stream pos history` are regenerated from the Rust source on every run.  The Rust history vector
grows at the END (`history.push(key)`), the model's list at the front, whence the `reverse`s of the agreement
theorems; below the history is stated in the Rust order.

Domain hypotheses of the agreements (and why the model theorems do not have them): `Mv::to_uci` panics in
`Square::fmt` on a square ≥ 64 (the model's `toUciChars` is total), so one token needs `MovesOnBoard pos` — here
`ValidPos pos` (`movesOnBoard_of_valid`); a token LIST needs it along the game: `agree_moves_rules` asks for `VE n pos`
(`V ∧ E` with counter room `+ n + 64`, `n` = number of tokens).

* `C05_code_Denotes_iff` — the predicate `Denotes pos t m` ("token `t` selects move `m`": first generated move printing as
  `t`, else the conventional castling alias) spelled out with `R.legal_moves` and `R.to_uci`.
* `C05_code_token_spec` = `C05_applyToken_spec` for the one-token stream: EXTRA hypothesis `ValidPos pos` (see above).
* `C05_code_rules_token`, `C05_code_rules_no_panic` = `C05_rules_token`, `C05_rules_no_panic`: exact transfers.
* `C05_code_applyTokens_fold` = `C05_applyTokens_fold` (position = last of the trace, history = old history followed by the
  keys of the trace, output = the reports): EXTRA hypothesis `VE ts.length pos`.
* `C05_code_rules_tokens` = `C05_rules_tokens`: the counter room is `+ ts.length + 64` instead of `+ ts.length`.
* `C05_code_position_history` = `C05_doPosition_history` on `R.position`.  The agreement `agree_position_rules` asks that
  the position `set_fen` accepts lie in `VE (number of move tokens)`; its `ValidPos` part is discharged by
  `C07_accepted_validPos`, what remains (`hdom`) is `EpConsistent` and the counter room of the accepted position —
  neither is implied by acceptance (an en-passant square behind a pinned pawn is accepted; counters up to `2^31 - 1` are).
  `trace` / `reports` (`Proofs/UciMoves.lean`) are the specification-side descriptions of the positions reached and the
  lines printed; they are defined through `Denotes` and the model's `makemove` (= `R.makemove`, `agree_makemove`).
-/
namespace Rawr
open Position Spec ZH MM SV

theorem C05_code_Denotes_iff (pos : Position) (hV : ValidPos pos = true) (t : List Char) (m : Mv) :
    Denotes pos t m ↔
      (∃ as bs, R.legal_moves pos = as ++ m :: bs ∧ R.to_uci m pos = some t ∧ ∀ x ∈ as, R.to_uci x pos ≠ some t) ∨
      ((∀ x ∈ R.legal_moves pos, R.to_uci x pos ≠ some t) ∧
        ∃ file, castleFile pos t = some file ∧ m = ⟨4, fromCoords file 0, 6⟩ ∧ m ∈ R.legal_moves pos ∧
          (R.get_us pos).isSet m.dst = true) := by
  have key : ∀ x ∈ legalMoves pos, (R.to_uci x pos = some t ↔ toUciChars pos x = t) := fun x hx => by
    rw [agree_to_uci_rules pos hV x hx, Option.some.injEq]
  rw [Denotes_iff, agree_legal_moves, agree_get_us]
  constructor
  · rintro (⟨as, bs, e, h1, h2⟩ | ⟨h1, h2⟩)
    · refine Or.inl ⟨as, bs, e, (key m (by rw [e]; simp)).mpr h1, fun x hx hc => h2 x hx ?_⟩
      exact (key x (by rw [e]; simp [hx])).mp hc
    · exact Or.inr ⟨fun x hx hc => h1 x hx ((key x hx).mp hc), h2⟩
  · rintro (⟨as, bs, e, h1, h2⟩ | ⟨h1, h2⟩)
    · refine Or.inl ⟨as, bs, e, (key m (by rw [e]; simp)).mp h1, fun x hx hc => h2 x hx ?_⟩
      exact (key x (by rw [e]; simp [hx])).mpr hc
    · exact Or.inr ⟨fun x hx hc => h1 x hx ((key x hx).mpr hc), h2⟩

/-- the regenerated `moves` on a one-token stream is the model's `applyToken` (only `ValidPos` needed). -/
theorem moves_code_single (pos : Position) (hV : ValidPos pos = true) (hist : List BB) (t : List Char) :
    R.moves [t] pos hist =
      (applyToken pos hist.reverse t).map fun r => (([] : List (List Char)), r.1, r.2.1.reverse, r.2.2) := by
  unfold R.moves
  simp only [R.moves_loop1, List.forIn_cons, List.forIn_nil, moves_loop1_step_eq t pos hist [] (movesOnBoard_of_valid hV),
    bind, pure]
  cases applyToken pos hist.reverse t with
  | none => rfl
  | some r => simp

/-- **C05 (one token) on the code**: the regenerated `moves` applied to the one-token stream `[t]` either selects the
move `t` denotes, makes it with the regenerated `makemove::<true>` and pushes its key, printing nothing — or `t` denotes
nothing, and it is reported as unknown with position and history unchanged.  Both directions. -/
theorem C05_code_token_spec (pos : Position) (hV : ValidPos pos = true) (hist : List BB) (t : List Char)
    (rest : List (List Char)) (pos' : Position) (hist' : List BB) (out : List String) :
    R.moves [t] pos hist = some (rest, pos', hist', out) ↔
      rest = [] ∧
      ((∃ m, Denotes pos t m ∧ R.makemove pos m true = some pos' ∧ hist' = hist ++ [pos'.hash] ∧ out = []) ∨
       ((∀ m, ¬ Denotes pos t m) ∧ pos' = pos ∧ hist' = hist ∧
          out = ["info string unknown move " ++ String.ofList t])) := by
  rw [moves_code_single pos hV, agree_makemove, Option.map_eq_some_iff]
  constructor
  · rintro ⟨⟨p1, h1, o1⟩, hap, e⟩
    simp only [Prod.mk.injEq] at e
    obtain ⟨rfl, rfl, rfl, rfl⟩ := e
    refine ⟨rfl, ?_⟩
    rcases (C05_applyToken_spec pos hist.reverse t p1 h1 o1).mp hap with ⟨m, hd, hmk, e1, e2⟩ | ⟨hn, e0, e1, e2⟩
    · exact Or.inl ⟨m, hd, hmk, by rw [e1]; simp, e2⟩
    · exact Or.inr ⟨hn, e0, by rw [e1]; simp, e2⟩
  · rintro ⟨rfl, ⟨m, hd, hmk, e1, e2⟩ | ⟨hn, e0, e1, e2⟩⟩
    · exact ⟨(pos', pos'.hash :: hist.reverse, []),
        (C05_applyToken_spec pos hist.reverse t _ _ _).mpr (Or.inl ⟨m, hd, hmk, rfl, rfl⟩), by simp [e1, e2]⟩
    · exact ⟨(pos, hist.reverse, out),
        (C05_applyToken_spec pos hist.reverse t _ _ _).mpr (Or.inr ⟨hn, rfl, rfl, e2⟩), by simp [e0, e1]⟩

/-- **C05 (one token) on the code, against the rules**: an accepted token denotes a move that is legal by the rules; the
new position denotes the successor the rules prescribe and is again in `V ∧ E`. -/
theorem C05_code_rules_token (pos : Position) (hist : List BB) (t : List Char)
    (rest : List (List Char)) (pos' : Position) (hist' : List BB) (out : List String)
    (hV : ValidPos pos = true) (hE : Spec.EpConsistent (abs pos) = true)
    (hh : pos.halfmoves + 1 < 2147483648) (hf : pos.fullmoves + 1 < 2147483648) :
    R.moves [t] pos hist = some (rest, pos', hist', out) ↔
      rest = [] ∧
      ((∃ m, Denotes pos t m ∧ decodeMove pos m ∈ Spec.legalMoves (abs pos) ∧
          R.makemove pos m true = some pos' ∧ abs pos' = Spec.apply (abs pos) (decodeMove pos m) ∧
          ValidPos pos' = true ∧ Spec.EpConsistent (abs pos') = true ∧
          hist' = hist ++ [pos'.hash] ∧ out = []) ∨
       ((∀ m, ¬ Denotes pos t m) ∧ pos' = pos ∧ hist' = hist ∧
          out = ["info string unknown move " ++ String.ofList t])) := by
  rw [C05_code_token_spec pos hV]
  refine and_congr_right fun _ => or_congr_left ?_
  constructor
  · rintro ⟨m, hd, hmk, e1, e2⟩
    have hmk' := hmk
    rw [agree_makemove] at hmk'
    have hm := hd.mem
    have hs := gen_moveShape pos hV m hm
    have hL := (C01_sound pos hV hE m hm).1
    exact ⟨m, hd, hL, hmk, C02_makemove_eq pos m pos' true hV hs hL hmk',
      C02_valid_preserved pos m pos' hV hs hL hmk' hh hf, E_of_legal pos m pos' true hV hs hL hmk', e1, e2⟩
  · rintro ⟨m, hd, _, hmk, _, _, _, e1, e2⟩
    exact ⟨m, hd, hmk, e1, e2⟩

theorem C05_code_rules_no_panic (pos : Position) (hist : List BB) (t : List Char) (hV : ValidPos pos = true) :
    R.moves [t] pos hist ≠ none := by
  rw [moves_code_single pos hV]
  intro h
  rw [Option.map_eq_none_iff] at h
  exact C05_rules_no_panic pos hist.reverse t hV h

/-- **C05 (token list) on the code**: what the regenerated `moves` returns is described by the trace of positions
reached: position = last of the trace, history = the old history followed by their keys, output = the reports. -/
theorem C05_code_applyTokens_fold (ts : List (List Char)) (pos : Position) (hist : List BB) (hdom : VE ts.length pos)
    (rest : List (List Char)) (pos' : Position) (hist' : List BB) (out' : List String)
    (h : R.moves ts pos hist = some (rest, pos', hist', out')) :
    rest = [] ∧ ∃ tr, trace ts pos = some tr ∧ pos' = tr.getLastD pos ∧
      hist' = hist ++ tr.map (·.hash) ∧ out' = reports ts pos ∧
      hist'.length = hist.length + tr.length ∧ out'.length + tr.length = ts.length := by
  rw [agree_moves_rules ts pos hist hdom, Option.map_eq_some_iff] at h
  obtain ⟨⟨p1, h1, o1⟩, hap, e⟩ := h
  simp only [Prod.mk.injEq] at e
  obtain ⟨rfl, rfl, rfl, rfl⟩ := e
  obtain ⟨tr, htr, e1, e2, e3, e4, e5, _⟩ := C05_applyTokens_fold ts pos hist.reverse [] p1 h1 o1 hap
  refine ⟨rfl, tr, htr, e1, ?_, by simpa using e3, ?_, by simpa using e5⟩
  · rw [e2]; simp
  · rw [List.length_reverse, e4, List.length_reverse]

/-- **C05 (token list) on the code, against the rules**: from a position of `D` the regenerated `moves` never panics,
consumes the stream, and leads — by moves legal by the rules, made by the regenerated `makemove`, one per accepted
token — to a position of `D` that denotes the position the rules prescribe. -/
theorem C05_code_rules_tokens (ts : List (List Char)) (pos : Position) (hist : List BB)
    (hD : InD pos = true)
    (hh : pos.halfmoves + ts.length + 64 < 2147483648) (hf : pos.fullmoves + ts.length + 64 < 2147483648) :
    ∃ pos' hist' out', R.moves ts pos hist = some ([], pos', hist', out') ∧
      ∃ n, n ≤ ts.length ∧ hist'.length = hist.length + n ∧
        C02Path_code n pos (abs pos) pos' (abs pos') ∧ InD pos' = true := by
  obtain ⟨hV, hE, _⟩ := (inD_iff pos).mp hD
  obtain ⟨pos', hist', out', hap, n, hn, hl, hpath, hD'⟩ :=
    C05_rules_tokens ts pos hist.reverse [] hD (by omega) (by omega)
  refine ⟨pos', hist'.reverse, out', ?_, n, hn, ?_, C02Path_code_iff.mpr hpath, hD'⟩
  · rw [agree_moves_rules ts pos hist ⟨hV, hE, hh, hf⟩, hap]; rfl
  · rw [List.length_reverse, hl, List.length_reverse]

/-- **`position <fen> moves ts` on the code**: after the regenerated `position` the session state (`s'`: position with
the session's `UCI_Chess960` flag, history) is described as in `C05_doPosition_history`: the history has
1 + (accepted tokens) keys, the oldest the key of the position the regenerated `set_fen` accepted, the newest the key of
the current position; the output are the reports. -/
theorem C05_code_position_history (ar : Arith) (n : Nat) (s : UState) (hist0 : List BB) (toks : List (List Char))
    (hdom : ∀ p, R.set_fen (n + 2) ar s.pos (positionArgs toks).1 = some p →
      Spec.EpConsistent (abs p) = true ∧ p.halfmoves + (positionArgs toks).2.length + 64 < 2147483648 ∧
        p.fullmoves + (positionArgs toks).2.length + 64 < 2147483648)
    (r : List (List Char) × Position × List BB × List String)
    (h : R.position (n + 2) ar toks s.pos hist0 = some r) :
    let s' : UState := { s with pos := { r.2.1 with frc := s.frc }, hist := r.2.2.1.reverse }
    let out := r.2.2.2
    ∃ p0 tr, R.set_fen (n + 2) ar s.pos (positionArgs toks).1 = some p0 ∧
      trace (positionArgs toks).2 { p0 with frc := s.pos.frc } = some tr ∧
      s'.pos = { tr.getLastD { p0 with frc := s.pos.frc } with frc := s.frc } ∧
      s'.hist = (tr.map (·.hash)).reverse ++ [p0.hash] ∧
      s'.hist.length = 1 + tr.length ∧
      s'.hist.getLast? = some p0.hash ∧
      s'.hist.head? = some s'.pos.hash ∧
      out = reports (positionArgs toks).2 { p0 with frc := s.pos.frc } ∧
      out.length + tr.length = (positionArgs toks).2.length := by
  intro s' out
  simp only [agree_set_fen] at hdom ⊢
  have hag := agree_position_rules ar n s hist0 toks (fun p hp =>
    ⟨C07_accepted_validPos ar _ _ p hp, (hdom p hp).1, (hdom p hp).2.1, (hdom p hp).2.2⟩)
  rw [h] at hag
  exact C05_doPosition_history ar s s' toks out hag.symm

/-- `e2e4` in the start position through the regenerated `moves`: accepted; the rules' move is the double push e2–e4,
legal by the rules; the key is appended to the history. -/
example : ∃ np, R.moves [str "e2e4"] Gen.startpos [7#64] = some ([], np, [7#64, np.hash], []) ∧
    abs np = Spec.apply (abs Gen.startpos) (.normal 12 28 none) ∧
    Spec.Move.normal 12 28 none ∈ Spec.legalMoves (abs Gen.startpos) := by
  have hs : (R.moves [str "e2e4"] Gen.startpos [7#64]).isSome = true := by decide +kernel
  obtain ⟨⟨rest, np, h1, o1⟩, hap⟩ := Option.isSome_iff_exists.1 hs
  have hD := (denote_eq_some_iff _ _ _).1 C05Ex.denote_e2e4
  obtain ⟨hV, hE, _⟩ := (inD_iff _).mp startpos_inD
  obtain ⟨rfl, ⟨m, hd, hL, _, ha, _, _, e1, e2⟩ | ⟨hn, _⟩⟩ :=
    (C05_code_rules_token Gen.startpos [7#64] (str "e2e4") rest np h1 o1 hV hE (by decide +kernel)
      (by decide +kernel)).mp hap
  · cases hD.unique hd
    have hdec : decodeMove Gen.startpos ⟨12, 28, 6⟩ = .normal 12 28 none := by decide +kernel
    rw [hdec] at hL ha
    subst e1 e2
    exact ⟨np, hap, ha, hL⟩
  · exact absurd hD (hn _)

/-- `moves e2e4 zzz e7e5` from the start position: the hypotheses of `C05_code_rules_tokens` hold. -/
example : ∃ pos' hist' out', R.moves [str "e2e4", str "zzz", str "e7e5"] Gen.startpos [] =
    some ([], pos', hist', out') ∧ InD pos' = true := by
  obtain ⟨pos', hist', out', h, _, _, _, _, hD⟩ :=
    C05_code_rules_tokens [str "e2e4", str "zzz", str "e7e5"] Gen.startpos [] startpos_inD
      (by decide +kernel) (by decide +kernel)
  exact ⟨pos', hist', out', h, hD⟩

end Rawr

#print axioms Rawr.C05_code_Denotes_iff
#print axioms Rawr.moves_code_single
#print axioms Rawr.C05_code_token_spec
#print axioms Rawr.C05_code_rules_token
#print axioms Rawr.C05_code_rules_no_panic
#print axioms Rawr.C05_code_applyTokens_fold
#print axioms Rawr.C05_code_rules_tokens
#print axioms Rawr.C05_code_position_history
