import Rawr.Proofs.FenRound
/-! # C07 : the FEN parser accepts only structurally valid positions, and all valid ones

(a) soundness, for ALL strings and BOTH arithmetics (`Arith.wrap` = optimised build: wrapping `u8`
arithmetic, masked shifts; `Arith.trap` = checked build): an accepted string yields a position
satisfying V.1–V.8 of DESIGN.md §4 (`StructurallyValid`, defined in `Rawr/Proofs/FenSound.lean`).
(b) exactness and (c) completeness: for every valid absolute position `a` and each spelling of the castling
field (X-FEN, Shredder file letters, `KQkq`), `set_fen (Spec.printFen a st) = Ok (rel a)` in BOTH
arithmetics — the string is accepted, the result is the position it spells out, and `wrap`/`trap` agree.
The bridge hypothesis `hchk` (C08d) is discharged in `Rawr/Props/C07_full.lean` (`C07c_complete`); non-vacuity of (b,c):
`Rawr/Props/C07Examples.lean`. -/
namespace Rawr
open Spec FenC

/-- **C07(a).** For every input string, every value of the `frc` flag and both arithmetics: if `set_fen`
accepts, the position satisfies all structural invariants — consistent bitboards (V.1), exactly one
king per colour (V.2), no pawn on rank 1/8 (V.3), side not to move not attacked (V.4, the model's own
`isSqAttacked`; its equivalence with `Spec.attackedBy` is C08d), every castling right backed by the king
on its home rank and a rook of that colour on the recorded file `< 8`, east of the king for a king-side
right and west of it for a queen-side right (V.5), en-passant square on relative rank index 5, empty,
enemy pawn directly south of it (V.6), `0 ≤ halfmoves < 2^31`, `1 ≤ fullmoves < 2^31` (V.7), stored key =
recomputed key (V.8). -/
theorem C07a_sound (ar : Arith) (frc : Bool) (s : List Char) (p : Position) :
    setFen ar frc s = some p → StructurallyValid p := FenS.setFen_sound

/-- every board character toggles one colour bit and the same piece bit, so colour parity = piece parity survives any
index arithmetic: with the tests of `validate` (`validate_none_iff` of `Rawr/Proofs/FenValidate.lean`) this gives V.1. -/
theorem C07a_parity (ar : Arith) (cs : List Char) (p : Position) (idx : Nat) (q : Position) (j : Nat)
    (h : fenBoard ar cs p idx = some (q, j))
    (hp : p.c0 ^^^ p.c1 = p.p0 ^^^ p.p1 ^^^ p.p2 ^^^ p.p3 ^^^ p.p4 ^^^ p.p5) :
    q.c0 ^^^ q.c1 = q.p0 ^^^ q.p1 ^^^ q.p2 ^^^ q.p3 ^^^ q.p4 ^^^ q.p5 := FenS.fenBoard_par h hp

/-- a castling letter is classified king-side only if its file is east of that colour's king
(a file letter on the king's own file counts as queen-side; `validate` then rejects it, because the rook
would have to stand on the king's square). -/
theorem C07a_letter (p : Position) (c : Char) (black : Bool) (file : Nat) (ks : Bool)
    (h : castleLetter p c = some (some (black, file, ks))) :
    file < 8 ∧
    (ks = true → fileOf (lsb ((if black then p.c1 else p.c0) &&& p.p5)) < file) ∧
    (ks = false → file ≤ fileOf (lsb ((if black then p.c1 else p.c0) &&& p.p5))) := FenS.castleLetter_spec h


/-- a Chess960 X-FEN whose queen-side right names the INNER rook (c1; another rook stands on b1). -/
example : (setFen .trap true "4k3/8/8/8/8/8/8/1RR1K3 w C - 0 1".toList).map (fun p => (p.usQ, p.cf1, p.usK)) =
    some (true, 2, false) := by decide +kernel

/-- a liberal spelling: no `/` between the ranks, `W` for the side to move — accepted, same position. -/
example : setFen .trap false "rnbqkbnrpppppppp8888PPPPPPPPRNBQKBNR W KQkq - 0 1".toList = some Gen.startpos := by
  decide +kernel

/-- a 320-square board field (the 64 squares, then 256 more empty ones: the `u8` index wraps to 64):
accepted by the optimised build, rejected (overflow trap) by the checked build. -/
def fen320 : List Char :=
  "rnbqkbnr/pppppppp/8/8/8/8/PPPPPPPP/RNBQKBNR".toList ++ List.replicate 32 '8' ++ " w KQkq - 0 1".toList
theorem setFen_fen320 : setFen .wrap false fen320 = some Gen.startpos ∧ setFen .trap false fen320 = none := by
  decide +kernel
example : setFen .wrap false fen320 = some Gen.startpos ∧ setFen .trap false fen320 = none := setFen_fen320

/-- an en-passant alias: `aV` is read as `a6` by the optimised build (`8 * ('V' - '1') = 296 ≡ 40 mod 256`),
the checked build traps. -/
example :
    setFen .wrap false "rnbqkbnr/1ppppppp/8/p7/8/8/PPPPPPPP/RNBQKBNR w KQkq aV 0 2".toList =
      setFen .wrap false "rnbqkbnr/1ppppppp/8/p7/8/8/PPPPPPPP/RNBQKBNR w KQkq a6 0 2".toList ∧
    (setFen .wrap false "rnbqkbnr/1ppppppp/8/p7/8/8/PPPPPPPP/RNBQKBNR w KQkq aV 0 2".toList).map (·.ep) =
      some (some 40) ∧
    setFen .trap false "rnbqkbnr/1ppppppp/8/p7/8/8/PPPPPPPP/RNBQKBNR w KQkq aV 0 2".toList = none := by
  decide +kernel

/-- rejected: a file letter on the king's own file (classified queen-side, then no rook there);
full-move number 0. -/
example : setFen .wrap true "4k3/8/8/8/8/8/8/R3K3 w E - 0 1".toList = none ∧
    setFen .wrap false "4k3/8/8/8/8/8/8/4K3 w - - 0 0".toList = none := by decide +kernel

/-- **C07(b,c).** Let `a` be a valid absolute position (`Spec.Valid`: V.2–V.7) with pieces only on the 64
squares and counters below `2^31`; let `st` be any of the three spellings of the castling field, where the
`KQkq` spelling is only meaningful if every right's rook is the outermost one on its wing
(`AllOutermost`; without it `K` denotes another rook — see the example in `Rawr/Proofs/FenCastle.lean`).
Then in both arithmetics and for either value of the `frc` flag, `set_fen` accepts the printed FEN and
returns exactly `rel a frc` (boards, side, rights with the rook files of the present rights, the defaults
7,0,7,0 for the absent ones — `rel` uses the same defaults —, en-passant square, counters, recomputed key).
`hchk` is V.4 in the form `validate` tests it (the model's `isSqAttacked`); it follows from
`Spec.Valid a` by C08d. -/
theorem C07c_accepts (ar : Arith) (a : APos) (frc : Bool) (st : CastleStyle)
    (hV : Spec.Valid a = true) (hboard : ∀ s, 64 ≤ s → a.board s = none)
    (hh : a.half < 2147483648) (hf : a.full < 2147483648)
    (hst : st = .kqkq → AllOutermost a)
    (hchk : (rel a frc).isSqAttacked (lsb ((rel a frc).c1 &&& (rel a frc).p5)) false = false) :
    setFen ar frc (printFen a st) = some (rel a frc) :=
  setFen_printFen a frc ar st hV hboard hh hf hst hchk

/-- **C07(b)**: on well-formed input no `u8` operation overflows — the two builds agree. -/
theorem C07b_arith_agree (a : APos) (frc : Bool) (st : CastleStyle)
    (hV : Spec.Valid a = true) (hboard : ∀ s, 64 ≤ s → a.board s = none)
    (hh : a.half < 2147483648) (hf : a.full < 2147483648)
    (hst : st = .kqkq → AllOutermost a)
    (hchk : (rel a frc).isSqAttacked (lsb ((rel a frc).c1 &&& (rel a frc).p5)) false = false) :
    setFen .wrap frc (printFen a st) = setFen .trap frc (printFen a st) := by
  rw [C07c_accepts .wrap a frc st hV hboard hh hf hst hchk, C07c_accepts .trap a frc st hV hboard hh hf hst hchk]

/-- **C07(b)**: the accepted position denotes exactly the absolute position the string spells out. -/
theorem C07b_exact (ar : Arith) (a : APos) (frc : Bool) (st : CastleStyle)
    (hV : Spec.Valid a = true) (hboard : ∀ s, 64 ≤ s → a.board s = none)
    (hh : a.half < 2147483648) (hf : a.full < 2147483648)
    (hst : st = .kqkq → AllOutermost a)
    (hchk : (rel a frc).isSqAttacked (lsb ((rel a frc).c1 &&& (rel a frc).p5)) false = false) :
    ∃ p, setFen ar frc (printFen a st) = some p ∧ abs p = a ∧ p.frc = frc ∧ StructurallyValid p := by
  have h := C07c_accepts ar a frc st hV hboard hh hf hst hchk
  exact ⟨_, h, abs_rel a frc hboard, rel_frc a frc, C07a_sound ar frc _ _ h⟩

/-- the position every FEN of a position of the engine's domain is read to: for a `ValidPos p`, all three
spellings of `abs p` are accepted and give back `p` (castle files of absent rights reset to the defaults). -/
theorem C07c_domain (ar : Arith) (p : Position) (st : CastleStyle) (hV : ValidPos p = true)
    (hst : st = .kqkq → AllOutermost (abs p))
    (hchk : p.isSqAttacked (lsb (p.c1 &&& p.p5)) false = false) :
    setFen ar p.frc (printFen (abs p) st) = some (normCf p) := setFen_printFen_abs ar p st hV hst hchk

example : setFen .wrap false startFen = some Gen.startpos ∧ setFen .trap false startFen = some Gen.startpos :=
  setFen_startFen
example : StructurallyValid Gen.startpos := C07a_sound .wrap false startFen _ setFen_startFen.1

/-- `C07c_accepts` without the hypothesis `hchk`: what `Rawr/Props/C07_full.lean` proves. -/
def C07c_full : Prop :=
  ∀ (ar : Arith) (a : APos) (frc : Bool) (st : CastleStyle), Spec.Valid a = true →
    (∀ s, 64 ≤ s → a.board s = none) → a.half < 2147483648 → a.full < 2147483648 →
    (st = .kqkq → AllOutermost a) → setFen ar frc (printFen a st) = some (rel a frc)

#print axioms C07a_sound
#print axioms C07a_parity
#print axioms validate_none_iff
#print axioms C07a_letter
#print axioms C07c_accepts
#print axioms C07b_arith_agree
#print axioms C07b_exact
#print axioms C07c_domain
end Rawr
