import Rawr.Props.C08
import Rawr.Props.C08c
import Rawr.Props.C08d
import Rawr.Proofs.RustImpAgree_MakeMove
import Rawr.Proofs.RustImpAgree_MoveGen
import Rawr.Proofs.RustSearchAgree
import Rawr.Proofs.RustSearchAgree_Perft
import Rawr.Proofs.RustTextAgree_Go
/-!
# C08 on the regenerated code: `R.count_moves`, `R.legal_captures`, `R.perft`, the attack queries

Regenerated from the Rust source on every run: `R.count_moves` (count_moves.rs), `R.move_generator`, `R.legal_moves`,
`R.legal_captures`, `R.is_capture`, `R.makemove`, the attack queries of attacks.rs (`R.is_sq_attacked`,
`R.is_bb_attacked`, `R.get_attacked`, `R.in_check`, `R.in_check_them`, `R.is_safe`), and `perft` TWICE: `R.perft`
(search-side translator) and `R.pos_perft` (text-side translator, with the `u8` arithmetic of `depth - 1`).
All agreement theorems are function equalities without domain hypothesis, except the two perft agreements, which have
the translation's recursion fuel: `d < fuel → R.perft fuel p d = perft d p` — so the `_code` perft theorems carry
`d < fuel` and nothing else; everything else is an exact transfer.
-/
namespace Rawr
open Position Spec ZH MM SV Br Att

/-- C08(a) on the code. -/
theorem C08_code_a_count_eq_length (p : Position) : R.count_moves p = (R.move_generator p).length := by
  rw [agree_count_moves, agree_move_generator]; exact C08a_count_eq_length p

theorem C08_code_a_count_eq_legal_moves_length (p : Position) : R.count_moves p = (R.legal_moves p).length := by
  rw [agree_count_moves, agree_legal_moves]; exact C08a_count_eq_legalMoves_length p

/-- C08(b) on the code. -/
theorem C08_code_b_captures_filter (p : Position)
    (h : p.p0 &&& p.p1 = 0#64 ∧ p.p0 &&& p.p2 = 0#64 ∧ p.p0 &&& p.p3 = 0#64 ∧
         p.p0 &&& p.p4 = 0#64 ∧ p.p0 &&& p.p5 = 0#64) :
    R.legal_captures p = (R.legal_moves p).filter (R.is_capture p) := by
  rw [agree_legal_captures, agree_legal_moves, agree_is_capture]; exact C08b_captures_filter p h

theorem C08_code_b_captures_length_le (p : Position) : (R.legal_captures p).length ≤ (R.legal_moves p).length := by
  rw [agree_legal_captures, agree_legal_moves]; exact C08b_captures_length_le p

/-- the disjointness hypothesis cannot be dropped, on the code either. -/
theorem C08_code_b_unconditional_false :
    ¬ (∀ p : Position, R.legal_captures p = (R.legal_moves p).filter (R.is_capture p)) := by
  rw [agree_legal_captures, agree_legal_moves, agree_is_capture]; exact C08b_unconditional_false

/-- **C08(c) on the code**: on the domain `V ∧ E` the regenerated `perft` (search-side translation), given recursion
fuel above the depth, returns the number `Spec.leaves (abs p) d` of move sequences of length `d` that are legal by
the rules — in particular it does not panic. -/
theorem C08_code_c_perft (fuel d : Nat) (hfuel : d < fuel) (p : Position) (hV : ValidPos p = true)
    (hE : Spec.EpConsistent (abs p) = true)
    (hh : p.halfmoves + d < 2147483648) (hf : p.fullmoves + d < 2147483648) :
    R.perft fuel p d = some (Spec.leaves (abs p) d) := by
  rw [agree_perft fuel d p hfuel]; exact C08c_perft d p hV hE hh hf

/-- the same for the text-side translation of chess/perft.rs (either `u8` arithmetic for `depth - 1`). -/
theorem C08_code_c_pos_perft (ar : Arith) (fuel d : Nat) (hfuel : d < fuel) (p : Position) (hV : ValidPos p = true)
    (hE : Spec.EpConsistent (abs p) = true)
    (hh : p.halfmoves + d < 2147483648) (hf : p.fullmoves + d < 2147483648) :
    R.pos_perft fuel ar p d = some (Spec.leaves (abs p) d) := by
  rw [agree_pos_perft ar fuel d p hfuel]; exact C08c_perft d p hV hE hh hf

/-- `go split`: below every move the code generates, `makemove::<false>` succeeds and `perft` reports the leaf count
below the move prescribed by the rules. -/
theorem C08_code_c_split (fuel d : Nat) (hfuel : d < fuel) (p : Position) (m : Mv) (hV : ValidPos p = true)
    (hE : Spec.EpConsistent (abs p) = true) (hm : m ∈ R.legal_moves p)
    (hh : p.halfmoves + (d + 1) < 2147483648) (hf : p.fullmoves + (d + 1) < 2147483648) :
    ∃ np, R.makemove p m false = some np ∧
      R.perft fuel np d = some (Spec.leaves (Spec.apply (abs p) (decodeMove p m)) d) := by
  rw [agree_legal_moves] at hm
  obtain ⟨np, h1, h2⟩ := C08c_split d p m hV hE hm hh hf
  exact ⟨np, by rw [agree_makemove]; exact h1, by rw [agree_perft fuel d np hfuel]; exact h2⟩

theorem C08_code_c_isCapture (p : Position) (hV : ValidPos p = true) (m : Mv) (hm : m ∈ R.legal_moves p) :
    R.is_capture p m = Spec.isCaptureMove (abs p) (decodeMove p m) := by
  rw [agree_legal_moves] at hm; rw [agree_is_capture]; exact C08c_isCapture p hV m hm

theorem C08_code_c_captures (p : Position) (hV : ValidPos p = true) :
    R.legal_captures p = (R.legal_moves p).filter fun m => Spec.isCaptureMove (abs p) (decodeMove p m) := by
  rw [agree_legal_captures, agree_legal_moves]; exact C08c_captures p hV

theorem C08_code_d_isSqAttacked (p : Position) (hC : Consistent p = true) (sq : Nat) (hsq : sq < 64)
    (them : Bool) (hk : count (R.get_kings p &&& R.get_side p them) ≤ 1) :
    R.is_sq_attacked p sq them
      = Spec.attackedBy (abs p).board (sideWhite p them) (absSq (R.get_turn p) sq) := by
  rw [agree_get_kings, agree_get_side] at hk
  rw [agree_is_sq_attacked, agree_get_turn]; exact C08d_isSqAttacked p hC sq hsq them hk

theorem C08_code_d_isBbAttacked (p : Position) (hC : Consistent p = true) (bb : BB) (them : Bool) :
    R.is_bb_attacked p bb them
      = (toList bb).any (fun s => Spec.attackedBy (abs p).board (sideWhite p them) (absSq (R.get_turn p) s)) := by
  rw [agree_is_bb_attacked, agree_get_turn]; exact C08d_isBbAttacked p hC bb them

theorem C08_code_d_getAttacked (p : Position) (hC : Consistent p = true) (mask : BB) (them : Bool) :
    ∀ s, s < 64 → (R.get_attacked p mask them).getLsbD s
      = (mask.getLsbD s && Spec.attackedBy (abs p).board (sideWhite p them) (absSq (R.get_turn p) s)) := by
  rw [agree_get_attacked, agree_get_turn]; exact C08d_getAttacked p hC mask them

theorem C08_code_d_inCheck (p : Position) (hC : Consistent p = true)
    (hk0 : count (R.get_kings p &&& R.get_us p) = 1) (hk1 : count (R.get_kings p &&& R.get_them p) ≤ 1) :
    R.in_check p = Spec.inCheck (abs p).board (!R.get_turn p) := by
  rw [agree_get_kings, agree_get_us] at hk0; rw [agree_get_kings, agree_get_them] at hk1
  rw [agree_in_check, agree_get_turn]; exact C08d_inCheck p hC hk0 hk1

theorem C08_code_d_inCheckThem (p : Position) (hC : Consistent p = true)
    (hk0 : count (R.get_kings p &&& R.get_us p) ≤ 1) (hk1 : count (R.get_kings p &&& R.get_them p) = 1) :
    R.in_check_them p = Spec.inCheck (abs p).board (R.get_turn p) := by
  rw [agree_get_kings, agree_get_us] at hk0; rw [agree_get_kings, agree_get_them] at hk1
  rw [agree_in_check_them, agree_get_turn]; exact C08d_inCheckThem p hC hk0 hk1

/-- `is_safe` as `move_generator` calls it for king steps (king lifted off the board). -/
theorem C08_code_d_isSafe (p : Position) (hC : Consistent p = true) (ksq : Nat) (hk64 : ksq < 64)
    (hk : (R.get_us p).getLsbD ksq = true) (to : Nat) (hto : to < 64) :
    R.is_safe to (R.get_occupied p ^^^ bit ksq) (R.get_them p &&& R.get_pawns p) (R.get_them p &&& R.get_knights p)
        (R.get_them p &&& R.get_bishops p) (R.get_them p &&& R.get_rooks p) (R.get_them p &&& R.get_queens p)
        (R.get_them p &&& R.get_kings p)
      = !Spec.attackedBy (Spec.setSq (abs p).board (absSq (R.get_turn p) ksq) none) (R.get_turn p)
          (absSq (R.get_turn p) to) := by
  rw [agree_get_us] at hk
  rw [agree_is_safe, agree_get_occupied, agree_get_them, agree_get_pawns, agree_get_knights, agree_get_bishops,
    agree_get_rooks, agree_get_queens, agree_get_kings, agree_get_turn]
  exact C08d_isSafe p hC ksq hk64 hk to hto

/-- on the domain `ValidPos` the king hypotheses are discharged. -/
theorem C08_code_d_isSqAttacked_valid (p : Position) (hV : ValidPos p = true) (sq : Nat) (hsq : sq < 64)
    (them : Bool) :
    R.is_sq_attacked p sq them
      = Spec.attackedBy (abs p).board (sideWhite p them) (absSq (R.get_turn p) sq) := by
  rw [agree_is_sq_attacked, agree_get_turn]; exact C08d_isSqAttacked_valid p hV sq hsq them

theorem C08_code_d_inCheck_valid (p : Position) (hV : ValidPos p = true) :
    R.in_check p = Spec.inCheck (abs p).board (!R.get_turn p) := by
  rw [agree_in_check, agree_get_turn]; exact C08d_inCheck_valid p hV

theorem C08_code_d_inCheckThem_valid (p : Position) (hV : ValidPos p = true) :
    R.in_check_them p = Spec.inCheck (abs p).board (R.get_turn p) := by
  rw [agree_in_check_them, agree_get_turn]; exact C08d_inCheckThem_valid p hV

/-- by the rules of chess there are 6 first moves and 30 sequences of two moves in K+P v K (`kpk` of
`Props/C08c.lean`), through the theorem on the regenerated `perft`. -/
example : Spec.leaves (abs kpk) 1 = 6 ∧ Spec.leaves (abs kpk) 2 = 30 := by
  have h1 := C08_code_c_perft 3 1 (by decide) kpk kpk_VE.1 kpk_VE.2 (by decide) (by decide)
  have h2 := C08_code_c_perft 3 2 (by decide) kpk kpk_VE.1 kpk_VE.2 (by decide) (by decide)
  rw [agree_perft 3 1 kpk (by decide), kpk_perft.1] at h1
  rw [agree_perft 3 2 kpk (by decide), kpk_perft.2] at h2
  exact ⟨(Option.some.inj h1).symm, (Option.some.inj h2).symm⟩

/-- the start position: 400 (text-side translation, checked arithmetic). -/
example : Spec.leaves (abs Gen.startpos) 2 = 400 := by
  have h2 := C08_code_c_pos_perft .trap 3 2 (by decide) Gen.startpos startpos_valid startpos_E (by decide) (by decide)
  rw [agree_pos_perft .trap 3 2 Gen.startpos (by decide), perft_startpos_2] at h2
  exact (Option.some.inj h2).symm

example : R.count_moves promoPos = 17 ∧ (R.move_generator promoPos).length = 17 := by decide
/-- `attPos` of `Props/C08d.lean`: the mover is in check by the queen on d4. -/
example : R.in_check attPos = true ∧ Spec.inCheck (abs attPos).board (!R.get_turn attPos) = true := by decide

end Rawr

#print axioms Rawr.C08_code_a_count_eq_length
#print axioms Rawr.C08_code_a_count_eq_legal_moves_length
#print axioms Rawr.C08_code_b_captures_filter
#print axioms Rawr.C08_code_b_captures_length_le
#print axioms Rawr.C08_code_b_unconditional_false
#print axioms Rawr.C08_code_c_perft
#print axioms Rawr.C08_code_c_pos_perft
#print axioms Rawr.C08_code_c_split
#print axioms Rawr.C08_code_c_isCapture
#print axioms Rawr.C08_code_c_captures
#print axioms Rawr.C08_code_d_isSqAttacked
#print axioms Rawr.C08_code_d_isBbAttacked
#print axioms Rawr.C08_code_d_getAttacked
#print axioms Rawr.C08_code_d_inCheck
#print axioms Rawr.C08_code_d_inCheckThem
#print axioms Rawr.C08_code_d_isSafe
#print axioms Rawr.C08_code_d_isSqAttacked_valid
#print axioms Rawr.C08_code_d_inCheck_valid
#print axioms Rawr.C08_code_d_inCheckThem_valid
