import Rawr.Proofs.RootLemmasIter
import Rawr.Proofs.RootLemmasDom
import Rawr.Props.C13
import Rawr.Props.C17
/-! # C03 — a search always answers with a legal move when one exists

Statements about the model functions `negamax`, `rootIter`, `root` of `Rawr/Model/Search.lean` themselves, for
every limit (including an arbitrary clock oracle), every history and every table whose stored scores are
below `INF` in absolute value (`TTBounded`; preserved by the search, true of a fresh or cleared table).

Hypotheses, all explicit:
* `SearchDom G` and `G fuel p`: evaluation and quiescence answer within `±EB = ±174416` on the positions the
  search visits (`G` is a fuel-indexed family closed under legal moves and the null move).
  Two ways to discharge it are in `Rawr/Proofs/RootLemmasDom.lean`:
  `EvalBoundedOn.dom` (an invariant closed under moves with `|eval| ≤ EB`; for `Consistent` positions the
  evaluation clause is `C17_bounds_all_V1`, and `EvalBounded.on` covers the literal `∀ q, |eval q| ≤ EB`) and
  `sDomB_dom` (a kernel-evaluable check, used for the examples below).
* `fuel ≤ INF + MATE_SCORE = 11 000 000`: a mated node answers `-MATE_SCORE + ply`, which stays above `-INF`
  only while `ply < INF + MATE_SCORE`; `ply` is bounded by the recursion depth, i.e. by `fuel`. That the
  recursion is never that deep needs the termination measure (a node in check is extended, so depth alone
  need not decrease): `Props/C15_termination.lean` shows that the driver returns on fuel
  `rootFuelP p ≤ 6 750 054` with the same answer on every larger fuel, and states C03 without this hypothesis
  and without "if it returns" (`C03_root_total`; against the rules of chess `C03_rules_total`). -/
namespace Rawr

def TTBounded (t : Table TTEntry) : Prop := TTIn Gen.INF t

theorem MATE_le_INF : Gen.MATE_SCORE ≤ Gen.INF := by decide

theorem negamax_score_gt_negINF (lim : Limit) (G : Nat → Position → Prop) (hG : SearchDom G)
    (fuel : Nat) (p : Position) (st : SState) (α β ply depth : Int) (cn : Bool) (v : Int) (st' : SState)
    (hGp : G fuel p) (htt : TTBounded st.tt) (hply : 1 ≤ ply)
    (hbound : ply + fuel ≤ Gen.INF + Gen.MATE_SCORE)
    (h : negamax lim fuel p st α β ply depth cn = some (v, st')) :
    (-Gen.INF < v ∧ v < Gen.INF) ∧ TTBounded st'.tt :=
  negamax_range lim G hG.toC Gen.INF MATE_le_INF (Int.le_refl _) fuel p st α β ply depth cn v st' hGp htt hply hbound h

theorem not_rootStopped_of_depth_le_one (lim : Limit) (st : SState) (h : st.depth ≤ 1) :
    ¬ RootStopped lim st := by
  rintro ⟨h1, _⟩; omega

/-- A root call (`ply = 0`, full window, `depth ≥ 1`, `canNull = false`) that returns either
(a) was stopped by its poll (`RootStopped`: needs `stats.depth > 1`) and leaves `best` alone, or
(b) completed its move loop: no write when there is no legal move, a member of `legalMoves p` otherwise. -/
theorem negamax_root_best (lim : Limit) (G : Nat → Position → Prop) (hG : SearchDom G)
    (fuel : Nat) (p : Position) (st : SState) (depth v : Int) (st' : SState)
    (hGp : G fuel p) (htt : TTBounded st.tt) (hd : 1 ≤ depth)
    (hf : (fuel : Int) ≤ Gen.INF + Gen.MATE_SCORE)
    (h : negamax lim fuel p st (-Gen.INF) Gen.INF 0 depth false = some (v, st')) :
    TTBounded st'.tt ∧
    ((RootStopped lim st ∧ st'.best = st.best) ∨
     (¬ RootStopped lim st ∧ (legalMoves p = [] → st'.best = st.best) ∧
       (legalMoves p ≠ [] → ∃ m ∈ legalMoves p, st'.best = some m))) := by
  obtain ⟨h1, h2⟩ := negamax_root lim G hG.toC Gen.INF MATE_le_INF (Int.le_refl _) fuel p hGp hf st depth v st' htt hd h
  refine ⟨h1, ?_⟩
  rcases h2 with ⟨hs, _, e⟩ | ⟨hns, hnil, hcons⟩
  · exact Or.inl ⟨hs, by rw [e]; rfl⟩
  · exact Or.inr ⟨hns, hnil, fun hl => (hcons hl).2⟩

/-- `root` answers with a member of `legalMoves p` when there is one, and with `Err("No bestmove")` only
when there is none. -/
theorem C03_root_returns_legal (lim : Limit) (G : Nat → Position → Prop) (hG : SearchDom G)
    (fuel : Nat) (p : Position) (hist : List BB) (tt : Table TTEntry) (res : RootResult)
    (hGp : G fuel p) (htt : TTBounded tt) (hf : (fuel : Int) ≤ Gen.INF + Gen.MATE_SCORE)
    (h : root lim fuel p hist tt = some res) :
    (legalMoves p ≠ [] → ∃ m ∈ legalMoves p, res.best = some m) ∧ (legalMoves p = [] → res.best = none) :=
  have hok := root_ok (negamax_root lim G hG.toC Gen.INF MATE_le_INF (Int.le_refl _) fuel p hGp hf) (by decide) htt h
  ⟨hok.2.1, hok.2.2.1⟩

/-- the same for an invariant `G` of positions (`EvalBoundedOn G`). -/
theorem C03_root_returns_legal_inv (lim : Limit) (G : Position → Prop) (hG : EvalBoundedOn G)
    (fuel : Nat) (p : Position) (hist : List BB) (tt : Table TTEntry) (res : RootResult)
    (hGp : G p) (htt : TTBounded tt) (hf : (fuel : Int) ≤ Gen.INF + Gen.MATE_SCORE)
    (h : root lim fuel p hist tt = some res) :
    (legalMoves p ≠ [] → ∃ m ∈ legalMoves p, res.best = some m) ∧ (legalMoves p = [] → res.best = none) :=
  C03_root_returns_legal lim (fun _ => G) hG.dom fuel p hist tt res hGp htt hf h

/-- the same under the bound on every position. -/
theorem C03_root_returns_legal_evalBounded (lim : Limit) (hE : EvalBounded)
    (fuel : Nat) (p : Position) (hist : List BB) (tt : Table TTEntry) (res : RootResult)
    (htt : TTBounded tt) (hf : (fuel : Int) ≤ Gen.INF + Gen.MATE_SCORE)
    (h : root lim fuel p hist tt = some res) :
    (legalMoves p ≠ [] → ∃ m ∈ legalMoves p, res.best = some m) ∧ (legalMoves p = [] → res.best = none) :=
  C03_root_returns_legal_inv lim _ hE.on fuel p hist tt res trivial htt hf h

/-- the table handed back is bounded again (so the hypothesis holds for the next search). -/
theorem C03_root_preserves_TTBounded (lim : Limit) (G : Nat → Position → Prop) (hG : SearchDom G)
    (fuel : Nat) (p : Position) (hist : List BB) (tt : Table TTEntry) (res : RootResult)
    (hGp : G fuel p) (htt : TTBounded tt) (hf : (fuel : Int) ≤ Gen.INF + Gen.MATE_SCORE)
    (h : root lim fuel p hist tt = some res) : TTBounded res.tt :=
  (root_ok (negamax_root lim G hG.toC Gen.INF MATE_le_INF (Int.le_refl _) fuel p hGp hf) (by decide) htt h).1

theorem eval_VIn_of_consistent (q : Position) (hc : Consistent q = true) : VIn (eval q) :=
  (C17_bounds_all_V1 q (PieceDisj_of_Consistent hc) (OnMen_of_Consistent hc)
    (colours_disjoint_of_Consistent hc)).2.2.2.2.2

/-- one way to discharge `EvalBoundedOn`: board consistency (V.1 of DESIGN.md §4) gives the evaluation bound
(`C17_bounds_all_V1`); what remains is that the three kinds of step keep the boards consistent (part of C02). -/
theorem EvalBoundedOn_of_Consistent_closed
    (hmove : ∀ q m q', Consistent q = true → m ∈ legalMoves q → q.makemove m true = some q' → Consistent q' = true)
    (hcapt : ∀ q m q', Consistent q = true → m ∈ legalCaptures q → q.makemove m false = some q' →
      Consistent q' = true)
    (hnull : ∀ q, Consistent q = true → Consistent q.makenull = true) :
    EvalBoundedOn (fun q => Consistent q = true) :=
  ⟨hmove, hcapt, hnull, eval_VIn_of_consistent⟩

/-- the statement of `C03_root_returns_legal` without the bound on the recursion depth. Not proved in this
form; `C03_root_total` (`Props/C15_termination.lean`) drops the bound for positions of a `ChessDom` with
counters below 2 140 000 000. -/
def C03_root_returns_legal_full : Prop :=
  ∀ (lim : Limit) (G : Nat → Position → Prop), SearchDom G →
    ∀ (fuel : Nat) (p : Position) (hist : List BB) (tt : Table TTEntry) (res : RootResult),
      G fuel p → TTBounded tt → root lim fuel p hist tt = some res →
      (legalMoves p ≠ [] → ∃ m ∈ legalMoves p, res.best = some m) ∧ (legalMoves p = [] → res.best = none)

/-- C03 with the specification's legal moves in place of the generator's (the bridge
`legalMoves p` = `(Spec.legalMoves (abs p)).map (encodeMove p)` up to order is C01). Not proved in this form:
`C03_full_partial` (`Props/C03_rules.lean`) has it with the fuel bound and room in the counters,
`C03_rules_total` (`Props/C15_termination.lean`) without the fuel bound, under `MovesFit` and with counters
below 2 140 000 000. -/
def C03_full : Prop :=
  ∀ (lim : Limit) (fuel : Nat) (p : Position) (hist : List BB) (tt : Table TTEntry) (res : RootResult),
    InD p = true → TTBounded tt → root lim fuel p hist tt = some res →
    (Spec.legalMoves (abs p) ≠ [] →
      ∃ m ∈ Spec.legalMoves (abs p), res.best = some (encodeMove p m)) ∧
    (Spec.legalMoves (abs p) = [] → res.best = none)

namespace C03Ex
open C13Ex

theorem kpk_dom2 : sDomB 2 kpk = true := by decide +kernel

theorem kpk_legal : legalMoves kpk ≠ [] := by decide +kernel

/-- a table that is not fresh: the slot of the root holds an entry for the root's key with a bogus move,
a huge depth and a score just below `INF` (flag "exact"). -/
def ttDirty : Table TTEntry :=
  ⟨#[default, ⟨0x1234#64, ⟨63, 0, 4⟩, 9999999, 100, 0⟩, ⟨0x77#64, ⟨1, 2, 6⟩, -9999999, 3, 1⟩]⟩

theorem ttDirty_bounded : TTBounded ttDirty := by
  intro e he
  have : e ∈ ttDirty.entries.toList := Array.mem_toList_iff.2 he
  simp only [ttDirty, List.mem_cons, List.not_mem_nil, or_false] at this
  rcases this with rfl | rfl | rfl <;> (unfold InR; decide)

/-- the hypotheses of `C03_root_returns_legal` hold for K+P v K with a dirty table, a non-empty history and a
zero-depth budget; the conclusion, through the theorem: the driver returns a legal move. -/
example : ∃ res, root (.depth 0) 2 kpk hist2 ttDirty = some res ∧ ∃ m ∈ legalMoves kpk, res.best = some m := by
  have h : (root (.depth 0) 2 kpk hist2 ttDirty).isSome = true := by decide +kernel
  obtain ⟨res, h1⟩ := Option.isSome_iff_exists.1 h
  exact ⟨res, h1, (C03_root_returns_legal _ _ sDomB_dom 2 kpk hist2 ttDirty res kpk_dom2 ttDirty_bounded
    (by decide) h1).1 kpk_legal⟩

/-- … and for a clock that has already expired at the first poll. -/
example : ∃ res, root (.clock fun _ => true) 2 kpk hist2 tt3 = some res ∧
    ∃ m ∈ legalMoves kpk, res.best = some m := by
  obtain ⟨res, h1⟩ := Option.isSome_iff_exists.1 kpk_expired
  exact ⟨res, h1, (C03_root_returns_legal _ _ sDomB_dom 2 kpk hist2 tt3 res kpk_dom2
    (TTIn.replicate (by decide) 3) (by decide) h1).1 kpk_legal⟩

/-- the other direction on a stalemate: `Err("No bestmove")`. -/
example : ∃ res, root .infinite 1 stale hist2 tt3 = some res ∧ res.best = none := by
  obtain ⟨res, h1, _⟩ := Option.map_eq_some_iff.1 stale_infinite
  have hd : sDomB 1 stale = true := by decide +kernel
  exact ⟨res, h1, (C03_root_returns_legal _ _ sDomB_dom 1 stale hist2 tt3 res hd
    (TTIn.replicate (by decide) 3) (by decide) h1).2 (by decide +kernel)⟩

end C03Ex

end Rawr

#print axioms Rawr.negamax_score_gt_negINF
#print axioms Rawr.negamax_root_best
#print axioms Rawr.C03_root_returns_legal
#print axioms Rawr.C03_root_returns_legal_inv
#print axioms Rawr.C03_root_returns_legal_evalBounded
#print axioms Rawr.C03_root_preserves_TTBounded
#print axioms Rawr.EvalBoundedOn_of_Consistent_closed
