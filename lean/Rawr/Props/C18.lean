import Rawr.Proofs.Hashtable
/-! # C18 — the transposition table behaves as a faithful always-replace cache

Generic in the entry type `α` (`[Inhabited α] [DecidableEq α]`, `default` = Rust `T::default()`) and in
`entrySize` (= `size_of::<T>()`).  A zero-slot table answers every lookup with `default` and ignores stores,
so `Table.poll`/`Table.add` never return `none` (`step_isSome`, `zero_slot`); `Table.hashfull = none` is the Rust `None` *return value*, not a panic.

The specification is the slot map `SlotSpec`; `abs` reads it off a `Table`.  `step` / `SlotSpec.step` execute one
operation `Op` with output `Out` on either side; `step_refines` / `run_refines` are the refinement.  The corollaries
(a)–(f) are stated on the model. -/
set_option linter.unusedSectionVars false
namespace Rawr
namespace C18
open Table

variable {α : Type} [Inhabited α] [DecidableEq α]

/-- `n` slots; `slot i` is meaningful for `i < n`. -/
structure SlotSpec (α : Type) where
  n : Nat
  slot : Nat → α

namespace SlotSpec

def new (mb es : Nat) : SlotSpec α := ⟨numEntries mb es, fun _ => default⟩

/-- Store: overwrite exactly slot `key % n`; a zero-slot table ignores the store. -/
def add (s : SlotSpec α) (key : Nat) (e : α) : Option (SlotSpec α) :=
  some (if s.n = 0 then s else ⟨s.n, fun i => if i = key % s.n then e else s.slot i⟩)

/-- Lookup: content of slot `key % n`; a zero-slot table answers `default`. -/
def poll (s : SlotSpec α) (key : Nat) : Option α :=
  some (if s.n = 0 then default else s.slot (key % s.n))

def clear (s : SlotSpec α) : SlotSpec α := ⟨s.n, fun _ => default⟩

/-- Exactly `mb * 2^20 / es` slots; the common prefix is kept, everything else is `default`. -/
def resize (s : SlotSpec α) (mb es : Nat) : SlotSpec α :=
  ⟨numEntries mb es, fun i => if i < numEntries mb es ∧ i < s.n then s.slot i else default⟩

/-- Number of non-default slots among the first `min n 1000`; `none` (a value) iff there is no slot. -/
def hashfull (s : SlotSpec α) : Option Nat :=
  if min s.n 1000 = 0 then none
  else some ((List.range (min s.n 1000)).filter fun i => s.slot i ≠ default).length

def len (s : SlotSpec α) : Nat := s.n

end SlotSpec

/-- Abstraction function. Slots outside the table read as `default`. -/
def abs (t : Table α) : SlotSpec α := ⟨t.len, t.slot⟩

theorem abs_slot_default (t : Table α) {i : Nat} (h : (abs t).n ≤ i) : (abs t).slot i = default :=
  slot_of_ge t h

theorem abs_injective {t u : Table α} (h : abs t = abs u) : t = u := by
  have h1 : t.len = u.len := congrArg SlotSpec.n h
  have h2 : t.slot = u.slot := congrArg SlotSpec.slot h
  exact ext_slot h1 fun i _ => congrFun h2 i

inductive Op (α : Type) where
  | add (key : Nat) (e : α)
  | poll (key : Nat)
  | clear
  | resize (mb : Nat)
  | hashfull
  | len
  deriving DecidableEq, Repr

inductive Out (α : Type) where
  | unit
  | entry (e : α)
  | fill (h : Option Nat)
  | len (n : Nat)
  deriving DecidableEq, Repr

/-- One operation on the model (`none` = panic; never happens, `step_isSome`). -/
def step (es : Nat) (t : Table α) : Op α → Option (Table α × Out α)
  | .add k e => (t.add k e).map fun t' => (t', .unit)
  | .poll k => (t.poll k).map fun e => (t, .entry e)
  | .clear => some (t.clear, .unit)
  | .resize mb => some (t.resize mb es, .unit)
  | .hashfull => some (t, .fill t.hashfull)
  | .len => some (t, .len t.len)

def SlotSpec.step (es : Nat) (s : SlotSpec α) : Op α → Option (SlotSpec α × Out α)
  | .add k e => (s.add k e).map fun s' => (s', .unit)
  | .poll k => (s.poll k).map fun e => (s, .entry e)
  | .clear => some (s.clear, .unit)
  | .resize mb => some (s.resize mb es, .unit)
  | .hashfull => some (s, .fill s.hashfull)
  | .len => some (s, .len s.len)

/-- Operation sequences, with the list of outputs; `none` if an operation panicked
(never happens, `run_isSome`). -/
def run (es : Nat) : Table α → List (Op α) → Option (Table α × List (Out α))
  | t, [] => some (t, [])
  | t, op :: ops =>
    match step es t op with
    | none => none
    | some (t', o) =>
      match run es t' ops with
      | none => none
      | some (t'', os) => some (t'', o :: os)

def SlotSpec.run (es : Nat) : SlotSpec α → List (Op α) → Option (SlotSpec α × List (Out α))
  | s, [] => some (s, [])
  | s, op :: ops =>
    match SlotSpec.step es s op with
    | none => none
    | some (s', o) =>
      match SlotSpec.run es s' ops with
      | none => none
      | some (s'', os) => some (s'', o :: os)

theorem run_cons (es : Nat) (t : Table α) (op : Op α) (ops : List (Op α)) :
    run es t (op :: ops) = (step es t op).bind fun r => (run es r.1 ops).map fun q => (q.1, r.2 :: q.2) := by
  rw [run]
  cases step es t op with
  | none => rfl
  | some r =>
    obtain ⟨t', o⟩ := r
    simp only [Option.bind_some]
    cases run es t' ops <;> rfl

theorem SlotSpec.run_cons (es : Nat) (s : SlotSpec α) (op : Op α) (ops : List (Op α)) :
    SlotSpec.run es s (op :: ops) =
      (SlotSpec.step es s op).bind fun r => (SlotSpec.run es r.1 ops).map fun q => (q.1, r.2 :: q.2) := by
  rw [SlotSpec.run]
  cases SlotSpec.step es s op with
  | none => rfl
  | some r =>
    obtain ⟨s', o⟩ := r
    simp only [Option.bind_some]
    cases SlotSpec.run es s' ops <;> rfl

theorem abs_new (mb es : Nat) : abs (Table.new mb es : Table α) = SlotSpec.new mb es := by
  simp only [abs, SlotSpec.new, len_new, SlotSpec.mk.injEq, true_and]
  funext i; exact slot_new mb es i

theorem abs_add (t : Table α) (k : Nat) (e : α) :
    (t.add k e).map abs = (abs t).add k e := by
  obtain ⟨t', hadd⟩ := add_ne_none t k e
  have h : abs t' = ⟨t.len, fun i => if t.len ≠ 0 ∧ i = k % t.len then e else t.slot i⟩ := by
    rw [abs, len_add hadd]
    exact congrArg _ (funext (slot_add hadd))
  rw [hadd, Option.map_some, h, SlotSpec.add, abs]
  by_cases h0 : t.len = 0 <;> simp [h0]

theorem abs_poll (t : Table α) (k : Nat) : t.poll k = (abs t).poll k := by
  rw [poll_eq]
  unfold SlotSpec.poll
  by_cases h : t.len = 0
  · simp only [abs, h, if_true, Option.some.injEq]
    exact slot_of_ge t (by omega)
  · simp only [abs, h, if_false]

theorem abs_clear (t : Table α) : abs t.clear = (abs t).clear := by
  simp only [abs, SlotSpec.clear, len_clear, SlotSpec.mk.injEq, true_and]
  funext i; exact slot_clear t i

theorem abs_resize (t : Table α) (mb es : Nat) : abs (t.resize mb es) = (abs t).resize mb es := by
  simp only [abs, SlotSpec.resize, len_resize, SlotSpec.mk.injEq, true_and]
  funext i
  rw [slot_resize]
  by_cases h1 : i < numEntries mb es
  · by_cases h2 : i < t.len
    · simp only [h1, h2, and_self, if_true]
    · simp only [h1, h2, and_false, if_true, if_false]
      exact slot_of_ge t (Nat.le_of_not_lt h2)
  · simp only [h1, false_and, if_false]

theorem abs_hashfull (t : Table α) : t.hashfull = (abs t).hashfull := hashfull_eq t

theorem abs_len (t : Table α) : t.len = (abs t).len := rfl

/-- **Refinement.** Every model step is the specification step under `abs`: same definedness
(always `some`: `step_isSome`), same output,
and `abs` of the new table is the new specification state. -/
theorem step_refines (es : Nat) (t : Table α) (op : Op α) :
    (step es t op).map (fun p => (abs p.1, p.2)) = SlotSpec.step es (abs t) op := by
  cases op with
  | add k e =>
    simp only [step, SlotSpec.step, ← abs_add, Option.map_map]
    rfl
  | poll k =>
    simp only [step, SlotSpec.step, ← abs_poll, Option.map_map]
    rfl
  | _ => simp only [step, SlotSpec.step, Option.map_some, abs_clear, abs_resize, abs_hashfull, abs_len]

/-- No operation panics, on a zero-slot table either. -/
theorem step_isSome (es : Nat) (t : Table α) (op : Op α) : (step es t op).isSome = true := by
  cases op with
  | add k e =>
    obtain ⟨t', h⟩ := add_ne_none t k e
    simp only [step, h, Option.map_some, Option.isSome_some]
  | poll k =>
    obtain ⟨e, h⟩ := poll_ne_none t k
    simp only [step, h, Option.map_some, Option.isSome_some]
  | _ => rfl

theorem SlotSpec.step_isSome (es : Nat) (s : SlotSpec α) (op : Op α) :
    (SlotSpec.step es s op).isSome = true := by
  cases op <;> rfl

/-- The zero-slot table: `poll` answers `default`, `add` is a no-op (model and specification). -/
theorem zero_slot (t : Table α) (k : Nat) (e : α) (h : t.len = 0) :
    t.poll k = some default ∧ t.add k e = some t :=
  ⟨poll_zero t k h, add_zero t k e h⟩

theorem SlotSpec.zero_slot (s : SlotSpec α) (k : Nat) (e : α) (h : s.n = 0) :
    s.poll k = some default ∧ s.add k e = some s := by
  simp only [SlotSpec.poll, SlotSpec.add, h, if_true, and_self]

theorem step_zero_slot (es : Nat) (t : Table α) (k : Nat) (e : α) (h : t.len = 0) :
    step es t (.poll k) = some (t, .entry default) ∧ step es t (.add k e) = some (t, .unit) := by
  simp only [step, poll_zero t k h, add_zero t k e h, Option.map_some, and_self]

/-- Refinement for whole operation sequences (same outputs, `abs` of the final table). -/
theorem run_refines (es : Nat) (t : Table α) (ops : List (Op α)) :
    (run es t ops).map (fun p => (abs p.1, p.2)) = SlotSpec.run es (abs t) ops := by
  induction ops generalizing t with
  | nil => rfl
  | cons op ops ih =>
    rw [run_cons, SlotSpec.run_cons, ← step_refines]
    cases step es t op with
    | none => rfl
    | some r =>
      simp only [Option.map_some, Option.bind_some, ← ih r.1]
      cases run es r.1 ops <;> rfl

theorem run_isSome (es : Nat) (t : Table α) (ops : List (Op α)) : (run es t ops).isSome = true := by
  induction ops generalizing t with
  | nil => rfl
  | cons op ops ih =>
    obtain ⟨r, hs⟩ := Option.isSome_iff_exists.mp (step_isSome es t op)
    obtain ⟨q, hr⟩ := Option.isSome_iff_exists.mp (ih r.1)
    rw [run_cons, hs, Option.bind_some, hr]
    rfl

/-- (a) an entry just stored is returned by the next lookup of the same key. -/
theorem poll_add (t : Table α) (k : Nat) (e : α) (h : 0 < t.len) :
    ∃ t', t.add k e = some t' ∧ t'.poll k = some e := by
  obtain ⟨t', hadd⟩ := add_ne_none t k e
  refine ⟨t', hadd, ?_⟩
  rw [poll_eq, len_add hadd, slot_add hadd, if_pos ⟨Nat.ne_of_gt h, rfl⟩]

/-- (a) in bind form: `poll (add t k e) k = some e`. -/
theorem poll_add_bind (t : Table α) (k : Nat) (e : α) (h : 0 < t.len) :
    (t.add k e).bind (fun t' => t'.poll k) = some e := by
  obtain ⟨t', h1, h2⟩ := poll_add t k e h
  rw [h1]; exact h2

/-- (a'), aliasing keys: every key of the same slot sees the stored entry, every other key is unaffected. -/
theorem poll_add_other (t t' : Table α) (k k' : Nat) (e : α) (h : 0 < t.len)
    (hadd : t.add k e = some t') :
    t'.poll k' = if k' % t.len = k % t.len then some e else t.poll k' := by
  rw [poll_eq, poll_eq, len_add hadd, slot_add hadd]
  simp only [ne_eq, Nat.ne_of_gt h, not_false_eq_true, true_and]
  split <;> rfl

/-- (a''), the zero-slot table remembers nothing: after a store the lookup still answers `default`. -/
theorem poll_add_zero (t : Table α) (k k' : Nat) (e : α) (h : t.len = 0) :
    (t.add k e).bind (fun t' => t'.poll k') = some default := by
  rw [add_zero t k e h]; exact poll_zero t k' h

/-- (b) `add` changes exactly slot `key % len`; on `entries`. -/
theorem add_frame (t t' : Table α) (k : Nat) (e : α) (h : 0 < t.len) (hadd : t.add k e = some t') :
    t'.len = t.len ∧ t'.entries[k % t.len]? = some e ∧
      ∀ i, i ≠ k % t.len → t'.entries[i]? = t.entries[i]? := by
  have hl := len_add hadd
  rw [add_eq, if_neg (Nat.ne_of_gt h)] at hadd
  cases hadd
  refine ⟨hl, ?_, fun i hi => ?_⟩
  · simp only [Array.getElem?_setIfInBounds, if_true, show k % t.len < t.entries.size from Nat.mod_lt _ h]
  · simp only [Array.getElem?_setIfInBounds, if_neg (Ne.symm hi)]

/-- (b), on slot contents. -/
theorem add_slot (t t' : Table α) (k : Nat) (e : α) (h : 0 < t.len) (hadd : t.add k e = some t') :
    t'.len = t.len ∧ t'.slot (k % t.len) = e ∧ ∀ i, i ≠ k % t.len → t'.slot i = t.slot i := by
  refine ⟨len_add hadd, ?_, fun i hi => ?_⟩
  · rw [slot_add hadd, if_pos ⟨Nat.ne_of_gt h, rfl⟩]
  · rw [slot_add hadd, if_neg fun hh => hi hh.2]

/-- (d) `clear` keeps the number of slots and makes every slot `default`. -/
theorem clear_spec (t : Table α) :
    t.clear.len = t.len ∧ (∀ i, t.clear.slot i = default) ∧
      ∀ i (h : i < t.clear.entries.size), t.clear.entries[i] = default := by
  refine ⟨len_clear t, slot_clear t, ?_⟩
  intro i h
  simp only [Table.clear, Array.getElem_replicate]

/-- (e), slot form: exactly `mb * 1024 * 1024 / entrySize` slots, prefix kept, rest `default`. -/
theorem resize_spec (t : Table α) (mb es : Nat) :
    (t.resize mb es).len = mb * 1024 * 1024 / es ∧
      ∀ i, (t.resize mb es).slot i = if i < mb * 1024 * 1024 / es then t.slot i else default :=
  ⟨len_resize t mb es, slot_resize t mb es⟩

/-- (e), on `entries`: every slot of the resized table is `default` or the same-index slot of `t`. -/
theorem resize_entries (t : Table α) (mb es : Nat) :
    (t.resize mb es).entries.size = mb * 1024 * 1024 / es ∧
      ∀ i (h : i < (t.resize mb es).entries.size),
        (t.resize mb es).entries[i] = default ∨
          ∃ h' : i < t.entries.size, (t.resize mb es).entries[i] = t.entries[i] := by
  refine ⟨len_resize t mb es, ?_⟩
  intro i h
  have h1 : i < (t.resize mb es).len := h
  have h2 := slot_resize t mb es i
  rw [slot_of_lt _ h1] at h2
  rw [len_resize] at h1
  simp only [h1, if_true] at h2
  by_cases h3 : i < t.len
  · right
    exact ⟨h3, h2.trans (slot_of_lt _ h3)⟩
  · left
    exact h2.trans (slot_of_ge _ (Nat.le_of_not_lt h3))

theorem new_spec (mb es : Nat) :
    (Table.new mb es : Table α).len = mb * 1024 * 1024 / es ∧
      ∀ i, (Table.new mb es : Table α).slot i = default :=
  ⟨len_new mb es, slot_new mb es⟩

/-- (f) `None` exactly for the zero-slot table. -/
theorem hashfull_eq_none_iff (t : Table α) : t.hashfull = none ↔ t.len = 0 := by
  rw [hashfull_eq]
  by_cases h : min t.len 1000 = 0
  · simp only [h, if_true, true_iff]; omega
  · simp only [h, if_false, reduceCtorEq, false_iff]; omega

/-- (f) range. -/
theorem hashfull_le (t : Table α) (h : Nat) (hh : t.hashfull = some h) : h ≤ 1000 ∧ h ≤ t.len := by
  rw [hashfull_eq] at hh
  split at hh
  · cases hh
  · simp only [Option.some.injEq] at hh
    have := List.length_filter_le (fun i => decide (t.slot i ≠ default)) (List.range (min t.len 1000))
    rw [List.length_range] at this
    omega

/-- (f) the Rust return type is `Option<i32>`: the value fits. -/
theorem hashfull_lt_i32 (t : Table α) (h : Nat) (hh : t.hashfull = some h) : h < 2 ^ 31 := by
  have := (hashfull_le t h hh).1; omega

theorem step_some {es : Nat} {t t' : Table α} {op : Op α} {o : Out α} (h : step es t op = some (t', o)) :
    match op with
    | .add k e => t.add k e = some t' ∧ o = .unit
    | .poll k => t' = t ∧ o = .entry (t.slot (k % t.len))
    | .clear => t' = t.clear ∧ o = .unit
    | .resize mb => t' = t.resize mb es ∧ o = .unit
    | .hashfull => t' = t ∧ o = .fill t.hashfull
    | .len => t' = t ∧ o = .len t.len := by
  cases op <;>
    simp only [step, poll_eq, Option.map_some, Option.map_eq_some_iff, Option.some.injEq, Prod.mk.injEq] at h
  case add => obtain ⟨_, h1, rfl, rfl⟩ := h; exact ⟨h1, rfl⟩
  all_goals exact ⟨h.1.symm, h.2.symm⟩

theorem step_origin {es : Nat} {t t' : Table α} {op : Op α} {o : Out α} (h : step es t op = some (t', o)) :
    (∀ i, t'.slot i = default ∨ t'.slot i = t.slot i ∨ ∃ k, op = .add k (t'.slot i)) ∧
    (∀ e, o = .entry e → ∃ k, op = .poll k ∧ e = t.slot (k % t.len)) := by
  have hs := step_some h
  cases op with
  | add k e =>
    obtain ⟨hadd, rfl⟩ := hs
    refine ⟨fun i => ?_, fun e he => by cases he⟩
    rw [slot_add hadd]
    split
    · exact .inr (.inr ⟨k, rfl⟩)
    · exact .inr (.inl rfl)
  | poll k =>
    obtain ⟨rfl, rfl⟩ := hs
    exact ⟨fun i => .inr (.inl rfl), fun e he => ⟨k, rfl, (Out.entry.inj he).symm⟩⟩
  | clear =>
    obtain ⟨rfl, rfl⟩ := hs
    exact ⟨fun i => .inl (slot_clear t i), fun e he => by cases he⟩
  | resize mb =>
    obtain ⟨rfl, rfl⟩ := hs
    refine ⟨fun i => ?_, fun e he => by cases he⟩
    rw [slot_resize]
    split
    · exact .inr (.inl rfl)
    · exact .inl rfl
  | _ =>
    obtain ⟨rfl, rfl⟩ := hs
    exact ⟨fun i => .inr (.inl rfl), fun e he => by cases he⟩

theorem run_cons_some {es : Nat} {t t'' : Table α} {op : Op α} {ops : List (Op α)} {outs : List (Out α)}
    (h : run es t (op :: ops) = some (t'', outs)) :
    ∃ t' o os, step es t op = some (t', o) ∧ run es t' ops = some (t'', os) ∧ outs = o :: os := by
  rw [run_cons] at h
  obtain ⟨⟨t', o⟩, hs, h⟩ := Option.bind_eq_some_iff.mp h
  obtain ⟨⟨t2, os⟩, hr, h⟩ := Option.map_eq_some_iff.mp h
  cases h
  exact ⟨t', o, os, hs, hr, rfl⟩

/-- (c), history invariant from an arbitrary start table: nothing is invented or torn. Every slot of the
final table, and every value returned by a lookup during the run, is `default`, a slot content of the
start table, or (as a whole value) the argument of an `add` of the sequence. -/
theorem run_origin (es : Nat) (t0 t : Table α) (ops : List (Op α)) (outs : List (Out α))
    (h : run es t0 ops = some (t, outs)) :
    (∀ i, t.slot i = default ∨ (∃ j, t.slot i = t0.slot j) ∨ ∃ k, Op.add k (t.slot i) ∈ ops) ∧
    (∀ e, Out.entry e ∈ outs → e = default ∨ (∃ j, e = t0.slot j) ∨ ∃ k, Op.add k e ∈ ops) := by
  induction ops generalizing t0 outs with
  | nil =>
    simp only [run, Option.some.injEq, Prod.mk.injEq] at h
    obtain ⟨rfl, rfl⟩ := h
    exact ⟨fun i => .inr (.inl ⟨i, rfl⟩), fun e he => by cases he⟩
  | cons op ops ih =>
    obtain ⟨t1, o, os, hs, hr, rfl⟩ := run_cons_some h
    obtain ⟨ih1, ih2⟩ := ih t1 os hr
    obtain ⟨so1, so2⟩ := step_origin hs
    -- an origin w.r.t. `t1` and `ops` is an origin w.r.t. `t0` and `op :: ops`
    have lift : ∀ e : α, (e = default ∨ (∃ j, e = t1.slot j) ∨ ∃ k, Op.add k e ∈ ops) →
        e = default ∨ (∃ j, e = t0.slot j) ∨ ∃ k, Op.add k e ∈ op :: ops := by
      rintro e (h1 | ⟨j, rfl⟩ | ⟨k, h1⟩)
      · exact .inl h1
      · rcases so1 j with h1 | h1 | ⟨k, h1⟩
        · exact .inl h1
        · exact .inr (.inl ⟨j, h1⟩)
        · exact .inr (.inr ⟨k, by rw [h1]; exact List.mem_cons_self⟩)
      · exact .inr (.inr ⟨k, List.mem_cons_of_mem _ h1⟩)
    refine ⟨fun i => lift _ (ih1 i), fun e he => ?_⟩
    rcases List.mem_cons.1 he with h1 | h1
    · obtain ⟨k, -, h3⟩ := so2 e h1.symm
      exact .inr (.inl ⟨_, h3⟩)
    · exact lift e (ih2 e h1)

/-- (c), history invariant for a table created by `new`: after ANY operation sequence every slot holds
`default` or an entry previously passed to `add`, and every lookup made during the sequence returned
`default` or an entry passed to `add` in the sequence. -/
theorem history_invariant (es mb : Nat) (t : Table α) (ops : List (Op α)) (outs : List (Out α))
    (h : run es (Table.new mb es) ops = some (t, outs)) :
    (∀ i, t.slot i = default ∨ ∃ k, Op.add k (t.slot i) ∈ ops) ∧
    (∀ e, Out.entry e ∈ outs → e = default ∨ ∃ k, Op.add k e ∈ ops) ∧
    (∀ k e, t.poll k = some e → e = default ∨ ∃ k', Op.add k' e ∈ ops) := by
  obtain ⟨h1, h2⟩ := run_origin es _ t ops outs h
  -- a slot of the fresh table is `default`
  have fresh : ∀ e : α, (e = default ∨ (∃ j, e = (Table.new mb es : Table α).slot j) ∨ ∃ k, Op.add k e ∈ ops) →
      e = default ∨ ∃ k, Op.add k e ∈ ops := by
    rintro e (h | ⟨j, h⟩ | h)
    · exact .inl h
    · exact .inl (by rw [h, slot_new])
    · exact .inr h
  refine ⟨fun i => fresh _ (h1 i), fun e he => fresh e (h2 e he), fun k e hp => ?_⟩
  rw [poll_eq] at hp
  cases hp
  exact fresh _ (h1 _)

/-- Table length after an operation (only `resize` changes it). -/
def Op.lenAfter (es n : Nat) : Op α → Nat
  | .resize mb => numEntries mb es
  | _ => n

def lenAfterAll (es : Nat) : Nat → List (Op α) → Nat
  | n, [] => n
  | n, op :: ops => lenAfterAll es (op.lenAfter es n) ops

/-- `op`, executed on a table of `n` slots, does not disturb slot `i`: it is not an (effective) store into
slot `i` (a store into a zero-slot table is ignored), not a `clear`, and not a `resize` that truncates the
table to `i` slots or fewer. -/
def Op.Keeps (es n i : Nat) : Op α → Prop
  | .add k _ => n = 0 ∨ k % n ≠ i
  | .clear => False
  | .resize mb => i < numEntries mb es
  | _ => True

/-- No operation of the sequence (started on a table of `n` slots) disturbs slot `i`. -/
def KeepsAll (es : Nat) : Nat → Nat → List (Op α) → Prop
  | _, _, [] => True
  | n, i, op :: ops => op.Keeps es n i ∧ KeepsAll es (op.lenAfter es n) i ops

theorem step_len {es : Nat} {t t' : Table α} {op : Op α} {o : Out α} (h : step es t op = some (t', o)) :
    t'.len = op.lenAfter es t.len := by
  have hs := step_some h
  cases op with
  | add k e => exact len_add hs.1
  | clear => rw [hs.1]; exact len_clear t
  | resize mb => rw [hs.1]; exact len_resize t mb es
  | _ => rw [hs.1]; rfl

theorem run_len {es : Nat} {t t' : Table α} {ops : List (Op α)} {outs : List (Out α)}
    (h : run es t ops = some (t', outs)) : t'.len = lenAfterAll es t.len ops := by
  induction ops generalizing t outs with
  | nil => cases h; rfl
  | cons op ops ih =>
    obtain ⟨t1, o, os, hs, hr, rfl⟩ := run_cons_some h
    rw [ih hr, step_len hs]; rfl

theorem step_keeps {es : Nat} {t t' : Table α} {op : Op α} {o : Out α} {i : Nat}
    (h : step es t op = some (t', o)) (hk : op.Keeps es t.len i) : t'.slot i = t.slot i := by
  have hs := step_some h
  cases op with
  | add k e => rw [slot_add hs.1, if_neg fun hh => hk.elim hh.1 fun h' => h' hh.2.symm]
  | clear => exact hk.elim
  | resize mb => rw [hs.1, slot_resize, if_pos (show i < numEntries mb es from hk)]
  | _ => rw [hs.1]

theorem run_keeps {es : Nat} {t t' : Table α} {ops : List (Op α)} {outs : List (Out α)} {i : Nat}
    (h : run es t ops = some (t', outs)) (hk : KeepsAll es t.len i ops) : t'.slot i = t.slot i := by
  induction ops generalizing t outs with
  | nil => cases h; rfl
  | cons op ops ih =>
    obtain ⟨t1, o, os, hs, hr, rfl⟩ := run_cons_some h
    rw [ih hr (step_len hs ▸ hk.2), step_keeps hs hk.1]

/-- (c), strong form, positive half: **the most recent store into a slot wins.** If `e` is stored under
`k` and none of the following operations stores into that slot, clears, or truncates the table across
that slot, then the slot holds `e` and every later lookup of any key of that slot returns `e`. -/
theorem most_recent_add (es : Nat) (t t1 t2 : Table α) (k : Nat) (e : α) (post : List (Op α))
    (outs : List (Out α)) (hpos : 0 < t.len) (hadd : t.add k e = some t1)
    (hr : run es t1 post = some (t2, outs)) (hk : KeepsAll es t1.len (k % t.len) post) :
    t2.slot (k % t.len) = e ∧ ∀ k', k' % t2.len = k % t.len → t2.poll k' = some e := by
  have s := run_keeps hr hk
  have h1 : t1.slot (k % t.len) = e := by
    rw [slot_add hadd, if_pos ⟨Nat.ne_of_gt hpos, rfl⟩]
  exact ⟨s.trans h1, fun k' hk' => by rw [poll_eq, hk', s, h1]⟩

/-- (c), strong form, negative half: after a `clear`, or a `resize` that truncates the table to `i` slots
or fewer, slot `i` reads `default` until something is stored into it. -/
theorem dropped_default (es : Nat) (t t1 t2 : Table α) (op : Op α) (o : Out α) (i : Nat)
    (post : List (Op α)) (outs : List (Out α)) (hs : step es t op = some (t1, o))
    (hop : op = .clear ∨ ∃ mb, op = .resize mb ∧ numEntries mb es ≤ i)
    (hr : run es t1 post = some (t2, outs)) (hk : KeepsAll es t1.len i post) :
    t2.slot i = default := by
  rw [run_keeps hr hk]
  rcases hop with rfl | ⟨mb, rfl, hmb⟩
  · rw [(step_some hs).1]; exact slot_clear t i
  · rw [(step_some hs).1, slot_resize, if_neg (Nat.not_lt.mpr hmb)]

/-- (c), strong form, untouched slots of a fresh table read `default`. -/
theorem fresh_default (es mb : Nat) (t : Table α) (ops : List (Op α)) (outs : List (Out α)) (i : Nat)
    (hr : run es (Table.new mb es) ops = some (t, outs))
    (hk : KeepsAll es (numEntries mb es) i ops) : t.slot i = default := by
  rw [← len_new (α := α) mb es] at hk
  rw [run_keeps hr hk, slot_new]

theorem run_append_some {es : Nat} {t t2 : Table α} {pre post : List (Op α)} {outs : List (Out α)}
    (h : run es t (pre ++ post) = some (t2, outs)) :
    ∃ t1 o1 o2, run es t pre = some (t1, o1) ∧ run es t1 post = some (t2, o2) ∧ outs = o1 ++ o2 := by
  induction pre generalizing t outs with
  | nil => exact ⟨t, [], outs, rfl, h, rfl⟩
  | cons op pre ih =>
    obtain ⟨t', o, os, hs, hr, rfl⟩ := run_cons_some h
    obtain ⟨t1, o1, o2, h1, h2, rfl⟩ := ih hr
    refine ⟨t1, o :: o1, o2, ?_, h2, rfl⟩
    rw [run_cons, hs, Option.bind_some, h1]
    rfl

/-- Every history splits, for every slot `i`: either nothing ever disturbed slot `i`, or there is a LAST
operation that disturbed it (followed only by operations that keep it). -/
theorem history_split (es n i : Nat) (ops : List (Op α)) :
    KeepsAll es n i ops ∨
    ∃ pre op post, ops = pre ++ op :: post ∧ ¬ op.Keeps es (lenAfterAll es n pre) i ∧
      KeepsAll es (op.lenAfter es (lenAfterAll es n pre)) i post := by
  induction ops generalizing n with
  | nil => exact .inl trivial
  | cons op ops ih =>
    rcases ih (op.lenAfter es n) with h | ⟨pre, op', post, rfl, h1, h2⟩
    · by_cases hk : op.Keeps es n i
      · exact .inl ⟨hk, h⟩
      · exact .inr ⟨[], op, ops, rfl, hk, h⟩
    · exact .inr ⟨op :: pre, op', post, rfl, h1, h2⟩

theorem not_keeps_iff (es n i : Nat) (op : Op α) :
    ¬ op.Keeps es n i ↔
      (∃ k e, op = .add k e ∧ 0 < n ∧ k % n = i) ∨ op = .clear ∨
        ∃ mb, op = .resize mb ∧ numEntries mb es ≤ i := by
  cases op with
  | add k e =>
    simp only [Op.Keeps, ne_eq, not_or, Decidable.not_not, Op.add.injEq, reduceCtorEq, false_and,
      exists_false, or_false]
    exact ⟨fun h => ⟨k, e, ⟨rfl, rfl⟩, Nat.pos_of_ne_zero h.1, h.2⟩,
      fun ⟨_, _, ⟨h1, _⟩, h2, h3⟩ => h1 ▸ ⟨Nat.ne_of_gt h2, h3⟩⟩
  | resize mb =>
    simp only [Op.Keeps, Nat.not_lt, reduceCtorEq, false_and, exists_false, Op.resize.injEq, false_or]
    exact ⟨fun h => ⟨mb, rfl, h⟩, fun ⟨_, h1, h2⟩ => h1 ▸ h2⟩
  | _ => simp [Op.Keeps]

/-- (c), strong form, complete characterisation: after ANY operation sequence on a table
created by `new`, every slot `i` holds **the entry most recently added to that slot since the last
`clear` / the last `resize` that truncated the table across it, else `default`**.  Precisely one of:
* no operation ever disturbed slot `i`, and it holds `default`;
* the last operation that disturbed slot `i` was `add k e` on a non-empty table with
  `k % (len at that time) = i`, and it holds `e`;
* the last operation that disturbed slot `i` was a `clear` or a `resize` to `≤ i` slots,
  and it holds `default`.
("slot `i` holds `x`" means `t.slot i = x`; by `poll_eq`, `t.poll key = some (t.slot (key % t.len))`,
which gives the lookup statement `lookup_most_recent` below.) -/
theorem slot_most_recent (es mb : Nat) (t : Table α) (ops : List (Op α)) (outs : List (Out α))
    (hr : run es (Table.new mb es) ops = some (t, outs)) (i : Nat) :
    (KeepsAll es (numEntries mb es) i ops ∧ t.slot i = default) ∨
    ∃ pre op post, ops = pre ++ op :: post ∧
      KeepsAll es (op.lenAfter es (lenAfterAll es (numEntries mb es) pre)) i post ∧
      ((∃ k e, op = .add k e ∧ 0 < lenAfterAll es (numEntries mb es) pre ∧
          k % lenAfterAll es (numEntries mb es) pre = i ∧ t.slot i = e) ∨
       ((op = .clear ∨ ∃ mb', op = .resize mb' ∧ numEntries mb' es ≤ i) ∧ t.slot i = default)) := by
  rcases history_split es (numEntries mb es) i ops with h | ⟨pre, op, post, rfl, h1, h2⟩
  · exact .inl ⟨h, fresh_default es mb t ops outs i hr h⟩
  · right
    refine ⟨pre, op, post, rfl, h2, ?_⟩
    obtain ⟨t1, o1, o2, r1, r2, rfl⟩ := run_append_some hr
    obtain ⟨t2, o, os, hs, r3, rfl⟩ := run_cons_some r2
    have hl1 : t1.len = lenAfterAll es (numEntries mb es) pre := by
      rw [run_len r1, len_new]
    have hl2 : t2.len = op.lenAfter es (lenAfterAll es (numEntries mb es) pre) := by
      rw [step_len hs, hl1]
    rw [← hl2] at h2
    rcases (not_keeps_iff es _ i op).1 h1 with ⟨k, e, rfl, hpos, hk⟩ | hc
    · left
      refine ⟨k, e, rfl, hpos, hk, ?_⟩
      rw [← hl1] at hk hpos
      rw [← hk] at h2 ⊢
      exact (most_recent_add es t1 t2 t k e post os hpos (step_some hs).1 r3 h2).1
    · right
      exact ⟨hc, dropped_default es t1 t2 t op o i post os hs hc r3 h2⟩

/-- (c), strong form, as a statement about lookups: after ANY operation sequence on a
table created by `new`, a lookup of `key` (on a zero-slot table: `i = key`, answer `default`) returns the entry most recently added to
the slot `key % len` since the last `clear` / truncating `resize` across it, else `default`. -/
theorem lookup_most_recent (es mb : Nat) (t : Table α) (ops : List (Op α)) (outs : List (Out α))
    (hr : run es (Table.new mb es) ops = some (t, outs)) (key : Nat) :
    let i := key % t.len
    (KeepsAll es (numEntries mb es) i ops ∧ t.poll key = some default) ∨
    ∃ pre op post, ops = pre ++ op :: post ∧
      KeepsAll es (op.lenAfter es (lenAfterAll es (numEntries mb es) pre)) i post ∧
      ((∃ k e, op = .add k e ∧ 0 < lenAfterAll es (numEntries mb es) pre ∧
          k % lenAfterAll es (numEntries mb es) pre = i ∧ t.poll key = some e) ∨
       ((op = .clear ∨ ∃ mb', op = .resize mb' ∧ numEntries mb' es ≤ i) ∧
          t.poll key = some default)) := by
  intro i
  simp only [poll_eq, Option.some.injEq]
  exact slot_most_recent es mb t ops outs hr i

section Examples

-- not local to the section: the `decide` examples of `Props/C18_code.lean` use it too
deriving instance DecidableEq for Rawr.Table

abbrev ES : Nat := 262144
abbrev T0 : Table Nat := Table.new 1 ES

example : numEntries 1 ES = 4 := by decide
example : T0.len = 4 := by rw [len_new]; decide
example : T0.entries = #[0, 0, 0, 0] := by decide
/-- the test of hashtable.rs in miniature: store, look up, overwrite, look up -/
example : (T0.add 6 11).bind (·.poll 6) = some 11 := by decide
example : ((T0.add 6 11).bind (·.add 6 12)).bind (·.poll 6) = some 12 := by decide
/-- aliasing keys 2 and 6 share slot 2: always-replace -/
example : ((T0.add 6 11).bind (·.add 2 12)).bind (·.poll 6) = some 12 := by decide
example : ((T0.add 6 11).bind (·.add 3 12)).bind (·.poll 6) = some 11 := by decide
example : (T0.add 6 11).map (·.entries) = some #[0, 0, 11, 0] := by decide
/-- F8: the zero-slot table answers `default`, ignores stores, `hashfull` returns `None` -/
example : (Table.new 0 ES : Table Nat).len = 0 := by decide
example : (Table.new 0 ES : Table Nat).poll 5 = some 0 := by decide
example : (Table.new 0 ES : Table Nat).add 5 1 = some ⟨#[]⟩ := by decide
example : (Table.new 0 ES : Table Nat).hashfull = none := by decide
example : run ES (Table.new 0 ES : Table Nat) [.add 5 1, .poll 5, .hashfull, .resize 1, .add 5 1, .poll 5] =
    some (⟨#[0, 1, 0, 0]⟩, [.unit, .entry 0, .fill none, .unit, .unit, .entry 1]) := by decide
/-- a store into a zero-slot table keeps every slot, a store into a non-empty one does not -/
example : KeepsAll ES 0 5 [(.add 5 1 : Op Nat)] := by simp only [KeepsAll, Op.Keeps]; decide
example : ¬ KeepsAll ES 4 1 [(.add 5 1 : Op Nat)] := by simp only [KeepsAll, Op.Keeps]; decide
/-- `entrySize` larger than the request gives a zero-slot table as well -/
example : numEntries 1 (2 * 1024 * 1024) = 0 := by decide

/-- a run exercising every operation; hypotheses of `history_invariant`, `run_origin`,
`slot_most_recent`, `lookup_most_recent`, `run_refines` are satisfiable -/
def demoOps : List (Op Nat) :=
  [.add 6 11, .poll 2, .add 1 7, .hashfull, .resize 2, .len, .poll 14, .add 7 9, .resize 1, .poll 7,
   .poll 6, .clear, .poll 6, .add 5 3, .hashfull]

theorem demo_run : run ES T0 demoOps =
    some (⟨#[0, 3, 0, 0]⟩,
      [.unit, .entry 11, .unit, .fill (some 2), .unit, .len 8, .entry 0, .unit, .unit, .entry 0,
       .entry 11, .unit, .entry 0, .unit, .fill (some 1)]) := by decide

/-- `most_recent_add` / `KeepsAll` hypotheses are satisfiable: after `add 6 11` on 4 slots, the
operations `poll, add 1 7, hashfull, resize 2 (8 slots), len, poll, add 7 9, resize 1 (4 slots)` keep
slot 2. -/
theorem demo_keeps : KeepsAll ES 4 2 (demoOps.drop 1 |>.take 8) := by
  simp only [demoOps, List.drop, List.take, KeepsAll, Op.Keeps, Op.lenAfter, numEntries]
  decide

/-- and `clear` does not keep it -/
example : ¬ KeepsAll ES 4 2 (demoOps.drop 1 |>.take 11) := by
  simp only [demoOps, List.drop, List.take, KeepsAll, Op.Keeps, Op.lenAfter, numEntries]
  decide

/-- truncation: storing in slot 6 of 8, resizing to 4 and back to 8 loses the entry -/
example : (run ES T0 [.resize 2, .add 6 5, .poll 6, .resize 1, .resize 2, .poll 6]).map (·.2) =
    some [.unit, .unit, .entry 5, .unit, .unit, .entry 0] := by decide

/-- `resize_entries`: both disjuncts occur (slot 2 kept, slot 5 padded) -/
example : ((T0.add 6 11).map fun t => (t.resize 2 ES).entries) = some #[0, 0, 11, 0, 0, 0, 0, 0] := by
  decide

/-- `hashfull_le` hypothesis satisfiable, and both bounds are attained on suitable tables -/
example : ((T0.add 6 11).bind (·.hashfull)) = some 1 := by decide
example : (⟨#[1, 2, 3]⟩ : Table Nat).hashfull = some 3 := by decide
example : (⟨Array.replicate 1001 7⟩ : Table Nat).hashfull = some 1000 := by
  have hl : (⟨Array.replicate 1001 7⟩ : Table Nat).len = 1001 := Array.size_replicate
  rw [hashfull_eq, hl]
  have : ∀ i ∈ List.range (min 1001 1000),
      decide ((⟨Array.replicate 1001 7⟩ : Table Nat).slot i ≠ default) = true := by
    intro i hi
    have hi' : i < 1001 := by have := List.mem_range.1 hi; omega
    have hs : (⟨Array.replicate 1001 7⟩ : Table Nat).slot i = 7 := by
      show (Array.replicate 1001 7)[i]?.getD default = 7
      rw [Array.getElem?_replicate, if_pos hi']; rfl
    rw [hs]; decide
  rw [List.filter_eq_self.2 this, List.length_range]
  decide

/-- `clear_spec` on a non-empty, non-default table -/
example : (⟨#[1, 2, 3]⟩ : Table Nat).clear.entries = #[0, 0, 0] := by decide

/-- `history_invariant` / `slot_most_recent` / `lookup_most_recent` applied to the demo run -/
example : ∀ k e, (⟨#[0, 3, 0, 0]⟩ : Table Nat).poll k = some e → e = default ∨ ∃ k', Op.add k' e ∈ demoOps :=
  (history_invariant ES 1 _ demoOps _ demo_run).2.2
example := slot_most_recent ES 1 _ demoOps _ demo_run 1
example := lookup_most_recent ES 1 _ demoOps _ demo_run 5

/-- `most_recent_add` applied: `add 6 11` on `T0`, then the 8 operations of `demo_keeps` -/
theorem demo_run_post : run ES (⟨#[0, 0, 11, 0]⟩ : Table Nat) (demoOps.drop 1 |>.take 8) =
    some (⟨#[0, 7, 11, 0]⟩, [.entry 11, .unit, .fill (some 2), .unit, .len 8, .entry 0, .unit, .unit]) := by
  decide
example : (⟨#[0, 7, 11, 0]⟩ : Table Nat).slot 2 = 11 ∧
    ∀ k', k' % 4 = 2 → (⟨#[0, 7, 11, 0]⟩ : Table Nat).poll k' = some 11 :=
  most_recent_add ES T0 ⟨#[0, 0, 11, 0]⟩ ⟨#[0, 7, 11, 0]⟩ 6 11 _ _ (by decide) (by decide) demo_run_post demo_keeps

/-- `dropped_default` applied: `clear`, then stores elsewhere -/
example : (⟨#[0, 3, 0, 0]⟩ : Table Nat).slot 2 = default :=
  dropped_default ES ⟨#[0, 7, 11, 0]⟩ ⟨#[0, 0, 0, 0]⟩ ⟨#[0, 3, 0, 0]⟩ .clear .unit 2
    [.poll 6, .add 5 3, .hashfull] [.entry 0, .unit, .fill (some 1)] (by decide) (.inl rfl) (by decide)
    (by show KeepsAll ES 4 2 _
        simp only [KeepsAll, Op.Keeps, Op.lenAfter]; decide)

/-- the specification side computes the same outputs (instance of `run_refines`) -/
example : (SlotSpec.run ES (abs T0) demoOps).map (·.2) = (run ES T0 demoOps).map (·.2) := by
  rw [← run_refines]; simp only [Option.map_map]; rfl

end Examples

end C18
end Rawr

#print axioms Rawr.C18.step_refines
#print axioms Rawr.C18.step_isSome
#print axioms Rawr.C18.run_isSome
#print axioms Rawr.C18.zero_slot
#print axioms Rawr.C18.step_zero_slot
#print axioms Rawr.C18.run_refines
#print axioms Rawr.C18.abs_injective
#print axioms Rawr.C18.poll_add
#print axioms Rawr.C18.poll_add_other
#print axioms Rawr.C18.add_frame
#print axioms Rawr.C18.add_slot
#print axioms Rawr.C18.clear_spec
#print axioms Rawr.C18.resize_spec
#print axioms Rawr.C18.resize_entries
#print axioms Rawr.C18.new_spec
#print axioms Rawr.C18.hashfull_eq_none_iff
#print axioms Rawr.C18.hashfull_le
#print axioms Rawr.C18.run_origin
#print axioms Rawr.C18.history_invariant
#print axioms Rawr.C18.most_recent_add
#print axioms Rawr.C18.dropped_default
#print axioms Rawr.C18.fresh_default
#print axioms Rawr.C18.slot_most_recent
#print axioms Rawr.C18.lookup_most_recent
