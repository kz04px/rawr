import Rawr.Props.C01
import Rawr.Proofs.RustImpAgree_MoveGen
/-!
# C01 on the regenerated code: `R.legal_moves`, `R.move_generator` generate exactly the legal moves

`Props/C01.lean` proves C01 about the hand-written model (`legalMoves`, `moveGenerator`).  `Rawr.R.legal_moves`,
`Rawr.R.move_generator`, `Rawr.R.get_piece_on` are regenerated from legal_moves.rs / move_generator.rs / position.rs on every
run and `agree_legal_moves`, `agree_move_generator`, `agree_get_piece_on` (`Proofs/RustImpAgree*.lean`) prove them
equal to the model's functions as FUNCTIONS (no domain hypothesis).  Hence every C01 theorem transfers unchanged: the
statements below mention only the regenerated definitions, the abstraction (`abs`, `decodeMove`, `encodeMove`), the
domain predicates (`ValidPos`, `Spec.EpConsistent`) and the specification `Spec.legalMoves`.  All are exact transfers
(same hypotheses, same conclusions).
-/
namespace Rawr
open Spec

/-- **C01 on the code.** For every valid, en-passant-consistent position the list returned by the regenerated
`legal_moves()`, decoded, is a permutation of the legal moves of the rules, and has no repetition. -/
theorem C01_code_generated_are_legal_moves (p : Position) (hV : ValidPos p = true)
    (hE : Spec.EpConsistent (abs p) = true) :
    ((R.legal_moves p).map (decodeMove p)).Perm (Spec.legalMoves (abs p)) ∧ (R.legal_moves p).Nodup := by
  rw [agree_legal_moves]; exact C01_generated_are_legal_moves p hV hE

theorem C01_code_mem (p : Position) (hV : ValidPos p = true) (hE : Spec.EpConsistent (abs p) = true) (M : Move) :
    M ∈ (R.legal_moves p).map (decodeMove p) ↔ M ∈ Spec.legalMoves (abs p) := by
  rw [agree_legal_moves]; exact C01_mem p hV hE M

/-- the callback form: the regenerated `move_generator` invokes its callback once per legal move, with the moving
piece (as `get_piece_on` reports it) as the `piece` argument, and never twice with the same arguments. -/
theorem C01_code_callback (p : Position) (hV : ValidPos p = true) (hE : Spec.EpConsistent (abs p) = true) :
    ((R.move_generator p).map fun g => decodeMove p g.mv).Perm (Spec.legalMoves (abs p)) ∧
    (R.move_generator p).Nodup ∧
    ∀ g ∈ R.move_generator p, R.get_piece_on p g.mv.src = some g.piece ∧ (R.get_us p).isSet g.mv.src = true := by
  rw [agree_move_generator, agree_get_piece_on, agree_get_us]; exact C01_callback p hV hE

theorem C01_code_sound (p : Position) (hV : ValidPos p = true) (hE : Spec.EpConsistent (abs p) = true)
    (m : Mv) (hm : m ∈ R.legal_moves p) :
    decodeMove p m ∈ Spec.legalMoves (abs p) ∧ encodeMove p (decodeMove p m) = m := by
  rw [agree_legal_moves] at hm; exact C01_sound p hV hE m hm

theorem C01_code_complete (p : Position) (hV : ValidPos p = true) (hE : Spec.EpConsistent (abs p) = true)
    (M : Move) (hM : M ∈ Spec.legalMoves (abs p)) :
    encodeMove p M ∈ R.legal_moves p ∧ decodeMove p (encodeMove p M) = M := by
  rw [agree_legal_moves]; exact C01_complete p hV hE M hM

theorem C01_code_count (p : Position) (hV : ValidPos p = true) (hE : Spec.EpConsistent (abs p) = true) :
    (R.legal_moves p).length = (Spec.legalMoves (abs p)).length := by
  rw [agree_legal_moves]; exact C01_count p hV hE

theorem C01_code_no_moves (p : Position) (hV : ValidPos p = true) (hE : Spec.EpConsistent (abs p) = true) :
    R.legal_moves p = [] ↔ Spec.legalMoves (abs p) = [] := by
  rw [agree_legal_moves]; exact C01_no_moves p hV hE

theorem C01_code_promotions_once (p : Position) (hV : ValidPos p = true) (f t : Nat) :
    [gm 0 f t 4, gm 0 f t 3, gm 0 f t 2, gm 0 f t 1].Nodup ∧
    ∀ pr, (R.move_generator p).count (gm 0 f t pr) ≤ 1 := by
  rw [agree_move_generator]; exact C01_promotions_once p hV f t

example : ((R.legal_moves Gen.startpos).map (decodeMove Gen.startpos)).Perm (Spec.legalMoves (abs Gen.startpos)) :=
  (C01_code_generated_are_legal_moves Gen.startpos startpos_valid startpos_E).1

/-- the en-passant position of `C01_shape`: e5xd6, generated by the regenerated code, is legal by the rules. -/
example : Spec.Move.normal 36 43 none ∈ Spec.legalMoves (abs c01Ep) :=
  (C01_code_sound c01Ep c01Ep_dom.1 c01Ep_dom.2 ⟨36, 43, 6⟩ (by decide +kernel)).1

/-- castling through the theorem: `castlePos` of `C01_king` (both castlings legal). -/
example : encodeMove castlePos (Spec.Move.castle true) ∈ R.legal_moves castlePos :=
  (C01_code_complete castlePos castlePos_dom.1 castlePos_dom.2 _ (by decide +kernel)).1

end Rawr

#print axioms Rawr.C01_code_generated_are_legal_moves
#print axioms Rawr.C01_code_mem
#print axioms Rawr.C01_code_callback
#print axioms Rawr.C01_code_sound
#print axioms Rawr.C01_code_complete
#print axioms Rawr.C01_code_count
#print axioms Rawr.C01_code_no_moves
#print axioms Rawr.C01_code_promotions_once
