import Rawr.Props.C04
import Rawr.Props.C01_shape
/-! # C04(a) over the engine's own domain and generator: `C04a_full` holds. -/
namespace Rawr
open Rawr.Position Rawr.ZH

/-- C04(a), full statement: for every valid position and every move of `legal_moves`, the key
`predict_hash` computes is the key `makemove::<true>` stores, and it equals the key recomputed from scratch. -/
theorem C04a_full_proved : C04a_full :=
  C04a_full_of fun p m hv hm => gen_moveShape p hv m hm

theorem C04a_legal (p : Position) (m : Mv) (h : BB) (q : Position) (hv : ValidPos p = true)
    (hm : m ∈ legalMoves p) (hp : p.predictHash m = some h) (hq : p.makemove m true = some q) :
    q.hash = h ∧ q.hash = q.calculateHash :=
  C04a_full_proved p m h q hv hm hp hq

/-- non-vacuity: 1. e4 from the start position. -/
example : ValidPos Gen.startpos = true ∧ (⟨12, 28, 6⟩ : Mv) ∈ legalMoves Gen.startpos ∧
    (Gen.startpos.predictHash ⟨12, 28, 6⟩).isSome = true ∧ (Gen.startpos.makemove ⟨12, 28, 6⟩ true).isSome = true :=
  ⟨startpos_valid, startpos_e4_gen, by decide +kernel⟩

#print axioms C04a_full_proved
#print axioms C04a_legal
end Rawr
