import Rawr.Props.C05
import Rawr.Props.C02_domain
/-! # C05 in terms of the rules of chess

`C05_applyToken_spec` says which generated move a token selects. Here, for a position of the domain `V ∧ E`:

* `C05_rules_token`: a token is accepted iff it denotes a move `m`, and then `decodeMove pos m` is **legal by
  the rules**, the new position denotes **the successor prescribed by the rules**
  (`abs pos' = Spec.apply (abs pos) (decodeMove pos m)`) and is again in `V ∧ E`; otherwise it is reported and
  nothing changes. (C01 + C02 + E-closure.)
* `C05_rules_no_panic`: on `V` no token makes `makemove` fail.
* `C05_rules_tokens`: a whole `moves` list from a position of `D = V ∧ E ∧ M` never panics, the final position
  is in `D`, reached by a path of moves legal by the rules (`C02Path`), one per accepted token. -/
namespace Rawr
open Position Spec ZH MM SV

theorem C05_rules_token (pos : Position) (hist : List BB) (t : List Char)
    (pos' : Position) (hist' : List BB) (out : List String)
    (hV : ValidPos pos = true) (hE : Spec.EpConsistent (abs pos) = true)
    (hh : pos.halfmoves + 1 < 2147483648) (hf : pos.fullmoves + 1 < 2147483648) :
    applyToken pos hist t = some (pos', hist', out) ↔
      (∃ m, Denotes pos t m ∧ decodeMove pos m ∈ Spec.legalMoves (abs pos) ∧
        pos.makemove m true = some pos' ∧ abs pos' = Spec.apply (abs pos) (decodeMove pos m) ∧
        ValidPos pos' = true ∧ Spec.EpConsistent (abs pos') = true ∧
        hist' = pos'.hash :: hist ∧ out = []) ∨
      ((∀ m, ¬ Denotes pos t m) ∧ pos' = pos ∧ hist' = hist ∧
        out = ["info string unknown move " ++ String.ofList t]) := by
  rw [C05_applyToken_spec]
  constructor
  · rintro (⟨m, hd, hmk, e1, e2⟩ | h)
    · have hm := hd.mem
      have hs := gen_moveShape pos hV m hm
      have hL := (C01_sound pos hV hE m hm).1
      exact Or.inl ⟨m, hd, hL, hmk, C02_makemove_eq pos m pos' true hV hs hL hmk,
        C02_valid_preserved pos m pos' hV hs hL hmk hh hf, E_of_legal pos m pos' true hV hs hL hmk, e1, e2⟩
    · exact Or.inr h
  · rintro (⟨m, hd, _, hmk, _, _, _, e1, e2⟩ | h)
    · exact Or.inl ⟨m, hd, hmk, e1, e2⟩
    · exact Or.inr h

theorem C05_rules_no_panic (pos : Position) (hist : List BB) (t : List Char) (hV : ValidPos pos = true) :
    applyToken pos hist t ≠ none := by
  intro h
  obtain ⟨m, hd, hmk⟩ := (C05_applyToken_panic pos hist t).mp h
  obtain ⟨q, hq⟩ := C02_makemove_total pos m hV (gen_moveShape pos hV m hd.mem)
  rw [hq] at hmk
  cases hmk

theorem legalChain_genPath : ∀ (tr : List Position) (pos : Position), LegalChain pos tr →
    GenPath tr.length pos (tr.getLastD pos)
  | [], pos, _ => .nil pos
  | b :: l, pos, ⟨⟨m, hm, hmk⟩, hl⟩ => by
    have := legalChain_genPath l b hl
    have e : (b :: l).getLastD pos = l.getLastD b := by
      cases l <;> rfl
    rw [e]
    exact .move m hm hmk this

/-- **C05 (token list) against the rules**: from a position of D the `moves` list never panics, and leads,
by moves legal by the rules — one per accepted token —, to a position of D that denotes the position the
rules prescribe. -/
theorem C05_rules_tokens (ts : List (List Char)) (pos : Position) (hist : List BB) (out : List String)
    (hD : InD pos = true)
    (hh : pos.halfmoves + ts.length < 2147483648) (hf : pos.fullmoves + ts.length < 2147483648) :
    ∃ pos' hist' out', applyTokens ts pos hist out = some (pos', hist', out') ∧
      ∃ n, n ≤ ts.length ∧ hist'.length = hist.length + n ∧
        C02Path n pos (abs pos) pos' (abs pos') ∧ InD pos' = true := by
  have hsome : ∀ (ts : List (List Char)) (pos : Position) (hist : List BB) (out : List String),
      InD pos = true → pos.halfmoves + ts.length < 2147483648 → pos.fullmoves + ts.length < 2147483648 →
      ∃ r, applyTokens ts pos hist out = some r := by
    intro ts
    induction ts with
    | nil => intro pos hist out _ _ _; exact ⟨_, rfl⟩
    | cons t ts ih =>
      intro pos hist out hD hh hf
      obtain ⟨hV, hE, _⟩ := (inD_iff pos).mp hD
      simp only [List.length_cons] at hh hf
      unfold applyTokens
      rcases applyToken_cases pos hist t with ⟨m, np, hd, hmk, e⟩ | ⟨m, hd, hmk, _⟩ | ⟨_, e⟩
      · have hm := hd.mem
        have hD1 := D_closed pos m np hD hm hmk (by omega) (by omega)
        obtain ⟨_, b1, _, b2⟩ := C02_counters pos m np true hV (gen_moveShape pos hV m hm)
          (C01_sound pos hV hE m hm).1 hmk
        rw [e]
        exact ih np _ _ hD1 (by omega) (by omega)
      · obtain ⟨q, hq⟩ := C02_makemove_total pos m hV (gen_moveShape pos hV m hd.mem)
        rw [hq] at hmk
        cases hmk
      · rw [e]
        exact ih _ hist _ hD (by omega) (by omega)
  obtain ⟨⟨pos', hist', out'⟩, h⟩ := hsome ts pos hist out hD hh hf
  refine ⟨pos', hist', out', h, ?_⟩
  obtain ⟨tr, htr, e1, _, _, e4, e5, _⟩ := C05_applyTokens_fold ts pos hist out pos' hist' out' h
  have hpath := legalChain_genPath tr pos (trace_chain htr)
  have hlen : tr.length ≤ ts.length := by
    have := trace_reports_length htr
    omega
  rw [← e1] at hpath
  exact ⟨tr.length, hlen, e4, genPath_C02Path hpath hD (by omega) (by omega),
    D_path hpath hD (by omega) (by omega)⟩

/-- `e2e4` in the start position: accepted; the rules' move is the double push e2–e4, legal by the rules. -/
example : ∃ np, applyToken Gen.startpos [] (str "e2e4") = some (np, [np.hash], []) ∧
    abs np = Spec.apply (abs Gen.startpos) (.normal 12 28 none) ∧
    Spec.Move.normal 12 28 none ∈ Spec.legalMoves (abs Gen.startpos) := by
  have hs : (applyToken Gen.startpos [] (str "e2e4")).isSome = true := by decide +kernel
  obtain ⟨⟨np, h1, o1⟩, hap⟩ := Option.isSome_iff_exists.1 hs
  have hD := (denote_eq_some_iff _ _ _).1 C05Ex.denote_e2e4
  obtain ⟨hV, hE, _⟩ := (inD_iff _).mp startpos_inD
  rcases (C05_rules_token Gen.startpos [] (str "e2e4") np h1 o1 hV hE (by decide +kernel)
    (by decide +kernel)).mp hap with ⟨m, hd, hL, _, ha, _, _, e1, e2⟩ | ⟨hn, _⟩
  · cases hD.unique hd
    have hdec : decodeMove Gen.startpos ⟨12, 28, 6⟩ = .normal 12 28 none := by decide +kernel
    rw [hdec] at hL ha
    subst e1 e2
    exact ⟨np, hap, ha, hL⟩
  · exact absurd hD (hn _)

/-- `position startpos moves e2e4 zzz e7e5`: the hypotheses of `C05_rules_tokens` hold. -/
example : ∃ pos' hist' out', applyTokens [str "e2e4", str "zzz", str "e7e5"] Gen.startpos [] [] =
    some (pos', hist', out') ∧ InD pos' = true := by
  obtain ⟨pos', hist', out', h, _, _, _, _, hD⟩ :=
    C05_rules_tokens [str "e2e4", str "zzz", str "e7e5"] Gen.startpos [] [] startpos_inD
      (by decide +kernel) (by decide +kernel)
  exact ⟨pos', hist', out', h, hD⟩

#print axioms C05_rules_token
#print axioms C05_rules_no_panic
#print axioms C05_rules_tokens

end Rawr
