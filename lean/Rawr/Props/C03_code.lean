import Rawr.Props.C03_rules
import Rawr.Props.C15_termination
import Rawr.Proofs.RustSearchAgree_Rules
/-!
# C03 on the regenerated code: `R.root` answers with a move that is legal by the rules iff one exists

`Rawr.R.root` is regenerated from search/root.rs on every run (with `R.negamax`, `R.qsearch`, the two sort functions and
hashtable.rs below it).  It takes the clock as a function of the poll number, the Rust `settings::Type`
(`R.Settings`) and returns `Option (Result<Mv,&str> × history × table × printed Info records)` (`none` = panic or fuel
exhausted).  `agree_root_rules` (`Proofs/RustSearchAgree_Rules.lean`): for every position with `ValidPos`,
`EpConsistent` and counter room `halfmoves/fullmoves + fuel + 64 < 2^31`, and every setting `s` whose `should_stop`
closure does not panic (`toLimit clock p s = some lim`: all settings but `Perft`/`SplitPerft`, which uci/go.rs never
hands to `root`), the result PROJECTED to what the model keeps (`rootResultOf`: `Result` ↦ `Option`, `Info` ↦
`InfoRec` dropping `pos`, `mate`, `elapsed`) is the model's `root lim fuel p hist tt`.

The theorems below are `C03_rules`, `C03_full_partial` and `C03_rules_total` carried over through that projection: the
only new hypothesis is `toLimit clock p s = some lim`, and the conclusions are stated on the `Result` itself (`r.1 = .ok m` /
`r.1 = .error e` for the model's `best = some m` / `none`).  `rootResultOf`, `root_code_model` and `root_code_of_model` are
what the other `_code` property files take from here.
-/
namespace Rawr

/-- what the model keeps of the result of the regenerated `root` (the projection of `agree_root`). -/
def rootResultOf (r : Except String Mv × List BB × Table TTEntry × List R.Info) : RootResult :=
  ⟨r.1.toOption, r.2.2.2.map infoToModel, r.2.1, r.2.2.1⟩

theorem toOption_eq_some_iff {e : Except String Mv} {m : Mv} : e.toOption = some m ↔ e = .ok m := by
  cases e <;> simp [Except.toOption]

theorem toOption_eq_none_iff {e : Except String Mv} : e.toOption = none ↔ ∃ s, e = .error s := by
  cases e <;> simp [Except.toOption]

/-- a result of the regenerated driver is, projected, the result of the model's driver. -/
theorem root_code_model {clock : Nat → Nat} {p : Position} {s : R.Settings} {lim : Limit} {fuel : Nat}
    (hlim : toLimit clock p s = some lim) (hV : ValidPos p = true) (hE : Spec.EpConsistent (abs p) = true)
    (hh : p.halfmoves + fuel + 64 < 2147483648) (hf : p.fullmoves + fuel + 64 < 2147483648)
    {hist : List BB} {tt : Table TTEntry} {r : Except String Mv × List BB × Table TTEntry × List R.Info}
    (h : R.root clock p hist tt s fuel = some r) : root lim fuel p hist tt = some (rootResultOf r) := by
  have := agree_root_rules clock p s lim fuel hlim hV hE hh hf hist tt
  rw [h] at this
  exact this.symm

/-- conversely, when the model's driver returns so does the regenerated one, with that projection. -/
theorem root_code_of_model {clock : Nat → Nat} {p : Position} {s : R.Settings} {lim : Limit} {fuel : Nat}
    (hlim : toLimit clock p s = some lim) (hV : ValidPos p = true) (hE : Spec.EpConsistent (abs p) = true)
    (hh : p.halfmoves + fuel + 64 < 2147483648) (hf : p.fullmoves + fuel + 64 < 2147483648)
    {hist : List BB} {tt : Table TTEntry} {res : RootResult}
    (h : root lim fuel p hist tt = some res) :
    ∃ r, R.root clock p hist tt s fuel = some r ∧ rootResultOf r = res := by
  have := agree_root_rules clock p s lim fuel hlim hV hE hh hf hist tt
  rw [h, Option.map_eq_some_iff] at this
  exact this

/-- the regenerated `negamax`, run with the `should_stop` closure root.rs builds for the root position `p0` and the
setting `s`, is the model's `negamax lim` on every valid position with counter room. -/
theorem negamax_code_model {clock : Nat → Nat} {p0 : Position} {s : R.Settings} {lim : Limit}
    (hlim : toLimit clock p0 s = some lim) (fuel : Nat) (p : Position)
    (hV : ValidPos p = true) (hE : Spec.EpConsistent (abs p) = true)
    (hh : p.halfmoves + fuel + 64 < 2147483648) (hf : p.fullmoves + fuel + 64 < 2147483648)
    (st : SState) (alpha beta ply depth : Int) (canNull : Bool) :
    R.negamax (R.root_should_stop p0 s clock) fuel p st alpha beta ply depth canNull =
      negamax lim fuel p st alpha beta ply depth canNull := by
  rw [agree_root_should_stop clock p0 s lim hlim]
  exact agree_negamax_rules lim fuel p hV hE hh hf st alpha beta ply depth canNull

theorem mem_infos_code {r : Except String Mv × List BB × Table TTEntry × List R.Info} {i : R.Info}
    (h : i ∈ r.2.2.2) : infoToModel i ∈ (rootResultOf r).infos := List.mem_map_of_mem h

/-- **C03 on the code, against the rules of chess.** For every valid, en-passant-consistent position, every search
setting, clock, history and bounded table: if the regenerated `root` returns, its `Result` is `Ok(m)` with `m` legal
by the rules when a legal move exists, `Err(_)` when none exists; the table handed back is bounded again. -/
theorem C03_code_rules (clock : Nat → Nat) (s : R.Settings) (lim : Limit) (fuel : Nat) (p : Position)
    (hist : List BB) (tt : Table TTEntry) (r : Except String Mv × List BB × Table TTEntry × List R.Info)
    (hlim : toLimit clock p s = some lim)
    (hV : ValidPos p = true) (hE : Spec.EpConsistent (abs p) = true)
    (htt : TTBounded tt) (hf : (fuel : Int) ≤ Gen.INF + Gen.MATE_SCORE)
    (hh : p.halfmoves + fuel + 64 < 2147483648) (hfm : p.fullmoves + fuel + 64 < 2147483648)
    (h : R.root clock p hist tt s fuel = some r) :
    (Spec.legalMoves (abs p) ≠ [] →
      ∃ m, r.1 = .ok m ∧ decodeMove p m ∈ Spec.legalMoves (abs p) ∧ encodeMove p (decodeMove p m) = m) ∧
    (Spec.legalMoves (abs p) = [] → ∃ e, r.1 = .error e) ∧
    TTBounded r.2.2.1 := by
  obtain ⟨h1, h2, h3⟩ := C03_rules lim fuel p hist tt (rootResultOf r) hV hE htt hf hh hfm
    (root_code_model hlim hV hE hh hfm h)
  refine ⟨fun hne => ?_, fun hnil => toOption_eq_none_iff.mp (h2 hnil), h3⟩
  obtain ⟨m, e, hL, henc⟩ := h1 hne
  exact ⟨m, toOption_eq_some_iff.mp e, hL, henc⟩

/-- `C03_full_partial` on the code (root in `D = V ∧ E ∧ M`). -/
theorem C03_code_full_partial (clock : Nat → Nat) (s : R.Settings) (lim : Limit) (fuel : Nat) (p : Position)
    (hist : List BB) (tt : Table TTEntry) (r : Except String Mv × List BB × Table TTEntry × List R.Info)
    (hlim : toLimit clock p s = some lim) (hD : InD p = true) (htt : TTBounded tt)
    (hf : (fuel : Int) ≤ Gen.INF + Gen.MATE_SCORE)
    (hh : p.halfmoves + fuel + 64 < 2147483648) (hfm : p.fullmoves + fuel + 64 < 2147483648)
    (h : R.root clock p hist tt s fuel = some r) :
    (Spec.legalMoves (abs p) ≠ [] → ∃ m ∈ Spec.legalMoves (abs p), r.1 = .ok (encodeMove p m)) ∧
    (Spec.legalMoves (abs p) = [] → ∃ e, r.1 = .error e) := by
  obtain ⟨hV, hE, _⟩ := (inD_iff p).mp hD
  obtain ⟨h1, h2⟩ := C03_full_partial lim fuel p hist tt (rootResultOf r) hD htt hf hh hfm
    (root_code_model hlim hV hE hh hfm h)
  refine ⟨fun hne => ?_, fun hnil => toOption_eq_none_iff.mp (h2 hnil)⟩
  obtain ⟨m, hm, e⟩ := h1 hne
  exact ⟨m, hm, toOption_eq_some_iff.mp e⟩

/-- **C03 on the code, total** (`C03_rules_total`): for every position of `D`, every search setting, clock, history and
bounded table there is ONE result `res` such that on every fuel from `rootFuelP p` on (with the counter room of the
agreement) the regenerated `root` returns a value projecting to `res`; `res` carries a move legal by the rules iff
one exists, and a bounded table.  `MovesFit` (≤ 218 moves in positions of `D`) is the undischarged hypothesis of the
model theorem.  The counter room is asked for each fuel because `halfmoves, fullmoves < 2 140 000 000` gives it only up
to `fuel ≤ 7 483 584`; the `Info` records themselves (not only their projection) could differ between fuels only in
the unmodelled fields. -/
theorem C03_code_rules_total (clock : Nat → Nat) (s : R.Settings) (lim : Limit) (hfit : Term.MovesFit) (p : Position)
    (hlim : toLimit clock p s = some lim) (hD : InD p = true)
    (hh : p.halfmoves < 2140000000) (hf : p.fullmoves < 2140000000)
    (hist : List BB) (tt : Table TTEntry) (htt : TTBounded tt) :
    ∃ res : RootResult,
      (∀ f, rootFuelP p ≤ f → p.halfmoves + f + 64 < 2147483648 → p.fullmoves + f + 64 < 2147483648 →
        ∃ r, R.root clock p hist tt s f = some r ∧ rootResultOf r = res) ∧
      (Spec.legalMoves (abs p) ≠ [] →
        ∃ m, res.best = some m ∧ decodeMove p m ∈ Spec.legalMoves (abs p) ∧ encodeMove p (decodeMove p m) = m) ∧
      (Spec.legalMoves (abs p) = [] → res.best = none) ∧ TTBounded res.tt := by
  obtain ⟨hV, hE, _⟩ := (inD_iff p).mp hD
  obtain ⟨res, hall, hrest⟩ := C03_rules_total lim hfit p hD hh hf hist tt htt
  exact ⟨res, fun f hle h1 h2 => root_code_of_model hlim hV hE h1 h2 (hall f hle), hrest⟩

namespace C03CodeEx
open C13Ex C03RulesEx

/-- K+P v K (`kpkV` of `Props/C03_rules.lean`), `go movetime 0` with a clock that reads 0 (expired at the first poll),
non-empty history, three-slot table: the regenerated driver returns because the model's does (`kpkV_expired`), and —
through the theorem — with `Ok(m)`, `m` legal by the rules. -/
example : ∃ r m, R.root (fun _ => 0) kpkV hist2 tt3 (.Movetime 0) 2 = some r ∧ r.1 = .ok m ∧
    decodeMove kpkV m ∈ Spec.legalMoves (abs kpkV) := by
  obtain ⟨res, h0⟩ := Option.isSome_iff_exists.1 kpkV_expired
  obtain ⟨r, h1, _⟩ := root_code_of_model (clock := fun _ => 0) (s := .Movetime 0) (lim := .clock fun _ => true) rfl
    kpkV_valid kpkV_E (by decide +kernel) (by decide +kernel) h0
  obtain ⟨m, e, hL, _⟩ := (C03_code_rules (fun _ => 0) (.Movetime 0) _ 2 kpkV hist2 tt3 r rfl kpkV_valid kpkV_E
    (TTIn.replicate (by decide) 3) (by decide) (by decide +kernel) (by decide +kernel) h1).1 (by decide +kernel)
  exact ⟨r, m, h1, e, hL⟩

end C03CodeEx

end Rawr

#print axioms Rawr.root_code_model
#print axioms Rawr.root_code_of_model
#print axioms Rawr.negamax_code_model
#print axioms Rawr.C03_code_rules
#print axioms Rawr.C03_code_full_partial
#print axioms Rawr.C03_code_rules_total
