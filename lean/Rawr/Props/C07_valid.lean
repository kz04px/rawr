import Rawr.Proofs.FenValid
import Rawr.Props.C07_full
/-! # C07: an accepted FEN yields a position of the engine's domain `ValidPos`

C07(a) (`C07a_sound`) states soundness of `set_fen` with `StructurallyValid` (V.1–V.8 on the ENGINE
representation, attack clause = the model's own `isSqAttacked`). C01, C02, C03, … and the translator
agreement theorems quantify over `ValidPos p = true` (`Rawr/Abs.lean`: board consistency, `Spec.Valid (abs p)`
on the ABSOLUTE coordinate board, counters `< 2^31`, all four castle files `< 8`, stored key = recomputed key).
This file supplies the link: the structural clauses and the four file bounds are `ValidPos`
(`validPos_iff_structurallyValid`; the direction `structurallyValid_validPos` is `FenValid.spec_valid_of_structural` of
`Rawr/Proofs/FenValid.lean`, the attack clause through C08d), every accepted position is in the domain
(`C07_accepted_validPos`: all strings, both arithmetics), and the positions `set_fen` can return are EXACTLY the positions
of the domain whose absent rights carry the default files and whose `frc` flag is the one passed in (`C07_accepted_iff`).

Clause by clause:
* every clause of `Spec.Valid` (one king per colour, no pawn on rank 1/8, side not to move not in check,
  each right: file `< 8`, own rook on the home-rank square of that file, unique king on the home rank and on
  the correct side of the rook; en-passant square on rank 6/3, empty, enemy pawn behind it; `0 ≤ half`,
  `1 ≤ full`) is implied by acceptance;
* conversely everything `validate` tests is required by `ValidPos` (`validate_of_valid`); `validate` has no
  test that `ValidPos` does not require;
* four conjuncts of `ValidPos` are NOT tested by `validate` and are guaranteed by the parser instead: the
  union equality of V.1 (`c0 ||| c1` = union of the piece boards; `validate` tests only the pairwise
  overlaps — the board loop toggles one colour bit and one piece bit per character, `C07a_parity`), the upper
  bounds `< 2^31` of the counters (`parse::<i32>`), the four file bounds (castling loop; for an ABSENT right
  neither `validate` nor `StructurallyValid` constrain the file — see `c07vOffFile'` below) and the key
  (recomputed by `set_fen` just before `validate`). -/
namespace Rawr
open Spec FenC FenValid

theorem structurallyValid_validPos (p : Position) (h : StructurallyValid p)
    (h0 : p.cf0 < 8) (h1 : p.cf1 < 8) (h2 : p.cf2 < 8) (h3 : p.cf3 < 8) : ValidPos p = true := by
  exact (validPos_iff p).mpr
    ⟨h.consistent, spec_valid_of_structural h, h.half31, h.full31, h0, h1, h2, h3, h.key⟩

/-- the `Spec.Valid` part alone needs no file bound for absent rights. -/
theorem structurallyValid_specValid (p : Position) (h : StructurallyValid p) : Spec.Valid (abs p) = true :=
  spec_valid_of_structural h

theorem setFen_castle_files (ar : Arith) (frc : Bool) (s : List Char) (p : Position)
    (h : setFen ar frc s = some p) : p.cf0 < 8 ∧ p.cf1 < 8 ∧ p.cf2 < 8 ∧ p.cf3 < 8 :=
  cfNorm_lt (setFen_cfNorm h).1

/-- files of absent rights are the defaults 7, 0, 7, 0, and the `frc` flag is kept. -/
theorem setFen_normCf (ar : Arith) (frc : Bool) (s : List Char) (p : Position)
    (h : setFen ar frc s = some p) : normCf p = p ∧ p.frc = frc :=
  ⟨cfNorm_normCf (setFen_cfNorm h).1, (setFen_cfNorm h).2⟩

/-- **C07, domain form.** For every string, either value of the `frc` flag and both arithmetics: if
`set_fen` accepts, the resulting position lies in the domain `ValidPos` over which C01, C02, C03, … and the
translator agreement theorems are stated. -/
theorem C07_accepted_validPos (ar : Arith) (frc : Bool) (s : List Char) (p : Position) :
    setFen ar frc s = some p → ValidPos p = true := by
  intro h
  obtain ⟨h0, h1, h2, h3⟩ := setFen_castle_files ar frc s p h
  exact structurallyValid_validPos p (C07a_sound ar frc s p h) h0 h1 h2 h3

/-- **C07, exact range.** The positions `set_fen` returns (for a given arithmetic and `frc` flag) are exactly
the positions of the domain with default files for the absent rights and that `frc` flag. (`⇐` is
`C07c_domain_complete`: the position's own X-FEN is accepted and read back to it.) -/
theorem C07_accepted_iff (ar : Arith) (frc : Bool) (p : Position) :
    (∃ s, setFen ar frc s = some p) ↔ (ValidPos p = true ∧ normCf p = p ∧ p.frc = frc) := by
  constructor
  · rintro ⟨s, h⟩
    exact ⟨C07_accepted_validPos ar frc s p h, setFen_normCf ar frc s p h⟩
  · rintro ⟨hV, hn, hf⟩
    refine ⟨printFen (abs p) .xfen, ?_⟩
    have := (C07c_domain_complete ar p .xfen hV (fun h => by cases h)).1
    rw [hn, hf] at this
    exact this

/-- the two builds accept (different sets of strings, `C07.lean`: `fen320`, but) the same set of positions. -/
theorem C07_accepted_range_arith (frc : Bool) (p : Position) :
    (∃ s, setFen .wrap frc s = some p) ↔ (∃ s, setFen .trap frc s = some p) := by
  rw [C07_accepted_iff, C07_accepted_iff]

/-- `StructurallyValid` does not look at the files of absent rights. -/
theorem structurallyValid_of_normCf (p : Position) (h : StructurallyValid (normCf p)) : StructurallyValid p :=
  { consistent := h.consistent, whiteKing := h.whiteKing, blackKing := h.blackKing
    noPawnsOnEnds := h.noPawnsOnEnds, notInCheck := h.notInCheck
    usK := fun hu => by have := h.usK hu; simpa only [normCf, hu, if_true] using this
    usQ := fun hu => by have := h.usQ hu; simpa only [normCf, hu, if_true] using this
    themK := fun hu => by have := h.themK hu; simpa only [normCf, hu, if_true] using this
    themQ := fun hu => by have := h.themQ hu; simpa only [normCf, hu, if_true] using this
    ep := h.ep, half0 := h.half0, half31 := h.half31, full1 := h.full1, full31 := h.full31, key := h.key }

/-- the converse of `structurallyValid_validPos`. -/
theorem validPos_structurallyValid (p : Position) (hV : ValidPos p = true) :
    StructurallyValid p ∧ p.cf0 < 8 ∧ p.cf1 < 8 ∧ p.cf2 < 8 ∧ p.cf3 < 8 := by
  obtain ⟨hC, b, hchk⟩ := VB.of_validPos hV
  obtain ⟨kw, kb⟩ := (FenS.king_counts_rel p).mpr ⟨b.kings false, b.kings true⟩
  obtain ⟨_, _, hh, hf, h0, h1, h2, h3, hk⟩ := validPos_parts hV
  exact ⟨⟨hC, kw, kb, b.pawns, (notInCheck_iff hC b.kings).mpr hchk, b.rights false true, b.rights false false,
    b.rights true true, b.rights true false, b.ep, b.half, hh, b.full, hf, hk⟩, h0, h1, h2, h3⟩

/-- the engine-side clauses V.1–V.8 (attack clause by the engine's own `is_sq_attacked`) and the
specification-side domain (attack clause by `Spec.inCheck` on the coordinate board) coincide. -/
theorem validPos_iff_structurallyValid (p : Position) :
    ValidPos p = true ↔ (StructurallyValid p ∧ p.cf0 < 8 ∧ p.cf1 < 8 ∧ p.cf2 < 8 ∧ p.cf3 < 8) :=
  ⟨validPos_structurallyValid p, fun ⟨h, h0, h1, h2, h3⟩ => structurallyValid_validPos p h h0 h1 h2 h3⟩

/-- the start FEN: accepted, so the built-in start position is in the domain — by the theorem. -/
example : ValidPos Gen.startpos = true :=
  C07_accepted_validPos .wrap false startFen Gen.startpos setFen_startFen.1

/-- a Chess960 X-FEN with a file-letter right (`C` = the INNER white rook on c1; another white rook on a1),
Black to move, an en-passant square. -/
def c07vFrcFen : List Char := "1r2k2r/8/8/8/4P3/8/8/R1R1K3 b Ck e3 5 17".toList

theorem c07vFrcFen_accepted : (setFen .trap true c07vFrcFen).map
    (fun p => p.black && p.usK && p.cf0 == 7 && !p.usQ && !p.themK && p.themQ && p.cf3 == 2 &&
      p.ep == some 44 && p.frc) = some true := by decide +kernel

/-- the theorem applies to it: the accepted position (Black to move, so White's right `C` is `themQ` with
file 2, Black's `k` is `usK` with file 7; absent rights carry the defaults) is in the domain. -/
example : ∃ p, setFen .trap true c07vFrcFen = some p ∧ ValidPos p = true ∧ normCf p = p ∧
    p.black = true ∧ p.themQ = true ∧ p.cf3 = 2 ∧ p.usK = true ∧ p.cf0 = 7 := by
  have h := c07vFrcFen_accepted
  cases hs : setFen .trap true c07vFrcFen with
  | none => rw [hs] at h; cases h
  | some p =>
    rw [hs] at h
    simp only [Option.map_some, Option.some.injEq, Bool.and_eq_true, beq_iff_eq] at h
    obtain ⟨⟨⟨⟨⟨⟨⟨⟨a, b⟩, c⟩, _⟩, _⟩, d⟩, e⟩, _⟩, _⟩ := h
    exact ⟨p, rfl, C07_accepted_validPos _ _ _ p hs, (setFen_normCf _ _ _ p hs).1, a, d, e, b, c⟩

/-- and the exact-range theorem in the `⇐` direction on the start position. -/
example : ∃ s, setFen .trap false s = some Gen.startpos :=
  (C07_accepted_iff .trap false Gen.startpos).mpr ⟨startpos_valid, by decide, rfl⟩

/-- the file bounds of `ValidPos` cannot be dropped from `structurallyValid_validPos`: the start position
with the file of an absent right off the board is `StructurallyValid` (which ignores such files) but not
`ValidPos`. `set_fen` never produces it (`setFen_normCf`). -/
def c07vOffFile : Position := { Gen.startpos with usK := false, cf0 := 9, hash := 0 }
def c07vOffFile' : Position := { c07vOffFile with hash := c07vOffFile.calculateHash }
theorem c07vOffFile_validPos : ValidPos c07vOffFile' = false ∧ ValidPos (normCf c07vOffFile') = true := by
  decide +kernel
example : ValidPos c07vOffFile' = false ∧ ValidPos (normCf c07vOffFile') = true := c07vOffFile_validPos
example : StructurallyValid c07vOffFile' :=
  structurallyValid_of_normCf _ (validPos_structurallyValid _ c07vOffFile_validPos.2).1

#print axioms structurallyValid_validPos
#print axioms setFen_castle_files
#print axioms setFen_normCf
#print axioms C07_accepted_validPos
#print axioms C07_accepted_iff
#print axioms C07_accepted_range_arith
#print axioms validPos_iff_structurallyValid
end Rawr
