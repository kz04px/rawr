import Rawr.Proofs.RustImpAgree_Eval
import Rawr.Props.C17
import Rawr.Proofs.RustImpAgree
import Rawr.Proofs.RustSearchAgree
/-!
# C17 on the regenerated code: `R.eval` is antisymmetric, colour-blind, independent of non-board state, bounded

`Rawr.R.eval`, `R.eval_us`, `R.get_phase`, `R.taper` (search/eval.rs), `R.flip` / `R.from_flipped` (chess/flip.rs) are
regenerated from the Rust source on every run; `agree_eval`, `agree_eval_us`, `agree_get_phase`, `agree_flip`,
`agree_from_flipped` prove them equal, as functions, to the model's `eval` = `evalT genEvalTables`, `evalUsT genEvalTables`,
`phase`, `Position.flip` (`genEvalTables` = the piece-square and weight tables extracted from eval.rs).  No domain
hypothesis: every C17 theorem is an exact transfer.  The model theorems that are generic in the table `T` are
instantiated at the engine's tables, the ones the code uses.
-/
namespace Rawr

/-- **C17(a) on the code**: the regenerated evaluation of the position with the turn passed (regenerated `flip`) is the
exact negative — for every `Position` value whatsoever. -/
theorem C17_code_antisymmetry (p : Position) : R.eval (R.flip p) = - R.eval p := by
  rw [agree_eval, agree_flip]; exact C17_antisymmetry_eval p

theorem C17_code_antisymmetry_from_flipped (p : Position) : R.eval (R.from_flipped p) = - R.eval p := by
  rw [agree_eval, agree_from_flipped]; exact C17_antisymmetry_eval p

theorem C17_code_independent (p q : Position)
    (h : p.c0 = q.c0 ∧ p.c1 = q.c1 ∧ p.p0 = q.p0 ∧ p.p1 = q.p1 ∧ p.p2 = q.p2 ∧ p.p3 = q.p3 ∧
      p.p4 = q.p4 ∧ p.p5 = q.p5) : R.eval p = R.eval q := by
  rw [agree_eval]; exact C17_independent genEvalTables p q h

theorem C17_code_independent_fields (p : Position) (hm fm : Int) (bl : Bool)
    (ep : Option Nat) (uK uQ tK tQ : Bool) (f0 f1 f2 f3 : Nat) (key : BB) (frc : Bool) :
    R.eval { p with halfmoves := hm, fullmoves := fm, black := bl, ep := ep, usK := uK, usQ := uQ,
                    themK := tK, themQ := tQ, cf0 := f0, cf1 := f1, cf2 := f2, cf3 := f3,
                    hash := key, frc := frc } = R.eval p := by
  rw [agree_eval]; exact C17_independent_fields genEvalTables p hm fm bl ep uK uQ tK tQ f0 f1 f2 f3 key frc

/-- the colour-swapped, rank-mirrored position evaluates (from its mover's point of view) to the same number. -/
theorem C17_code_mirror (p : Position) : R.eval (mirrorSwap p) = R.eval p := by
  rw [agree_eval]; exact C17_mirror genEvalTables p

/-- … stated on absolute boards: if `q` denotes the mirror image of what `p` denotes, with the other side to move. -/
theorem C17_code_mirror_abs (p q : Position) (hp : Consistent p = true)
    (hq : Consistent q = true) (hb : (abs q).board = Spec.mirrorBoard (abs p).board)
    (ht : (abs q).whiteToMove = !(abs p).whiteToMove) : R.eval q = R.eval p := by
  rw [agree_eval]; exact C17_mirror_abs genEvalTables p q hp hq hb ht

/-- on every board-consistent position the regenerated evaluation stays strictly inside the mate-score band. -/
theorem C17_code_bound_consistent (p : Position) (hc : Consistent p = true) :
    -(Gen.MATE_SCORE - Gen.MAX_DEPTH) < R.eval p ∧ R.eval p < Gen.MATE_SCORE - Gen.MAX_DEPTH := by
  rw [agree_eval]; exact C17_bound_consistent p hc

/-- … and every `i32` quantity the regenerated `eval` computes (both `eval_us` results, their difference, the phase,
`256 - phase`, the two products and the numerator of `taper`, the result and its negation) is an `i32` value. -/
theorem C17_code_no_overflow_consistent (p : Position) (hc : Consistent p = true) :
    let a := R.eval_us p
    let b := R.eval_us (R.from_flipped p)
    let d := R.score_sub a b
    I32 a.1 ∧ I32 a.2 ∧ I32 b.1 ∧ I32 b.2 ∧ I32 d.1 ∧ I32 d.2 ∧ I32 (R.get_phase p) ∧
    I32 (256 - R.get_phase p) ∧ I32 (d.1 * (256 - R.get_phase p)) ∧ I32 (d.2 * R.get_phase p) ∧
    I32 (d.1 * (256 - R.get_phase p) + d.2 * R.get_phase p) ∧ I32 (R.eval p) ∧ I32 (- R.eval p) := by
  rw [agree_eval, agree_eval_us, agree_from_flipped, agree_get_phase, agree_score_sub]
  exact C17_no_overflow_consistent p hc

theorem C17_code_bound (p : Position) (hd : PieceDisj p) (ho : OnMen p) (hm : M16 p) :
    -(Gen.MATE_SCORE - Gen.MAX_DEPTH) < R.eval p ∧ R.eval p < Gen.MATE_SCORE - Gen.MAX_DEPTH := by
  rw [agree_eval]; exact C17_bound p hd ho hm

/-- on the domain `D = V ∧ E ∧ M`: `|eval| ≤ 60400`. -/
theorem C17_code_bound_InD (p : Position) (h : InD p = true) : -60400 ≤ R.eval p ∧ R.eval p ≤ 60400 := by
  rw [agree_eval]; exact C17_bound_InD p h

example : R.eval Gen.startpos = 0 := by decide +kernel
/-- a pawn up (`c17PawnUp` of `Props/C17.lean`): +99 for the mover, −99 after the regenerated `flip`, +99 mirrored. -/
example : R.eval c17PawnUp = 99 ∧ R.eval (R.flip c17PawnUp) = -99 ∧ R.eval (mirrorSwap c17PawnUp) = 99 := by
  decide +kernel
example : R.eval (R.flip c17PawnUp) = - R.eval c17PawnUp := C17_code_antisymmetry c17PawnUp
/-- 23 queens: consistent, more than 16 men — covered by `C17_code_bound_consistent`. -/
example : -(Gen.MATE_SCORE - Gen.MAX_DEPTH) < R.eval c17Queens ∧ R.eval c17Queens < Gen.MATE_SCORE - Gen.MAX_DEPTH :=
  C17_code_bound_consistent c17Queens (by decide +kernel)

end Rawr

#print axioms Rawr.C17_code_antisymmetry
#print axioms Rawr.C17_code_antisymmetry_from_flipped
#print axioms Rawr.C17_code_independent
#print axioms Rawr.C17_code_independent_fields
#print axioms Rawr.C17_code_mirror
#print axioms Rawr.C17_code_mirror_abs
#print axioms Rawr.C17_code_bound_consistent
#print axioms Rawr.C17_code_no_overflow_consistent
#print axioms Rawr.C17_code_bound
#print axioms Rawr.C17_code_bound_InD
