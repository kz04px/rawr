import Rawr.Proofs.GenPieces
/-!
# C01, knight and slider classes; the safety lemma

`moveGenerator p` tags every move with the moving piece (1 knight, 2 bishop, 3 rook, 4 queen). For a
position of the domain (`ValidPos`):

* `C01_safety` (= `Att.safe_after_move`, `Proofs/GenSafety.lean`): for every move of an own piece from `f` to
  a square `t ≠ f` not holding an own piece, with no other change of the board (every move that is not a king
  move, en passant or castling): the mover's king is not attacked afterwards iff `t ∈ allowed` and `t` lies
  on the pin line of `f` (`Att.PinOk`; true for an unpinned piece, `Proofs/GenPins.lean`);
* `C01_knights`, `C01_bishops`, `C01_rooks`, `C01_queens`: the generated moves with tag 1, 2, 3, 4 are
  exactly the legal moves (of `Spec.legalMoves (abs p)`) of the mover's knights, bishops, rooks, queens.
  The generator's `!pinned` for knights, `bishopMoves &&& allowed &&& bxrays` for diagonally pinned
  bishops/queens and `rookMoves &&& allowed &&& rxrays` for orthogonally pinned rooks/queens are justified by
  `Att.pinned_not_pinOk_knight`, `Att.bpinned_pinOk_iff`, `Att.rpinned_pinOk_iff` (a slider on one pin line
  cannot reach another pin line of the same class: `Att.same_dir`) and
  `Att.bpinned_not_pinOk_orth` / `Att.rpinned_not_pinOk_diag`.
-/
namespace Rawr
open Spec Att

/-- C01, the safety lemma (see `Att.safe_after_move`). -/
theorem C01_safety (p : Position) (hV : ValidPos p = true) (f t : Nat) (hf : f < 64) (ht : t < 64)
    (hus : p.c0.isSet f = true) (hft : t ≠ f) (hto : p.c0.isSet t = false)
    (pc : Piece) (hpc : pc.white = !p.black) :
    Spec.attackedBy
        (setSq (setSq (abs p).board (absSq p.black f) none) (absSq p.black t) (some pc))
        p.black (absSq p.black (prelude p).ksq) = false ↔
      ((prelude p).allowed.isSet t = true ∧ PinOk p f t) :=
  safe_after_move hV hf ht hus hto pc hpc

/-- the safety lemma in the generator's own terms, for a diagonal slide (`f → t` diagonal, path empty;
this includes a single diagonal step): the king is safe afterwards iff `t ∈ allowed` and the piece is not
pinned, or it is pinned on a diagonal and `t ∈ bxrays`. -/
theorem C01_safety_diag (p : Position) (hV : ValidPos p = true) (f t : Nat) (hf : f < 64) (ht : t < 64)
    (hus : p.c0.isSet f = true) (hto : p.c0.isSet t = false) (pc : Piece) (hpc : pc.white = !p.black)
    (hd : diagAtt (relBoard p) f t = true) :
    Spec.attackedBy
        (setSq (setSq (abs p).board (absSq p.black f) none) (absSq p.black t) (some pc))
        p.black (absSq p.black (prelude p).ksq) = false ↔
      ((prelude p).allowed.isSet t = true ∧ ((prelude p).pinned.isSet f = false ∨
        ((prelude p).bpinned.isSet f = true ∧ (prelude p).bxrays.isSet t = true))) := by
  rw [safe_after_move hV hf ht hus hto pc hpc]
  unfold BB.isSet at *
  rw [pinOk_diag_move hV hus ht hto hd]

/-- the same for a slide along a rank or file: `rpinned` and `rxrays`. -/
theorem C01_safety_orth (p : Position) (hV : ValidPos p = true) (f t : Nat) (hf : f < 64) (ht : t < 64)
    (hus : p.c0.isSet f = true) (hto : p.c0.isSet t = false) (pc : Piece) (hpc : pc.white = !p.black)
    (ho : orthAtt (relBoard p) f t = true) :
    Spec.attackedBy
        (setSq (setSq (abs p).board (absSq p.black f) none) (absSq p.black t) (some pc))
        p.black (absSq p.black (prelude p).ksq) = false ↔
      ((prelude p).allowed.isSet t = true ∧ ((prelude p).pinned.isSet f = false ∨
        ((prelude p).rpinned.isSet f = true ∧ (prelude p).rxrays.isSet t = true))) := by
  rw [safe_after_move hV hf ht hus hto pc hpc]
  unfold BB.isSet at *
  rw [pinOk_orth_move hV hus ht ho]

/-- the same for a knight's move: only an unpinned piece may make it. -/
theorem C01_safety_knight (p : Position) (hV : ValidPos p = true) (f t : Nat) (hf : f < 64) (ht : t < 64)
    (hus : p.c0.isSet f = true) (hto : p.c0.isSet t = false) (pc : Piece) (hpc : pc.white = !p.black)
    (hk : knightStep f t = true) :
    Spec.attackedBy
        (setSq (setSq (abs p).board (absSq p.black f) none) (absSq p.black t) (some pc))
        p.black (absSq p.black (prelude p).ksq) = false ↔
      ((prelude p).allowed.isSet t = true ∧ (prelude p).pinned.isSet f = false) := by
  rw [safe_after_move hV hf ht hus hto pc hpc]
  unfold BB.isSet at *
  constructor
  · rintro ⟨h1, h2⟩
    refine ⟨h1, ?_⟩
    cases hpin : (prelude p).pinned.getLsbD f
    · rfl
    · exact absurd h2 (pinned_not_pinOk_knight hV hpin hk)
  · rintro ⟨h1, h2⟩
    exact ⟨h1, pinOk_of_not_pinned hV hus h2 t⟩

/-- the class theorem of the four piece kinds, carried from the mover's frame to `abs p`. -/
theorem pieces_abs {p : Position} (hV : ValidPos p = true) {pc : Nat} (hpc : pc = 1 ∨ pc = 2 ∨ pc = 3 ∨ pc = 4)
    (f t : Nat) :
    gm pc f t 6 ∈ moveGenerator p ↔
      (Move.normal (absSq p.black f) (absSq p.black t) none ∈ Spec.legalMoves (abs p) ∧
        (p.piece pc).isSet f = true ∧ p.c0.isSet f = true) :=
  (pieces_core hV hpc f t).trans (and_congr_left' (legal_frame hV (.normal f t none)).symm)

theorem C01_knights (p : Position) (hV : ValidPos p = true) : ∀ f t : Nat,
    gm 1 f t 6 ∈ moveGenerator p ↔
      (Move.normal (absSq p.black f) (absSq p.black t) none ∈ Spec.legalMoves (abs p) ∧
        p.p1.isSet f = true ∧ p.c0.isSet f = true) :=
  pieces_abs hV (.inl rfl)

theorem C01_bishops (p : Position) (hV : ValidPos p = true) : ∀ f t : Nat,
    gm 2 f t 6 ∈ moveGenerator p ↔
      (Move.normal (absSq p.black f) (absSq p.black t) none ∈ Spec.legalMoves (abs p) ∧
        p.p2.isSet f = true ∧ p.c0.isSet f = true) :=
  pieces_abs hV (.inr (.inl rfl))

theorem C01_rooks (p : Position) (hV : ValidPos p = true) : ∀ f t : Nat,
    gm 3 f t 6 ∈ moveGenerator p ↔
      (Move.normal (absSq p.black f) (absSq p.black t) none ∈ Spec.legalMoves (abs p) ∧
        p.p3.isSet f = true ∧ p.c0.isSet f = true) :=
  pieces_abs hV (.inr (.inr (.inl rfl)))

theorem C01_queens (p : Position) (hV : ValidPos p = true) : ∀ f t : Nat,
    gm 4 f t 6 ∈ moveGenerator p ↔
      (Move.normal (absSq p.black f) (absSq p.black t) none ∈ Spec.legalMoves (abs p) ∧
        p.p4.isSet f = true ∧ p.c0.isSet f = true) :=
  pieces_abs hV (.inr (.inr (.inr rfl)))

/-- a legal move starting on a square of a mover's knight/bishop/rook/queen has no promotion piece (so
`C01_knights` … `C01_queens`, stated with `none`, cover every such move). -/
theorem C01_pieces_abs (p : Position) (pcTag : Nat) (f : Nat) (b : Nat) (pr : Option Kind)
    (hB : relBoard p f = some ⟨true, kindOf pcTag⟩) (htag : pcTag = 1 ∨ pcTag = 2 ∨ pcTag = 3 ∨ pcTag = 4)
    (hleg : Move.normal (absSq p.black f) b pr ∈ Spec.legalMoves (abs p)) : pr = none :=
  promo_none_of_piece (by rcases htag with rfl | rfl | rfl | rfl <;> decide) hB hleg

/-- White: Ke1 (4), Qd2 (11, pinned on the diagonal by Ba5), Re3 (20, pinned on the file by Re8), Bg2 (14),
Nb1 (1); Black: Kh8 (63), Ba5 (32), Re8 (60). -/
def slidePos : Position :=
  let q : Position :=
    { Position.dflt with
      c0 := (bit 4 ||| bit 11 ||| bit 20 ||| bit 14 ||| bit 1), c1 := (bit 63 ||| bit 32 ||| bit 60),
      p1 := bit 1, p2 := (bit 14 ||| bit 32), p3 := (bit 20 ||| bit 60), p4 := bit 11,
      p5 := (bit 4 ||| bit 63) }
  { q with hash := q.calculateHash }

/-- the colour-swapped position (Black to move): exercises the frame change. -/
def slidePosB : Position :=
  let q : Position := { slidePos with black := true }
  { q with hash := q.calculateHash }

theorem slidePos_valid : ValidPos slidePos = true := by decide +kernel
theorem slidePosB_valid : ValidPos slidePosB = true := by decide +kernel

example : ValidPos slidePos = true ∧ ValidPos slidePosB = true ∧ ValidPos safetyPos = true :=
  ⟨slidePos_valid, slidePosB_valid, safetyPos_valid⟩

/-- the generator side: the pinned queen moves along its pin line only (c3, b4, xa5), the pinned rook along the
file only, the bishop and the knight freely. -/
example : (prelude slidePos).bpinned.isSet 11 = true ∧ (prelude slidePos).rpinned.isSet 20 = true ∧
    gm 4 11 18 6 ∈ moveGenerator slidePos ∧ gm 4 11 32 6 ∈ moveGenerator slidePos ∧
    gm 4 11 10 6 ∉ moveGenerator slidePos ∧ gm 4 11 2 6 ∉ moveGenerator slidePos ∧
    gm 3 20 28 6 ∈ moveGenerator slidePos ∧ gm 3 20 60 6 ∈ moveGenerator slidePos ∧
    gm 3 20 21 6 ∉ moveGenerator slidePos ∧ gm 2 14 21 6 ∈ moveGenerator slidePos ∧
    gm 1 1 18 6 ∈ moveGenerator slidePos := by decide +kernel

/-- … and through the theorems these are statements about `Spec.legalMoves`. -/
example : Move.normal 11 18 none ∈ Spec.legalMoves (abs slidePos) :=
  ((C01_queens slidePos slidePos_valid 11 18).mp (by decide +kernel)).1
example : Move.normal 11 10 none ∉ Spec.legalMoves (abs slidePos) := fun h =>
  absurd ((C01_queens slidePos slidePos_valid 11 10).mpr ⟨h, by decide +kernel, by decide +kernel⟩)
    (by decide +kernel)
example : Move.normal 20 60 none ∈ Spec.legalMoves (abs slidePos) :=
  ((C01_rooks slidePos slidePos_valid 20 60).mp (by decide +kernel)).1
example : Move.normal 14 21 none ∈ Spec.legalMoves (abs slidePos) :=
  ((C01_bishops slidePos slidePos_valid 14 21).mp (by decide +kernel)).1
example : Move.normal 1 18 none ∈ Spec.legalMoves (abs slidePos) :=
  ((C01_knights slidePos slidePos_valid 1 18).mp (by decide +kernel)).1
/-- Black to move, mirrored board: the queen d7 (relative d2 = 11, absolute 51) goes to c6 (absolute 42). -/
example : Move.normal 51 42 none ∈ Spec.legalMoves (abs slidePosB) :=
  ((C01_queens slidePosB slidePosB_valid 11 18).mp (by decide +kernel)).1
/-- in `safetyPos` (bishop check from b4) the knight d1 may only interpose on c3 / d2; the bishop e2 is
pinned on the file and cannot move at all. -/
example : gm 1 3 18 6 ∈ moveGenerator safetyPos ∧ gm 1 3 13 6 ∉ moveGenerator safetyPos ∧
    gm 2 12 19 6 ∉ moveGenerator safetyPos := by decide +kernel
example : Move.normal 12 19 none ∉ Spec.legalMoves (abs safetyPos) := fun h =>
  absurd ((C01_bishops safetyPos safetyPos_valid 12 19).mpr ⟨h, by decide +kernel, by decide +kernel⟩)
    (by decide +kernel)

#print axioms C01_safety
#print axioms C01_safety_diag
#print axioms C01_safety_orth
#print axioms C01_safety_knight
#print axioms C01_knights
#print axioms C01_bishops
#print axioms C01_rooks
#print axioms C01_queens
#print axioms C01_pieces_abs

end Rawr
