import Rawr.Props.C13
/-! C13, a kernel-evaluated non-vacuity instance. -/
namespace Rawr
namespace C13Ex

/-- the hypothesis of `negamax_preserves_history` is satisfiable: a depth-2 search (pushes, pops, the
late-move re-search and quiescence all occur) over a non-empty history returns; the conclusion, obtained
through the theorem, is about a non-trivial history. -/
example : ∃ v st', negamax (.depth 2) 3 kpk st0 (-Gen.INF) Gen.INF 0 2 false = some (v, st') ∧
    st'.hist = [5#64, 7#64] ∧ st'.tt.len = 3 := by
  obtain ⟨v, st', h⟩ : ∃ v st', negamax (.depth 2) 3 kpk st0 (-Gen.INF) Gen.INF 0 2 false = some (v, st') :=
    exists_of_isSome (by decide +kernel)
  exact ⟨v, st', h, negamax_preserves_history _ _ _ _ _ _ _ _ _ _ _ h, negamax_preserves_tt_len _ _ _ _ _ _ _ _ _ _ _ h⟩

end C13Ex
end Rawr
