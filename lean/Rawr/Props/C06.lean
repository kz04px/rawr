import Rawr.Proofs.FenRound
/-! # C06 : FEN round trips

(a) print then parse: for every position of the engine's domain (`ValidPos`), `get_fen` succeeds and
`set_fen` (both arithmetics) reads the printed string back to the same position — placement, side to move,
castling rights, the castle file of every PRESENT right, en-passant square, both counters, key and the
`frc` flag; the castle files of ABSENT rights are reset to `Position::default()`'s 7, 0, 7, 0 (`FenC.normCf`).
(b) parse then print: for every canonical X-FEN string of a valid position, parsing and printing
reproduces the string.

The attack test V.4 inside `validate` is the model's `isSqAttacked`; that it is implied by `ValidPos`
(`Spec.inCheck` on the absolute position) is C08d — here it is the hypothesis `hchk`; it is discharged in
`Rawr/Props/C07_full.lean` (`C06a_complete`, `C06b_complete`, `C06a_domain`). -/
namespace Rawr
open Spec FenC

/-- `get_fen` never panics on a valid position, and prints the canonical X-FEN of the absolute position. -/
theorem C06a_prints (p : Position) (hV : ValidPos p = true) :
    getFen p = some (printFen (abs p) .xfen) := getFen_eq_printFen p hV

theorem C06a_prints_ne_none (p : Position) (hV : ValidPos p = true) : getFen p ≠ none := by
  rw [C06a_prints p hV]; exact Option.some_ne_none _

/-- **C06(a)**, exact form: the printed FEN parses back (both arithmetics, with the position's own `frc`
flag) to `p` with the castle files of absent rights reset to the defaults. -/
theorem C06a_roundtrip_exact (ar : Arith) (p : Position) (hV : ValidPos p = true)
    (hchk : p.isSqAttacked (lsb (p.c1 &&& p.p5)) false = false) (s : List Char) (hs : getFen p = some s) :
    setFen ar p.frc s = some (normCf p) := by
  rw [getFen_eq_printFen p hV, Option.some.injEq] at hs
  subst hs
  exact setFen_printFen_abs ar p .xfen hV nofun hchk

/-- **C06(a)**, field by field. -/
theorem C06a_roundtrip (ar : Arith) (p : Position) (hV : ValidPos p = true)
    (hchk : p.isSqAttacked (lsb (p.c1 &&& p.p5)) false = false) (s : List Char) (hs : getFen p = some s) :
    ∃ p', setFen ar p.frc s = some p' ∧
      p'.c0 = p.c0 ∧ p'.c1 = p.c1 ∧ p'.p0 = p.p0 ∧ p'.p1 = p.p1 ∧ p'.p2 = p.p2 ∧ p'.p3 = p.p3 ∧
      p'.p4 = p.p4 ∧ p'.p5 = p.p5 ∧
      p'.black = p.black ∧ p'.ep = p.ep ∧
      -- castling rights, and which rook each PRESENT right refers to
      p'.usK = p.usK ∧ p'.usQ = p.usQ ∧ p'.themK = p.themK ∧ p'.themQ = p.themQ ∧
      (p.usK = true → p'.cf0 = p.cf0) ∧ (p.usQ = true → p'.cf1 = p.cf1) ∧
      (p.themK = true → p'.cf2 = p.cf2) ∧ (p.themQ = true → p'.cf3 = p.cf3) ∧
      -- the castle files of ABSENT rights are reset to the defaults of `Position::default()`
      (p.usK = false → p'.cf0 = 7) ∧ (p.usQ = false → p'.cf1 = 0) ∧
      (p.themK = false → p'.cf2 = 7) ∧ (p.themQ = false → p'.cf3 = 0) ∧
      p'.halfmoves = p.halfmoves ∧ p'.fullmoves = p.fullmoves ∧ p'.hash = p.hash ∧ p'.frc = p.frc := by
  refine ⟨normCf p, C06a_roundtrip_exact ar p hV hchk s hs, rfl, rfl, rfl, rfl, rfl, rfl, rfl, rfl, rfl, rfl,
    rfl, rfl, rfl, rfl, ?_, ?_, ?_, ?_, ?_, ?_, ?_, ?_, rfl, rfl, rfl, rfl⟩ <;> intro h <;> simp [normCf, h]

/-- the abstraction is restored exactly: same absolute position (rights with their files included). -/
theorem C06a_abs (ar : Arith) (p : Position) (hV : ValidPos p = true)
    (hchk : p.isSqAttacked (lsb (p.c1 &&& p.p5)) false = false) (s : List Char) (hs : getFen p = some s) :
    ∃ p', setFen ar p.frc s = some p' ∧ abs p' = abs p ∧ p'.hash = p.hash := by
  have vp := validPos_parts hV
  refine ⟨normCf p, C06a_roundtrip_exact ar p hV hchk s hs, ?_, rfl⟩
  -- `normCf p` is `rel (abs p)`, and `abs ∘ rel` is the identity
  rw [← rel_abs' p vp.consistent vp.hash]
  exact abs_rel (abs p) p.frc (absBoard_ge p)

/-- **C06(b)**: the engine prints the canonical X-FEN of (the engine representation of) a valid position. -/
theorem C06b_canonical (a : APos) (frc : Bool) (hV : Valid a = true) (hb : ∀ s, 64 ≤ s → a.board s = none)
    (hh : a.half < 2147483648) (hf : a.full < 2147483648) :
    getFen (rel a frc) = some (printFen a .xfen) := by
  rw [getFen_eq_printFen _ (validPos_rel a frc hV hb hh hf), abs_rel a frc hb]

/-- **C06(b)** for all three spellings of the castling field: they are read to the same position and
printed canonically (file letters become `KQkq` where the rook is the outermost, and vice versa). -/
theorem C06b_normalises (ar : Arith) (a : APos) (frc : Bool) (st : CastleStyle) (hV : Valid a = true)
    (hb : ∀ s, 64 ≤ s → a.board s = none) (hh : a.half < 2147483648) (hf : a.full < 2147483648)
    (hst : st = .kqkq → AllOutermost a)
    (hchk : (rel a frc).isSqAttacked (lsb ((rel a frc).c1 &&& (rel a frc).p5)) false = false) :
    (setFen ar frc (printFen a st)).bind getFen = some (printFen a .xfen) := by
  rw [setFen_printFen a frc ar st hV hb hh hf hst hchk, Option.bind_some]
  exact C06b_canonical a frc hV hb hh hf

/-- **C06(b)**: for every canonical X-FEN string of a valid position, parsing and printing reproduces it. -/
theorem C06b_parse_print (ar : Arith) (a : APos) (frc : Bool) (hV : Valid a = true)
    (hb : ∀ s, 64 ≤ s → a.board s = none) (hh : a.half < 2147483648) (hf : a.full < 2147483648)
    (hchk : (rel a frc).isSqAttacked (lsb ((rel a frc).c1 &&& (rel a frc).p5)) false = false) :
    (setFen ar frc (printFen a .xfen)).bind getFen = some (printFen a .xfen) :=
  C06b_normalises ar a frc .xfen hV hb hh hf nofun hchk

/-- `C06a_roundtrip_exact` and `C06b_parse_print` without the hypothesis `hchk`: what `Rawr/Props/C07_full.lean` proves. -/
def C06a_full : Prop :=
  ∀ (ar : Arith) (p : Position), ValidPos p = true → ∀ s, getFen p = some s →
    setFen ar p.frc s = some (normCf p)

def C06b_full : Prop :=
  ∀ (ar : Arith) (a : APos) (frc : Bool), Valid a = true → (∀ s, 64 ≤ s → a.board s = none) →
    a.half < 2147483648 → a.full < 2147483648 →
    (setFen ar frc (printFen a .xfen)).bind getFen = some (printFen a .xfen)

example : ValidPos Gen.startpos = true ∧
    Gen.startpos.isSqAttacked (lsb (Gen.startpos.c1 &&& Gen.startpos.p5)) false = false :=
  ⟨startpos_valid, startpos_notInCheck⟩

/-- the theorems applied: the start position is printed and read back (checked build). -/
example : ∃ s, getFen Gen.startpos = some s ∧ setFen .trap Gen.startpos.frc s = some (normCf Gen.startpos) :=
  ⟨_, C06a_prints _ startpos_valid,
    C06a_roundtrip_exact .trap _ startpos_valid startpos_notInCheck _ (C06a_prints _ startpos_valid)⟩

/-- a Chess960 position, Black to move, en-passant square set, an inner-rook right (`C`) and partial
rights: it is in the domain, not in check, printed with the file letter … -/
def exInnerFen : List Char := "1r2k2r/8/8/8/4P3/8/8/R1R1K3 b Ck e3 5 17".toList

theorem exInnerFen_accepted : ((setFen .wrap true exInnerFen).map fun p =>
    (ValidPos p, p.black, p.isSqAttacked (lsb (p.c1 &&& p.p5)) false, getFen p)) =
    some (true, true, false, some exInnerFen) := by decide +kernel

example : ((setFen .wrap true exInnerFen).map fun p =>
    (ValidPos p, p.black, p.isSqAttacked (lsb (p.c1 &&& p.p5)) false, getFen p)) =
    some (true, true, false, some exInnerFen) := exInnerFen_accepted

/-- … and read back to itself (here by the checked build). -/
example : ((setFen .wrap true exInnerFen).bind fun p => (getFen p).bind fun s =>
    (setFen .trap true s).map fun q => q == p) = some true := by decide +kernel

/-- a position whose absent right carries a non-default castle file: the round trip resets exactly that. -/
example : normCf { Gen.startpos with usK := false, cf0 := 3 } = { Gen.startpos with usK := false } := by
  decide

#print axioms C06a_prints
#print axioms C06a_roundtrip_exact
#print axioms C06a_roundtrip
#print axioms C06a_abs
#print axioms C06b_canonical
#print axioms C06b_parse_print
#print axioms C06b_normalises
end Rawr
