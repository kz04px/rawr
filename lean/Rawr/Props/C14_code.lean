import Rawr.Props.C14_rules
import Rawr.Props.C14_time
import Rawr.Props.C03_code
import Rawr.Proofs.RustTimeAgree
/-!
# C14 on the regenerated code: `R.root` respects its limits

The C14 theorems (`Props/C14.lean`, `Props/C14_rules.lean`, `Props/C14_time.lean`) restated for the regenerated driver
`R.root clock p hist tt s fuel` (root.rs) with the Rust `settings::Type` `s`, and for the regenerated `R.negamax`, through
`agree_root_rules` / `agree_negamax_rules`.

* The `_rules` theorems already carry `ValidPos`, `EpConsistent` and the counter room `+ fuel + 64` of the agreement:
  exact transfers (`C14_code_scores_inside_mate_bounds`, `C14_code_negamax_inside_mate_bounds`,
  `C14_code_root_preserves_TTSane`, `C14_code_depth_{general,iterations,cap,zero}`, `C14_code_InD`).
* Of the theorems of `Props/C14.lean` that hold for the model with NO hypothesis on the position (listed in its head),
  `C14_depths_consecutive`, `C14_best_is_pv_head` (with `C14_pv_length`), `C14_nodes_rule`, `C14_depth_nothing_deeper`
  and `C14_expired_clock` are transferred; they get the domain hypotheses of the agreement as EXTRA hypotheses.
* Clock limits: `R.timeBudget` / `R.movetimeBudget` are regenerated from the two clock comparisons of root.rs
  (`agree_timeBudget`, `agree_movetimeBudget`, `rfl`); the `should_stop` closure inside `R.root` is regenerated too, and
  `toLimit clock p (.Time wt bt _ _ mtg)` is the oracle `budgetOracle (timeBudget (side to move is White) wt bt mtg) clock`
  (`toLimit_time`).  `C14_code_budget_le_clock`, `C14_code_budget_u32`, `C14_code_expired_time`, `C14_code_zero_budget`,
  `C14_code_zero_movetime`.
  NOT transferred: `C14_no_report_after_budget`, `C14_reported_within_clock` — they are statements about the iteration
  loop `rootIter` started in the MIDDLE (arbitrary iteration, state and record list); the agreement for the regenerated
  loop `R.root_loop1` (`root_loop_eq`, `Proofs/RustSearchAgree_Root.lean`) is stated only for the loop as `R.root` enters
  it and up to `postLoop`, not as a public theorem for arbitrary entry states.  The closest true statement on the code
  is `C14_code_expired_time` (the clock has reached the budget at the first poll ⇒ at most the first iteration is
  reported).
* `TTSane tt` / `TTBounded tt` (every stored score strictly inside `±MATE_SCORE` / `±INF`) are predicates on the table's
  entries, no engine function involved.  Records are read through `infoToModel` (`depth.getD 0`, `score.getD 0`, …).
-/
namespace Rawr

/-- **C14 on the code, scores**: every score the regenerated driver reports lies strictly inside the mate bounds. -/
theorem C14_code_scores_inside_mate_bounds (clock : Nat → Nat) (s : R.Settings) (lim : Limit) (fuel : Nat)
    (p : Position) (hist : List BB) (tt : Table TTEntry)
    (r : Except String Mv × List BB × Table TTEntry × List R.Info)
    (hlim : toLimit clock p s = some lim)
    (hV : ValidPos p = true) (hE : Spec.EpConsistent (abs p) = true)
    (hh : p.halfmoves + fuel + 64 < 2147483648) (hfm : p.fullmoves + fuel + 64 < 2147483648)
    (htt : TTSane tt) (hf : (fuel : Int) ≤ 2 * Gen.MATE_SCORE)
    (h : R.root clock p hist tt s fuel = some r) :
    ∀ i ∈ r.2.2.2, -Gen.MATE_SCORE < i.score.getD 0 ∧ i.score.getD 0 < Gen.MATE_SCORE :=
  fun _ hi => C14_scores_inside_mate_bounds_rules lim fuel p hist tt (rootResultOf r) hV hE hh hfm htt hf
    (root_code_model hlim hV hE hh hfm h) _ (mem_infos_code hi)

theorem C14_code_negamax_inside_mate_bounds (clock : Nat → Nat) (p0 : Position) (s : R.Settings) (lim : Limit)
    (hlim : toLimit clock p0 s = some lim) (fuel : Nat) (p : Position) (st : SState)
    (α β ply depth : Int) (cn : Bool) (v : Int) (st' : SState)
    (hV : ValidPos p = true) (hE : Spec.EpConsistent (abs p) = true)
    (hh : p.halfmoves + fuel + 64 < 2147483648) (hfm : p.fullmoves + fuel + 64 < 2147483648)
    (htt : TTSane st.tt) (hply : 1 ≤ ply) (hbound : ply + fuel ≤ 2 * Gen.MATE_SCORE)
    (h : R.negamax (R.root_should_stop p0 s clock) fuel p st α β ply depth cn = some (v, st')) :
    (-Gen.MATE_SCORE < v ∧ v < Gen.MATE_SCORE) ∧ TTSane st'.tt := by
  rw [negamax_code_model hlim fuel p hV hE hh hfm] at h
  exact C14_negamax_inside_mate_bounds_rules lim fuel p st α β ply depth cn v st' hV hE hh hfm htt hply hbound h

theorem C14_code_root_preserves_TTSane (clock : Nat → Nat) (s : R.Settings) (lim : Limit) (fuel : Nat)
    (p : Position) (hist : List BB) (tt : Table TTEntry)
    (r : Except String Mv × List BB × Table TTEntry × List R.Info)
    (hlim : toLimit clock p s = some lim)
    (hV : ValidPos p = true) (hE : Spec.EpConsistent (abs p) = true)
    (hh : p.halfmoves + fuel + 64 < 2147483648) (hfm : p.fullmoves + fuel + 64 < 2147483648)
    (htt : TTSane tt) (hf : (fuel : Int) ≤ 2 * Gen.MATE_SCORE)
    (h : R.root clock p hist tt s fuel = some r) : TTSane r.2.2.1 :=
  C14_root_preserves_TTSane_rules lim fuel p hist tt (rootResultOf r) hV hE hh hfm htt hf
    (root_code_model hlim hV hE hh hfm h)

/-- `C14_rules_InD` on the code: scores and table for a root of `D = V ∧ E ∧ M`, an all-default table of any size and any
search setting. -/
theorem C14_code_InD (clock : Nat → Nat) (s : R.Settings) (lim : Limit) (fuel : Nat) (p : Position) (hist : List BB)
    (n : Nat) (r : Except String Mv × List BB × Table TTEntry × List R.Info)
    (hlim : toLimit clock p s = some lim) (hD : InD p = true)
    (hh : p.halfmoves + fuel + 64 < 2147483648) (hfm : p.fullmoves + fuel + 64 < 2147483648)
    (hf : (fuel : Int) ≤ 2 * Gen.MATE_SCORE)
    (h : R.root clock p hist ⟨Array.replicate n default⟩ s fuel = some r) :
    (∀ i ∈ r.2.2.2, -Gen.MATE_SCORE < i.score.getD 0 ∧ i.score.getD 0 < Gen.MATE_SCORE) ∧ TTSane r.2.2.1 := by
  obtain ⟨hV, hE, _⟩ := (inD_iff p).mp hD
  obtain ⟨h1, h2⟩ := C14_rules_InD lim fuel p hist n (rootResultOf r) hD hh hfm hf (root_code_model hlim hV hE hh hfm h)
  exact ⟨fun i hi => h1 _ (mem_infos_code hi), h2⟩

theorem infos_depth_code (r : Except String Mv × List BB × Table TTEntry × List R.Info) :
    (rootResultOf r).infos.map (·.depth) = r.2.2.2.map (fun i => i.depth.getD 0) := by
  simp only [rootResultOf, List.map_map]; rfl

/-- **C14 on the code, depth limits**: `go depth D` reports exactly the iterations `1 … max 1 (min D 127)`, on every root of
`V ∧ E` that has a legal move by the rules. -/
theorem C14_code_depth_general (clock : Nat → Nat) (D : Int) (fuel : Nat) (p : Position) (hist : List BB)
    (tt : Table TTEntry) (r : Except String Mv × List BB × Table TTEntry × List R.Info)
    (hV : ValidPos p = true) (hE : Spec.EpConsistent (abs p) = true)
    (hh : p.halfmoves + fuel + 64 < 2147483648) (hfm : p.fullmoves + fuel + 64 < 2147483648)
    (htt : TTBounded tt) (hf : (fuel : Int) ≤ Gen.INF + Gen.MATE_SCORE)
    (hlegal : Spec.legalMoves (abs p) ≠ []) (h : R.root clock p hist tt (.Depth D) fuel = some r) :
    r.2.2.2.map (fun i => i.depth.getD 0) = (List.range' 1 (depthTarget D).toNat).map Int.ofNat := by
  rw [← infos_depth_code]
  exact C14_depth_general_rules D fuel p hist tt (rootResultOf r) hV hE hh hfm htt hf hlegal
    (root_code_model (lim := .depth D) rfl hV hE hh hfm h)

/-- depth limit `1 ≤ D < MAX_DEPTH`: the iterations `1, …, D` are reported in order and nothing deeper. -/
theorem C14_code_depth_iterations (clock : Nat → Nat) (D : Int) (hD1 : 1 ≤ D) (hD2 : D < Gen.MAX_DEPTH)
    (fuel : Nat) (p : Position) (hist : List BB) (tt : Table TTEntry)
    (r : Except String Mv × List BB × Table TTEntry × List R.Info)
    (hV : ValidPos p = true) (hE : Spec.EpConsistent (abs p) = true)
    (hh : p.halfmoves + fuel + 64 < 2147483648) (hfm : p.fullmoves + fuel + 64 < 2147483648)
    (htt : TTBounded tt) (hf : (fuel : Int) ≤ Gen.INF + Gen.MATE_SCORE)
    (hlegal : Spec.legalMoves (abs p) ≠ []) (h : R.root clock p hist tt (.Depth D) fuel = some r) :
    r.2.2.2.map (fun i => i.depth.getD 0) = (List.range' 1 D.toNat).map Int.ofNat := by
  rw [C14_code_depth_general clock D fuel p hist tt r hV hE hh hfm htt hf hlegal h, depthTarget_of_lt hD1 hD2]

/-- finding F10 on the code: a depth limit `D ≥ MAX_DEPTH = 128` is capped at 127 iterations. -/
theorem C14_code_depth_cap (clock : Nat → Nat) (D : Int) (hD : Gen.MAX_DEPTH ≤ D)
    (fuel : Nat) (p : Position) (hist : List BB) (tt : Table TTEntry)
    (r : Except String Mv × List BB × Table TTEntry × List R.Info)
    (hV : ValidPos p = true) (hE : Spec.EpConsistent (abs p) = true)
    (hh : p.halfmoves + fuel + 64 < 2147483648) (hfm : p.fullmoves + fuel + 64 < 2147483648)
    (htt : TTBounded tt) (hf : (fuel : Int) ≤ Gen.INF + Gen.MATE_SCORE)
    (hlegal : Spec.legalMoves (abs p) ≠ []) (h : R.root clock p hist tt (.Depth D) fuel = some r) :
    r.2.2.2.map (fun i => i.depth.getD 0) = (List.range' 1 127).map Int.ofNat := by
  rw [C14_code_depth_general clock D fuel p hist tt r hV hE hh hfm htt hf hlegal h, depthTarget_of_ge hD]
  rfl

/-- `go depth 0` (and below): the first iteration is reported all the same. -/
theorem C14_code_depth_zero (clock : Nat → Nat) (D : Int) (hD : D ≤ 1)
    (fuel : Nat) (p : Position) (hist : List BB) (tt : Table TTEntry)
    (r : Except String Mv × List BB × Table TTEntry × List R.Info)
    (hV : ValidPos p = true) (hE : Spec.EpConsistent (abs p) = true)
    (hh : p.halfmoves + fuel + 64 < 2147483648) (hfm : p.fullmoves + fuel + 64 < 2147483648)
    (htt : TTBounded tt) (hf : (fuel : Int) ≤ Gen.INF + Gen.MATE_SCORE)
    (hlegal : Spec.legalMoves (abs p) ≠ []) (h : R.root clock p hist tt (.Depth D) fuel = some r) :
    r.2.2.2.map (fun i => i.depth.getD 0) = [1] := by
  rw [C14_code_depth_general clock D fuel p hist tt r hV hE hh hfm htt hf hlegal h, depthTarget_of_le_one hD]
  rfl

theorem C14_code_depth_nothing_deeper (clock : Nat → Nat) (D : Int) (fuel : Nat) (p : Position) (hist : List BB)
    (tt : Table TTEntry) (r : Except String Mv × List BB × Table TTEntry × List R.Info)
    (hV : ValidPos p = true) (hE : Spec.EpConsistent (abs p) = true)
    (hh : p.halfmoves + fuel + 64 < 2147483648) (hfm : p.fullmoves + fuel + 64 < 2147483648)
    (h : R.root clock p hist tt (.Depth D) fuel = some r) :
    ∀ i ∈ r.2.2.2, i.depth.getD 0 ≤ max D 1 :=
  fun _ hi => C14_depth_nothing_deeper D fuel p hist tt (rootResultOf r)
    (root_code_model (lim := .depth D) rfl hV hE hh hfm h) _ (mem_infos_code hi)

theorem C14_code_depths_consecutive (clock : Nat → Nat) (s : R.Settings) (lim : Limit) (fuel : Nat) (p : Position)
    (hist : List BB) (tt : Table TTEntry) (r : Except String Mv × List BB × Table TTEntry × List R.Info)
    (hlim : toLimit clock p s = some lim) (hV : ValidPos p = true) (hE : Spec.EpConsistent (abs p) = true)
    (hh : p.halfmoves + fuel + 64 < 2147483648) (hfm : p.fullmoves + fuel + 64 < 2147483648)
    (h : R.root clock p hist tt s fuel = some r) :
    r.2.2.2.map (fun i => i.depth.getD 0) = (List.range' 1 r.2.2.2.length).map Int.ofNat := by
  have := C14_depths_consecutive lim fuel p hist tt (rootResultOf r) (root_code_model hlim hV hE hh hfm h)
  rw [infos_depth_code] at this
  simpa [rootResultOf] using this

/-- the move in the `Result` is the head of the last reported principal variation (`Err` iff nothing was reported);
every reported principal variation has exactly one move. -/
theorem C14_code_best_is_pv_head (clock : Nat → Nat) (s : R.Settings) (lim : Limit) (fuel : Nat) (p : Position)
    (hist : List BB) (tt : Table TTEntry) (r : Except String Mv × List BB × Table TTEntry × List R.Info)
    (hlim : toLimit clock p s = some lim) (hV : ValidPos p = true) (hE : Spec.EpConsistent (abs p) = true)
    (hh : p.halfmoves + fuel + 64 < 2147483648) (hfm : p.fullmoves + fuel + 64 < 2147483648)
    (h : R.root clock p hist tt s fuel = some r) :
    r.1.toOption = (r.2.2.2.getLast?).bind (·.pv.head?) ∧ ∀ i ∈ r.2.2.2, i.pv.length = 1 := by
  have hm := root_code_model hlim hV hE hh hfm h
  refine ⟨?_, fun i hi => C14_pv_length lim fuel p hist tt (rootResultOf r) hm _ (mem_infos_code hi)⟩
  have := C14_best_is_pv_head lim fuel p hist tt (rootResultOf r) hm
  simp only [rootResultOf, List.getLast?_map] at this
  rw [this]
  cases r.2.2.2.getLast? <;> rfl

/-- **node limits on the code** (`go nodes N`): every reported iteration beyond the first finished with fewer than
`N` nodes counted. -/
theorem C14_code_nodes_rule (clock : Nat → Nat) (N : Nat) (fuel : Nat) (p : Position) (hist : List BB)
    (tt : Table TTEntry) (r : Except String Mv × List BB × Table TTEntry × List R.Info)
    (hV : ValidPos p = true) (hE : Spec.EpConsistent (abs p) = true)
    (hh : p.halfmoves + fuel + 64 < 2147483648) (hfm : p.fullmoves + fuel + 64 < 2147483648)
    (h : R.root clock p hist tt (.Nodes N) fuel = some r) :
    ∀ i ∈ r.2.2.2, 2 ≤ i.depth.getD 0 → i.nodes.getD 0 < N :=
  fun _ hi => (C14_nodes_rule N fuel p hist tt (rootResultOf r)
    (root_code_model (lim := .nodes N) rfl hV hE hh hfm h)).1 _ (mem_infos_code hi)

/-- the budget expression regenerated from root.rs never exceeds the mover's own remaining clock (`movestogo 0`
included). -/
theorem C14_code_budget_le_clock (w : Bool) (wt bt : Nat) (mtg : Option Nat) :
    R.timeBudget w wt bt mtg ≤ (if w then wt else bt) := by
  rw [agree_timeBudget]; exact C14_budget_le_clock w wt bt mtg

/-- no division by zero and no `u32` overflow in the regenerated expression. -/
theorem C14_code_budget_u32 (w : Bool) (wt bt : Nat) (mtg : Option Nat) (hw : wt < 4294967296) (hb : bt < 4294967296) :
    1 ≤ Nat.max (mtg.getD 30) 1 ∧ R.timeBudget w wt bt mtg < 4294967296 := by
  rw [agree_timeBudget]; exact C14_budget_u32 w wt bt mtg hw hb

/-- the limit the `should_stop` closure of root.rs implements for `go wtime … btime …` is the budget oracle of the
regenerated budget expression, for the side to move. -/
theorem toLimit_time (clock : Nat → Nat) (p : Position) (wt bt : Nat) (wi bi mtg : Option Nat) :
    toLimit clock p (.Time wt bt wi bi mtg) =
      some (.clock (budgetOracle (R.timeBudget (!R.get_turn p) wt bt mtg) clock)) := rfl

theorem toLimit_movetime (clock : Nat → Nat) (p : Position) (t : Nat) :
    toLimit clock p (.Movetime t) = some (.clock (budgetOracle (R.movetimeBudget t) clock)) := rfl

/-- **the clock has reached the budget at the first poll** (in particular: a zero budget) ⇒ the regenerated driver
reports at most the first iteration. -/
theorem C14_code_expired_time (clock : Nat → Nat) (hm : ∀ i j, i ≤ j → clock i ≤ clock j)
    (wt bt : Nat) (wi bi mtg : Option Nat) (fuel : Nat) (p : Position)
    (hexp : R.timeBudget (!R.get_turn p) wt bt mtg ≤ clock 0)
    (hV : ValidPos p = true) (hE : Spec.EpConsistent (abs p) = true)
    (hh : p.halfmoves + fuel + 64 < 2147483648) (hfm : p.fullmoves + fuel + 64 < 2147483648)
    (hist : List BB) (tt : Table TTEntry) (r : Except String Mv × List BB × Table TTEntry × List R.Info)
    (h : R.root clock p hist tt (.Time wt bt wi bi mtg) fuel = some r) : r.2.2.2.length ≤ 1 := by
  have := C14_expired_clock _ (C14_budgetOracle_mono _ clock hm)
    (by simp only [budgetOracle, decide_eq_true_eq]; exact hexp) fuel p hist tt (rootResultOf r)
    (root_code_model (toLimit_time clock p wt bt wi bi mtg) hV hE hh hfm h)
  simpa [rootResultOf] using this

/-- **a zero budget** (clock 0, or a clock smaller than the moves to go). -/
theorem C14_code_zero_budget (clock : Nat → Nat) (hm : ∀ i j, i ≤ j → clock i ≤ clock j)
    (wt bt : Nat) (wi bi mtg : Option Nat) (fuel : Nat) (p : Position)
    (hz : R.timeBudget (!R.get_turn p) wt bt mtg = 0)
    (hV : ValidPos p = true) (hE : Spec.EpConsistent (abs p) = true)
    (hh : p.halfmoves + fuel + 64 < 2147483648) (hfm : p.fullmoves + fuel + 64 < 2147483648)
    (hist : List BB) (tt : Table TTEntry) (r : Except String Mv × List BB × Table TTEntry × List R.Info)
    (h : R.root clock p hist tt (.Time wt bt wi bi mtg) fuel = some r) : r.2.2.2.length ≤ 1 :=
  C14_code_expired_time clock hm wt bt wi bi mtg fuel p (by rw [hz]; exact Nat.zero_le _) hV hE hh hfm hist tt r h

/-- the same for `go movetime 0`. -/
theorem C14_code_zero_movetime (clock : Nat → Nat) (hm : ∀ i j, i ≤ j → clock i ≤ clock j)
    (fuel : Nat) (p : Position)
    (hV : ValidPos p = true) (hE : Spec.EpConsistent (abs p) = true)
    (hh : p.halfmoves + fuel + 64 < 2147483648) (hfm : p.fullmoves + fuel + 64 < 2147483648)
    (hist : List BB) (tt : Table TTEntry) (r : Except String Mv × List BB × Table TTEntry × List R.Info)
    (h : R.root clock p hist tt (.Movetime 0) fuel = some r) : r.2.2.2.length ≤ 1 := by
  have := C14_zero_movetime clock hm fuel p hist tt (rootResultOf r)
    (root_code_model (toLimit_movetime clock p 0) hV hE hh hfm h)
  simpa [rootResultOf] using this

namespace C14CodeEx
open C13Ex C03RulesEx C14RulesEx

/-- K+P v K (`kpkV`), `go depth 1`, non-empty history, three-slot table: the regenerated driver returns; exactly
iteration 1 is reported, its score is inside the mate bounds, the table handed back is sane. -/
example : ∃ r, R.root (fun _ => 0) kpkV hist2 tt3 (.Depth 1) 2 = some r ∧
    r.2.2.2.map (fun i => i.depth.getD 0) = [1] ∧
    (∀ i ∈ r.2.2.2, -Gen.MATE_SCORE < i.score.getD 0 ∧ i.score.getD 0 < Gen.MATE_SCORE) ∧ TTSane r.2.2.1 := by
  obtain ⟨res, h0⟩ := Option.isSome_iff_exists.1 kpkV_depth1
  obtain ⟨r, h1, _⟩ := root_code_of_model (clock := fun _ => 0) (s := .Depth 1) rfl kpkV_valid kpkV_E
    (by decide +kernel) (by decide +kernel) h0
  have htt := C14Ex.tt3_sane
  exact ⟨r, h1,
    C14_code_depth_iterations _ 1 (by decide) (by decide) 2 kpkV hist2 tt3 r kpkV_valid kpkV_E
      (by decide +kernel) (by decide +kernel) htt.bounded (by decide) (by decide +kernel) h1,
    C14_code_scores_inside_mate_bounds _ _ _ 2 kpkV hist2 tt3 r rfl kpkV_valid kpkV_E (by decide +kernel)
      (by decide +kernel) htt (by decide) h1,
    C14_code_root_preserves_TTSane _ _ _ 2 kpkV hist2 tt3 r rfl kpkV_valid kpkV_E (by decide +kernel)
      (by decide +kernel) htt (by decide) h1⟩

/-- `go wtime 19 btime 19 movestogo 40` (budget 0, so the oracle answers `true` at every poll) with a running clock: the
driver returns (`kpkV_expired`, with more fuel), at most one record. -/
example : ∃ r, R.root (fun k => k) kpkV hist2 tt3 (.Time 19 19 none none (some 40)) 8 = some r ∧ r.2.2.2.length ≤ 1 := by
  obtain ⟨res, h0⟩ := Option.isSome_iff_exists.1 kpkV_expired
  obtain ⟨r, h1, _⟩ := root_code_of_model (clock := fun k => k) (s := .Time 19 19 none none (some 40))
    (lim := .clock fun _ => true) rfl kpkV_valid kpkV_E (by decide +kernel) (by decide +kernel)
    (Term.root_fuel_mono h0 (show 2 ≤ 8 by decide))
  exact ⟨r, h1, C14_code_zero_budget _ (fun _ _ h => h) 19 19 none none (some 40) 8 kpkV (by decide) kpkV_valid kpkV_E
    (by decide +kernel) (by decide +kernel) hist2 tt3 r h1⟩

example : R.timeBudget true 900 600 none = 30 ∧ R.timeBudget false 900 600 (some 10) = 60 ∧
    R.timeBudget true 5 5 (some 0) = 5 ∧ R.timeBudget false 19 19 (some 40) = 0 := by decide

end C14CodeEx

end Rawr

#print axioms Rawr.C14_code_scores_inside_mate_bounds
#print axioms Rawr.C14_code_negamax_inside_mate_bounds
#print axioms Rawr.C14_code_root_preserves_TTSane
#print axioms Rawr.C14_code_InD
#print axioms Rawr.C14_code_depth_general
#print axioms Rawr.C14_code_depth_iterations
#print axioms Rawr.C14_code_depth_cap
#print axioms Rawr.C14_code_depth_zero
#print axioms Rawr.C14_code_depth_nothing_deeper
#print axioms Rawr.C14_code_depths_consecutive
#print axioms Rawr.C14_code_best_is_pv_head
#print axioms Rawr.C14_code_nodes_rule
#print axioms Rawr.C14_code_budget_le_clock
#print axioms Rawr.C14_code_budget_u32
#print axioms Rawr.toLimit_time
#print axioms Rawr.C14_code_expired_time
#print axioms Rawr.C14_code_zero_budget
#print axioms Rawr.C14_code_zero_movetime
