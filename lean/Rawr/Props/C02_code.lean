import Rawr.Props.C02
import Rawr.Props.C02_domain
import Rawr.Proofs.RustImpAgree_MakeMove
import Rawr.Proofs.RustImpAgree_MoveGen
/-!
# C02 on the regenerated code: `R.makemove` / `R.makenull` yield the successor prescribed by the rules

`Rawr.R.makemove`, `Rawr.R.makenull`, `Rawr.R.calculate_hash`, `Rawr.R.legal_moves` are regenerated from makemove.rs,
makenull.rs (+ flip.rs), zobrist.rs, legal_moves.rs on every run; `agree_makemove`, `agree_makenull`,
`agree_calculate_hash`, `agree_legal_moves` prove them equal to the model's functions as FUNCTIONS (no domain
hypothesis), so every theorem of `Props/C02.lean` and `Props/C02_domain.lean` transfers with the same hypotheses and
the same conclusion (exact transfers).  `UPDATE_HASH` is the third argument of `R.makemove`.

The hypotheses `MoveShape p m`, `MoveShape2 p m` (shape of every generated move, `Proofs/HashMeta.lean` and `Proofs/MakeMoveMain.lean`) are kept as
they are in `Props/C02.lean`; in the domain-closure theorems (`C02_code_D_closed` …) they are replaced, as there, by
`m ∈ R.legal_moves p`.  The path predicates `C02Path`, `GenPath` mention `makemove`/`makenull`/`legalMoves`; they
are re-declared here over the regenerated functions (`C02Path_code`, `GenPath_code`) and proved equivalent.
-/
namespace Rawr
open Position Spec ZH MM SV

/-- **C02 on the code**: the regenerated `makemove` (either `UPDATE_HASH`) applied to a shaped move of a valid
position yields exactly the position `Spec.apply` prescribes. -/
theorem C02_code_makemove_refines (p : Position) (m : Mv) (q : Position) (u : Bool) (hV : ValidPos p = true)
    (hs : MoveShape2 p m = true) (h : R.makemove p m u = some q) :
    AbsEq (abs q) (Spec.apply (abs p) (decodeMove p m)) := by
  rw [agree_makemove] at h; exact C02_makemove_refines p m q u hV hs h

theorem C02_code_makemove_eq (p : Position) (m : Mv) (q : Position) (u : Bool) (hV : ValidPos p = true)
    (hs : MoveShape p m = true) (hL : decodeMove p m ∈ Spec.legalMoves (abs p))
    (h : R.makemove p m u = some q) : abs q = Spec.apply (abs p) (decodeMove p m) := by
  rw [agree_makemove] at h; exact C02_makemove_eq p m q u hV hs hL h

/-- no `unwrap` of the regenerated `makemove` (nor of `predict_hash` inside it) fails on a shaped move of a valid
position. -/
theorem C02_code_makemove_total (p : Position) (m : Mv) (u : Bool) (hV : ValidPos p = true)
    (hs : MoveShape p m = true) : ∃ q, R.makemove p m u = some q := by
  rw [agree_makemove]; exact C02_makemove_total' p m u hV hs

/-- `makemove::<false>` and `makemove::<true>` agree on every field except `hash` (no hypotheses). -/
theorem C02_code_update_hash_irrelevant (p : Position) (m : Mv) (q1 q2 : Position)
    (h1 : R.makemove p m true = some q1) (h2 : R.makemove p m false = some q2) :
    { q1 with hash := q2.hash } = q2 := by
  rw [agree_makemove] at h1 h2; exact C02_update_hash_irrelevant p m q1 q2 h1 h2

theorem C02_code_no_update_keeps_hash (p : Position) (m : Mv) (q : Position) (hV : ValidPos p = true)
    (hs : MoveShape p m = true) (h : R.makemove p m false = some q) : q.hash = p.hash := by
  rw [agree_makemove] at h; exact C02_no_update_keeps_hash p m q h

theorem C02_code_null (p : Position) (hV : ValidPos p = true) :
    AbsEq (abs (R.makenull p)) { abs p with whiteToMove := !(abs p).whiteToMove, ep := none, half := 0 } := by
  rw [agree_makenull]; exact C02_null p hV

theorem C02_code_null_valid (p : Position) (hV : ValidPos p = true)
    (hc : inCheck (abs p).board (abs p).whiteToMove = false) :
    ValidPos (R.makenull p) = true ∧ abs (R.makenull p) = specPass (abs p) := by
  rw [agree_makenull]; exact C02_null_valid p hV hc

/-- V.2–V.7 hold of the result. -/
theorem C02_code_spec_valid (p : Position) (m : Mv) (q : Position) (u : Bool) (hV : ValidPos p = true)
    (hs : MoveShape p m = true) (hL : decodeMove p m ∈ Spec.legalMoves (abs p))
    (h : R.makemove p m u = some q) : Spec.Valid (abs q) = true := by
  rw [agree_makemove] at h; exact C02_spec_valid p m q u hV hs hL h

theorem C02_code_mover_not_in_check (p : Position) (m : Mv) (q : Position) (u : Bool) (hV : ValidPos p = true)
    (hs : MoveShape p m = true) (hL : decodeMove p m ∈ Spec.legalMoves (abs p))
    (h : R.makemove p m u = some q) : inCheck (abs q).board (!(abs q).whiteToMove) = false := by
  rw [agree_makemove] at h; exact C02_mover_not_in_check p m q u hV hs hL h

theorem C02_code_counters (p : Position) (m : Mv) (q : Position) (u : Bool) (hV : ValidPos p = true)
    (hs : MoveShape p m = true) (hL : decodeMove p m ∈ Spec.legalMoves (abs p))
    (h : R.makemove p m u = some q) :
    0 ≤ q.halfmoves ∧ q.halfmoves ≤ p.halfmoves + 1 ∧ 1 ≤ q.fullmoves ∧ q.fullmoves ≤ p.fullmoves + 1 := by
  rw [agree_makemove] at h; exact C02_counters p m q u hV hs hL h

/-- V.8: after the regenerated `makemove::<true>` the stored key is the key the regenerated `calculate_hash`
recomputes. -/
theorem C02_code_hash (p : Position) (m : Mv) (q : Position) (hV : ValidPos p = true) (hs : MoveShape p m = true)
    (h : R.makemove p m true = some q) : q.hash = R.calculate_hash q := by
  rw [agree_makemove] at h; rw [agree_calculate_hash]; exact C02_hash p m q hV hs h

/-- **the result is again in the domain V** (counters within `i32`). -/
theorem C02_code_valid_preserved (p : Position) (m : Mv) (q : Position) (hV : ValidPos p = true)
    (hs : MoveShape p m = true) (hL : decodeMove p m ∈ Spec.legalMoves (abs p))
    (h : R.makemove p m true = some q)
    (hh : p.halfmoves + 1 < 2147483648) (hf : p.fullmoves + 1 < 2147483648) : ValidPos q = true := by
  rw [agree_makemove] at h; exact C02_valid_preserved p m q hV hs hL h hh hf

/-- `C02Path` over the regenerated `makemove` / `makenull`. -/
inductive C02Path_code : Nat → Position → APos → Position → APos → Prop
  | nil (p : Position) (a : APos) : C02Path_code 0 p a p a
  | move {n : Nat} {p q r : Position} {a b : APos} (m : Mv) :
      MoveShape p m = true → decodeMove p m ∈ Spec.legalMoves a → R.makemove p m true = some q →
      C02Path_code n q (Spec.apply a (decodeMove p m)) r b → C02Path_code (n + 1) p a r b
  | null {n : Nat} {p r : Position} {a b : APos} :
      inCheck a.board a.whiteToMove = false →
      C02Path_code n (R.makenull p) (specPass a) r b → C02Path_code (n + 1) p a r b

theorem C02Path_code_iff {n : Nat} {p r : Position} {a b : APos} : C02Path_code n p a r b ↔ C02Path n p a r b := by
  constructor
  · intro h
    induction h with
    | nil p a => exact .nil p a
    | move m hs hL hq _ ih => rw [agree_makemove] at hq; exact .move m hs hL hq ih
    | null hc _ ih => rw [agree_makenull] at ih; exact .null hc ih
  · intro h
    induction h with
    | nil p a => exact .nil p a
    | move m hs hL hq _ ih => rw [← agree_makemove] at hq; exact .move m hs hL hq ih
    | null hc _ ih => rw [← agree_makenull] at ih; exact .null hc ih

/-- along any sequence of shaped legal moves and null moves made by the regenerated code from a valid position, the
position denotes exactly the position the rules prescribe, and stays in the domain. -/
theorem C02_code_sequence {n : Nat} {p r : Position} {a b : APos} (path : C02Path_code n p a r b)
    (hV : ValidPos p = true) (ha : abs p = a)
    (hh : p.halfmoves + n < 2147483648) (hf : p.fullmoves + n < 2147483648) :
    abs r = b ∧ ValidPos r = true :=
  C02_sequence (C02Path_code_iff.mp path) hV ha hh hf

/-- **E is preserved** by the moves the code generates and makes. -/
theorem C02_code_E_preserved (p : Position) (hV : ValidPos p = true) (m : Mv) (hm : m ∈ R.legal_moves p)
    (hE : Spec.EpConsistent (abs p) = true) (q : Position) (h : R.makemove p m true = some q) :
    Spec.EpConsistent (abs q) = true := by
  rw [agree_legal_moves] at hm; rw [agree_makemove] at h; exact E_preserved p hV m hm hE q h

/-- **M is preserved** by the moves the code generates and makes. -/
theorem C02_code_M_preserved (p : Position) (hV : ValidPos p = true) (m : Mv) (hm : m ∈ R.legal_moves p)
    (hE : Spec.EpConsistent (abs p) = true) (hM : Spec.LegalMaterial (abs p) = true)
    (q : Position) (h : R.makemove p m true = some q) : Spec.LegalMaterial (abs q) = true := by
  rw [agree_legal_moves] at hm; rw [agree_makemove] at h; exact M_preserved p hV m hm hE hM q h

/-- **D is closed under the moves the code generates and makes** (counters within `i32`). -/
theorem C02_code_D_closed (p : Position) (m : Mv) (q : Position) (hD : InD p = true) (hm : m ∈ R.legal_moves p)
    (h : R.makemove p m true = some q)
    (hh : p.halfmoves + 1 < 2147483648) (hf : p.fullmoves + 1 < 2147483648) : InD q = true := by
  rw [agree_legal_moves] at hm; rw [agree_makemove] at h; exact D_closed p m q hD hm h hh hf

/-- … and under the regenerated null move played when not in check. -/
theorem C02_code_D_null (p : Position) (hD : InD p = true)
    (hc : inCheck (abs p).board (abs p).whiteToMove = false) : InD (R.makenull p) = true := by
  rw [agree_makenull]; exact D_null p hD hc

/-- `GenPath` over the regenerated functions. -/
inductive GenPath_code : Nat → Position → Position → Prop
  | nil (p : Position) : GenPath_code 0 p p
  | move {n : Nat} {p q r : Position} (m : Mv) :
      m ∈ R.legal_moves p → R.makemove p m true = some q → GenPath_code n q r → GenPath_code (n + 1) p r
  | null {n : Nat} {p r : Position} :
      inCheck (abs p).board (abs p).whiteToMove = false → GenPath_code n (R.makenull p) r → GenPath_code (n + 1) p r

theorem GenPath_code_iff {n : Nat} {p r : Position} : GenPath_code n p r ↔ GenPath n p r := by
  constructor
  · intro h
    induction h with
    | nil p => exact .nil p
    | move m hm hq _ ih => rw [agree_legal_moves] at hm; rw [agree_makemove] at hq; exact .move m hm hq ih
    | null hc _ ih => rw [agree_makenull] at ih; exact .null hc ih
  · intro h
    induction h with
    | nil p => exact .nil p
    | move m hm hq _ ih => rw [← agree_legal_moves] at hm; rw [← agree_makemove] at hq; exact .move m hm hq ih
    | null hc _ ih => rw [← agree_makenull] at ih; exact .null hc ih

/-- **R ⊆ D on the code**: every position reached from a position of D by moves the code generates and makes, and
null moves, is in D (counters within `i32`) — and denotes the position the rules prescribe. -/
theorem C02_code_D_path {n : Nat} {p r : Position} (path : GenPath_code n p r) (hD : InD p = true)
    (hh : p.halfmoves + n < 2147483648) (hf : p.fullmoves + n < 2147483648) :
    InD r = true ∧ C02Path_code n p (abs p) r (abs r) :=
  ⟨D_path (GenPath_code_iff.mp path) hD hh hf,
    C02Path_code_iff.mpr (genPath_C02Path (GenPath_code_iff.mp path) hD hh hf)⟩

/-- 1. e4 from the start position through the regenerated `makemove`: en-passant target e3, result valid. -/
example : ∃ q, R.makemove Gen.startpos ⟨12, 28, 6⟩ true = some q ∧
    abs q = Spec.apply (abs Gen.startpos) (decodeMove Gen.startpos ⟨12, 28, 6⟩) ∧ ValidPos q = true := by
  obtain ⟨hV, hs⟩ := c02Example_hyps startpos_e4
  obtain ⟨q, hq⟩ := C02_code_makemove_total Gen.startpos ⟨12, 28, 6⟩ true hV hs
  exact ⟨q, hq, C02_code_makemove_eq _ _ q true hV hs e4_legal hq,
    C02_code_valid_preserved _ _ q hV hs e4_legal hq (by decide +kernel) (by decide +kernel)⟩

/-- Chess960 castling (`exK` of `Props/C02.lean`: king f8 takes rook g8, Black to move) through the theorem. -/
example : ∃ q, R.makemove exK ⟨5, 6, 6⟩ false = some q ∧ abs q = Spec.apply (abs exK) (.castle true) := by
  obtain ⟨hV, hs⟩ := c02Example_hyps exK_castle
  obtain ⟨q, hq⟩ := C02_code_makemove_total exK ⟨5, 6, 6⟩ false hV hs
  have h := C02_code_makemove_eq exK ⟨5, 6, 6⟩ q false hV hs exK_legal hq
  rw [exK_decode] at h
  exact ⟨q, hq, h⟩

/-- every position two plies (moves generated and made by the code, or null moves) from the start position is in D. -/
example : ∀ r, GenPath_code 2 Gen.startpos r → InD r = true :=
  fun _ path => (C02_code_D_path path startpos_inD (by decide +kernel) (by decide +kernel)).1

end Rawr

#print axioms Rawr.C02_code_makemove_refines
#print axioms Rawr.C02_code_makemove_eq
#print axioms Rawr.C02_code_makemove_total
#print axioms Rawr.C02_code_update_hash_irrelevant
#print axioms Rawr.C02_code_no_update_keeps_hash
#print axioms Rawr.C02_code_null
#print axioms Rawr.C02_code_null_valid
#print axioms Rawr.C02_code_spec_valid
#print axioms Rawr.C02_code_mover_not_in_check
#print axioms Rawr.C02_code_counters
#print axioms Rawr.C02_code_hash
#print axioms Rawr.C02_code_valid_preserved
#print axioms Rawr.C02Path_code_iff
#print axioms Rawr.C02_code_sequence
#print axioms Rawr.C02_code_E_preserved
#print axioms Rawr.C02_code_M_preserved
#print axioms Rawr.C02_code_D_closed
#print axioms Rawr.C02_code_D_null
#print axioms Rawr.GenPath_code_iff
#print axioms Rawr.C02_code_D_path
