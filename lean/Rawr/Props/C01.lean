import Rawr.Proofs.GenAssemble
import Rawr.Proofs.SpecNodup
/-!
# C01 — the generated moves are exactly the legal moves

"For every position the engine accepts … whose en-passant square (if any) is consistent with a double pawn
push having just been played, the moves the engine generates are exactly the legal moves under the rules
of chess. Nothing illegal is produced … and nothing legal is missing. Every promotion appears once per
promotion piece and no move appears twice."

`C01_generated_are_legal_moves`: on the domain `V ∧ E` (`ValidPos p`, `Spec.EpConsistent (abs p)`) the list
`legal_moves()` of the engine, decoded move by move (`decodeMove`: relative squares ↦ absolute squares,
"king takes own rook" ↦ `Move.castle`, promotion field ↦ promotion piece), is a permutation of
`Spec.legalMoves (abs p)` — the coordinate-based enumeration of the rules in `Spec/Chess.lean` — and has no
repetitions. The two inclusions (`gen_decode_legal`, `legal_is_generated`, `Proofs/GenAssemble.lean`) are assembled
from the class theorems

* king steps, castling: `C01_king_steps`, `C01_king_steps_abs`, `C01_castling`, `C01_castling_moves`
  (`Props/C01_king.lean`);
* knights, bishops, rooks, queens: `pieces_abs` (`Props/C01_pieces.lean`, safety lemma; `C01_knights` … `C01_queens`
  are its four instances);
* pawn pushes, double pushes, captures, promotions ×4, en passant: `C01_pawns` (`Props/C01_pawns.lean`); hypothesis E
  is needed for its en-passant block only, which `Props/C01_ep.lean` states by itself (`C01_ep`, false without E);
* shape and no duplicates on the engine side: `gen_shape`, `gen_nodup` (`Proofs/GenShape.lean`,
  `Proofs/GenShapeNodup.lean`);
* no duplicates on the rules' side: `spec_legalMoves_nodup` (`Proofs/SpecNodup.lean`).

Corollaries: the callback form (`move_generator`), membership both ways with `encodeMove`/`decodeMove`
inverse to each other on legal moves, equal counts, "no legal move" on both sides.
-/
namespace Rawr
open Spec Att

theorem decode_injOn (p : Position) (hV : ValidPos p = true) :
    ∀ m1 ∈ legalMoves p, ∀ m2 ∈ legalMoves p, decodeMove p m1 = decodeMove p m2 → m1 = m2 := by
  intro m1 h1 m2 h2 e
  unfold legalMoves at h1 h2
  rw [List.mem_map] at h1 h2
  obtain ⟨g1, hg1, rfl⟩ := h1
  obtain ⟨g2, hg2, rfl⟩ := h2
  rw [← encode_decode hV g1 hg1, ← encode_decode hV g2 hg2, e]

theorem C01_mem (p : Position) (hV : ValidPos p = true) (hE : Spec.EpConsistent (abs p) = true) (M : Move) :
    M ∈ (legalMoves p).map (decodeMove p) ↔ M ∈ Spec.legalMoves (abs p) := by
  unfold legalMoves
  rw [List.map_map]
  constructor
  · intro h
    rw [List.mem_map] at h
    obtain ⟨g, hg, rfl⟩ := h
    exact gen_decode_legal hV hE g hg
  · intro h
    obtain ⟨g, hg, hdec⟩ := legal_is_generated hV hE M h
    exact List.mem_map.mpr ⟨g, hg, hdec⟩

/-- **C01.** -/
theorem C01_generated_are_legal_moves (p : Position) (hV : ValidPos p = true)
    (hE : Spec.EpConsistent (abs p) = true) :
    ((legalMoves p).map (decodeMove p)).Perm (Spec.legalMoves (abs p)) ∧ (legalMoves p).Nodup := by
  have hnd := gen_nodup p hV
  have hnd' : ((legalMoves p).map (decodeMove p)).Nodup := nodup_map_inj _ hnd (decode_injOn p hV)
  exact ⟨(List.perm_ext_iff_of_nodup hnd' (spec_legalMoves_nodup _)).mpr (C01_mem p hV hE), hnd⟩

/-- the callback form: `move_generator` invokes its callback once per legal move, with the moving piece as
the `piece` argument, and never twice with the same arguments. -/
theorem C01_callback (p : Position) (hV : ValidPos p = true) (hE : Spec.EpConsistent (abs p) = true) :
    ((moveGenerator p).map fun g => decodeMove p g.mv).Perm (Spec.legalMoves (abs p)) ∧
    (moveGenerator p).Nodup ∧
    ∀ g ∈ moveGenerator p, p.pieceOn g.mv.src = some g.piece ∧ p.c0.isSet g.mv.src = true := by
  have h := (C01_generated_are_legal_moves p hV hE).1
  unfold legalMoves at h
  rw [List.map_map] at h
  exact ⟨h, gen_nodup_callback p hV, fun g hg => ⟨(gen_shape p hV g hg).tag, (gen_shape p hV g hg).own⟩⟩

theorem C01_sound (p : Position) (hV : ValidPos p = true) (hE : Spec.EpConsistent (abs p) = true)
    (m : Mv) (hm : m ∈ legalMoves p) :
    decodeMove p m ∈ Spec.legalMoves (abs p) ∧ encodeMove p (decodeMove p m) = m := by
  refine ⟨(C01_mem p hV hE _).mp (List.mem_map.mpr ⟨m, hm, rfl⟩), ?_⟩
  unfold legalMoves at hm
  rw [List.mem_map] at hm
  obtain ⟨g, hg, rfl⟩ := hm
  exact encode_decode hV g hg

theorem C01_complete (p : Position) (hV : ValidPos p = true) (hE : Spec.EpConsistent (abs p) = true)
    (M : Move) (hM : M ∈ Spec.legalMoves (abs p)) :
    encodeMove p M ∈ legalMoves p ∧ decodeMove p (encodeMove p M) = M := by
  obtain ⟨g, hg, rfl⟩ := legal_is_generated hV hE M hM
  rw [encode_decode hV g hg]
  exact ⟨List.mem_map.mpr ⟨g, hg, rfl⟩, rfl⟩

theorem C01_count (p : Position) (hV : ValidPos p = true) (hE : Spec.EpConsistent (abs p) = true) :
    (legalMoves p).length = (Spec.legalMoves (abs p)).length := by
  rw [← (C01_generated_are_legal_moves p hV hE).1.length_eq, List.length_map]

theorem C01_no_moves (p : Position) (hV : ValidPos p = true) (hE : Spec.EpConsistent (abs p) = true) :
    legalMoves p = [] ↔ Spec.legalMoves (abs p) = [] := by
  rw [← List.length_eq_zero_iff, ← List.length_eq_zero_iff, C01_count p hV hE]

/-- "once per promotion piece": the four promotion entries of a pawn move are pairwise distinct, and none
occurs twice among the callback invocations. -/
theorem C01_promotions_once (p : Position) (hV : ValidPos p = true) (f t : Nat) :
    [gm 0 f t 4, gm 0 f t 3, gm 0 f t 2, gm 0 f t 1].Nodup ∧
    ∀ pr, (moveGenerator p).count (gm 0 f t pr) ≤ 1 := by
  refine ⟨by simp [gm], fun pr => ?_⟩
  exact List.nodup_iff_count.mp (gen_nodup_callback p hV) _

example : ((legalMoves Gen.startpos).map (decodeMove Gen.startpos)).Perm (Spec.legalMoves (abs Gen.startpos)) :=
  (C01_generated_are_legal_moves Gen.startpos startpos_valid startpos_E).1

example : (Spec.legalMoves (abs Gen.startpos)).length = 20 := by
  rw [← C01_count Gen.startpos startpos_valid startpos_E]; exact startpos_moves

/-- the en-passant position of `C01_shape`: 7 legal moves, e5xd6 among them. -/
theorem c01Ep_dom : ValidPos c01Ep = true ∧ Spec.EpConsistent (abs c01Ep) = true :=
  ⟨c01Ep_valid, by decide +kernel⟩

example : ValidPos c01Ep = true ∧ Spec.EpConsistent (abs c01Ep) = true := c01Ep_dom
example : Spec.Move.normal 36 43 none ∈ Spec.legalMoves (abs c01Ep) :=
  (C01_sound c01Ep c01Ep_dom.1 c01Ep_dom.2 ⟨36, 43, 6⟩ (by decide +kernel)).1

/-- castling through the theorem: `castlePos` of `C01_king` (both castlings legal). -/
example : encodeMove castlePos (Spec.Move.castle true) ∈ legalMoves castlePos :=
  (C01_complete castlePos castlePos_dom.1 castlePos_dom.2 _ (by decide +kernel)).1

#print axioms C01_generated_are_legal_moves
#print axioms C01_mem
#print axioms C01_callback
#print axioms C01_sound
#print axioms C01_complete
#print axioms C01_count
#print axioms C01_no_moves
#print axioms C01_promotions_once

end Rawr
