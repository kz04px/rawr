import Rawr.Props.C07_full
import Rawr.Props.C07Examples
import Rawr.Proofs.RustTextAgree_GetFenRules
import Rawr.Proofs.RustTextAgree_SetFen
/-!
# C06 on the regenerated code: FEN round trips through `R.get_fen` and `R.set_fen`

`Rawr.R.get_fen` (get_fen.rs) and `Rawr.R.set_fen` (set_fen.rs, with the call of `validate`) are regenerated from the
Rust source on every run, both parametrised by the `u8` arithmetic `ar` (`.wrap` = optimised build, `.trap` = checked
build).

* `agree_set_fen ar n s fen : R.set_fen (n + 2) ar s fen = setFen ar s.frc fen` — unconditional; `s` is the
  `&mut self` the Rust method is called on (only its `is_frc` flag survives), `n + 2` the recursion fuel (the Rust
  function calls itself once, for `"startpos"`).
* `agree_get_fen_rules ar p : ValidPos p → R.get_fen ar p = getFen p` — on valid positions (the model's `getFen` is
  total where the Rust code indexes arrays / casts to `u8`).

C06(a) quantifies over `ValidPos p`, which is exactly the domain hypothesis of `agree_get_fen_rules`: exact transfer.
C06(b) quantifies over valid ABSOLUTE positions `a`; `get_fen` is applied to `rel a frc` resp. to the position
`set_fen` returns, which is valid (`validPos_rel`), so again no extra hypothesis.  The statements are the
unconditional ones (`C06a_complete`, `C06b_complete` of `Props/C07_full.lean`, bridge to C08d discharged).  The
arithmetic of the printer (`ar'`) and of the parser (`ar`) are independent parameters.
-/
namespace Rawr
open Spec FenC

/-- the regenerated `get_fen` never panics on a valid position (either arithmetic) and prints the canonical X-FEN of
the absolute position. -/
theorem C06_code_a_prints (ar' : Arith) (p : Position) (hV : ValidPos p = true) :
    R.get_fen ar' p = some (printFen (abs p) .xfen) := by
  rw [agree_get_fen_rules ar' p hV]; exact C06a_prints p hV

/-- **C06(a) on the code**, exact form: what the regenerated `get_fen` prints for a valid position, the regenerated
`set_fen` (any arithmetic, called on any `self` with the position's `is_frc` flag) reads back to `p` with the castle
files of absent rights reset to the defaults. -/
theorem C06_code_a_roundtrip_exact (ar ar' : Arith) (n : Nat) (self : Position) (p : Position)
    (hfrc : self.frc = p.frc) (hV : ValidPos p = true) (s : List Char) (hs : R.get_fen ar' p = some s) :
    R.set_fen (n + 2) ar self s = some (normCf p) := by
  rw [agree_get_fen_rules ar' p hV] at hs
  rw [agree_set_fen, hfrc]
  exact C06a_complete ar p hV s hs

/-- … `get_fen` never fails and `set_fen ∘ get_fen` is the identity up to the castle files of absent rights. -/
theorem C06_code_a_domain (ar ar' : Arith) (n : Nat) (self : Position) (p : Position)
    (hfrc : self.frc = p.frc) (hV : ValidPos p = true) :
    ∃ s, R.get_fen ar' p = some s ∧ R.set_fen (n + 2) ar self s = some (normCf p) :=
  ⟨_, C06_code_a_prints ar' p hV,
    C06_code_a_roundtrip_exact ar ar' n self p hfrc hV _ (C06_code_a_prints ar' p hV)⟩

/-- the abstraction is restored exactly: same absolute position (rights with their files), same key. -/
theorem C06_code_a_abs (ar ar' : Arith) (n : Nat) (self : Position) (p : Position)
    (hfrc : self.frc = p.frc) (hV : ValidPos p = true) (s : List Char) (hs : R.get_fen ar' p = some s) :
    ∃ p', R.set_fen (n + 2) ar self s = some p' ∧ abs p' = abs p ∧ p'.hash = p.hash := by
  rw [agree_get_fen_rules ar' p hV] at hs
  rw [agree_set_fen, hfrc]
  exact C06a_abs ar p hV (C07_bridge p hV) s hs

/-- **C06(a)**, field by field. -/
theorem C06_code_a_roundtrip (ar ar' : Arith) (n : Nat) (self : Position) (p : Position)
    (hfrc : self.frc = p.frc) (hV : ValidPos p = true) (s : List Char) (hs : R.get_fen ar' p = some s) :
    ∃ p', R.set_fen (n + 2) ar self s = some p' ∧
      p'.c0 = p.c0 ∧ p'.c1 = p.c1 ∧ p'.p0 = p.p0 ∧ p'.p1 = p.p1 ∧ p'.p2 = p.p2 ∧ p'.p3 = p.p3 ∧
      p'.p4 = p.p4 ∧ p'.p5 = p.p5 ∧
      p'.black = p.black ∧ p'.ep = p.ep ∧
      p'.usK = p.usK ∧ p'.usQ = p.usQ ∧ p'.themK = p.themK ∧ p'.themQ = p.themQ ∧
      (p.usK = true → p'.cf0 = p.cf0) ∧ (p.usQ = true → p'.cf1 = p.cf1) ∧
      (p.themK = true → p'.cf2 = p.cf2) ∧ (p.themQ = true → p'.cf3 = p.cf3) ∧
      (p.usK = false → p'.cf0 = 7) ∧ (p.usQ = false → p'.cf1 = 0) ∧
      (p.themK = false → p'.cf2 = 7) ∧ (p.themQ = false → p'.cf3 = 0) ∧
      p'.halfmoves = p.halfmoves ∧ p'.fullmoves = p.fullmoves ∧ p'.hash = p.hash ∧ p'.frc = p.frc := by
  rw [agree_get_fen_rules ar' p hV] at hs
  rw [agree_set_fen, hfrc]
  exact C06a_roundtrip ar p hV (C07_bridge p hV) s hs

/-- **C06(b) on the code**: the regenerated `get_fen` prints the canonical X-FEN of (the engine representation of) a
valid position. -/
theorem C06_code_b_canonical (ar' : Arith) (a : APos) (frc : Bool) (hV : Valid a = true)
    (hb : ∀ s, 64 ≤ s → a.board s = none) (hh : a.half < 2147483648) (hf : a.full < 2147483648) :
    R.get_fen ar' (rel a frc) = some (printFen a .xfen) := by
  rw [agree_get_fen_rules ar' _ (validPos_rel a frc hV hb hh hf)]; exact C06b_canonical a frc hV hb hh hf

/-- **C06(b) on the code**: for every canonical X-FEN string of a valid position, parsing with the regenerated
`set_fen` and printing with the regenerated `get_fen` reproduces the string — and likewise for the other two spellings
of the castling field, which are normalised to X-FEN. -/
theorem C06_code_b_normalises (ar ar' : Arith) (n : Nat) (self : Position) (a : APos) (st : CastleStyle)
    (hV : Valid a = true) (hb : ∀ s, 64 ≤ s → a.board s = none)
    (hh : a.half < 2147483648) (hf : a.full < 2147483648) (hst : st = .kqkq → AllOutermost a) :
    (R.set_fen (n + 2) ar self (printFen a st)).bind (R.get_fen ar') = some (printFen a .xfen) := by
  rw [agree_set_fen, C07c_complete ar a self.frc st hV hb hh hf hst, Option.bind_some]
  exact C06_code_b_canonical ar' a self.frc hV hb hh hf

theorem C06_code_b_parse_print (ar ar' : Arith) (n : Nat) (self : Position) (a : APos)
    (hV : Valid a = true) (hb : ∀ s, 64 ≤ s → a.board s = none)
    (hh : a.half < 2147483648) (hf : a.full < 2147483648) :
    (R.set_fen (n + 2) ar self (printFen a .xfen)).bind (R.get_fen ar') = some (printFen a .xfen) :=
  C06_code_b_normalises ar ar' n self a .xfen hV hb hh hf (fun h => by cases h)

/-- the start position through the regenerated printer (optimised build) and parser (checked build). -/
example : ∃ s, R.get_fen .wrap Gen.startpos = some s ∧
    R.set_fen 2 .trap Gen.startpos s = some (normCf Gen.startpos) :=
  C06_code_a_domain .trap .wrap 0 Gen.startpos Gen.startpos rfl startpos_valid

/-- the Chess960 position `exInnerFen` of `Props/C06.lean` (Black to move, en-passant square, inner-rook right `C`):
read by the regenerated `set_fen`, it is in the domain, and printed back to the same string by the regenerated `get_fen`. -/
example : ((R.set_fen 2 .wrap { Gen.startpos with frc := true } exInnerFen).map fun p =>
    (ValidPos p, p.black, R.get_fen .trap p)) = some (true, true, some exInnerFen) := by
  obtain ⟨p, hp, hq⟩ := Option.map_eq_some_iff.mp exInnerFen_accepted
  simp only [Prod.mk.injEq] at hq
  obtain ⟨hV, hb, _, hg⟩ := hq
  rw [agree_set_fen .wrap 0]
  show Option.map _ (setFen .wrap true exInnerFen) = _
  rw [hp, Option.map_some, agree_get_fen_rules .trap p hV, hV, hb, hg]

/-- (b): the absolute start position, all three castling styles. -/
example (ar ar' : Arith) (st : CastleStyle) :
    (R.set_fen 2 ar Gen.startpos (printFen (abs Gen.startpos) st)).bind (R.get_fen ar') =
      some (printFen (abs Gen.startpos) .xfen) :=
  C06_code_b_normalises ar ar' 0 Gen.startpos _ st startA_hyps.1 (absBoard_ge _) startA_hyps.2.1 startA_hyps.2.2.1
    (fun _ => startA_outermost)

end Rawr

#print axioms Rawr.C06_code_a_prints
#print axioms Rawr.C06_code_a_roundtrip_exact
#print axioms Rawr.C06_code_a_domain
#print axioms Rawr.C06_code_a_abs
#print axioms Rawr.C06_code_a_roundtrip
#print axioms Rawr.C06_code_b_canonical
#print axioms Rawr.C06_code_b_normalises
#print axioms Rawr.C06_code_b_parse_print
