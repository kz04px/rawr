import Rawr.Proofs.SearchHist
import Rawr.Proofs.SearchPolls
import Rawr.Proofs.TerminationMono
/-! # C13 — searching leaves the game state untouched and is reproducible

* history clause: `negamax` / `root` hand back exactly the history they were given (every push is matched
  by a pop on the state returned by the callee, on every exit path, for every limit and stop oracle);
* the table keeps its number of slots;
* reproducibility: the clock oracle is an argument of `root` (inside `lim`), so for a given oracle there is nothing
  to prove (`root_deterministic` is `Eq.refl`); the content is that for the limits that do not consult the clock
  (`depth`, `nodes`, `infinite`) the result does not depend on the poll counter, the only clock-coupled
  piece of state. -/
namespace Rawr

theorem negamax_preserves_history (lim : Limit) (fuel : Nat) (p : Position) (st : SState)
    (α β ply depth : Int) (cn : Bool) (v : Int) (st' : SState) :
    negamax lim fuel p st α β ply depth cn = some (v, st') → st'.hist = st.hist :=
  fun h => (negamax_inv lim fuel p st α β ply depth cn v st' h).1

theorem negamax_preserves_tt_len (lim : Limit) (fuel : Nat) (p : Position) (st : SState)
    (α β ply depth : Int) (cn : Bool) (v : Int) (st' : SState) :
    negamax lim fuel p st α β ply depth cn = some (v, st') → st'.tt.len = st.tt.len :=
  fun h => (negamax_inv lim fuel p st α β ply depth cn v st' h).2

theorem root_preserves_history (lim : Limit) (fuel : Nat) (p : Position) (hist : List BB)
    (tt : Table TTEntry) (res : RootResult) :
    root lim fuel p hist tt = some res → res.hist = hist :=
  fun h => (root_inv lim fuel p hist tt res h).1

theorem root_preserves_tt_len (lim : Limit) (fuel : Nat) (p : Position) (hist : List BB)
    (tt : Table TTEntry) (res : RootResult) :
    root lim fuel p hist tt = some res → res.tt.len = tt.len :=
  fun h => (root_inv lim fuel p hist tt res h).2

/-- the move loop, for any recursive call `rec` that preserves history and table length
(`RecInv rec : ∀ np s a b pl d c v s', rec np s a b pl d c = some (v, s') → s'.hist = s.hist ∧ …`). -/
theorem nmLoop_preserves_history (rec) (hrec : RecInv rec)
    (p : Position) (beta ply depth : Int) (inCheck : Bool) (ms : List Mv) (idx : Nat) (st : SState)
    (alpha best : Int) (bestMv : Option Mv) (st' : SState) (a' b' : Int) (bm' : Option Mv) :
    nmLoop rec p beta ply depth inCheck ms idx st alpha best bestMv = some (st', a', b', bm') →
    st'.hist = st.hist :=
  fun h => (nmLoop_rel SState.Inv.stateRel rec hrec p beta ply depth inCheck ms idx st alpha best bestMv st' a' b' bm'
    h).1

theorem root_deterministic (lim : Limit) (fuel : Nat) (p : Position) (hist : List BB) (tt : Table TTEntry) :
    root lim fuel p hist tt = root lim fuel p hist tt := rfl

/-- with a limit that never consults the clock, `negamax` started from two states that differ only in the
poll counter returns the same score and states that differ only in the poll counter (or fails in both). -/
theorem negamax_polls_irrelevant (lim : Limit) (hl : lim.clockFree) (fuel : Nat) (p : Position)
    (s t : SState) (α β ply depth : Int) (cn : Bool) (hst : s.eqUpToPolls t) :
    ResEq (negamax lim fuel p s α β ply depth cn) (negamax lim fuel p t α β ply depth cn) := by
  rw [(SState.eqUpToPolls_iff s t).1 hst]
  exact negamax_polls lim hl fuel p s α β ply depth cn t.polls

theorem negamax_depth_polls_irrelevant (d : Int) (fuel : Nat) (p : Position) (s t : SState)
    (α β ply depth : Int) (cn : Bool) (hst : s.eqUpToPolls t) :
    ResEq (negamax (.depth d) fuel p s α β ply depth cn) (negamax (.depth d) fuel p t α β ply depth cn) :=
  negamax_polls_irrelevant (.depth d) trivial fuel p s t α β ply depth cn hst

theorem negamax_nodes_polls_irrelevant (n : Nat) (fuel : Nat) (p : Position) (s t : SState)
    (α β ply depth : Int) (cn : Bool) (hst : s.eqUpToPolls t) :
    ResEq (negamax (.nodes n) fuel p s α β ply depth cn) (negamax (.nodes n) fuel p t α β ply depth cn) :=
  negamax_polls_irrelevant (.nodes n) trivial fuel p s t α β ply depth cn hst

/-- the same, as an explicit statement about the two results. -/
theorem negamax_polls_irrelevant' (lim : Limit) (hl : lim.clockFree) (fuel : Nat) (p : Position)
    (s t : SState) (α β ply depth : Int) (cn : Bool) (hst : s.eqUpToPolls t) :
    (negamax lim fuel p s α β ply depth cn = none ∧ negamax lim fuel p t α β ply depth cn = none) ∨
    ∃ v s' t', negamax lim fuel p s α β ply depth cn = some (v, s') ∧
      negamax lim fuel p t α β ply depth cn = some (v, t') ∧ s'.eqUpToPolls t' := by
  rcases (negamax_polls_irrelevant lim hl fuel p s t α β ply depth cn hst).cases with
    ⟨e1, e2⟩ | ⟨v, s', k, e1, e2⟩
  · exact Or.inl ⟨e1, e2⟩
  · exact Or.inr ⟨v, s', _, e1, e2, rfl, rfl, rfl, rfl, rfl, rfl⟩

theorem rootIter_polls_irrelevant (lim : Limit) (hl : lim.clockFree) (fuel : Nat) (p : Position) (n : Nat)
    (depth : Int) (s t : SState) (bestMove : Option Mv) (infos : List InfoRec) (hst : s.eqUpToPolls t) :
    rootIter lim fuel p n depth s bestMove infos = rootIter lim fuel p n depth t bestMove infos := by
  rw [(SState.eqUpToPolls_iff s t).1 hst]
  exact (rootIter_polls lim hl fuel p n depth s bestMove infos t.polls).symm

/-- hence `root (.depth d)` / `root (.nodes n)` is the same function of `(p, hist, tt)` whatever value the
poll counter starts from. -/
theorem root_depth_polls_irrelevant (d : Int) (fuel : Nat) (p : Position) (hist : List BB)
    (tt : Table TTEntry) (k : Nat) :
    rootIter (.depth d) fuel p Gen.MAX_DEPTH.toNat 1 ⟨hist, tt, 0, 0, 0, none, k⟩ none [] =
      root (.depth d) fuel p hist tt :=
  root_polls (.depth d) trivial fuel p hist tt k

theorem root_nodes_polls_irrelevant (n : Nat) (fuel : Nat) (p : Position) (hist : List BB)
    (tt : Table TTEntry) (k : Nat) :
    rootIter (.nodes n) fuel p Gen.MAX_DEPTH.toNat 1 ⟨hist, tt, 0, 0, 0, none, k⟩ none [] =
      root (.nodes n) fuel p hist tt :=
  root_polls (.nodes n) trivial fuel p hist tt k

namespace C13Ex

/-- white Ke1, pawn e2; black Ke8; white to move (six legal moves). -/
def kpk : Position :=
  { c0 := 0x1010#64, c1 := 0x1000000000000000#64,
    p0 := 0x1000#64, p1 := 0#64, p2 := 0#64, p3 := 0#64, p4 := 0#64, p5 := 0x1000000000000010#64,
    halfmoves := 0, fullmoves := 1, black := false, ep := none,
    usK := false, usQ := false, themK := false, themQ := false,
    cf0 := 7, cf1 := 0, cf2 := 7, cf3 := 0, hash := 0x1234#64, frc := false }

/-- white Ka1; black Qc2, Kh8; white to move: stalemate (no legal move). -/
def stale : Position :=
  { c0 := 0x1#64, c1 := 0x8000000000000400#64,
    p0 := 0#64, p1 := 0#64, p2 := 0#64, p3 := 0#64, p4 := 0x400#64, p5 := 0x8000000000000001#64,
    halfmoves := 0, fullmoves := 1, black := false, ep := none,
    usK := false, usQ := false, themK := false, themQ := false,
    cf0 := 7, cf1 := 0, cf2 := 7, cf3 := 0, hash := 0x4321#64, frc := false }

def tt3 : Table TTEntry := ⟨#[default, default, default]⟩
def hist2 : List BB := [5#64, 7#64]
def st0 : SState := ⟨hist2, tt3, 2, 0, 0, none, 0⟩

theorem exists_of_isSome {α β : Type} {o : Option (α × β)} (h : o.isSome = true) : ∃ a b, o = some (a, b) :=
  isSome_pair h

/-- the hypothesis of `negamax_preserves_history` is satisfiable: a depth-1 search (six push / recursive
call / pop rounds, quiescence at the leaves, a table store) over a non-empty history returns; the
conclusion, obtained through the theorem, is about a non-trivial history.
(`Rawr/Props/C13Examples.lean` has a depth-2 instance, where late-move re-searches occur too.) -/
example : ∃ v st', negamax (.depth 2) 2 kpk st0 (-Gen.INF) Gen.INF 0 1 false = some (v, st') ∧
    st'.hist = [5#64, 7#64] ∧ st'.tt.len = 3 := by
  obtain ⟨v, st', h⟩ : ∃ v st', negamax (.depth 2) 2 kpk st0 (-Gen.INF) Gen.INF 0 1 false = some (v, st') :=
    exists_of_isSome (by decide +kernel)
  exact ⟨v, st', h, negamax_preserves_history _ _ _ _ _ _ _ _ _ _ _ h, negamax_preserves_tt_len _ _ _ _ _ _ _ _ _ _ _ h⟩

/-! Runs of `root` on `kpk` and `stale`; the examples of C03 and C14 are about the same runs. A result at a larger
fuel follows by `Term.root_fuel_mono`. -/

/-- depth limit 1 (one full iteration, the second one is stopped): `root` returns with a best move. -/
theorem kpk_depth1 : ((root (.depth 1) 2 kpk hist2 tt3).map fun r => r.best.isSome) = some true := by
  decide +kernel

/-- the `Err("No bestmove")` exit: on a stalemate `root` returns with `best = none`. -/
theorem stale_infinite : ((root .infinite 1 stale hist2 tt3).map fun r => r.best) = some none := by decide +kernel

/-- a clock that has already expired at the first poll. -/
theorem kpk_expired : (root (.clock fun _ => true) 2 kpk hist2 tt3).isSome = true := by decide +kernel

/-- a stop oracle that fires during the search (at the fourth poll): `root` returns and has reported something. -/
theorem kpk_clock3 :
    ((root (.clock fun n => decide (n ≥ 3)) 8 kpk hist2 tt3).map fun r => decide (r.infos ≠ [])) = some true := by
  decide +kernel

example : ∃ res, root (.depth 1) 3 kpk hist2 tt3 = some res ∧ res.best.isSome = true ∧ res.hist = hist2 := by
  obtain ⟨res, h1, h2⟩ := Option.map_eq_some_iff.1 kpk_depth1
  have h1 := Term.root_fuel_mono h1 (show 2 ≤ 3 by decide)
  exact ⟨res, h1, h2, root_preserves_history _ _ _ _ _ _ h1⟩

example : ∃ res, root .infinite 3 stale hist2 tt3 = some res ∧ res.best = none ∧ res.hist = hist2 := by
  obtain ⟨res, h1, h2⟩ := Option.map_eq_some_iff.1 stale_infinite
  have h1 := Term.root_fuel_mono h1 (show 1 ≤ 3 by decide)
  exact ⟨res, h1, h2, root_preserves_history _ _ _ _ _ _ h1⟩

example : ∃ res, root (.clock fun n => decide (n ≥ 3)) 8 kpk hist2 tt3 = some res ∧ res.hist = hist2 := by
  obtain ⟨res, h1, _⟩ := Option.map_eq_some_iff.1 kpk_clock3
  exact ⟨res, h1, root_preserves_history _ _ _ _ _ _ h1⟩

/-- `eqUpToPolls` relates distinct states. -/
example : st0.eqUpToPolls { st0 with polls := 17 } ∧ st0.polls ≠ ({ st0 with polls := 17 } : SState).polls :=
  ⟨⟨rfl, rfl, rfl, rfl, rfl, rfl⟩, by decide⟩

/-- the hypothesis `clockFree` cannot be dropped: with a clock oracle the score depends on the poll counter. -/
example :
    (negamax (.clock fun n => n == 0) 2 kpk st0 (-Gen.INF) Gen.INF 0 1 false).map (·.1) ≠
    (negamax (.clock fun n => n == 0) 2 kpk { st0 with polls := 1 } (-Gen.INF) Gen.INF 0 1 false).map (·.1) := by
  decide +kernel

end C13Ex

end Rawr

#print axioms Rawr.negamax_preserves_history
#print axioms Rawr.negamax_preserves_tt_len
#print axioms Rawr.root_preserves_history
#print axioms Rawr.root_preserves_tt_len
#print axioms Rawr.nmLoop_preserves_history
#print axioms Rawr.root_deterministic
#print axioms Rawr.negamax_polls_irrelevant
#print axioms Rawr.negamax_depth_polls_irrelevant
#print axioms Rawr.negamax_nodes_polls_irrelevant
#print axioms Rawr.negamax_polls_irrelevant'
#print axioms Rawr.rootIter_polls_irrelevant
#print axioms Rawr.root_depth_polls_irrelevant
#print axioms Rawr.root_nodes_polls_irrelevant
