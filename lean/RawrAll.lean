-- GENERATED by tools/gen_rawrall.py
import Rawr.Model.Attacks
import Rawr.Model.Basic
import Rawr.Model.CountMoves
import Rawr.Model.Eval
import Rawr.Model.Fen
import Rawr.Model.Hashtable
import Rawr.Model.Magic
import Rawr.Model.MakeMove
import Rawr.Model.MoveGen
import Rawr.Model.Position
import Rawr.Model.Rays
import Rawr.Model.Search
import Rawr.Model.Style
import Rawr.Model.TimeBudget
import Rawr.Model.Trie
import Rawr.Model.Uci
import Rawr.Model.UciMove
import Rawr.Model.Zobrist
import Rawr.Spec.Chess
import Rawr.Spec.Fen
import Rawr.Spec.Walk
import Rawr.Spec.Zobrist
import Rawr.Proofs.AbsCell
import Rawr.Proofs.AbsSq
import Rawr.Proofs.AbsView
import Rawr.Proofs.AlphaBeta
import Rawr.Proofs.AttackGeom
import Rawr.Proofs.AttackLemmas
import Rawr.Proofs.BBSet
import Rawr.Proofs.Bits
import Rawr.Proofs.BoolTac
import Rawr.Proofs.BridgeCapture
import Rawr.Proofs.BridgeE
import Rawr.Proofs.BridgeM
import Rawr.Proofs.BridgePerft
import Rawr.Proofs.BridgeStart
import Rawr.Proofs.BridgeStartAll
import Rawr.Proofs.Census
import Rawr.Proofs.Coords
import Rawr.Proofs.CountLemmas
import Rawr.Proofs.DrawLemmas
import Rawr.Proofs.EvalBound
import Rawr.Proofs.EvalDomain
import Rawr.Proofs.FenBoardParse
import Rawr.Proofs.FenBoardPrint
import Rawr.Proofs.FenCastle
import Rawr.Proofs.FenComplete
import Rawr.Proofs.FenDecimal
import Rawr.Proofs.FenDefs
import Rawr.Proofs.FenGet
import Rawr.Proofs.FenRel
import Rawr.Proofs.FenRound
import Rawr.Proofs.FenSound
import Rawr.Proofs.FenStaged
import Rawr.Proofs.FenValid
import Rawr.Proofs.FenValidOfSpec
import Rawr.Proofs.FenValidate
import Rawr.Proofs.FlipLemmas
import Rawr.Proofs.Force
import Rawr.Proofs.GenAllowed
import Rawr.Proofs.GenAssemble
import Rawr.Proofs.GenBlocks
import Rawr.Proofs.GenCastle
import Rawr.Proofs.GenEp
import Rawr.Proofs.GenEpBits
import Rawr.Proofs.GenKing
import Rawr.Proofs.GenPawnSpec
import Rawr.Proofs.GenPawns
import Rawr.Proofs.GenPieces
import Rawr.Proofs.GenPins
import Rawr.Proofs.GenSafety
import Rawr.Proofs.GenShape
import Rawr.Proofs.GenShapeNodup
import Rawr.Proofs.GenShapeUci
import Rawr.Proofs.HashFacts
import Rawr.Proofs.HashKeys
import Rawr.Proofs.HashLemmas
import Rawr.Proofs.HashMeta
import Rawr.Proofs.HashMove
import Rawr.Proofs.HashSpec
import Rawr.Proofs.Hashtable
import Rawr.Proofs.IteRules
import Rawr.Proofs.Leapers
import Rawr.Proofs.MagicCheck
import Rawr.Proofs.MagicReduce
import Rawr.Proofs.MagicTableAll
import Rawr.Proofs.MagicTable_0
import Rawr.Proofs.MagicTable_1
import Rawr.Proofs.MagicTable_2
import Rawr.Proofs.MagicTable_3
import Rawr.Proofs.MakeMoveBoard
import Rawr.Proofs.MakeMoveEff
import Rawr.Proofs.MakeMoveFrame
import Rawr.Proofs.MakeMoveMain
import Rawr.Proofs.MakeMoveRefine
import Rawr.Proofs.MakeMoveRes
import Rawr.Proofs.MakeMoveStages
import Rawr.Proofs.MateLemmas
import Rawr.Proofs.MoveFacts
import Rawr.Proofs.PreludeGeom
import Rawr.Proofs.PseudoFrom
import Rawr.Proofs.PyStyleAgree
import Rawr.Proofs.PyStyleAgree_Game
import Rawr.Proofs.RayFill
import Rawr.Proofs.RelPos
import Rawr.Proofs.RootLemmasDom
import Rawr.Proofs.RootLemmasFrame
import Rawr.Proofs.RootLemmasIter
import Rawr.Proofs.RootLemmasRange
import Rawr.Proofs.RulesLevel
import Rawr.Proofs.RustFnsAgree
import Rawr.Proofs.RustImpAgree
import Rawr.Proofs.RustImpAgree_Eval
import Rawr.Proofs.RustImpAgree_MakeMove
import Rawr.Proofs.RustImpAgree_MoveGen
import Rawr.Proofs.RustSearchAgree
import Rawr.Proofs.RustSearchAgree_Negamax
import Rawr.Proofs.RustSearchAgree_Perft
import Rawr.Proofs.RustSearchAgree_QSearch
import Rawr.Proofs.RustSearchAgree_Root
import Rawr.Proofs.RustSearchAgree_Rules
import Rawr.Proofs.RustSearchAgree_Sort
import Rawr.Proofs.RustSearchAgree_Valid
import Rawr.Proofs.RustSessionAgree_Canon
import Rawr.Proofs.RustSessionAgree_Display
import Rawr.Proofs.RustSessionAgree_Go
import Rawr.Proofs.RustSessionAgree_GoRules
import Rawr.Proofs.RustSessionAgree_Info
import Rawr.Proofs.RustSessionAgree_Lines
import Rawr.Proofs.RustSessionAgree_Listen
import Rawr.Proofs.RustSessionAgree_Perft
import Rawr.Proofs.RustSessionAgree_Rules
import Rawr.Proofs.RustSessionAgree_Step
import Rawr.Proofs.RustSessionAgree_Words
import Rawr.Proofs.RustTextAgree
import Rawr.Proofs.RustTextAgree_GetFen
import Rawr.Proofs.RustTextAgree_GetFenRules
import Rawr.Proofs.RustTextAgree_Go
import Rawr.Proofs.RustTextAgree_Rules
import Rawr.Proofs.RustTextAgree_SetFen
import Rawr.Proofs.RustTextAgree_Uci
import Rawr.Proofs.RustTimeAgree
import Rawr.Proofs.SafeLine
import Rawr.Proofs.SearchHist
import Rawr.Proofs.SearchNode
import Rawr.Proofs.SearchPolls
import Rawr.Proofs.SelSort
import Rawr.Proofs.SpecApply
import Rawr.Proofs.SpecEval
import Rawr.Proofs.SpecFrame
import Rawr.Proofs.SpecLegal
import Rawr.Proofs.SpecMirror
import Rawr.Proofs.SpecNodup
import Rawr.Proofs.SpecSanityC17
import Rawr.Proofs.SpecSanityCount
import Rawr.Proofs.SpecSanityDouble
import Rawr.Proofs.SpecSanityKings
import Rawr.Proofs.SpecSanityMirrorA
import Rawr.Proofs.SpecSanityMirrorB
import Rawr.Proofs.SpecSanityMirrorC
import Rawr.Proofs.SpecSanityMirrorD
import Rawr.Proofs.SpecSanityPerft
import Rawr.Proofs.SpecSanityPerftDefs
import Rawr.Proofs.SpecValid
import Rawr.Proofs.SpecValidApply
import Rawr.Proofs.StyleChess
import Rawr.Proofs.StyleGame
import Rawr.Proofs.StyleLists
import Rawr.Proofs.StyleQ
import Rawr.Proofs.StyleScore
import Rawr.Proofs.StyleStep
import Rawr.Proofs.StyleWF
import Rawr.Proofs.TerminationChess
import Rawr.Proofs.TerminationCore
import Rawr.Proofs.TerminationMono
import Rawr.Proofs.TerminationSpec
import Rawr.Proofs.TestPositions
import Rawr.Proofs.UciCount
import Rawr.Proofs.UciGo
import Rawr.Proofs.UciMoves
import Rawr.Proofs.UciSafe
import Rawr.Proofs.UciShape
import Rawr.Proofs.UciState
import Rawr.Proofs.UciStep
import Rawr.Proofs.ValidBits
import Rawr.Proofs.ValidReadings
import Rawr.Proofs.X56
import Rawr.Proofs.XorFold
import Rawr.Props.C01
import Rawr.Props.C01_code
import Rawr.Props.C01_ep
import Rawr.Props.C01_king
import Rawr.Props.C01_pawns
import Rawr.Props.C01_pieces
import Rawr.Props.C01_shape
import Rawr.Props.C02
import Rawr.Props.C02_code
import Rawr.Props.C02_domain
import Rawr.Props.C03
import Rawr.Props.C03_code
import Rawr.Props.C03_rules
import Rawr.Props.C04
import Rawr.Props.C04_code
import Rawr.Props.C04_full
import Rawr.Props.C05
import Rawr.Props.C05_code
import Rawr.Props.C05_rules
import Rawr.Props.C06
import Rawr.Props.C06_code
import Rawr.Props.C07
import Rawr.Props.C07Examples
import Rawr.Props.C07_code
import Rawr.Props.C07_full
import Rawr.Props.C07_valid
import Rawr.Props.C08
import Rawr.Props.C08_code
import Rawr.Props.C08c
import Rawr.Props.C08d
import Rawr.Props.C09
import Rawr.Props.C09_code
import Rawr.Props.C10
import Rawr.Props.C10_code
import Rawr.Props.C11
import Rawr.Props.C11_code
import Rawr.Props.C11_rules
import Rawr.Props.C12
import Rawr.Props.C12Examples
import Rawr.Props.C12_code
import Rawr.Props.C12_rules
import Rawr.Props.C13
import Rawr.Props.C13Examples
import Rawr.Props.C13_code
import Rawr.Props.C14
import Rawr.Props.C14Examples
import Rawr.Props.C14Examples2
import Rawr.Props.C14_code
import Rawr.Props.C14_rules
import Rawr.Props.C14_time
import Rawr.Props.C15
import Rawr.Props.C15_code
import Rawr.Props.C15_termination
import Rawr.Props.C16
import Rawr.Props.C16_code
import Rawr.Props.C17
import Rawr.Props.C17Examples
import Rawr.Props.C17_code
import Rawr.Props.C18
import Rawr.Props.C18_code
import Rawr.Props.C19
import Rawr.Props.C19Examples
import Rawr.Props.C19_code
import Rawr.Props.C20
import Rawr.Props.C20_code
import Rawr.Props.SpecSanity
import Rawr.Generated.EvalTables
import Rawr.Generated.Magic
import Rawr.Generated.MagicTable
import Rawr.Generated.PyStyle
import Rawr.Generated.RustFns
import Rawr.Generated.RustImp
import Rawr.Generated.RustSearch
import Rawr.Generated.RustSession
import Rawr.Generated.RustSessionPrelude
import Rawr.Generated.RustText
import Rawr.Generated.RustTextPrelude
import Rawr.Generated.RustTime
import Rawr.Generated.SearchConsts
import Rawr.Generated.StartPos
import Rawr.Generated.TTLayout
import Rawr.Generated.Zobrist
import Rawr.Abs
import Rawr.Gen
